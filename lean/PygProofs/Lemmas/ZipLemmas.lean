/-
  PygModel.Zip: `lensOf` is decided by the first length that is not 1 (`lensOf_cases`); the answer and the error condition are read off that.
-/
import PygModel.Zip

namespace Pyg

/-- `lensOf` case by case: no lengths; only 1s; or, with `m` the first length that is not 1, every other length is `m` or 1,
or some length is neither -/
theorem lensOf_cases (ls : List Nat) :
    (ls = [] ∧ lensOf ls = .ok 0) ∨ (ls ≠ [] ∧ (∀ l ∈ ls, l = 1) ∧ lensOf ls = .ok 1) ∨
    ∃ m ∈ ls, m ≠ 1 ∧ ((∀ l ∈ ls, l = m ∨ l = 1) ∧ lensOf ls = .ok m ∨
      (∃ x ∈ ls, x ≠ 1 ∧ x ≠ m) ∧ lensOf ls = .error .value) := by
  unfold lensOf
  cases ls with
  | nil => exact Or.inl ⟨rfl, rfl⟩
  | cons l0 ls0 =>
    refine Or.inr ?_
    rw [List.isEmpty_cons, if_neg Bool.false_ne_true]
    have hmem : ∀ x, x ∈ (l0 :: ls0).filter (· != 1) ↔ x ∈ l0 :: ls0 ∧ x ≠ 1 := fun x => by
      rw [List.mem_filter, bne_iff_ne]
    cases hf : (l0 :: ls0).filter (· != 1) with
    | nil =>
      refine Or.inl ⟨List.cons_ne_nil _ _, fun l hl => Decidable.byContradiction fun h1 => ?_, rfl⟩
      have := (hmem l).2 ⟨hl, h1⟩
      rw [hf] at this
      cases this
    | cons m rest =>
      rw [hf] at hmem
      have hm := (hmem m).1 List.mem_cons_self
      refine Or.inr ⟨m, hm.1, hm.2, ?_⟩
      by_cases hr : rest.all (· == m) = true
      · refine Or.inl ⟨fun l hl => ?_, by simp only [hr, if_true]⟩
        by_cases h1 : l = 1
        · exact Or.inr h1
        · rcases List.mem_cons.1 ((hmem l).2 ⟨hl, h1⟩) with e | h
          · exact Or.inl e
          · exact Or.inl (eq_of_beq (List.all_eq_true.1 hr l h))
      · refine Or.inr ⟨?_, by simp only [hr, Bool.false_eq_true, if_false]⟩
        obtain ⟨x, hx, hxm⟩ : ∃ x ∈ rest, x ≠ m := by
          simpa [List.all_eq_true] using hr
        have := (hmem x).1 (List.mem_cons_of_mem _ hx)
        exact ⟨x, this.1, this.2, hxm⟩

theorem lensOf_ok (ls : List Nat) (n : Nat) (hne : ls ≠ []) (hall : ∀ l ∈ ls, l = n ∨ l = 1)
    (hn : n = 1 ∨ n ∈ ls) : lensOf ls = .ok n := by
  rcases lensOf_cases ls with ⟨h, _⟩ | ⟨_, h1, h⟩ | ⟨m, hm, hm1, h⟩
  · exact absurd h hne
  · rw [h, hn.elim id (h1 n)]
  · have hmn : m = n := (hall m hm).resolve_right hm1
    rcases h with ⟨_, h⟩ | ⟨⟨x, hx, hx1, hxm⟩, _⟩
    · rw [h, hmn]
    · exact absurd ((hall x hx).resolve_right hx1) (hmn ▸ hxm)

theorem lensOf_error_iff (ls : List Nat) (e : Err) :
    lensOf ls = .error e ↔ e = .value ∧ ∃ a ∈ ls, ∃ b ∈ ls, a ≠ b ∧ a ≠ 1 ∧ b ≠ 1 := by
  rcases lensOf_cases ls with ⟨rfl, h⟩ | ⟨_, h1, h⟩ | ⟨m, hm, hm1, ⟨hall, h⟩ | ⟨⟨x, hx, hx1, hxm⟩, h⟩⟩
  · rw [h]
    exact ⟨(fun h => nomatch h), fun ⟨_, a, ha, _⟩ => nomatch ha⟩
  · rw [h]
    exact ⟨(fun h => nomatch h), fun ⟨_, a, ha, _, _, _, ha1, _⟩ => absurd (h1 a ha) ha1⟩
  · rw [h]
    refine ⟨(fun h => nomatch h), fun ⟨_, a, ha, b, hb, hab, ha1, hb1⟩ => ?_⟩
    exact absurd (((hall a ha).resolve_right ha1).trans ((hall b hb).resolve_right hb1).symm) hab
  · rw [h]
    exact ⟨fun h => ⟨(Except.error.inj h).symm, m, hm, x, hx, fun e => hxm e.symm, hm1, hx1⟩, fun h => h.1 ▸ rfl⟩

theorem lensOf_map_ok {α : Type} (f : α → Nat) (xs : List α) (n : Nat) (hne : xs ≠ []) (hall : ∀ x ∈ xs, f x = n ∨ f x = 1)
    (hn : n = 1 ∨ ∃ x ∈ xs, f x = n) : lensOf (xs.map f) = .ok n :=
  lensOf_ok _ n (fun h => hne (List.map_eq_nil_iff.1 h)) (List.forall_mem_map.2 hall)
    (hn.imp id fun ⟨_, hx, h⟩ => h ▸ List.mem_map_of_mem hx)

theorem lensOf_map_error_iff {α : Type} (f : α → Nat) (xs : List α) (e : Err) :
    lensOf (xs.map f) = .error e ↔ e = .value ∧ ∃ a ∈ xs, ∃ b ∈ xs, f a ≠ f b ∧ f a ≠ 1 ∧ f b ≠ 1 := by
  rw [lensOf_error_iff]
  constructor
  · rintro ⟨he, _, ha, _, hb, h⟩
    obtain ⟨a, ha', rfl⟩ := List.mem_map.1 ha
    obtain ⟨b, hb', rfl⟩ := List.mem_map.1 hb
    exact ⟨he, a, ha', b, hb', h⟩
  · rintro ⟨he, a, ha, b, hb, h⟩
    exact ⟨he, _, List.mem_map_of_mem ha, _, List.mem_map_of_mem hb, h⟩

theorem minLen_le : ∀ (cols : List (List Val)) (c : List Val), c ∈ cols → minLen cols ≤ c.length
  | [], c, h => by simp at h
  | [d], c, h => by simp at h; subst h; simp [minLen]
  | d :: d' :: cols, c, h => by
      simp only [minLen]
      rcases List.mem_cons.1 h with rfl | h'
      · exact Nat.min_le_left _ _
      · exact Nat.le_trans (Nat.min_le_right _ _) (minLen_le (d' :: cols) c h')

theorem le_minLen (n : Nat) : ∀ (cols : List (List Val)), cols ≠ [] → (∀ c ∈ cols, n ≤ c.length) → n ≤ minLen cols
  | [], h, _ => absurd rfl h
  | [c], _, hle => hle c List.mem_cons_self
  | c :: d :: cols, _, hle => by
      simp only [minLen]
      exact Nat.le_min.2 ⟨hle c List.mem_cons_self,
        le_minLen n (d :: cols) (List.cons_ne_nil _ _) fun y hy => hle y (List.mem_cons_of_mem _ hy)⟩

theorem minLen_map_eq {α : Type} (g : α → List Val) {xs : List α} {n : Nat} (hle : ∀ x ∈ xs, n ≤ (g x).length)
    (hex : ∃ x ∈ xs, (g x).length = n) : minLen (xs.map g) = n := by
  obtain ⟨x, hx, rfl⟩ := hex
  exact Nat.le_antisymm (minLen_le _ _ (List.mem_map_of_mem hx))
    (le_minLen _ _ (List.ne_nil_of_mem (List.mem_map_of_mem hx)) (List.forall_mem_map.2 hle))

theorem zbcast_of_length_eq_one (n : Nat) {c : List Val} (h : c.length = 1) (d : Val) :
    zbcast n c = List.replicate n (c.getD 0 d) :=
  match c, h with
  | [_], _ => rfl

theorem zbcast_of_length_ne_one (n : Nat) {c : List Val} (h : c.length ≠ 1) : zbcast n c = c := by
  unfold zbcast
  split
  · exact absurd rfl h
  · rfl

theorem zbcast_length (n : Nat) (c : List Val) (h : c.length = n ∨ c.length = 1) :
    (zbcast n c).length = n := by
  by_cases h1 : c.length = 1
  · rw [zbcast_of_length_eq_one n h1 (.cell .none), List.length_replicate]
  · rw [zbcast_of_length_ne_one n h1]
    exact h.resolve_right h1

theorem zbcast_getD (n i : Nat) (hi : i < n) (c : List Val) (d : Val) :
    (zbcast n c).getD i d = if c.length = 1 then c.getD 0 d else c.getD i d := by
  split
  · rename_i h1
    rw [zbcast_of_length_eq_one n h1 d]
    simp [List.getD, hi]
  · rename_i h1
    rw [zbcast_of_length_ne_one n h1]

end Pyg
