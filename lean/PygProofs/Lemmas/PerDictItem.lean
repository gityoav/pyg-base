/-
  C20: what surrounds the reduction of the tables: the row loop, `_item`, the passes over the inputs, the final sort.
-/
import PygProofs.Lemmas.PerDictTable

namespace Pyg

theorem expiryDate_none : expiryDate .none = none := rfl

theorem expiryDate_dt (us : Int) : expiryDate (.dt us) = some us := rfl

theorem expiryCovered_of_none_or_dt {c : Cell} (h : c = .none ∨ ∃ us, c = .dt us) :
    expiryCovered c = true := by
  rcases h with rfl | ⟨us, rfl⟩
  · rfl
  · rfl

/-- is row `i` (re)computed?  (`rin or rex` in `_perdictable.py`) -/
def rowRuns (ifNone : Bool) (ds : Table) (hasData : Bool) (today : Int) (i : Nat) : Bool :=
  !hasData || (ifNone && (ds.jcellAt "data" i).isNone) || runExpiry today (ds.jcellAt "expiry" i)

theorem evalRows_cons (ifNone : Bool) (f : List Cell → Val) (params : List String) (ds : Table)
    (hasData : Bool) (today : Int) (i : Nat) (is : List Nat) :
    evalRows ifNone f params ds hasData today (i :: is) =
      if rowRuns ifNone ds hasData today i then
        (f (rowArgs ds params i) :: (evalRows ifNone f params ds hasData today is).1,
          rowArgs ds params i :: (evalRows ifNone f params ds hasData today is).2)
      else (.cell (ds.jcellAt "data" i) :: (evalRows ifNone f params ds hasData today is).1,
        (evalRows ifNone f params ds hasData today is).2) := rfl

theorem evalRows_eq (ifNone : Bool) (f : List Cell → Val) (params : List String) (ds : Table)
    (hasData : Bool) (today : Int) (ids : List Nat) :
    evalRows ifNone f params ds hasData today ids =
      (ids.map fun i => if rowRuns ifNone ds hasData today i then f (rowArgs ds params i)
          else .cell (ds.jcellAt "data" i),
        (ids.filter (rowRuns ifNone ds hasData today)).map (rowArgs ds params)) := by
  induction ids with
  | nil => rfl
  | cons i is ih =>
    rw [evalRows_cons, ih]
    cases hr : rowRuns ifNone ds hasData today i <;> simp [hr]

theorem perdictable_of_join (f : List Cell → Val) (params on : List String)
    (defaults : List (String × Cell)) (inputs : List (String × PInput)) (expiry : PInput)
    (today : Int) (ifNone : Bool) (ds : Table)
    (hj : pdJoin (inputs ++ [("expiry", expiry)]) on
      (defaults ++ (if (defaults.map (·.1)).contains "data" then [] else [("data", Cell.none)]) ++
        (if (defaults.map (·.1)).contains "expiry" then [] else [("expiry", Cell.none)]))
      = some (.ok ds)) :
    perdictable f params on defaults inputs expiry today ifNone =
      if ds.nrows = 0 then some (.ok (.noRows ((inputs.find? (·.1 == "data")).map (·.2)), []))
      else if ds.nrows = 1 && !((inputs ++ [("expiry", expiry)]).any fun kv => kv.2.isTable) then
        some (.ok (.value (f (rowArgs ds params 0)), [rowArgs ds params 0]))
      else
        let r := evalRows ifNone f params ds (ds.cols.contains "data") today (List.range ds.nrows)
        if on.isEmpty then some (.ok (.table [("data", r.1)], r.2)) else
        match ds.select on with
        | .error e => some (.error e)
        | .ok keyCols => some (.ok (.table (keyCols.toV ++ [("data", r.1)]), r.2)) := by
  unfold perdictable
  simp only [hj]
  rfl

theorem pdJoin_of_perdictable {f : List Cell → Val} {params on : List String}
    {defaults : List (String × Cell)} {inputs : List (String × PInput)} {expiry : PInput}
    {today : Int} {ifNone : Bool} {res : PResult × List (List Cell)}
    (h : perdictable f params on defaults inputs expiry today ifNone = some (.ok res)) :
    ∃ ds, pdJoin (inputs ++ [("expiry", expiry)]) on
      (defaults ++ (if (defaults.map (·.1)).contains "data" then [] else [("data", Cell.none)]) ++
        (if (defaults.map (·.1)).contains "expiry" then [] else [("expiry", Cell.none)]))
      = some (.ok ds) := by
  unfold perdictable at h
  dsimp only at h
  generalize pdJoin (inputs ++ [("expiry", expiry)]) on
    (defaults ++ (if (defaults.map (·.1)).contains "data" then [] else [("data", Cell.none)]) ++
      (if (defaults.map (·.1)).contains "expiry" then [] else [("expiry", Cell.none)])) = r at h ⊢
  match r, h with
  | some (.ok ds), _ => exact ⟨ds, rfl⟩

theorem sortIdx_map_keyAt (keys : List Val) :
    (sortIdx keys).map (keyAt keys) = sort keys := by
  rw [← sortIdx_keys keys, sortIdx, List.map_map]
  exact List.map_congr_left fun p hp => keyAt_of_get (mem_sortPairs.1 hp)

/-- value of parameter `p` among scalar keyword arguments -/
def argOf (kvs : List (String × Cell)) (p : String) : Cell :=
  ((kvs.find? (·.1 == p)).map (·.2)).getD .none

theorem jcellAt_scalars (kvs : List (String × Cell)) (p : String) :
    Table.jcellAt (kvs.map fun kv => (kv.1, [kv.2])) p 0 = argOf kvs p := by
  simp only [Table.jcellAt, Table.col?, argOf]
  induction kvs with
  | nil => rfl
  | cons kv kvs ih =>
    simp only [List.map_cons, List.find?_cons]
    split <;> simp_all

/-- the column of `d` that `_item` takes as the value of parameter `key`: the column named like the
parameter, else `data` (unless it is a key column), else the only non-key column -/
def valueCol (d : Table) (key : String) (on : List String) : String :=
  if key ∈ d.cols then key
  else if "data" ∈ d.cols ∧ "data" ∉ on then "data"
  else (lminus d.cols on).headD ""

/-- the rows of an input: its own cells, with the value column read under the parameter's name -/
def inputRows (on : List String) (name : String) (d : Table) : Rows :=
  ⟨d.nrows, fun i c => if c = name then d.jcellAt (valueCol d name on) i else d.jcellAt c i⟩

/-- a table input as a source: `inputRows`, its name, the default of that name -/
def inputSrc (on : List String) (defaults : List (String × Cell)) (kv : String × Table) : Src :=
  ⟨inputRows on kv.1 kv.2, kv.1, dfltOf defaults kv.1⟩

/-- as many rows, with the same cells in the key columns and in column `name` -/
def RowsAgree (on : List String) (name : String) (A A' : Rows) : Prop :=
  A.n = A'.n ∧ ∀ i, i < A.n → (∀ c ∈ on, A.row i c = A'.row i c) ∧ A.row i name = A'.row i name

theorem RowsAgree.keq {on : List String} {name : String} {A A' : Rows} (h : RowsAgree on name A A')
    {i : Nat} (hi : i < A.n) : keq on (A.row i) (A'.row i) :=
  keq_of_agree (h.2 i hi).1

theorem RowsAgree.vrow {on : List String} {name : String} {A A' : Rows} (h : RowsAgree on name A A')
    {r : Row} {dv : Option Cell} (hv : vrow on r ⟨A, name, dv⟩) : vrow on r ⟨A', name, dv⟩ := by
  rcases hv with ⟨j, hj, he, hval⟩ | ⟨hno, hd⟩
  · refine .inl ⟨j, h.1 ▸ hj, keq_trans (keq_symm (h.keq hj)) he, ?_⟩
    exact hval.trans (h.2 j hj).2
  · refine .inr ⟨fun j hj he => ?_, hd⟩
    have hj' : j < A.n := h.1 ▸ hj
    exact hno j hj' (keq_trans (h.keq hj') he)

theorem inputRows_row_name (on : List String) (name : String) (d : Table) (i : Nat) :
    (inputRows on name d).row i name = d.jcellAt (valueCol d name on) i :=
  if_pos rfl

theorem inputRows_row_of_ne (on : List String) {name c : String} (d : Table) (i : Nat) (h : c ≠ name) :
    (inputRows on name d).row i c = d.jcellAt c i :=
  if_neg h

theorem inputRows_keq (on : List String) (name : String) (d : Table) (hname : name ∉ on) :
    ∀ i, keq on ((inputRows on name d).row i) (d.rowF i) := by
  intro i
  apply keq_of_agree
  intro c hc
  exact inputRows_row_of_ne on d i fun he => hname (he ▸ hc)

theorem item_data_cond (d : Table) (on : List String) :
    (d.cols.contains "data" && !(linter d.cols on).contains "data") = true ↔
      "data" ∈ d.cols ∧ "data" ∉ on := by
  simp only [Bool.and_eq_true, Bool.not_eq_true', List.contains_eq_mem, decide_eq_true_eq,
    decide_eq_false_iff_not, mem_linter_iff, not_and]
  exact ⟨fun h => ⟨h.1, h.2 h.1⟩, fun h => ⟨h.1, fun _ => h.2⟩⟩

/-- `_item`: when a value column can be chosen — a column named like the parameter, or a column `data` that is not a
key column, or exactly one non-key column — that column (`valueCol`) is renamed to the parameter's name and selected
together with the key columns the table has; otherwise KeyError -/
theorem item_eq (d : Table) (key : String) (on : List String) :
    item d key on =
      if key ∈ d.cols ∨ ("data" ∈ d.cols ∧ "data" ∉ on) ∨ (lminus d.cols on).length = 1 then
        (d.rename (valueCol d key on) key).select (linter d.cols on ++ [key])
      else .error .key := by
  unfold item valueCol
  dsimp only
  by_cases hk : key ∈ d.cols
  · rw [if_pos (by simpa using hk), if_pos hk, if_pos (.inl hk), rename_self]
  · rw [if_neg (by simpa using hk), if_neg hk]
    by_cases hdat : "data" ∈ d.cols ∧ "data" ∉ on
    · rw [if_pos ((item_data_cond d on).2 hdat), if_pos hdat, if_pos (.inr (.inl hdat))]
    · have hl : d.cols.length = (linter d.cols on).length + 1 ↔ (lminus d.cols on).length = 1 := by
        rw [length_linter_lminus on d.cols]
        omega
      rw [if_neg (mt (item_data_cond d on).1 hdat), if_neg hdat, lminus_linter]
      by_cases h1 : (lminus d.cols on).length = 1
      · obtain ⟨o, ho⟩ := List.length_eq_one_iff.1 h1
        rw [if_pos (hl.2 h1), if_pos (.inr (.inr h1)), ho]
        rfl
      · rw [if_neg (mt hl.1 h1), if_neg (not_or.2 ⟨hk, not_or.2 ⟨hdat, h1⟩⟩)]

theorem item_of_valueCol {d : Table} {key : String} {on : List String}
    (h : key ∈ d.cols ∨ ("data" ∈ d.cols ∧ "data" ∉ on) ∨ ∃ other, lminus d.cols on = [other]) :
    item d key on = (d.rename (valueCol d key on) key).select (linter d.cols on ++ [key]) := by
  rw [item_eq, if_pos (h.imp_right (Or.imp_right List.length_eq_one_iff.2))]

theorem valueCol_of_item {d t : Table} {key : String} {on : List String}
    (h : item d key on = .ok t) :
    key ∈ d.cols ∨ ("data" ∈ d.cols ∧ "data" ∉ on) ∨ ∃ other, lminus d.cols on = [other] := by
  rw [item_eq] at h
  split at h
  · rename_i hc
    exact hc.imp_right (Or.imp_right List.length_eq_one_iff.1)
  · cases h

theorem item_cols (d t : Table) (key : String) (on : List String) (h : item d key on = .ok t) :
    t.cols = linter d.cols on ++ [key] :=
  select_cols _ _ _ (item_of_valueCol (valueCol_of_item h) ▸ h)

/-- the chosen value column is a column of the input; unless it is named like the parameter, that
name is free and the column is not a key column -/
theorem valueCol_sem {d : Table} {key : String} {on : List String}
    (h : key ∈ d.cols ∨ ("data" ∈ d.cols ∧ "data" ∉ on) ∨ ∃ other, lminus d.cols on = [other]) :
    valueCol d key on ∈ d.cols ∧
      (valueCol d key on = key ∨ (key ∉ d.cols ∧ valueCol d key on ∉ on)) := by
  unfold valueCol
  by_cases hk : key ∈ d.cols
  · rw [if_pos hk]; exact ⟨hk, .inl rfl⟩
  · rw [if_neg hk]
    by_cases hdat : "data" ∈ d.cols ∧ "data" ∉ on
    · rw [if_pos hdat]; exact ⟨hdat.1, .inr ⟨hk, hdat.2⟩⟩
    · obtain ⟨other, ho⟩ := (h.resolve_left hk).resolve_left hdat
      have hm : other ∈ lminus d.cols on := by rw [ho]; exact List.mem_singleton.2 rfl
      rw [if_neg hdat, ho]
      exact ⟨(mem_lminus_iff.1 hm).1, .inr ⟨hk, (mem_lminus_iff.1 hm).2⟩⟩

theorem _root_.List.Perm.getElem_lt_of_range {σ : List Nat} {n : Nat} (h : σ.Perm (List.range n)) {q : Nat}
    (hq : q < σ.length) : σ[q] < n :=
  List.mem_range.1 (h.mem_iff.1 (List.getElem_mem hq))

/-- `D'` holds the rows of `D` in another order, each with the constants `kvs` filled in -/
def Reorder (kvs : List (String × Cell)) (D D' : Rows) : Prop :=
  ∃ σ : List Nat, σ.Perm (List.range D.n) ∧ D'.n = σ.length ∧
    ∀ q (h : q < σ.length), D'.row q = (D.row σ[q]).sets kvs

theorem Reorder.hasK {on : List String} {kvs : List (String × Cell)} {D D' : Rows}
    (h : Reorder kvs D D') (hoff : OffKeys on kvs) (k : Row) : D'.hasK on k ↔ D.hasK on k := by
  obtain ⟨σ, hp, hn, hr⟩ := h
  constructor
  · rintro ⟨q, hq, he⟩
    have hq' : q < σ.length := hn ▸ hq
    refine ⟨σ[q], hp.getElem_lt_of_range hq', ?_⟩
    rw [hr q hq'] at he
    exact keq_trans (keq_symm (keq_sets _ _ hoff)) he
  · rintro ⟨i, hi, he⟩
    have hm : i ∈ σ := hp.mem_iff.2 (List.mem_range.2 hi)
    obtain ⟨q, hq, rfl⟩ := List.getElem_of_mem hm
    refine ⟨q, hn ▸ hq, ?_⟩
    rw [hr q hq]
    exact keq_trans (keq_sets _ _ hoff) he

theorem Reorder.vok {on : List String} {kvs : List (String × Cell)} {D D' : Rows} {S : List Src}
    (h : Reorder kvs D D') (hoff : OffKeys on kvs) (hS : ∀ s ∈ S, ∀ kv ∈ kvs, kv.1 ≠ s.name)
    (hV : VOK on D S) : VOK on D' S := by
  obtain ⟨σ, hp, hn, hr⟩ := h
  intro q hq s hs
  have hq' : q < σ.length := hn ▸ hq
  rw [hr q hq']
  exact vrow_congr (keq_sets _ _ hoff) (Row.sets_of_not_mem _ _ _ (hS s hs))
    (hV σ[q] (hp.getElem_lt_of_range hq') s hs)

theorem Reorder.uniq {on : List String} {kvs : List (String × Cell)} {D D' : Rows}
    (h : Reorder kvs D D') (hoff : OffKeys on kvs) (hU : D.uniq on) : D'.uniq on := by
  obtain ⟨σ, hp, hn, hr⟩ := h
  intro p q hp' hq' he
  have h1 : p < σ.length := hn ▸ hp'
  have h2 : q < σ.length := hn ▸ hq'
  rw [hr p h1, hr q h2] at he
  have he' : keq on (D.row σ[p]) (D.row σ[q]) :=
    keq_trans (keq_symm (keq_sets _ _ hoff)) (keq_trans he (keq_sets _ _ hoff))
  have := hU _ _ (hp.getElem_lt_of_range h1) (hp.getElem_lt_of_range h2) he'
  have hnd : σ.Nodup := hp.nodup_iff.2 List.nodup_range
  exact (List.getElem_inj hnd).1 this

theorem Reorder.consts {kvs : List (String × Cell)} {D D' : Rows} (h : Reorder kvs D D')
    (q : Nat) (hq : q < D'.n) (c : String) (v : Cell) (hv : dfltOf kvs c = some v) :
    D'.row q c = v := by
  obtain ⟨σ, _, hn, hr⟩ := h
  rw [hr q (hn ▸ hq)]
  exact Row.sets_dfltOf _ _ _ _ hv

/-- the key `dictable.sort` compares row `i` by: the dict of its `on` cells -/
def sortKey (t : Table) (on : List String) (i : Nat) : Val :=
  .tuple [.dict (on.map fun c => (c, .cell (t.jcellAt c i)))]

theorem sortOn_of_cols (t : Table) (on : List String) (hon : on ≠ []) (h : ∀ c ∈ on, c ∈ t.cols) :
    t.sortOn on = .ok (if t.nrows = 0 then t
      else t.gatherRows (sortIdx ((List.range t.nrows).map (sortKey t on)))) := by
  have hemp : on.isEmpty = false := List.isEmpty_eq_false_iff.2 hon
  unfold Table.sortOn
  split
  · rfl
  · simp only [hemp, Bool.false_eq_true, if_false, select_ok t on h, bind, Except.bind, pure,
      Except.pure, List.map_map, Function.comp_def]
    rfl

theorem sortOn_ok {t t' : Table} {on : List String} (hn : t.nrows ≠ 0) (h : t.sortOn on = .ok t') :
    on ≠ [] ∧ (∀ c ∈ on, c ∈ t.cols) ∧
      t' = t.gatherRows (sortIdx ((List.range t.nrows).map (sortKey t on))) := by
  have hon : on ≠ [] := by
    rintro rfl
    rw [Table.sortOn, if_neg hn] at h
    cases h
  have hemp : on.isEmpty = false := List.isEmpty_eq_false_iff.2 hon
  have hc : ∀ c ∈ on, c ∈ t.cols := by
    cases hs : t.select on with
    | ok sel => exact (select_eq_ok_iff.1 hs).1
    | error e =>
      rw [Table.sortOn, if_neg hn, hemp, hs] at h
      cases h
  rw [sortOn_of_cols t on hon hc, if_neg hn] at h
  exact ⟨hon, hc, (Except.ok.inj h).symm⟩

theorem sortKey_gatherRows (t : Table) (ids : List Nat) (on : List String) {q : Nat} (hq : q < ids.length) :
    sortKey (t.gatherRows ids) on q = sortKey t on ids[q] := by
  simp only [sortKey]
  congr 3
  apply List.map_congr_left
  intro c _
  exact congrArg (fun x => (c, Val.cell x)) (congrFun (gatherRows_rowF t ids q hq) c)

/-- scalars broadcast, then the final sort, return: the result holds the rows of the joined table
with the scalars filled in, reordered so that the sort keys are non-decreasing -/
theorem finish_sem (on : List String) (hon : on ≠ []) (d : Table) (scalars : List (String × Cell))
    (hd : d.WF) (hc : ∀ c ∈ on, c ∈ d.cols) :
    ∃ ds, (d.setConsts scalars).sortOn on = .ok ds ∧
      ds.WF ∧ (∀ c, c ∈ ds.cols ↔ c ∈ d.cols ∨ ∃ kv ∈ scalars, kv.1 = c) ∧
      Reorder scalars d.R ds.R ∧
      ((List.range ds.nrows).map (sortKey ds on)).Pairwise (fun a b => cmpLe a b = true) := by
  obtain ⟨ew, en, ec, er⟩ := setConsts_sem scalars d hd
  refine ⟨_, sortOn_of_cols _ on hon fun c hc' => (ec c).2 (.inl (hc c hc')), ?_⟩
  generalize d.setConsts scalars = E at ew en ec er
  split
  · rename_i h0
    refine ⟨ew, ec, ⟨List.range d.nrows, List.Perm.refl _, by simp [en], fun q hq => ?_⟩, ?_⟩
    · rw [List.getElem_range]
      exact er q (by simpa using hq)
    · rw [h0]; simp
  · generalize hK : (List.range E.nrows).map (sortKey E on) = keys
    have hkl : keys.length = E.nrows := by rw [← hK]; simp
    have hkat : ∀ i, i < E.nrows → keyAt keys i = sortKey E on i := by
      intro i hi
      rw [← hK, keyAt_map _ _ (by rwa [List.length_range]), List.getElem_range]
    have hperm : (sortIdx keys).Perm (List.range E.nrows) := by
      rw [← hkl]; exact sortIdx_perm keys
    obtain ⟨gw, gn⟩ := gatherRows_wf E ew.1 (sortIdx keys)
    refine ⟨gw, fun c => by rw [Table.cols_gatherRows]; exact ec c,
      ⟨sortIdx keys, by rw [en] at hperm; exact hperm, gn, fun q hq => ?_⟩, ?_⟩
    · show (E.gatherRows (sortIdx keys)).rowF q = _
      rw [gatherRows_rowF E _ q hq]
      exact er _ (en ▸ hperm.getElem_lt_of_range hq)
    · -- the sort keys of the gathered rows are the sorted keys
      rw [gn]
      have hsorted := sort_sorted keys
      rw [← sortIdx_map_keyAt keys] at hsorted
      have e : (List.range (sortIdx keys).length).map
          (sortKey (E.gatherRows (sortIdx keys)) on) = (sortIdx keys).map (keyAt keys) := by
        apply List.ext_getElem
        · simp
        · intro q h1 h2
          have hq : q < (sortIdx keys).length := by simpa using h1
          rw [List.getElem_map, List.getElem_map, List.getElem_range, sortKey_gatherRows E _ on hq,
            hkat _ (hperm.getElem_lt_of_range hq)]
      rw [e]
      exact hsorted

/-- the table inputs, in call order -/
def tableInputs (inputs : List (String × PInput)) : List (String × Table) :=
  inputs.filterMap fun kv => match kv.2 with
    | .table d => some (kv.1, d)
    | .scalar _ => none

/-- the scalar inputs, in call order -/
def scalarInputs (inputs : List (String × PInput)) : List (String × Cell) :=
  inputs.filterMap fun kv => match kv.2 with
    | .scalar c => some (kv.1, c)
    | .table _ => none

/-- the table `_item` returns (`[]` when it raises) -/
def itemD (d : Table) (key : String) (on : List String) : Table :=
  match item d key on with
  | .ok t => t
  | .error _ => []

theorem item_itemD {d : Table} {key : String} {on : List String}
    (h : ∃ t, item d key on = .ok t) : item d key on = .ok (itemD d key on) := by
  obtain ⟨t, ht⟩ := h
  simp only [itemD, ht]

theorem tableInputs_names (inputs : List (String × PInput)) :
    ((tableInputs inputs).map (·.1)).Sublist (inputs.map (·.1)) := by
  induction inputs with
  | nil => exact List.Sublist.slnil
  | cons x xs ih =>
    obtain ⟨k, v⟩ := x
    cases v with
    | scalar c => exact ih.cons k
    | table d => exact ih.cons_cons k

theorem scalarInputs_names (inputs : List (String × PInput)) :
    ((scalarInputs inputs).map (·.1)).Sublist (inputs.map (·.1)) := by
  induction inputs with
  | nil => exact List.Sublist.slnil
  | cons x xs ih =>
    obtain ⟨k, v⟩ := x
    cases v with
    | scalar c => exact ih.cons_cons k
    | table d => exact ih.cons k

theorem mem_tableInputs {inputs : List (String × PInput)} {a : String × Table} :
    a ∈ tableInputs inputs ↔ (a.1, PInput.table a.2) ∈ inputs := by
  simp only [tableInputs, List.mem_filterMap]
  constructor
  · rintro ⟨⟨k, v⟩, hkv, he⟩
    cases v with
    | scalar c => simp at he
    | table d => simp only [Option.some.injEq] at he; subst he; exact hkv
  · intro h
    exact ⟨_, h, rfl⟩

theorem any_isTable_of_tableInputs {inputs : List (String × PInput)} (h : tableInputs inputs ≠ []) :
    inputs.any (fun kv => kv.2.isTable) = true := by
  obtain ⟨a, ha⟩ := List.exists_mem_of_ne_nil _ h
  rw [List.any_eq_true]
  exact ⟨_, mem_tableInputs.1 ha, rfl⟩

theorem mem_scalarInputs {inputs : List (String × PInput)} {a : String × Cell} :
    a ∈ scalarInputs inputs ↔ (a.1, PInput.scalar a.2) ∈ inputs := by
  simp only [scalarInputs, List.mem_filterMap]
  constructor
  · rintro ⟨⟨k, v⟩, hkv, he⟩
    cases v with
    | table d => simp at he
    | scalar c => simp only [Option.some.injEq] at he; subst he; exact hkv
  · intro h
    exact ⟨_, h, rfl⟩

theorem table_scalar_names {inputs : List (String × PInput)} (hnd : (inputs.map (·.1)).Nodup)
    {a : String × Table} {b : String × Cell} (ha : a ∈ tableInputs inputs)
    (hb : b ∈ scalarInputs inputs) : b.1 ≠ a.1 := by
  intro he
  have h1 := mem_tableInputs.1 ha
  have h2 := mem_scalarInputs.1 hb
  rw [he] at h2
  have := List.eq_of_nodup_map hnd _ h1 _ h2 rfl
  simp at this

/-- a pass over the inputs: every table goes through `g` (which also sees the input's name),
scalars stay -/
def tablePass (g : Table → String → Res Table) (kv : String × PInput) : Res (String × PInput) :=
  match kv.2 with
  | .table d => (g d kv.1).map fun d' => (kv.1, .table d')
  | .scalar c => .ok (kv.1, .scalar c)

/-- the inputs after a pass that succeeds -/
def mapTables (h : Table → String → Table) (kv : String × PInput) : String × PInput :=
  match kv.2 with
  | .table d => (kv.1, .table (h d kv.1))
  | .scalar c => (kv.1, .scalar c)

theorem tableInputs_mapTables (h : Table → String → Table) (inputs : List (String × PInput)) :
    tableInputs (inputs.map (mapTables h)) = (tableInputs inputs).map fun a => (a.1, h a.2 a.1) := by
  induction inputs with
  | nil => rfl
  | cons x xs ih =>
    obtain ⟨k, v⟩ := x
    cases v with
    | scalar c => exact ih
    | table d => exact congrArg ((k, h d k) :: ·) ih

theorem scalarInputs_mapTables (h : Table → String → Table) (inputs : List (String × PInput)) :
    scalarInputs (inputs.map (mapTables h)) = scalarInputs inputs := by
  induction inputs with
  | nil => rfl
  | cons x xs ih =>
    obtain ⟨k, v⟩ := x
    cases v with
    | scalar c => exact congrArg ((k, c) :: ·) ih
    | table d => exact ih

theorem mapM_tablePass {g : Table → String → Res Table} {h : Table → String → Table}
    {inputs : List (String × PInput)}
    (hg : ∀ a ∈ tableInputs inputs, g a.2 a.1 = .ok (h a.2 a.1)) :
    inputs.mapM (tablePass g) = .ok (inputs.map (mapTables h)) := by
  apply List.mapM_ok_of_forall
  rintro ⟨k, v⟩ hx
  cases v with
  | scalar c => rfl
  | table d =>
    have := hg (k, d) (mem_tableInputs.2 hx)
    simp only [tablePass, mapTables, this]
    rfl

theorem tablePass_ok {g : Table → String → Res Table} {inputs out : List (String × PInput)}
    (h : inputs.mapM (tablePass g) = .ok out) : ∀ a ∈ tableInputs inputs, ∃ t, g a.2 a.1 = .ok t := by
  intro a ha
  obtain ⟨y, hy⟩ := List.forall_ok_of_mapM h _ (mem_tableInputs.1 ha)
  cases hg : g a.2 a.1 with
  | ok t => exact ⟨t, rfl⟩
  | error e => simp [tablePass, hg, Except.map] at hy

theorem pdJoin_eq (inputs : List (String × PInput)) (on : List String)
    (defaults : List (String × Cell)) :
    pdJoin inputs on defaults =
      match inputs.mapM (tablePass fun d k => item d k on) with
      | .error e => some (.error e)
      | .ok seq =>
        if (tableInputs seq).isEmpty then some (.ok ((scalarInputs seq).map fun kv => (kv.1, [kv.2])))
        else match joinTables (tableInputs seq)
            (defaults.filter fun kv => (inputs.map (·.1)).contains kv.1) with
          | some (.ok (some d)) => some ((d.setConsts (scalarInputs seq)).sortOn on)
          | some (.ok none) => none
          | some (.error e) => some (.error e)
          | none => none := rfl

theorem items_of_pdJoin {inputs : List (String × PInput)} {on : List String}
    {defaults : List (String × Cell)} {ds : Table} (h : pdJoin inputs on defaults = some (.ok ds)) :
    ∀ a ∈ tableInputs inputs, ∃ t, item a.2 a.1 on = .ok t := by
  rw [pdJoin_eq] at h
  cases hm : inputs.mapM (tablePass fun d k => item d k on) with
  | error e => rw [hm] at h; cases h
  | ok seq => exact tablePass_ok hm

theorem pdJoin_of_items {inputs : List (String × PInput)} {on : List String}
    (defaults : List (String × Cell))
    (hitem : ∀ a ∈ tableInputs inputs, ∃ t, item a.2 a.1 on = .ok t) :
    pdJoin inputs on defaults =
      if ((tableInputs inputs).map fun a => (a.1, itemD a.2 a.1 on)).isEmpty then
        some (.ok ((scalarInputs inputs).map fun kv => (kv.1, [kv.2])))
      else match joinTables ((tableInputs inputs).map fun a => (a.1, itemD a.2 a.1 on))
          (defaults.filter fun kv => (inputs.map (·.1)).contains kv.1) with
        | some (.ok (some d)) => some ((d.setConsts (scalarInputs inputs)).sortOn on)
        | some (.ok none) => none
        | some (.error e) => some (.error e)
        | none => none := by
  have hm := mapM_tablePass (g := fun d k => item d k on) (h := fun d k => itemD d k on)
    (inputs := inputs) fun a ha => item_itemD (hitem a ha)
  rw [pdJoin_eq, hm]
  simp only [tableInputs_mapTables, scalarInputs_mapTables]

theorem tableInputs_scalars (l : List (String × Cell)) :
    tableInputs (l.map fun kv => (kv.1, PInput.scalar kv.2)) = [] := by
  induction l with
  | nil => rfl
  | cons x xs ih => exact ih

theorem scalarInputs_scalars (l : List (String × Cell)) :
    scalarInputs (l.map fun kv => (kv.1, PInput.scalar kv.2)) = l := by
  induction l with
  | nil => rfl
  | cons x xs ih => exact congrArg (x :: ·) ih

theorem pdJoin_scalars (l : List (String × Cell)) (on : List String)
    (defaults : List (String × Cell)) :
    pdJoin (l.map fun kv => (kv.1, PInput.scalar kv.2)) on defaults =
      some (.ok (l.map fun kv => (kv.1, [kv.2]))) := by
  rw [pdJoin_of_items defaults (fun a ha => by rw [tableInputs_scalars] at ha; cases ha),
    tableInputs_scalars, scalarInputs_scalars]
  rfl

/-- the table after the renaming assignment (the table itself when `applyRename` raises) -/
def renamedT (d : Table) (key : String) (renames : List (String × String)) : Table :=
  match applyRename d key renames with
  | .ok t => t
  | .error _ => d

/-- an input after the renaming assignment: a table through `renamedT`, a scalar as it is -/
def renamedIn (renames : List (String × String)) (kv : String × PInput) : String × PInput :=
  match kv.2 with
  | .table d => (kv.1, .table (renamedT d kv.1 renames))
  | .scalar c => (kv.1, .scalar c)

theorem mapM_rename_sem (renames : List (String × String))
    (inputs inputs' : List (String × PInput))
    (h : inputs.mapM (renameInput renames) = .ok inputs') :
    inputs' = inputs.map (renamedIn renames) ∧
    ∀ a ∈ tableInputs inputs, applyRename a.2 a.1 renames = .ok (renamedT a.2 a.1 renames) := by
  -- `renameInput` is the pass of `applyRename`, `renamedIn` the map of `renamedT`
  have h : inputs.mapM (tablePass fun d k => applyRename d k renames) = .ok inputs' := h
  have h2 : ∀ a ∈ tableInputs inputs,
      applyRename a.2 a.1 renames = .ok (renamedT a.2 a.1 renames) := fun a ha => by
    obtain ⟨t, ht⟩ := tablePass_ok h a ha
    simp only [renamedT, ht]
  exact ⟨Except.ok.inj (h.symm.trans (mapM_tablePass (h := fun d k => renamedT d k renames) h2)), h2⟩

theorem renamedIn_fst (renames : List (String × String)) (kv : String × PInput) :
    (renamedIn renames kv).1 = kv.1 := by
  obtain ⟨k, v⟩ := kv
  cases v <;> rfl

theorem tableInputs_renamed (renames : List (String × String)) (inputs : List (String × PInput)) :
    tableInputs (inputs.map (renamedIn renames)) =
      (tableInputs inputs).map fun a => (a.1, renamedT a.2 a.1 renames) :=
  tableInputs_mapTables (fun d k => renamedT d k renames) inputs

theorem scalarInputs_renamed (renames : List (String × String)) (inputs : List (String × PInput)) :
    scalarInputs (inputs.map (renamedIn renames)) = scalarInputs inputs :=
  scalarInputs_mapTables (fun d k => renamedT d k renames) inputs

end Pyg
