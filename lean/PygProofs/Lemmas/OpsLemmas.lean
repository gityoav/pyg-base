/-
  C08, Series and scalars (PygModel/Ops.lean, OpsX.lean): every operator is a kernel after alignment, and an aligned operand is a
  function of the label (`lookR`, `lookO`), so a result is the Series over the joint index of the pointwise function of the labels.
  PygModel/OpsF.lean is imported for `Op.neutral` alone.
-/
import PygModel.OpsX
import PygModel.OpsF
import PygProofs.Lemmas.AlignLemmas

namespace Pyg.Ops
open Pyg Pyg.Align

abbrev PF := Option Rat → Option Rat → Option Rat

/-- the value a Series gives at label `t` after `_df_reindex(s, index, method)` -/
def lookR (s : RSeries) (m : Option Dir) (t : Int) : Option Rat :=
  match m with
  | Option.none => valueAtR s t
  | some .ffill => (posAsOf (nonaR s).idx t).bind fun i => ((nonaR s).vals[i]?).join
  | some .bfill => (posNext (nonaR s).idx t).bind fun i => ((nonaR s).vals[i]?).join

theorem lookR_none (s : RSeries) (t : Int) : lookR s Option.none t = valueAtR s t := rfl

/-- `_df_index` on two indexes -/
def join2 (how : How) (a b : List Int) : List Int :=
  match how with
  | .inner => inter a b
  | .outer => union a b
  | .left => a
  | .right => b

end Pyg.Ops

-- `lookO` is the definition the statements of `Props/C08.lean` use (`agg_value`, `agg_at`), so it keeps that namespace; the lemmas below need it
namespace Pyg.Props.C08
open Pyg Pyg.Align Pyg.Ops

/-- what an operand shows at label `t` after alignment: a Series its (reindexed) value, a scalar itself -/
def lookO (m : Option Dir) (t : Int) : Operand → Option Rat
  | .ts s => lookR s m t
  | .num q => q

end Pyg.Props.C08

namespace Pyg.Ops
open Pyg Pyg.Align
open Pyg.Props.C08 (lookO)

theorem appO_none_left (op : Op) (x : Option Rat) : op.appO Option.none x = Option.none := by cases x <;> rfl
theorem appO_none_right (op : Op) (x : Option Rat) : op.appO x Option.none = Option.none := by cases x <;> rfl

theorem appO_div_zero (x : Option Rat) : Op.appO .div x (some 0) = Option.none := by
  cases x <;> simp [Op.appO, Op.app]

theorem appO_comm_add (x y : Option Rat) : Op.appO .add x y = Op.appO .add y x := by
  cases x <;> cases y <;> simp only [Op.appO, Op.app, Rat.add_comm]

theorem appO_comm_mul (x y : Option Rat) : Op.appO .mul x y = Op.appO .mul y x := by
  cases x <;> cases y <;> simp only [Op.appO, Op.app, Rat.mul_comm]

theorem appO_neutral_right (op : Op) (x : Option Rat) : op.appO x (some op.neutral) = x := by
  cases op <;> cases x <;> simp [Op.appO, Op.app, Op.neutral, Rat.add_zero, Rat.mul_one] <;> grind

theorem appO_neutral_left (op : Op) (hop : op = .add ∨ op = .mul) (x : Option Rat) : op.appO (some op.neutral) x = x := by
  rcases hop with rfl | rfl <;> cases x <;> simp only [Op.appO, Op.app, Op.neutral, Rat.zero_add, Rat.one_mul]

theorem reindexR_eq (s : RSeries) (ix : List Int) (m : Option Dir) : reindexR s ix m = { idx := ix, vals := ix.map (lookR s m) } := by
  cases m with
  | none => rfl
  | some d => cases d <;> rfl

theorem reindexR_len (s : RSeries) (ix : List Int) (m : Option Dir) : (reindexR s ix m).vals.length = ix.length := by
  rw [reindexR_eq, List.length_map]

theorem joinIndex_fold (how : How) (x : List Int) (xs : List (List Int)) :
    joinIndex how (x :: xs) = some (xs.foldl (join2 how) x) := by
  cases how
  · rfl
  · rfl
  · simp only [joinIndex]
    congr 1   -- left: `x = xs.foldl (fun a _ => a) x`
    induction xs generalizing x with
    | nil => rfl
    | cons y ys ih => exact ih x
  · simp only [joinIndex]
    congr 1   -- right: `(x :: xs).getLastD x = xs.foldl (fun _ b => b) x`
    induction xs generalizing x with
    | nil => rfl
    | cons y ys ih => exact ih y

theorem joinIndex_pair (how : How) (a b : List Int) : joinIndex how [a, b] = some (join2 how a b) := joinIndex_fold how a [b]

theorem joinIndex_single (how : How) (a : List Int) : joinIndex how [a] = some a := joinIndex_fold how a []

theorem join2_comm (how : How) (hh : how = .inner ∨ how = .outer) (a b : List Int) (ha : SortedL a) (hb : SortedL b) :
    join2 how a b = join2 how b a := by
  have asym : ∀ x y : Int, x < y → ¬ y < x := fun x y h h' => Int.lt_irrefl x (Int.lt_trans h h')
  rcases hh with rfl | rfl
  · exact List.pairwise_ext asym (sorted_inter a b ha) (sorted_inter b a hb) fun t =>
      (mem_inter a b t).trans (And.comm.trans (mem_inter b a t).symm)
  · exact List.pairwise_ext asym (sorted_union a b ha) (sorted_union b a hb) fun t =>
      (mem_union a b t).trans (Or.comm.trans (mem_union b a t).symm)

theorem not_mem_join2 (how : How) (a b : List Int) (t : Int) (h : t ∉ join2 how a b) : t ∉ a ∨ t ∉ b := by
  cases how
  · by_cases ha : t ∈ a
    · exact .inr fun hb => h ((mem_inter a b t).mpr ⟨ha, hb⟩)
    · exact .inl ha
  · exact .inl fun ha => h ((mem_union a b t).mpr (.inl ha))
  · exact .inl h
  · exact .inr h

theorem valueAtR_not_mem (s : RSeries) (t : Int) (h : t ∉ s.idx) : valueAtR s t = Option.none := by
  simp [valueAtR, (posOf_none s.idx t).mpr h]

theorem valueAtR_built (ix : List Int) (g : Int → Option Rat) (t : Int) (h : t ∈ ix) :
    valueAtR { idx := ix, vals := ix.map g } t = g t :=
  bind_posOf_map ix g t h

theorem valueAtR_map (ix : List Int) (g : Int → Option Rat) (t : Int) (hg : t ∉ ix → g t = Option.none) :
    valueAtR { idx := ix, vals := ix.map g } t = g t := by
  by_cases ht : t ∈ ix
  · exact valueAtR_built ix g t ht
  · rw [hg ht]
    exact valueAtR_not_mem _ t ht

theorem appO_outside (op : Op) (how : How) (a b : RSeries) (t : Int) (h : t ∉ join2 how a.idx b.idx) :
    op.appO (valueAtR a t) (valueAtR b t) = Option.none := by
  rcases not_mem_join2 how a.idx b.idx t h with h | h
  · rw [valueAtR_not_mem a t h, appO_none_left]
  · rw [valueAtR_not_mem b t h, appO_none_right]

theorem indexesOf_nil : indexesOf [] = [] := rfl
theorem indexesOf_ts (s : RSeries) (xs : List Operand) : indexesOf (.ts s :: xs) = s.idx :: indexesOf xs := rfl
theorem indexesOf_num (q : Option Rat) (xs : List Operand) : indexesOf (.num q :: xs) = indexesOf xs := rfl

theorem indexesOf_map_num (qs : List (Option Rat)) : indexesOf (qs.map .num) = [] := by
  induction qs with
  | nil => rfl
  | cons q qs ih => exact ih

theorem indexesOf_map_ts (xs : List RSeries) : indexesOf (xs.map .ts) = xs.map (·.idx) := by
  induction xs with
  | nil => rfl
  | cons x xs ih => exact congrArg (x.idx :: ·) ih

/-- what `alignAll` does to one operand once the joint index `ix` is known -/
def alignO (ix : List Int) (m : Option Dir) : Operand → Operand
  | .ts s => .ts (reindexR s ix m)
  | .num q => .num q

theorem alignAll_eq (how : How) (m : Option Dir) (xs : List Operand) :
    alignAll how m xs =
      match joinIndex how (indexesOf xs) with
      | Option.none => xs
      | some ix => xs.map (alignO ix m) := by
  unfold alignAll
  cases joinIndex how (indexesOf xs) <;> rfl

theorem alignAll_pair (how : How) (m : Option Dir) (a b : Operand) :
    alignAll how m [a, b] =
      match joinIndex how (indexesOf [a, b]) with
      | Option.none => [a, b]
      | some ix => [alignO ix m a, alignO ix m b] := by
  rw [alignAll_eq]
  cases joinIndex how (indexesOf [a, b]) <;> rfl

theorem at_alignO (ix : List Int) (m : Option Dir) (x : Operand) (k : Nat) (hk : k < ix.length) :
    (alignO ix m x).at k = lookO m ix[k] x := by
  cases x with
  | num q => rfl
  | ts s =>
    simp only [alignO, Operand.at, lookO, reindexR_eq, List.getElem?_map, List.getElem?_eq_getElem hk, Option.map_some,
      Option.join_some]

theorem aggregate_eq (g : Agg) (how : How) (m : Option Dir) (xs : List Operand) :
    aggregate g how m xs = (joinIndex how (indexesOf xs)).map fun ix =>
      { idx := ix, vals := (List.range ix.length).map fun k => g.at (xs.map fun x => (alignO ix m x).at k) } := by
  unfold aggregate
  cases joinIndex how (indexesOf xs) with
  | none => rfl
  | some ix =>
    simp only [Option.map_some, List.map_map, Function.comp_def]
    rfl

theorem countAt_eq (vs : List (Option Rat)) : countAt vs = (vs.filterMap id).length := by
  unfold countAt
  induction vs with
  | nil => rfl
  | cons v vs ih => cases v <;> simp [List.filter, ih]

theorem foldl_add_getD (vs : List (Option Rat)) (acc : Rat) :
    (vs.map fun v => v.getD 0).foldl (· + ·) acc = (vs.filterMap id).foldl (· + ·) acc := by
  induction vs generalizing acc with
  | nil => rfl
  | cons v vs ih =>
    cases v with
    | none => simp [ih, Rat.add_zero]
    | some x => simp [ih]

theorem kernel_eq_kernelG (op : Op) : kernel op = kernelG op.appO := by
  funext a b
  cases a <;> cases b <;> rfl

theorem binop_eq (op : Op) : binop op = binopG op.appO := by
  funext how m a b
  simp only [binop, binopG, kernel_eq_kernelG]
  rfl

theorem kernelG_alignO (f : PF) (ix : List Int) (m : Option Dir) (A B : Operand) (h : indexesOf [A, B] ≠ []) :
    kernelG f (alignO ix m A) (alignO ix m B) = .ts { idx := ix, vals := ix.map fun t => f (lookO m t A) (lookO m t B) } := by
  cases A with
  | ts a => cases B <;> simp only [alignO, reindexR_eq, kernelG, lookO, List.zip_map', List.map_map, Function.comp_def]
  | num p =>
    cases B with
    | ts b => simp only [alignO, reindexR_eq, kernelG, lookO, List.map_map, Function.comp_def]
    | num q => exact absurd rfl h

theorem binopG_eq (f : PF) (how : How) (m : Option Dir) (a b : Operand) :
    binopG f how m a b =
      match joinIndex how (indexesOf [a, b]) with
      | Option.none => kernelG f a b
      | some ix => kernelG f (alignO ix m a) (alignO ix m b) := by
  rw [binopG, alignAll_pair]
  cases joinIndex how (indexesOf [a, b]) <;> rfl

theorem binopG_of_joinIndex (f : PF) (how : How) (m : Option Dir) (a b : Operand) (ix : List Int)
    (hix : joinIndex how (indexesOf [a, b]) = some ix) :
    binopG f how m a b = .ts { idx := ix, vals := ix.map fun t => f (lookO m t a) (lookO m t b) } := by
  rw [binopG_eq, hix]
  exact kernelG_alignO f ix m a b fun e => by rw [e] at hix; cases hix

theorem binopG_ts_ts (f : PF) (how : How) (m : Option Dir) (a b : RSeries) :
    binopG f how m (.ts a) (.ts b) =
      .ts { idx := join2 how a.idx b.idx, vals := (join2 how a.idx b.idx).map fun t => f (lookR a m t) (lookR b m t) } :=
  binopG_of_joinIndex f how m (.ts a) (.ts b) _ (joinIndex_pair how a.idx b.idx)

theorem binopG_ts_num (f : PF) (how : How) (m : Option Dir) (a : RSeries) (q : Option Rat) :
    binopG f how m (.ts a) (.num q) = .ts { idx := a.idx, vals := a.idx.map fun t => f (lookR a m t) q } :=
  binopG_of_joinIndex f how m (.ts a) (.num q) _ (joinIndex_single how a.idx)

theorem binopG_num_ts (f : PF) (how : How) (m : Option Dir) (q : Option Rat) (b : RSeries) :
    binopG f how m (.num q) (.ts b) = .ts { idx := b.idx, vals := b.idx.map fun t => f q (lookR b m t) } :=
  binopG_of_joinIndex f how m (.num q) (.ts b) _ (joinIndex_single how b.idx)

theorem binopG_num_num (f : PF) (how : How) (m : Option Dir) (p q : Option Rat) :
    binopG f how m (.num p) (.num q) = .num (f p q) := by
  rw [binopG_eq]
  rfl

theorem binopG_comm_scalar (f : PF) (hf : ∀ x y, f x y = f y x) (how : How)
    (m : Option Dir) (a : RSeries) (q : Option Rat) :
    binopG f how m (.ts a) (.num q) = binopG f how m (.num q) (.ts a) := by
  rw [binopG_ts_num, binopG_num_ts]
  congr 3
  funext t
  exact hf _ _

theorem mmList_pair (k : MM) (how : How) (m : Option Dir) (a b : Operand) :
    mmList k how m [a] [b] = some (binopG k.appO how m a b) := by
  simp only [mmList, binopG, List.cons_append, List.nil_append, alignAll_pair]
  cases joinIndex how (indexesOf [a, b]) <;> rfl

theorem mm_app_comm (k : MM) (x y : Rat) : k.app x y = k.app y x := by
  have key : ∀ a b : Rat, a ≤ b → k.app a b = k.app b a := by
    intro a b h
    by_cases h' : b ≤ a
    · rw [Rat.le_antisymm h h']
    · cases k <;> simp only [MM.app, if_pos h, if_neg h']
  rcases Rat.le_total (a := x) (b := y) with h | h
  · exact key x y h
  · exact (key y x h).symm

theorem mm_appO_comm (k : MM) (x y : Option Rat) : k.appO x y = k.appO y x := by
  cases x <;> cases y <;> simp only [MM.appO, mm_app_comm k]

theorem natExp_natCast (n : Nat) : natExp (n : Rat) = some n := by simp [natExp]

theorem powO_nan_right (x : Option Rat) : powO x Option.none = if x = some 1 then some 1 else Option.none := by
  cases x with
  | none => rfl
  | some x => by_cases hx : x = 1 <;> simp [powO, hx]

theorem powO_nan_left (y : Option Rat) : powO Option.none y = if y = some 0 then some 1 else Option.none := by
  cases y with
  | none => rfl
  | some y => by_cases hy : y = 0 <;> simp [powO, hy]

theorem cmpop_eq (c : Cmp) (how : How) (m : Option Dir) (a b : Operand) :
    cmpop c how m a b =
      match joinIndex how (indexesOf [a, b]) with
      | Option.none => cmpKernel c a b
      | some ix => cmpKernel c (alignO ix m a) (alignO ix m b) := by
  rw [cmpop, alignAll_pair]
  cases joinIndex how (indexesOf [a, b]) <;> rfl

theorem cmpop_of_joinIndex (c : Cmp) (how : How) (m : Option Dir) (a b : Operand) (ix : List Int)
    (hix : joinIndex how (indexesOf [a, b]) = some ix) :
    cmpop c how m a b = .ts ix (ix.map fun t => c.appO (lookO m t a) (lookO m t b)) := by
  rw [cmpop_eq, hix]
  cases a with
  | ts a => cases b <;> simp only [alignO, reindexR_eq, cmpKernel, lookO, List.zip_map', List.map_map, Function.comp_def]
  | num p =>
    cases b with
    | ts b => simp only [alignO, reindexR_eq, cmpKernel, lookO, List.map_map, Function.comp_def]
    | num q => cases hix

theorem cmpop_ts_ts (c : Cmp) (how : How) (m : Option Dir) (a b : RSeries) :
    cmpop c how m (.ts a) (.ts b) =
      .ts (join2 how a.idx b.idx) ((join2 how a.idx b.idx).map fun t => c.appO (lookR a m t) (lookR b m t)) :=
  cmpop_of_joinIndex c how m (.ts a) (.ts b) _ (joinIndex_pair how a.idx b.idx)

theorem cmpop_ts_num (c : Cmp) (how : How) (m : Option Dir) (a : RSeries) (q : Option Rat) :
    cmpop c how m (.ts a) (.num q) = .ts a.idx (a.idx.map fun t => c.appO (lookR a m t) q) :=
  cmpop_of_joinIndex c how m (.ts a) (.num q) _ (joinIndex_single how a.idx)

theorem cmpop_num_ts (c : Cmp) (how : How) (m : Option Dir) (q : Option Rat) (b : RSeries) :
    cmpop c how m (.num q) (.ts b) = .ts b.idx (b.idx.map fun t => c.appO q (lookR b m t)) :=
  cmpop_of_joinIndex c how m (.num q) (.ts b) _ (joinIndex_single how b.idx)

end Pyg.Ops
