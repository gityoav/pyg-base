/-
  C12 (PygModel/Fill.lean), a column and a frame at a time: what each fill puts at a position, told by the nearest
  observation, and what a successful `step` does to rows and cells.
-/
import PygModel.Fill
import PygProofs.Lemmas.Basics

namespace Pyg.Fill

theorem within_none (k : Nat) : within Option.none k = true := rfl

theorem within_some (l k : Nat) : within (some l) k = true ↔ k < l := decide_eq_true_iff

/-- `v` where the limit, if there is one, admits `d`: for ffill / bfill `d` is the distance to the observation `v`, for a
constant `v` the number of NaNs up to and including the cell -/
def reach (lim : Option Nat) (d : Nat) (v : Int) : Option Int :=
  match lim with
  | Option.none => some v
  | some l => if d ≤ l then some v else Option.none

theorem reach_self (lim : Option Nat) (v : Int) : reach lim 0 v = some v := by
  cases lim with
  | none => rfl
  | some l => exact if_pos (e := Option.none) (Nat.zero_le l)

theorem reach_eq_within (lim : Option Nat) (d : Nat) (v : Int) :
    reach lim (d + 1) v = if within lim d then some v else Option.none := by
  cases lim with
  | none => rfl
  | some l =>
    simp only [reach, within_some]
    rfl

theorem ffillAux_length (lim : Option Nat) (last : Option Int) (k : Nat) (xs : Col) :
    (ffillAux lim last k xs).length = xs.length := by
  induction xs generalizing last k with
  | nil => rfl
  | cons x xs ih => cases x <;> exact congrArg (· + 1) (ih _ _)

theorem ffillAux_prefix (lim : Option Nat) (last : Option Int) (k : Nat) (xs : Col) (i : Nat)
    (h : ∀ m, m ≤ i → xs[m]? = some Option.none) :
    (ffillAux lim last k xs)[i]? = some (if within lim (k + i) then last else Option.none) := by
  induction xs generalizing k i with
  | nil => cases h 0 (Nat.zero_le _)
  | cons x xs ih =>
    cases (Option.some.inj (h 0 (Nat.zero_le _)) : x = Option.none)
    cases i with
    | zero => rfl
    | succ i =>
      have := ih (k + 1) i fun m hm => h (m + 1) (Nat.succ_le_succ hm)
      rwa [Nat.add_right_comm] at this

theorem ffillAux_get (lim : Option Nat) (last : Option Int) (k : Nat) (xs : Col) (j i : Nat) (v : Int)
    (hji : j ≤ i) (hj : xs[j]? = some (some v)) (h : ∀ m, j < m → m ≤ i → xs[m]? = some Option.none) :
    (ffillAux lim last k xs)[i]? = some (reach lim (i - j) v) := by
  induction xs generalizing last k j i with
  | nil => cases hj
  | cons x xs ih =>
    cases j with
    | succ j =>
      cases i with
      | zero => cases hji
      | succ i =>
        have := fun last k => ih last k j i (Nat.le_of_succ_le_succ hji) hj fun m h1 h2 =>
          h (m + 1) (Nat.succ_lt_succ h1) (Nat.succ_le_succ h2)
        rw [Nat.succ_sub_succ]
        cases x <;> exact this _ _
    | zero =>
      cases (Option.some.inj hj : x = some v)
      cases i with
      | zero => exact congrArg some (reach_self lim v).symm
      | succ i =>
        have := ffillAux_prefix lim (some v) 0 xs i fun m hm => h (m + 1) (Nat.succ_pos _) (Nat.succ_le_succ hm)
        rw [Nat.zero_add, ← reach_eq_within] at this
        exact this

theorem ffill_length (lim : Option Nat) (xs : Col) : (ffill lim xs).length = xs.length :=
  ffillAux_length _ _ _ _

theorem ffill_prefix (lim : Option Nat) (xs : Col) (i : Nat)
    (h : ∀ m, m ≤ i → xs[m]? = some Option.none) : (ffill lim xs)[i]? = some Option.none :=
  (ffillAux_prefix lim Option.none 0 xs i h).trans (congrArg some (ite_self _))

theorem ffill_keep (lim : Option Nat) (xs : Col) (i : Nat) (v : Int) (h : xs[i]? = some (some v)) :
    (ffill lim xs)[i]? = some (some v) := by
  have := ffillAux_get lim Option.none 0 xs i i v (Nat.le_refl i) h fun m h1 h2 => absurd h2 (Nat.not_le.mpr h1)
  rwa [Nat.sub_self, reach_self] at this

theorem bfill_length (lim : Option Nat) (xs : Col) : (bfill lim xs).length = xs.length := by
  rw [bfill, List.length_reverse, ffill_length, List.length_reverse]

theorem bfill_rev (lim : Option Nat) (xs : Col) {i i' : Nat} (h : xs.length = i + i' + 1) :
    (bfill lim xs)[i]? = (ffill lim xs.reverse)[i']? :=
  List.reverse_get (ffill lim xs.reverse) (by rw [ffill_length, List.length_reverse, h, Nat.add_comm i i'])

theorem bfill_get (lim : Option Nat) (xs : Col) (i j : Nat) (v : Int)
    (hij : i ≤ j) (hj : xs[j]? = some (some v)) (h : ∀ m, i ≤ m → m < j → xs[m]? = some Option.none) :
    (bfill lim xs)[i]? = some (reach lim (j - i) v) := by
  obtain ⟨j', hj'⟩ := Nat.exists_eq_add_of_lt (List.getElem?_some_lt hj)
  obtain ⟨d, rfl⟩ := Nat.exists_eq_add_of_le hij
  have := ffillAux_get lim Option.none 0 xs.reverse j' (j' + d) v (Nat.le_add_right _ _) ((List.reverse_get xs hj').trans hj)
    fun m h1 h2 => (List.reverse_get xs (i := i + (j' + d - m)) (by omega)).trans (h _ (by omega) (by omega))
  rw [bfill_rev lim xs (i' := j' + d) (by omega), Nat.add_sub_cancel_left]
  rwa [Nat.add_sub_cancel_left] at this

theorem bfill_suffix (lim : Option Nat) (xs : Col) (i : Nat) (hi : i < xs.length)
    (h : ∀ m, i ≤ m → m < xs.length → xs[m]? = some Option.none) : (bfill lim xs)[i]? = some Option.none := by
  obtain ⟨i', hi'⟩ := Nat.exists_eq_add_of_lt hi
  rw [bfill_rev lim xs hi']
  exact ffill_prefix lim xs.reverse i' fun m hm =>
    (List.reverse_get xs (i := i + (i' - m)) (by omega)).trans (h _ (by omega) (by omega))

theorem bfill_keep (lim : Option Nat) (xs : Col) (i : Nat) (v : Int) (h : xs[i]? = some (some v)) :
    (bfill lim xs)[i]? = some (some v) := by
  have := bfill_get lim xs i i v (Nat.le_refl i) h fun m h1 h2 => absurd h2 (Nat.not_lt.mpr h1)
  rwa [Nat.sub_self, reach_self] at this

/-- number of NaNs strictly before position `i` -/
def nanBefore (xs : Col) (i : Nat) : Nat := ((xs.take i).filter (·.isNone)).length

theorem fillConst_eq (c : Int) (lim : Option Nat) (xs : Col) :
    fillConst c lim xs = xs.mapIdx fun i x => x.or (reach lim (nanBefore xs i + 1) c) := by
  induction xs generalizing lim with
  | nil => rfl
  | cons x xs ih =>
    rw [List.mapIdx_cons]
    cases x with
    | some w => exact congrArg (_ :: ·) (ih lim)
    | none =>
      rcases lim with _ | _ | l
      · exact congrArg (_ :: ·) (ih _)
      · rw [fillConst, ih]
        simp only [reach]
        rfl
      · rw [fillConst, ih]
        -- under a NaN head `mapIdx` reads `nanBefore (none :: xs) (i + 1)`, which is `nanBefore xs i + 1` by unfolding
        show _ = _ :: List.mapIdx (fun i x => x.or (reach (some (l + 1)) (nanBefore xs i + 1 + 1) c)) xs
        simp only [reach, Nat.add_le_add_iff_right]
        rfl

theorem fillConst_length (c : Int) (lim : Option Nat) (xs : Col) : (fillConst c lim xs).length = xs.length := by
  rw [fillConst_eq, List.length_mapIdx]

theorem fillConst_keep (c : Int) (lim : Option Nat) (xs : Col) (i : Nat) (v : Int)
    (h : xs[i]? = some (some v)) : (fillConst c lim xs)[i]? = some (some v) := by
  rw [fillConst_eq, List.getElem?_mapIdx, h]
  rfl

theorem lastValidTime_none (idx : List Int) (xs : Col)
    (h : ∀ m, m < xs.length → xs[m]? = some Option.none) : lastValidTime idx xs = Option.none := by
  induction idx generalizing xs with
  | nil => rfl
  | cons t ts ih =>
    cases xs with
    | nil => rfl
    | cons x xs =>
      cases (Option.some.inj (h 0 (Nat.zero_lt_succ _)) : x = Option.none)
      rw [lastValidTime, ih xs fun m hm => h (m + 1) (Nat.succ_lt_succ hm)]
      rfl

theorem lastValidTime_eq (idx : List Int) (xs : Col) (p : Nat) (v : Int) (hl : idx.length = xs.length)
    (hp : xs[p]? = some (some v)) (h : ∀ m, p < m → m < xs.length → xs[m]? = some Option.none) :
    lastValidTime idx xs = idx[p]? := by
  induction idx generalizing xs p with
  | nil =>
    cases xs with
    | nil => cases hp
    | cons x xs => cases hl
  | cons t ts ih =>
    cases xs with
    | nil => cases hp
    | cons x xs =>
      rw [lastValidTime]
      cases p with
      | zero =>
        cases (Option.some.inj hp : x = some v)
        rw [lastValidTime_none ts xs fun m hm => h (m + 1) (Nat.zero_lt_succ m) (Nat.succ_lt_succ hm)]
        rfl
      | succ p =>
        have hl' : ts.length = xs.length := Nat.succ.inj hl
        rw [ih xs p hl' hp fun m h1 h2 => h (m + 1) (Nat.succ_lt_succ h1) (Nat.succ_lt_succ h2),
          List.getElem?_cons_succ, List.getElem?_eq_getElem (hl' ▸ List.getElem?_some_lt hp)]

theorem lastValid_cases (xs : Col) :
    (∀ m, m < xs.length → xs[m]? = some Option.none) ∨
    ∃ p v, xs[p]? = some (some v) ∧ ∀ m, p < m → m < xs.length → xs[m]? = some Option.none := by
  have key : ∀ m, m < xs.length → (xs.getD m Option.none).isSome = false → xs[m]? = some Option.none := fun m hm h => by
    rw [List.getElem?_eq_getElem hm, List.getElem_eq_getD (h := hm) Option.none,
      Option.isNone_iff_eq_none.mp (Option.isSome_eq_false_iff.mp h)]
  by_cases hne : (List.range xs.length).filter (fun m => (xs.getD m Option.none).isSome) = []
  · exact .inl fun m hm => key m hm (List.filter_range_eq_nil hne m hm)
  · obtain ⟨h1, h2, h3⟩ := List.getLastD_filter_range _ _ hne
    obtain ⟨v, hv⟩ := Option.isSome_iff_exists.mp h2
    refine .inr ⟨_, v, ?_, fun m a b => key m b (h3 m a b)⟩
    rw [List.getElem?_eq_getElem h1, List.getElem_eq_getD (h := h1) Option.none, hv]

theorem lastValidTime_isNone_indep (idx idx' : List Int) (xs : Col)
    (hl : idx.length = xs.length) (hl' : idx'.length = xs.length) :
    (lastValidTime idx xs).isNone = (lastValidTime idx' xs).isNone := by
  rcases lastValid_cases xs with h | ⟨p, v, hp, h⟩
  · rw [lastValidTime_none _ _ h, lastValidTime_none _ _ h]
  · have hpn := List.getElem?_some_lt hp
    rw [lastValidTime_eq idx xs p v hl hp h, lastValidTime_eq idx' xs p v hl' hp h,
        List.getElem?_eq_getElem (by omega), List.getElem?_eq_getElem (by omega)]
    rfl

theorem ffillTail_get (inv : Option Int) (lim : Option Nat) (idx : List Int) (xs : Col) (p : Nat) (v : Int)
    (hs : idx.Pairwise (· < ·)) (hl : idx.length = xs.length)
    (hp : xs[p]? = some (some v)) (h : ∀ m, p < m → m < xs.length → xs[m]? = some Option.none)
    (i : Nat) (hi : i < xs.length) :
    (ffillTail inv lim idx xs)[i]? = if i ≤ p then (ffill lim xs)[i]? else some inv := by
  have hp1 : p < idx.length := hl ▸ List.getElem?_some_lt hp
  have hi1 : i < idx.length := hl ▸ hi
  have hi2 : i < (ffill lim xs).length := (ffill_length lim xs).symm ▸ hi
  rw [ffillTail, lastValidTime_eq idx xs p v hl hp h, List.getElem?_eq_getElem hp1]
  show ((idx.zip (ffill lim xs)).map fun q => if q.1 > idx[p] then inv else q.2)[i]? = _
  rw [List.getElem?_map, List.getElem?_eq_getElem (by rw [List.length_zip]; omega), Option.map_some, List.getElem_zip,
    List.getElem?_eq_getElem hi2]
  by_cases hip : i ≤ p
  · rw [if_neg (mt (List.sorted_getElem_iff (fun _ _ => Int.lt_asymm) hs hp1 hi1).mp (Nat.not_lt.mpr hip)), if_pos hip]
  · rw [if_pos ((List.sorted_getElem_iff (fun _ _ => Int.lt_asymm) hs hp1 hi1).mpr (Nat.not_le.mp hip)), if_neg hip]

theorem ffillTail_allnan (inv : Option Int) (lim : Option Nat) (idx : List Int) (xs : Col)
    (h : ∀ m, m < xs.length → xs[m]? = some Option.none) : ffillTail inv lim idx xs = xs := by
  rw [ffillTail, lastValidTime_none idx xs h]

theorem ffillTail_length (inv : Option Int) (lim : Option Nat) (idx : List Int) (xs : Col)
    (hl : idx.length = xs.length) : (ffillTail inv lim idx xs).length = xs.length := by
  unfold ffillTail
  cases lastValidTime idx xs with
  | none => rfl
  | some t => rw [List.length_map, List.length_zip, ffill_length, hl, Nat.min_self]

theorem ffillTail_indep (inv : Option Int) (lim : Option Nat) (idx idx' : List Int) (xs : Col)
    (hs : idx.Pairwise (· < ·)) (hs' : idx'.Pairwise (· < ·))
    (hl : idx.length = xs.length) (hl' : idx'.length = xs.length) :
    ffillTail inv lim idx xs = ffillTail inv lim idx' xs := by
  rcases lastValid_cases xs with h | ⟨p, v, hp, h⟩
  · rw [ffillTail_allnan _ _ _ _ h, ffillTail_allnan _ _ _ _ h]
  · apply List.ext_getElem?
    intro i
    rcases Nat.lt_or_ge i xs.length with hi | hi
    · rw [ffillTail_get inv lim idx xs p v hs hl hp h i hi, ffillTail_get inv lim idx' xs p v hs' hl' hp h i hi]
    · rw [List.getElem?_eq_none (by rw [ffillTail_length _ _ _ _ hl]; exact hi),
          List.getElem?_eq_none (by rw [ffillTail_length _ _ _ _ hl']; exact hi)]

theorem ffillTail_keep (inv : Option Int) (lim : Option Nat) (idx : List Int) (xs : Col)
    (hs : idx.Pairwise (· < ·)) (hl : idx.length = xs.length) (i : Nat) (w : Int)
    (hi : xs[i]? = some (some w)) : (ffillTail inv lim idx xs)[i]? = some (some w) := by
  have hin := List.getElem?_some_lt hi
  rcases lastValid_cases xs with h | ⟨p, v, hp, h⟩
  · rw [h i hin] at hi; cases hi
  · rw [ffillTail_get inv lim idx xs p v hs hl hp h i hin]
    have hip : i ≤ p := Nat.le_of_not_lt fun h' => by rw [h i h' hin] at hi; cases hi
    rw [if_pos hip]
    exact ffill_keep lim xs i w hi

namespace Frame

theorem nrows_gather (f : Frame) (pos : List Nat) : (f.gather pos).nrows = pos.length :=
  List.length_map _

theorem names_gather (f : Frame) (pos : List Nat) : (f.gather pos).names = f.names := by
  rw [names, gather, List.map_map]
  rfl

theorem rows_gather (f : Frame) (pos : List Nat) : (f.gather pos).rows = pos.map f.row := by
  rw [rows, nrows_gather]
  refine List.map_range_eq_map pos _ _ fun j hj => Prod.ext (List.getD_map_of_lt _ pos 0 j hj) ?_
  exact List.map_map.trans (List.map_congr_left fun _ _ => List.getD_map_of_lt _ pos Option.none j hj)

theorem rect_gather (f : Frame) (pos : List Nat) : (f.gather pos).Rect := by
  intro c hc
  obtain ⟨c', _, rfl⟩ := List.mem_map.mp hc
  exact (List.length_map _).trans (List.length_map _).symm

theorem rowValid_eq (f : Frame) (i : Nat) : f.rowValid i = (f.row i).2.any (·.isSome) := by
  rw [rowValid, row, List.any_map]
  rfl

theorem rows_gather_valid (f : Frame) :
    (f.gather ((List.range f.nrows).filter f.rowValid)).rows = f.rows.filter fun r => r.2.any (·.isSome) := by
  rw [rows_gather, rows, List.filter_map]
  congr 1
  apply List.filter_congr
  intro i _
  simp [rowValid_eq]

theorem rows_gather_drop (f : Frame) (p0 : Nat) :
    (f.gather ((List.range f.nrows).drop p0)).rows = f.rows.drop p0 := by
  rw [rows_gather, rows, List.map_drop]

theorem filter_label_ge (f : Frame) (hs : f.Sorted) (p0 : Nat) (hp : p0 < f.nrows) :
    (List.range f.nrows).filter (fun i => decide (f.idx.getD i 0 ≥ f.idx.getD p0 0)) = (List.range f.nrows).drop p0 := by
  rw [← (List.filter_range_split f.nrows p0).2]
  refine List.filter_congr fun i hi => ?_
  have hi : i < f.idx.length := List.mem_range.mp hi
  rw [← List.getElem_eq_getD (h := hi) _, ← List.getElem_eq_getD (h := hp) _]
  exact decide_eq_decide.mpr (List.sorted_le_iff f.idx hs p0 i hp hi)

theorem rows_gather_take (f : Frame) (q : Nat) :
    (f.gather ((List.range f.nrows).take q)).rows = f.rows.take q := by
  rw [rows_gather, rows, List.map_take]

theorem filter_label_le (f : Frame) (hs : f.Sorted) (p : Nat) (hp : p < f.nrows) :
    (List.range f.nrows).filter (fun i => decide (f.idx.getD i 0 ≤ f.idx.getD p 0)) = (List.range f.nrows).take (p + 1) := by
  rw [← (List.filter_range_split f.nrows (p + 1)).1]
  refine List.filter_congr fun i hi => ?_
  have hi : i < f.idx.length := List.mem_range.mp hi
  rw [← List.getElem_eq_getD (h := hi) _, ← List.getElem_eq_getD (h := hp) _]
  exact decide_eq_decide.mpr ((List.sorted_le_iff f.idx hs i p hi hp).trans Nat.lt_succ_iff.symm)

theorem getElem?_cols_mapCols (k : Col → Col) (f : Frame) (j : Nat) :
    (f.mapCols k).cols[j]? = (f.cols[j]?).map fun c => (c.1, k c.2) :=
  List.getElem?_map

end Frame

/-- row `r` of a result comes from row `r0` of the input: same timestamp, same width, every non-NaN cell kept -/
def RowKept (r0 r : Int × List (Option Int)) : Prop :=
  r.1 = r0.1 ∧ r.2.length = r0.2.length ∧ ∀ (j : Nat) (v : Int), r0.2[j]? = some (some v) → r.2[j]? = some (some v)

theorem RowKept.refl (r : Int × List (Option Int)) : RowKept r r := ⟨rfl, rfl, fun _ _ h => h⟩

theorem RowKept.trans {a b c : Int × List (Option Int)} (h1 : RowKept a b) (h2 : RowKept b c) : RowKept a c :=
  ⟨h2.1.trans h1.1, h2.2.1.trans h1.2.1, fun j v h => h2.2.2 j v (h1.2.2 j v h)⟩

theorem gather_sublist_rows (f : Frame) (pos : List Nat) (hp : pos.Sublist (List.range f.nrows)) :
    (f.gather pos).idx.Sublist f.idx ∧ ∀ r ∈ (f.gather pos).rows, r ∈ f.rows := by
  refine ⟨?_, fun r hr => ?_⟩
  · have := hp.map fun i => f.idx.getD i 0
    rwa [show (List.range f.nrows).map (fun i => f.idx.getD i 0) = f.idx from List.map_getD_range f.idx 0] at this
  · rw [Frame.rows_gather] at hr
    obtain ⟨i, hi, rfl⟩ := List.mem_map.mp hr
    exact List.mem_map.mpr ⟨i, hp.subset hi, rfl⟩

end Pyg.Fill

namespace Pyg.Props.C12
open Pyg.Fill

/-- cell of column number `j` at row position `i`; the statements of Props/C12 and Props/C03 call it `C12.cell` -/
def cell (f : Frame) (j i : Nat) : Option (Option Int) := (f.cols[j]?).bind fun c => c.2[i]?

end Pyg.Props.C12

namespace Pyg.Fill
open Pyg.Props.C12 (cell)

/-- `g` has the index and the column names of `f` and every non-NaN cell of `f` at its place -/
def CellsKept (f g : Frame) : Prop :=
  g.idx = f.idx ∧ g.names = f.names ∧ ∀ j i v, cell f j i = some (some v) → cell g j i = some (some v)

theorem CellsKept.refl (f : Frame) : CellsKept f f := ⟨rfl, rfl, fun _ _ _ h => h⟩

theorem CellsKept.trans {a b c : Frame} (h1 : CellsKept a b) (h2 : CellsKept b c) : CellsKept a c :=
  ⟨h2.1.trans h1.1, h2.2.1.trans h1.2.1, fun j i v h => h2.2.2 j i v (h1.2.2 j i v h)⟩

theorem cell_eq_some_iff {f : Frame} {j i : Nat} {x : Option Int} :
    cell f j i = some x ↔ ∃ c, f.cols[j]? = some c ∧ c.2[i]? = some x :=
  Option.bind_eq_some_iff

theorem mapCols_keeps (k : Col → Col) (f : Frame)
    (hk : ∀ c : String × Col, c ∈ f.cols → ∀ (i : Nat) (v : Int), c.2[i]? = some (some v) → (k c.2)[i]? = some (some v)) :
    CellsKept f (f.mapCols k) := by
  refine ⟨rfl, by rw [Frame.names, Frame.mapCols, List.map_map]; rfl, fun j i v h => ?_⟩
  obtain ⟨c, hc, hv⟩ := cell_eq_some_iff.mp h
  exact cell_eq_some_iff.mpr ⟨_, by rw [Frame.getElem?_cols_mapCols, hc]; rfl, hk c (List.mem_of_getElem? hc) i v hv⟩

theorem row_cell (f : Frame) (i j : Nat) (v : Int) (hi : i < f.nrows) (hr : f.Rect) :
    (f.row i).2[j]? = some (some v) ↔ cell f j i = some (some v) := by
  rw [Frame.row, cell, List.getElem?_map]
  cases hc : f.cols[j]? with
  | none => exact ⟨nofun, nofun⟩
  | some c =>
    have hl : i < c.2.length := (hr c (List.mem_of_getElem? hc)).symm ▸ hi
    rw [Option.map_some, Option.bind_some, ← List.getElem_eq_getD (h := hl) _, List.getElem?_eq_getElem hl]

theorem rowKept_of_cells {f g : Frame} (h : CellsKept f g) (hrf : f.Rect) (hrg : g.Rect) {i : Nat} (hi : i < g.nrows) :
    RowKept (f.row i) (g.row i) := by
  have hif : i < f.nrows := by rw [Frame.nrows, ← h.1]; exact hi
  have hn : g.cols.length = f.cols.length :=
    (List.length_map _).symm.trans ((congrArg List.length h.2.1).trans (List.length_map _))
  exact ⟨congrArg (·.getD i 0) h.1, (List.length_map _).trans (hn.trans (List.length_map _).symm),
    fun j v hv => (row_cell g i j v hi hrg).mpr (h.2.2 j i v ((row_cell f i j v hif hrf).mp hv))⟩

theorem Method.filling_cases {m : Method} (hm : m ≠ .fnna ∧ m ≠ .nona) :
    (m = .ffill ∨ m = .bfill ∨ ∃ c, m = .const c) ∨ m = .ffillNa ∨ m = .ffill0 := by
  cases m with
  | fnna => exact absurd rfl hm.1
  | nona => exact absurd rfl hm.2
  | const c => exact .inl (.inr (.inr ⟨c, rfl⟩))
  | ffill => exact .inl (.inl rfl)
  | bfill => exact .inl (.inr (.inl rfl))
  | ffillNa => exact .inr (.inl rfl)
  | ffill0 => exact .inr (.inr rfl)

theorem step_label_free (lim : Option Nat) {m : Method} (hm : m = .ffill ∨ m = .bfill ∨ ∃ c, m = .const c) :
    ∃ k : Col → Col, (∀ xs, (k xs).length = xs.length) ∧
      (∀ (xs : Col) (i : Nat) (v : Int), xs[i]? = some (some v) → (k xs)[i]? = some (some v)) ∧
      ∀ f, step lim f m = if limOk lim then .ok (f.mapCols k) else .error .value := by
  rcases hm with rfl | rfl | ⟨c, rfl⟩
  · exact ⟨_, ffill_length lim, ffill_keep lim, fun _ => rfl⟩
  · exact ⟨_, bfill_length lim, bfill_keep lim, fun _ => rfl⟩
  · exact ⟨_, fillConst_length c lim, fillConst_keep c lim, fun _ => rfl⟩

/-- the step of 'ffill_na' (`inv = none`) and 'ffill_0' (`inv = some 0`) -/
def tailStep (inv : Option Int) (lim : Option Nat) (f : Frame) : Res Frame :=
  if limOk lim || f.cols.all (fun c => (lastValidTime f.idx c.2).isNone) then .ok (f.mapCols (ffillTail inv lim f.idx))
  else .error .value

theorem step_ffillNa (lim : Option Nat) (f : Frame) : step lim f .ffillNa = tailStep Option.none lim f := rfl

theorem step_ffill0 (lim : Option Nat) (f : Frame) : step lim f .ffill0 = tailStep (some 0) lim f := rfl

theorem step_tail (lim : Option Nat) {m : Method} (hm : m = .ffillNa ∨ m = .ffill0) :
    ∃ inv, ∀ f, step lim f m = tailStep inv lim f := by
  rcases hm with rfl | rfl
  · exact ⟨_, step_ffillNa lim⟩
  · exact ⟨_, step_ffill0 lim⟩

theorem step_gather {lim : Option Nat} {f g : Frame} {m : Method} (hm : m = .fnna ∨ m = .nona) (h : step lim f m = .ok g) :
    ∃ pos, pos.Sublist (List.range f.nrows) ∧ g = f.gather pos := by
  rcases hm with rfl | rfl
  · rw [step] at h
    split at h
    · exact ⟨_, List.filter_sublist, (Except.ok.inj h).symm⟩
    · exact ⟨[], List.nil_sublist _, (Except.ok.inj h).symm⟩
  · exact ⟨_, List.filter_sublist, (Except.ok.inj h).symm⟩

/-- 'fnna' on a sorted index by positions: the rows from the first one holding a value on (none: from `nrows` on) -/
theorem step_fnna_sorted (lim : Option Nat) {f : Frame} (hs : f.Sorted) :
    step lim f .fnna =
      .ok (f.gather ((List.range f.nrows).drop (((List.range f.nrows).find? f.rowValid).getD f.nrows))) := by
  rw [step, Frame.firstValidRowTime]
  cases hfind : (List.range f.nrows).find? f.rowValid with
  | none =>
    rw [Option.getD_none, List.drop_of_length_le (Nat.le_of_eq List.length_range)]
    rfl
  | some p0 =>
    show Except.ok (f.gather _) = _
    rw [Frame.filter_label_ge f hs p0 (List.mem_range.mp (List.mem_of_find?_eq_some hfind))]
    rfl

/-- on a sorted index a removing method selects positions that depend on the number of rows and on which rows hold a value only -/
theorem step_gather_sorted (lim : Option Nat) {m : Method} (hm : m = .fnna ∨ m = .nona) :
    ∃ P : Nat → (Nat → Bool) → List Nat, (∀ n p, (P n p).Sublist (List.range n)) ∧
      ∀ f, f.Sorted → step lim f m = .ok (f.gather (P f.nrows f.rowValid)) := by
  rcases hm with rfl | rfl
  · exact ⟨fun n p => (List.range n).drop (((List.range n).find? p).getD n), fun _ _ => List.drop_sublist _ _,
      fun _ => step_fnna_sorted lim⟩
  · exact ⟨fun n p => (List.range n).filter p, fun _ _ => List.filter_sublist, fun _ _ => rfl⟩

theorem step_ncols (lim : Option Nat) (f g : Frame) (m : Method) (h : step lim f m = .ok g) :
    g.cols.length = f.cols.length := by
  by_cases hm : m = .fnna ∨ m = .nona
  · obtain ⟨pos, _, rfl⟩ := step_gather hm h
    exact List.length_map _
  · rcases Method.filling_cases ⟨fun e => hm (.inl e), fun e => hm (.inr e)⟩ with hm' | hm'
    · obtain ⟨k, _, _, e⟩ := step_label_free lim hm'
      cases Res.eq_of_ite_eq_ok ((e f).symm.trans h)
      exact List.length_map _
    · obtain ⟨inv, e⟩ := step_tail lim hm'
      cases Res.eq_of_ite_eq_ok ((e f).symm.trans h)
      exact List.length_map _

theorem fillna_rel {R : Frame → Frame → Prop} {P : Frame → Prop} (hrefl : ∀ f, R f f)
    (htrans : ∀ {a b c}, R a b → R b c → R a c) {lim : Option Nat} {ms : List Method}
    (hstep : ∀ m ∈ ms, ∀ f g, P f → step lim f m = .ok g → R f g ∧ P g) {f g : Frame} (hp : P f)
    (h : fillna ms lim f = .ok g) : R f g :=
  (List.foldlM_inv (P := fun g => R f g ∧ P g)
    (fun m hm a b ha hab => ⟨htrans ha.1 (hstep m hm a b ha.2 hab).1, (hstep m hm a b ha.2 hab).2⟩) ⟨hrefl f, hp⟩ h).1

end Pyg.Fill
