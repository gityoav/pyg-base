/-
  The two Gregorian models agree: `Pyg.Civil` (closed-form arithmetic on `Int`, used by the Calendar / drange models)
  computes the same ordinals, dates, weekdays and month lengths as `Pyg.Greg` (CPython's `_ymd2ord` / `_ord2ymd`).
  So `Greg` is the one trusted Gregorian model; `Civil` is a proved-equal closed form of it.
-/
import PygProofs.Lemmas.CivilLemmas
import PygProofs.Lemmas.GregLemmas

namespace Pyg.Civil
open Pyg

theorem dbY_eq_greg (y : Nat) : dbY (y : Int) = (Greg.dby (y + 1) : Nat) := (Greg.dby_cast y).symm

/-- `_DAYS_BEFORE_MONTH` counted from March -/
theorem off_eq_greg : ∀ m : Nat, m < 13 → 1 ≤ m →
    off (if (m : Int) > 2 then (m : Int) - 3 else (m : Int) + 9)
      = (Greg.dbmTable m : Nat) + (if m > 2 then -59 else 306) := by decide

/-- Civil's ordinal = CPython's `_ymd2ord`, every year ≥ 1, every month, any day number -/
theorem ord_eq_greg (y m d : Nat) (hy : 1 ≤ y) (h1 : 1 ≤ m) (h2 : m ≤ 12) :
    ord (y : Int) (m : Int) (d : Int) = (Greg.ord y m d : Nat) := by
  rw [ord_eq, off_eq_greg m (by omega) h1]
  unfold Greg.ord Greg.dbm
  by_cases hm : m > 2
  · rw [if_neg (by omega), if_pos hm, if_pos hm, dbY_eq_greg, Greg.dby_succ y hy]
    omega
  · have e : (y : Int) - 1 = ((y - 1 : Nat) : Int) := by omega
    rw [if_pos (by omega), if_neg hm, if_neg hm, e, dbY_eq_greg, Nat.sub_add_cancel hy]
    omega

theorem leap_iff (y : Nat) : Leap (y : Int) ↔ Greg.leapDay y = 1 := by
  have h : ((Greg.leapDay y : Nat) : Int) = if Leap (y : Int) then 1 else 0 := Greg.leapDay_cast y
  by_cases hl : Leap (y : Int)
  · rw [if_pos hl] at h
    exact ⟨fun _ => by omega, fun _ => hl⟩
  · rw [if_neg hl] at h
    exact ⟨fun a => absurd a hl, fun a => by omega⟩

/-- month lengths agree (`_days_in_month`) -/
theorem dim_eq_greg (y m : Nat) (h1 : 1 ≤ m) (h2 : m ≤ 12) : dim (y : Int) (m : Int) = (Greg.dim y m : Nat) := by
  have hl := leap_iff y
  have hc := Greg.leapDay_cases y
  have hm : m = 1 ∨ m = 2 ∨ m = 3 ∨ m = 4 ∨ m = 5 ∨ m = 6 ∨ m = 7 ∨ m = 8 ∨ m = 9 ∨ m = 10 ∨ m = 11 ∨ m = 12 := by
    omega
  unfold dim
  rcases hm with rfl | rfl | rfl | rfl | rfl | rfl | rfl | rfl | rfl | rfl | rfl | rfl <;> simp [Greg.dim]
  by_cases h : Leap (y : Int)
  · simp only [h, if_true]; have := hl.1 h; omega
  · simp only [h, if_false]; have : Greg.leapDay y ≠ 1 := fun e => h (hl.2 e); omega

/-- month lengths as differences of ordinals: the first of the next month is `dim` days after the first of this one -/
theorem month_length_greg (y m : Nat) (h1 : 1 ≤ m) (h2 : m ≤ 12) :
    ordYM (y : Int) ((m : Int) + 1) 1 - ord (y : Int) (m : Int) 1 = (Greg.dim y m : Nat) := by
  rw [← dim_eq_greg y m h1 h2, ordYM_eq]
  have h := monthStart_succ (12 * (y : Int) + (m : Int) - 1)
  have e1 : (12 * (y : Int) + (m : Int) - 1) / 12 = y := by omega
  have e2 : 1 + (12 * (y : Int) + (m : Int) - 1) % 12 = m := by omega
  rw [e1, e2] at h
  have e3 := ordYM_eq (y : Int) (m : Int) 1
  rw [ordYM_of_month _ _ _ (by omega)] at e3
  have e4 : 12 * (y : Int) + ((m : Int) + 1) - 1 = 12 * (y : Int) + (m : Int) - 1 + 1 := by omega
  rw [e4, h, e3]; omega

theorem valid_of_greg (y m d : Nat) (v : Greg.ValidU y m d) : Valid (y : Int) (m : Int) (d : Int) := by
  unfold Greg.ValidU at v
  unfold Valid
  rw [dim_eq_greg y m v.2.1 v.2.2.1]
  omega

theorem wd_eq_greg (n : Nat) : wd (n : Int) = (Greg.weekday n : Nat) := by
  unfold wd Greg.weekday; omega

/-- Civil's date of a day number = CPython's `_ord2ymd`, every ordinal `n ≥ 1` (years 1..9999 and beyond) -/
theorem ymd_eq_greg (n : Nat) (h : 1 ≤ n) :
    ymd (n : Int) = (((Greg.fromOrd n).y : Int), ((Greg.fromOrd n).m : Int), ((Greg.fromOrd n).d : Int)) := by
  obtain ⟨v, e⟩ := Greg.good_all n h
  have h1 := ord_eq_greg _ _ (Greg.fromOrd n).d v.1 v.2.1 v.2.2.1
  rw [e] at h1
  rw [← h1]
  exact ymd_ord _ _ _ (valid_of_greg _ _ _ v)

theorem year_eq_greg (n : Nat) (h : 1 ≤ n) : year (n : Int) = ((Greg.fromOrd n).y : Int) := by
  unfold year; rw [ymd_eq_greg n h]
theorem month_eq_greg (n : Nat) (h : 1 ≤ n) : month (n : Int) = ((Greg.fromOrd n).m : Int) := by
  unfold month; rw [ymd_eq_greg n h]
theorem day_eq_greg (n : Nat) (h : 1 ≤ n) : day (n : Int) = ((Greg.fromOrd n).d : Int) := by
  unfold day; rw [ymd_eq_greg n h]

/-- the whole agreement for every date `datetime` can represent (years 1..9999): same ordinal, same fields back,
same weekday, same month length -/
theorem agree (y m d : Nat) (v : Greg.Valid y m d) :
    ord (y : Int) (m : Int) (d : Int) = (Greg.ord y m d : Nat) ∧
    ymd ((Greg.ord y m d : Nat) : Int) = ((y : Int), (m : Int), (d : Int)) ∧
    wd ((Greg.ord y m d : Nat) : Int) = (Greg.weekday (Greg.ord y m d) : Nat) ∧
    dim (y : Int) (m : Int) = (Greg.dim y m : Nat) := by
  have u := v.toU
  have hb := Greg.ord_bounds y m d u
  refine ⟨ord_eq_greg y m d u.1 u.2.1 u.2.2.1, ?_, wd_eq_greg _, dim_eq_greg y m u.2.1 u.2.2.1⟩
  rw [ymd_eq_greg _ (by omega), Greg.fromOrd_ord_all y m d u]

example : Greg.Valid 2024 2 29 ∧ ord 2024 2 29 = 738945 ∧ ymd 738945 = (2024, 2, 29) ∧ wd 738945 = 3 := by decide

end Pyg.Civil
