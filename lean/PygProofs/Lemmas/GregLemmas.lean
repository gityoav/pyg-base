/-
  Facts about the Gregorian reference model (PygModel/Greg.lean), for every year ≥ 1: contiguity of months and
  years, monotonicity and injectivity of `ord`, and the round trip between `ord` and `fromOrd`.  The round trip is
  by argument: `fromOrd` reads `n - 1` in the mixed radix (146097, 36524, 1461, 365), `dby` of the year those digits
  stand for is the same linear form, and the month estimate `(r + 50) >> 5` is checked against the 2 × 365 table.
-/
import PygModel.Greg
import PygProofs.Lemmas.YearArith

namespace Pyg.Greg

theorem leapDay_le (y : Nat) : leapDay y ≤ 1 := by unfold leapDay; split <;> omega

/-- days before month `m` (`dbm`) and its length (`dimL` below, for `dim`) with the leap day as a parameter `l ∈ {0,1}`, so that the
facts about them are finite tables -/
def dbmL (l m : Nat) : Nat := dbmTable m + (if m > 2 then l else 0)
def dimL (l m : Nat) : Nat := if m = 2 then 28 + l else dim 1 m

theorem dbm_eq (y m : Nat) : dbm y m = dbmL (leapDay y) m := rfl

theorem dim_eq (y m : Nat) : dim y m = dimL (leapDay y) m := by
  unfold dimL dim; split <;> simp_all

theorem dbmL_succ : ∀ l < 2, ∀ m < 12, 1 ≤ m → dbmL l (m + 1) = dbmL l m + dimL l m := by decide
theorem dbmL_last : ∀ l < 2, dbmL l 12 + dimL l 12 = 365 + l := by decide
theorem dbmL_mono : ∀ l < 2, ∀ m < 13, ∀ m' < 13, 1 ≤ m → m < m' → dbmL l m + dimL l m ≤ dbmL l m' := by decide
theorem dbmL_year : ∀ l < 2, ∀ m < 13, 1 ≤ m → dbmL l m + dimL l m ≤ 365 + l := by decide
theorem dbmL_31 : ∀ l < 2, ∀ m < 13, 1 ≤ m → dbmL l m + 31 ≤ 365 + l := by decide
theorem dimL_bounds : ∀ l < 2, ∀ m < 13, 1 ≤ m → 28 ≤ dimL l m ∧ dimL l m ≤ 31 := by decide

theorem dim_bounds (y m : Nat) (h1 : 1 ≤ m) (h2 : m ≤ 12) : 28 ≤ dim y m ∧ dim y m ≤ 31 := by
  rw [dim_eq]; exact dimL_bounds _ (by have := leapDay_le y; omega) m (by omega) h1

theorem dbm_succ (y m : Nat) (h1 : 1 ≤ m) (h2 : m < 12) : dbm y (m + 1) = dbm y m + dim y m := by
  rw [dbm_eq, dbm_eq, dim_eq]; exact dbmL_succ _ (by have := leapDay_le y; omega) m h2 h1

theorem dbm_last (y : Nat) : dbm y 12 + dim y 12 = 365 + leapDay y := by
  rw [dbm_eq, dim_eq]; exact dbmL_last _ (by have := leapDay_le y; omega)

theorem leapDay_cases (y : Nat) :
    (leapDay y = 1 ∧ y % 4 = 0 ∧ (y % 100 ≠ 0 ∨ y % 400 = 0)) ∨
    (leapDay y = 0 ∧ ¬ (y % 4 = 0 ∧ (y % 100 ≠ 0 ∨ y % 400 = 0))) := by
  unfold leapDay isLeap
  by_cases h4 : y % 4 = 0 <;> by_cases h100 : y % 100 = 0 <;> by_cases h400 : y % 400 = 0 <;> simp [h4, h100, h400]

/-- the days before January 1st of year `y + 1` are the year grid of YearArith.lean at `y` -/
theorem dby_cast (y : Nat) : ((dby (y + 1) : Nat) : Int) = 365 * (y : Int) + (y : Int) / 4 - (y : Int) / 100 + (y : Int) / 400 := by
  show (((y + 1 - 1) * 365 + (y + 1 - 1) / 4 - (y + 1 - 1) / 100 + (y + 1 - 1) / 400 : Nat) : Int) = _
  omega

theorem leapDay_cast (y : Nat) :
    ((leapDay y : Nat) : Int) = if (y : Int) % 4 = 0 ∧ ((y : Int) % 100 ≠ 0 ∨ (y : Int) % 400 = 0) then 1 else 0 := by
  have := leapDay_cases y
  omega

theorem dby_succ (y : Nat) (h : 1 ≤ y) : dby (y + 1) = dby y + 365 + leapDay y := by
  obtain ⟨k, rfl⟩ : ∃ k, y = k + 1 := ⟨y - 1, by omega⟩
  have h1 := dby_cast (k + 1)
  have hl := leapDay_cast (k + 1)
  rw [Int.natCast_succ] at h1 hl
  rw [Year.days_succ, ← dby_cast k] at h1
  -- the leap condition never becomes a hypothesis: `omega` would split on its remainders
  have key (C : Prop) [Decidable C] : (if C then (366 : Int) else 365) = 365 + (if C then 1 else 0) := by split <;> rfl
  rw [key, ← hl] at h1
  omega

theorem dby_add (y : Nat) (hy : 1 ≤ y) : ∀ k : Nat, dby y + 365 * k ≤ dby (y + k) ∧ dby (y + k) ≤ dby y + 366 * k
  | 0 => by simp
  | k + 1 => by
    have ih := dby_add y hy k
    have hs := dby_succ (y + k) (by omega)
    have hl := leapDay_le (y + k)
    rw [show y + (k + 1) = y + k + 1 by omega, hs]
    omega

theorem dby_mono (y y' : Nat) (h1 : 1 ≤ y) (h : y ≤ y') : dby y ≤ dby y' := by
  obtain ⟨j, rfl⟩ : ∃ j, y' = y + j := ⟨y' - y, by omega⟩
  have := (dby_add y h1 j).1
  omega

theorem dby_near (y y' : Nat) (k : Nat) (h1 : y ≤ y' + k) (h2 : y' ≤ y + k) (hy : 1 ≤ y) (hy' : 1 ≤ y') :
    (dby y : Int) - 366 * k ≤ dby y' ∧ (dby y' : Int) ≤ dby y + 366 * k := by
  rcases Nat.le_total y y' with h | h
  · obtain ⟨j, rfl⟩ : ∃ j, y' = y + j := ⟨y' - y, by omega⟩
    have := dby_add y hy j
    constructor <;> omega
  · obtain ⟨j, rfl⟩ : ∃ j, y = y' + j := ⟨y - y', by omega⟩
    have := dby_add y' hy' j
    constructor <;> omega

theorem ord_window (y m d : Nat) (hd : d ≤ 31) : dby y ≤ ord y m d ∧ ord y m d ≤ dby y + 400 := by
  have hl := leapDay_le y
  have ht : dbmTable m ≤ 365 := by unfold dbmTable; split <;> omega
  unfold ord dbm
  split <;> omega

/-- a calendar date without the upper bound on the year (what the arithmetic needs) -/
def ValidU (y m d : Nat) : Prop := 1 ≤ y ∧ 1 ≤ m ∧ m ≤ 12 ∧ 1 ≤ d ∧ d ≤ dim y m

theorem Valid.toU {y m d : Nat} (v : Valid y m d) : ValidU y m d := by unfold Valid at v; unfold ValidU; omega

theorem Valid.bounds {y m d : Nat} (v : Valid y m d) :
    1 ≤ y ∧ y ≤ 9999 ∧ 1 ≤ m ∧ m ≤ 12 ∧ 1 ≤ d ∧ d ≤ 31 ∧ d ≤ dim y m := by
  unfold Valid at v
  have := dim_bounds y m v.2.2.1 v.2.2.2.1
  omega

theorem valid_swap {y m d : Nat} (hm : m ≤ 12) (v : Valid y d m) : Valid y m d := by
  unfold Valid at *
  have := dim_bounds y m (by omega) hm
  omega

theorem not_valid_month {y m d : Nat} (h : 12 < m) : ¬ Valid y m d := fun v => by
  have := v.bounds
  omega

theorem ord_bounds (y m d : Nat) (v : ValidU y m d) : dby y + 1 ≤ ord y m d ∧ ord y m d ≤ dby (y + 1) := by
  unfold ValidU at v
  have hl := leapDay_le y
  have h1 := dbmL_year (leapDay y) (by omega) m (by omega) v.2.1
  rw [← dbm_eq, ← dim_eq] at h1
  have h2 := dby_succ y v.1
  unfold ord; omega

theorem ord_lt_year (y m d y' m' d' : Nat) (v : ValidU y m d) (v' : ValidU y' m' d') (h : y < y') :
    ord y m d < ord y' m' d' := by
  have h1 := (ord_bounds y m d v).2
  have h2 := (ord_bounds y' m' d' v').1
  have h3 := dby_mono (y + 1) y' (by omega) (by omega)
  omega

theorem ord_lt_month (y m d m' d' : Nat) (v : ValidU y m d) (v' : ValidU y m' d') (h : m < m') :
    ord y m d < ord y m' d' := by
  unfold ValidU at v v'
  have hl := leapDay_le y
  have h1 := dbmL_mono (leapDay y) (by omega) m (by omega) m' (by omega) v.2.1 h
  rw [← dbm_eq, ← dim_eq, ← dbm_eq] at h1
  unfold ord; omega

theorem ord_inj (y m d y' m' d' : Nat) (v : ValidU y m d) (v' : ValidU y' m' d')
    (h : ord y m d = ord y' m' d') : y = y' ∧ m = m' ∧ d = d' := by
  have hy : y = y' := by
    by_cases h1 : y < y'
    · have := ord_lt_year _ _ _ _ _ _ v v' h1; omega
    · by_cases h2 : y' < y
      · have := ord_lt_year _ _ _ _ _ _ v' v h2; omega
      · omega
  subst hy
  have hm : m = m' := by
    by_cases h1 : m < m'
    · have := ord_lt_month _ _ _ _ _ v v' h1; omega
    · by_cases h2 : m' < m
      · have := ord_lt_month _ _ _ _ _ v' v h2; omega
      · omega
  subst hm
  unfold ord at h
  exact ⟨rfl, rfl, by omega⟩

theorem dby_10000 : dby 10000 = 3652059 := by decide

theorem year_of_ord (y m d a b : Nat) (v : ValidU y m d) (hb : 1 ≤ b)
    (h0 : dby a < ord y m d) (h1 : ord y m d ≤ dby b) : a ≤ y ∧ y < b := by
  have o := ord_bounds y m d v
  constructor
  · by_cases h : y < a
    · have := dby_mono (y + 1) a (by omega) (by omega); omega
    · omega
  · by_cases h : b ≤ y
    · have := dby_mono b y hb h; omega
    · omega

theorem ord_of_year (y m d a b : Nat) (v : ValidU y m d) (ha : 1 ≤ a) (h : a ≤ y ∧ y < b) :
    dby a < ord y m d ∧ ord y m d ≤ dby b := by
  have o := ord_bounds y m d v
  have h1 := dby_mono a y ha h.1
  have h2 := dby_mono (y + 1) b (by omega) (by omega)
  omega

/-- a day number up to 31 does not leave the year (December has 31 days) -/
theorem ord_le_next_year (y m d : Nat) (hy : 1 ≤ y) (hm : 1 ≤ m ∧ m ≤ 12) (hd : d ≤ 31) : ord y m d ≤ dby (y + 1) := by
  have hl := leapDay_le y
  have h1 := dbmL_31 (leapDay y) (by omega) m (by omega) hm.1
  rw [← dbm_eq] at h1
  have h2 := dby_succ y hy
  unfold ord; omega

theorem ord_range (y m d : Nat) (v : Valid y m d) : 1 ≤ ord y m d ∧ ord y m d ≤ 3652059 := by
  have := ord_of_year y m d 1 10000 v.toU (by omega) ⟨v.1, by have := v.2.1; omega⟩
  rw [dby_10000, show dby 1 = 0 from rfl] at this
  omega

/-- month and day of the `r`-th day (from 0) of a year, as `_ord2ymd` finds them -/
def monthDay (leap : Bool) (r : Nat) : Nat × Nat :=
  let month := (r + 50) / 32
  let preceding := dbmTable month + (if month > 2 && leap then 1 else 0)
  if preceding > r then
    let month := month - 1
    let preceding := preceding - (dbmTable (month + 1) - dbmTable month + (if month == 2 && leap then 1 else 0))
    (month, r - preceding + 1)
  else (month, r - preceding + 1)

theorem monthDay_spec (l : Bool) : ∀ r < 365,
    1 ≤ (monthDay l r).1 ∧ (monthDay l r).1 ≤ 12 ∧ 1 ≤ (monthDay l r).2 ∧
    (monthDay l r).2 ≤ dimL l.toNat (monthDay l r).1 ∧ dbmL l.toNat (monthDay l r).1 + (monthDay l r).2 = r + 1 := by
  cases l <;> decide +kernel

theorem YMD.ite_eta (c : Prop) [Decidable c] (y m d m' d' : Nat) :
    (if c then (⟨y, m, d⟩ : YMD) else ⟨y, m', d'⟩) =
      ⟨y, (if c then (m, d) else (m', d')).1, (if c then (m, d) else (m', d')).2⟩ := by
  split <;> rfl

/-- `fromOrd` with its digits named: `a b c e` count whole 400-, 100-, 4- and 1-year cycles before day `n`, `r` is the
day of the year from 0 -/
theorem fromOrd_digits (n : Nat) :
    fromOrd n =
      let a := (n - 1) / 146097; let b := (n - 1) % 146097 / 36524; let c := (n - 1) % 146097 % 36524 / 1461
      let e := (n - 1) % 146097 % 36524 % 1461 / 365; let r := (n - 1) % 146097 % 36524 % 1461 % 365
      let y := a * 400 + 1 + b * 100 + c * 4 + e
      if e == 4 || b == 4 then ⟨y - 1, 12, 31⟩
      else ⟨y, (monthDay (e == 3 && (c != 24 || b == 3)) r).1, (monthDay (e == 3 && (c != 24 || b == 3)) r).2⟩ := by
  unfold fromOrd
  simp only []
  split
  · rfl
  · exact YMD.ite_eta _ _ _ _ _ _

/-- the year the digits `a b c e` stand for, `y = 400a + 100b + 4c + e + 1`, starts after `146097a + 36524b + 1461c + 365e`
days, and is a leap year iff `e = 3 ∧ (c ≠ 24 ∨ b = 3)` -/
theorem year_of_digits (a b c e : Nat) (hb : b ≤ 3) (hc : c ≤ 24) (he : e ≤ 3) :
    dby (a * 400 + 1 + b * 100 + c * 4 + e) = 146097 * a + 36524 * b + 1461 * c + 365 * e ∧
    leapDay (a * 400 + 1 + b * 100 + c * 4 + e) = (e == 3 && (c != 24 || b == 3)).toNat := by
  obtain ⟨hd, hq⟩ := Year.days_digits a b c e (by omega) (by omega) (by omega)
  have h1 := dby_cast (a * 400 + b * 100 + c * 4 + e)
  have hl := leapDay_cast (a * 400 + b * 100 + c * 4 + e + 1)
  have e1 : a * 400 + 1 + b * 100 + c * 4 + e = a * 400 + b * 100 + c * 4 + e + 1 := by omega
  have e2 : ((a * 400 + b * 100 + c * 4 + e : Nat) : Int) = 400 * (a : Int) + 100 * b + 4 * c + e := by omega
  rw [e2, hd] at h1
  rw [Int.natCast_succ, e2] at hl
  simp only [hq] at hl
  clear hd hq
  rw [e1]
  refine ⟨by omega, ?_⟩
  cases hx : (e == 3 && (c != 24 || b == 3))
  · simp at hx
    rw [if_neg (by omega)] at hl
    simp only [Bool.toNat_false]
    omega
  · simp at hx
    rw [if_pos (by omega)] at hl
    simp only [Bool.toNat_true]
    omega

theorem last_day (a b c : Nat) (hb : b ≤ 3) (hc : c ≤ 24) (hl : c ≠ 24 ∨ b = 3) :
    ValidU (a * 400 + 1 + b * 100 + c * 4 + 3) 12 31 ∧
    ord (a * 400 + 1 + b * 100 + c * 4 + 3) 12 31 = 146097 * a + 36524 * b + 1461 * c + 1461 := by
  obtain ⟨hy, hl'⟩ := year_of_digits a b c 3 hb hc (by omega)
  have hl1 : (3 == 3 && (c != 24 || b == 3)) = true := by simpa using hl
  rw [hl1] at hl'
  have := dbm_last (a * 400 + 1 + b * 100 + c * 4 + 3)
  rw [show dim (a * 400 + 1 + b * 100 + c * 4 + 3) 12 = 31 from rfl] at this
  unfold ValidU ord
  rw [show dim (a * 400 + 1 + b * 100 + c * 4 + 3) 12 = 31 from rfl, hy]
  simp only [Bool.toNat_true] at hl'
  omega

/-- the round trip at ordinal `n`: `fromOrd n` is a calendar date (year unbounded) whose ordinal is `n` -/
def Good (n : Nat) : Prop :=
  ValidU (fromOrd n).y (fromOrd n).m (fromOrd n).d ∧ ord (fromOrd n).y (fromOrd n).m (fromOrd n).d = n

theorem good_all (n : Nat) (h : 1 ≤ n) : Good n := by
  unfold Good
  rw [fromOrd_digits]
  simp only []
  generalize ha : (n - 1) / 146097 = a
  generalize hq : (n - 1) % 146097 = q
  generalize hb : q / 36524 = b
  generalize hq' : q % 36524 = q'
  generalize hc : q' / 1461 = c
  generalize hq'' : q' % 1461 = q''
  generalize he : q'' / 365 = e
  generalize hr : q'' % 365 = r
  -- all that is used of the digits: `n - 1` in mixed radix
  have hn : n = 146097 * a + 36524 * b + 1461 * c + 365 * e + r + 1 ∧ r < 365 ∧ 365 * e + r < 1461 ∧
      1461 * c + 365 * e + r < 36524 ∧ 36524 * b + 1461 * c + 365 * e + r < 146097 := by omega
  clear ha hq hb hq' hc hq'' he hr
  split
  · -- the last day of a leap year: `e = 4` (the 1461st day of a 4-year cycle) or `b = 4` (the 146097th of the 400-year one)
    rename_i hs
    simp only [Bool.or_eq_true, beq_iff_eq] at hs
    show ValidU (_ - 1) 12 31 ∧ ord (_ - 1) 12 31 = n
    by_cases hb4 : b = 4
    · -- four whole centuries are 146096 days, so the other digits are 0
      obtain ⟨rfl, rfl, rfl⟩ : c = 0 ∧ e = 0 ∧ r = 0 := by omega
      subst hb4
      rw [show a * 400 + 1 + 4 * 100 + 0 * 4 + 0 - 1 = a * 400 + 1 + 3 * 100 + 24 * 4 + 3 by omega]
      obtain ⟨v, o⟩ := last_day a 3 24 (by omega) (by omega) (by omega)
      exact ⟨v, by omega⟩
    · -- four whole years are 1460 days, so `r = 0`; and the cycle is not the 25th of its century
      obtain ⟨rfl, rfl, hc⟩ : e = 4 ∧ r = 0 ∧ c ≤ 23 := by omega
      rw [show a * 400 + 1 + b * 100 + c * 4 + 4 - 1 = a * 400 + 1 + b * 100 + c * 4 + 3 by omega]
      obtain ⟨v, o⟩ := last_day a b c (by omega) (by omega) (by omega)
      exact ⟨v, by omega⟩
  · rename_i hs
    simp only [Bool.or_eq_true, beq_iff_eq, not_or] at hs
    obtain ⟨hy, hl⟩ := year_of_digits a b c e (by omega) (by omega) (by omega)
    have s := monthDay_spec (e == 3 && (c != 24 || b == 3)) r (by omega)
    generalize monthDay (e == 3 && (c != 24 || b == 3)) r = md at s ⊢
    rw [← hl, ← dim_eq, ← dbm_eq] at s
    unfold ValidU ord
    simp only []
    -- `s`: month and day within the year; `hy`: the days before the year; `hn`: `n - 1` in mixed radix — all linear
    omega

theorem fromOrd_ord_all (y m d : Nat) (v : ValidU y m d) : fromOrd (ord y m d) = ⟨y, m, d⟩ := by
  have hb := ord_bounds y m d v
  have g := good_all (ord y m d) (by omega)
  have e := ord_inj _ _ _ _ _ _ g.1 v g.2
  cases hp : fromOrd (ord y m d) with
  | mk a b c => rw [hp] at e; simp only at e; rw [e.1, e.2.1, e.2.2]

/-- ordinal → date → ordinal for every ordinal of the `datetime` range, with a representable year -/
theorem ord_fromOrd_all (n : Nat) (h1 : 1 ≤ n) (h2 : n ≤ 3652059) :
    Valid (fromOrd n).y (fromOrd n).m (fromOrd n).d ∧ ord (fromOrd n).y (fromOrd n).m (fromOrd n).d = n := by
  obtain ⟨hv, g2⟩ := good_all n h1
  have hy := (year_of_ord _ _ _ 1 10000 hv (by omega) (by rw [g2]; exact h1) (by rw [g2, dby_10000]; exact h2)).2
  unfold ValidU at hv
  exact ⟨by unfold Valid; omega, g2⟩

theorem chkOrd_all (n : Nat) (h1 : 1 ≤ n) (h2 : n ≤ 3652059) : chkOrd n = true := by
  obtain ⟨v, o⟩ := ord_fromOrd_all n h1 h2
  unfold Valid at v
  unfold chkOrd
  generalize fromOrd n = p at v o
  simp only [Bool.and_eq_true, Nat.ble_eq]
  exact ⟨⟨⟨⟨⟨⟨v.1, v.2.1⟩, v.2.2.1⟩, v.2.2.2.1⟩, v.2.2.2.2.1⟩, v.2.2.2.2.2⟩, by rw [o]; exact Nat.beq_refl n⟩

theorem ord_in_cycle (y m d : Nat) (v : Valid y m d) (hy1 : 1900 ≤ y) (hy2 : y < 2300) :
    ordMin ≤ ord y m d ∧ ord y m d < ordMax := by
  have := ord_of_year y m d 1900 2300 v.toU (by omega) ⟨hy1, hy2⟩
  rw [show dby 1900 = 693595 by decide, show dby 2300 = 839692 by decide] at this
  unfold ordMin ordMax; omega

/-- date → ordinal → date: `datetime.fromordinal(datetime(y,m,d).toordinal())` has fields `(y,m,d)`,
for every calendar day from 1900-01-01 to 2299-12-31 -/
theorem fromOrd_ord (y m d : Nat) (v : Valid y m d) (hy1 : 1900 ≤ y) (hy2 : y < 2300) :
    fromOrd (ord y m d) = ⟨y, m, d⟩ :=
  fromOrd_ord_all y m d v.toU

end Pyg.Greg
