/-
  What several properties share and what is about core Lean, `Res` or the nesting of a `Val` only.
-/
import PygModel.Basic
import PygProofs.Lemmas.Basics.Assoc
import PygProofs.Lemmas.Basics.Chars
import PygProofs.Lemmas.Basics.Lists
import PygProofs.Lemmas.Basics.Loops
import PygProofs.Lemmas.Basics.Sorted

namespace Pyg

theorem Val.ind {P : Val → Prop} (cell : ∀ c, P (.cell c))
    (list : ∀ xs, (∀ x ∈ xs, P x) → P (.list xs)) (tuple : ∀ xs, (∀ x ∈ xs, P x) → P (.tuple xs))
    (dict : ∀ kvs, (∀ kv ∈ kvs, P kv.2) → P (.dict kvs)) : ∀ v, P v :=
  Val.rec (motive_1 := P) (motive_2 := fun xs => ∀ x ∈ xs, P x) (motive_3 := fun kvs => ∀ kv ∈ kvs, P kv.2)
    (motive_4 := fun kv => P kv.2) cell list tuple dict (fun _ h => nomatch h)
    (fun _ _ h1 h2 _ h => (List.mem_cons.1 h).elim (· ▸ h1) (h2 _))
    (fun _ h => nomatch h) (fun _ _ h1 h2 _ h => (List.mem_cons.1 h).elim (· ▸ h1) (h2 _)) (fun _ _ h => h)

theorem getD_map_cell (xs : List Cell) (i : Nat) :
    (xs.map Val.cell).getD i (.cell .none) = .cell (xs.getD i .none) := by
  simp only [List.getD_eq_getElem?_getD, List.getElem?_map]
  cases xs[i]? <;> rfl

end Pyg
