/-
  Python's `==` on scalar cells (`Cell.pyEq`, PygModel/Sort.lean) is equality of a key: the float a bool or an int equals,
  the cell itself otherwise; NaN apart, which equals nothing.
-/
import PygModel.Sort

namespace Pyg
namespace EqM

/-- the float a bool / int is `==` to (`flt` counts quarters, as in `Cell.pyEq`); other scalars are their own key -/
def ckey : Cell → Cell
  | .bool b => .flt (if b then 4 else 0)
  | .int n => .flt (4 * n)
  | c => c

theorem pyEq_iff (a b : Cell) : Cell.pyEq a b = true ↔ (ckey a = ckey b ∧ a ≠ .nan) := by
  cases a <;> cases b <;> simp [Cell.pyEq, ckey] <;> omega

theorem ckey_nan (a : Cell) : ckey a = .nan ↔ a = .nan := by
  cases a <;> simp [ckey]

theorem pyEq_symm (a b : Cell) : Cell.pyEq a b = Cell.pyEq b a := by
  have hn : ∀ a b, ckey a = ckey b → a ≠ .nan → b ≠ .nan := fun a b h ha hb =>
    ha ((ckey_nan a).1 (h.trans ((ckey_nan b).2 hb)))
  rw [Bool.eq_iff_iff, pyEq_iff, pyEq_iff]
  exact ⟨fun ⟨h, ha⟩ => ⟨h.symm, hn a b h ha⟩, fun ⟨h, hb⟩ => ⟨h.symm, hn b a h hb⟩⟩

theorem pyEq_trans (a b c : Cell) : Cell.pyEq a b = true → Cell.pyEq b c = true → Cell.pyEq a c = true := by
  rw [pyEq_iff, pyEq_iff, pyEq_iff]
  rintro ⟨h1, hn⟩ ⟨h2, _⟩; exact ⟨h1.trans h2, hn⟩

theorem pyEq_refl (a : Cell) (h : a ≠ .nan) : Cell.pyEq a a = true := (pyEq_iff a a).2 ⟨rfl, h⟩

end EqM
end Pyg
