import PygProofs.Lemmas.DictCallLemmas

/-! Order independence of `Dict.__call__` (C16): sequential evaluation in a dependency order (`Topo`) computes the unique
solution (`Spec`) of the definitions, so all dependency orders agree; the round-based `loop` agrees with them and raises
`ValueError` exactly on circular definitions (`Closed`, `Acyclic`). -/

namespace Pyg.DictCall
open Pyg.DA
variable {V : Type}

/-- the same python dict (`==` on dicts does not compare insertion order): every key has the same value -/
def EnvEq (r r' : Env V) : Prop := ∀ k, lookup k r = lookup k r'

/-- the same outcome: the same kind of error, or equal mappings -/
def ResEq : Res (Env V) → Res (Env V) → Prop
  | .ok r, .ok r' => EnvEq r r'
  | .error e, .error e' => e = e'
  | _, _ => False

theorem EnvEq.refl (r : Env V) : EnvEq r r := fun _ => rfl
theorem EnvEq.symm {r r' : Env V} (h : EnvEq r r') : EnvEq r' r := fun k => (h k).symm
theorem EnvEq.trans {r r' r'' : Env V} (h : EnvEq r r') (h' : EnvEq r' r'') : EnvEq r r'' :=
  fun k => (h k).trans (h' k)

theorem EnvEq.set {r r' : Env V} (h : EnvEq r r') (k : String) (v : V) :
    EnvEq (set k v r) (set k v r') := by
  intro j; rw [lookup_set, lookup_set, h j]

theorem EnvEq.setAll {r r' : Env V} (h : EnvEq r r') (ps : List (String × V)) :
    EnvEq (setAll r ps) (setAll r' ps) := by
  intro j; rw [lookup_setAll, lookup_setAll, h j]

theorem ResEq.refl : ∀ x : Res (Env V), ResEq x x
  | .ok r => EnvEq.refl r
  | .error _ => rfl

theorem ResEq.symm : ∀ {x y : Res (Env V)}, ResEq x y → ResEq y x
  | .ok _, .ok _, h => EnvEq.symm h
  | .error _, .error _, h => Eq.symm h

theorem ResEq.trans {x y z : Res (Env V)} (h : ResEq x y) (h' : ResEq y z) : ResEq x z := by
  match x, y, z, h, h' with
  | .ok _, .ok _, .ok _, h, h' => exact EnvEq.trans h h'
  | .error _, .error _, .error _, h, h' => exact Eq.trans h h'

theorem ResEq.bind {x y : Res (Env V)} {f g : Env V → Res (Env V)} (h : ResEq x y)
    (hfg : ∀ r r', EnvEq r r' → ResEq (f r) (g r')) : ResEq (x >>= f) (y >>= g) := by
  match x, y, h with
  | .ok r, .ok r', h => exact hfg r r' h
  | .error e, .error e', h => exact h

theorem ResEq.ok_left {x y : Res (Env V)} (h : ResEq x y) {r : Env V} (hx : x = .ok r) :
    ∃ r', y = .ok r' ∧ EnvEq r r' := by
  subst hx
  match y, h with
  | .ok r', h => exact ⟨r', rfl, h⟩

theorem ResEq.error_iff {x y : Res (Env V)} (h : ResEq x y) (e : Err) :
    x = .error e ↔ y = .error e := by
  match x, y, h with
  | .ok _, .ok _, _ => simp
  | .error e1, .error e2, h => cases (h : e1 = e2); rfl

theorem evalAll_append (cs cs' : List (String × Fn V)) : ∀ res : Env V,
    evalAll res (cs ++ cs') = (evalAll res cs >>= fun r => evalAll r cs') := by
  induction cs with
  | nil => intro res; rfl
  | cons c cs ih =>
    intro res
    obtain ⟨k, f⟩ := c
    simp only [List.cons_append, evalAll_cons, ih]
    cases apply res f <;> rfl

theorem evalAll_congr (cs : List (String × Fn V)) : ∀ r r' : Env V, EnvEq r r' →
    ResEq (evalAll r cs) (evalAll r' cs) := by
  induction cs with
  | nil => intro r r' h; exact h
  | cons c cs ih =>
    intro r r' h
    obtain ⟨k, f⟩ := c
    rw [evalAll_cons, evalAll_cons, apply_congr r r' f fun a _ => h a]
    cases apply r' f with
    | error e => exact rfl
    | ok v => exact ih _ _ (h.set k v)

/-- `ts` is in dependency order: no callable reads a key defined by itself or by a later member -/
def Topo : List (String × Fn V) → Prop
  | [] => True
  | c :: rest => (∀ a ∈ c.2.args, a ∉ (c :: rest).map (·.1)) ∧ Topo rest

/-- a declared argument that is neither a derived key nor a key of the base mapping -/
def Missing (base : Env V) (cs : List (String × Fn V)) : Prop :=
  ∃ c ∈ cs, ∃ a ∈ c.2.args, a ∉ cs.map (·.1) ∧ lookup a base = none

/-- `r` solves the definitions `cs` over `base`: other keys are those of `base`, every derived key
holds its function applied to the FINAL values (those of `r`) of its declared arguments -/
structure Spec (base : Env V) (cs : List (String × Fn V)) (r : Env V) : Prop where
  frame : ∀ k, k ∉ cs.map (·.1) → lookup k r = lookup k base
  derived : ∀ c ∈ cs, ∃ v, apply r c.2 = .ok v ∧ lookup c.1 r = some v

theorem Topo.filter (p : String × Fn V → Bool) : ∀ ts : List (String × Fn V), Topo ts →
    Topo (ts.filter p) := by
  intro ts h
  induction ts with
  | nil => trivial
  | cons c rest ih =>
    by_cases hp : p c = true
    · rw [List.filter_cons_of_pos hp]
      refine ⟨fun a ha hm => h.1 a ha ?_, ih h.2⟩
      rcases List.mem_cons.1 hm with e | hm
      · exact List.mem_cons.2 (Or.inl e)
      · exact List.mem_cons_of_mem _ ((List.filter_sublist.map _).subset hm)
    · rw [List.filter_cons_of_neg hp]; exact ih h.2

theorem Topo.append (ys : List (String × Fn V)) (hy : Topo ys) : ∀ xs : List (String × Fn V),
    (∀ c ∈ xs, ∀ a ∈ c.2.args, a ∉ (xs ++ ys).map (·.1)) → Topo (xs ++ ys) := by
  intro xs h
  induction xs with
  | nil => exact hy
  | cons c xs ih =>
    exact ⟨h c List.mem_cons_self, ih fun c' hc' a ha hm =>
      h c' (List.mem_cons_of_mem _ hc') a ha (List.mem_cons_of_mem _ hm)⟩

theorem Topo.ready_append (cs ys : List (String × Fn V)) (hy : Topo ys) (hsub : ∀ c ∈ ys, c ∈ cs) :
    Topo (cs.filter (independent (cs.map (·.1))) ++ ys) := by
  refine Topo.append ys hy _ fun c hc a ha hm => ?_
  obtain ⟨c', hc', e⟩ := List.mem_map.1 hm
  refine independent_iff.1 (List.mem_filter.1 hc).2 a ha (List.mem_map.2 ⟨c', ?_, e⟩)
  rcases List.mem_append.1 hc' with h | h
  · exact (List.mem_filter.1 h).1
  · exact hsub c' h

theorem ready_topo (cs : List (String × Fn V)) : Topo (cs.filter (independent (cs.map (·.1)))) := by
  have := Topo.ready_append cs [] trivial fun _ h => nomatch h
  rwa [List.append_nil] at this

theorem Missing.congr {base base' : Env V} {cs cs' : List (String × Fn V)} (hb : EnvEq base base')
    (hm : ∀ c, c ∈ cs ↔ c ∈ cs') (h : Missing base cs) : Missing base' cs' := by
  obtain ⟨c, hc, a, ha, hk, hl⟩ := h
  refine ⟨c, (hm c).1 hc, a, ha, ?_, (hb a) ▸ hl⟩
  intro hk'
  obtain ⟨c', hc', e⟩ := List.mem_map.1 hk'
  exact hk (List.mem_map.2 ⟨c', (hm c').2 hc', e⟩)

theorem Spec.congr {base base' : Env V} {cs cs' : List (String × Fn V)} {r : Env V}
    (hb : EnvEq base base') (hm : ∀ c, c ∈ cs ↔ c ∈ cs') (h : Spec base cs r) : Spec base' cs' r := by
  refine ⟨fun k hk => (h.frame k ?_).trans (hb k), fun c hc => h.derived c ((hm c).2 hc)⟩
  intro hk'
  obtain ⟨c', hc', e⟩ := List.mem_map.1 hk'
  exact hk (List.mem_map.2 ⟨c', (hm c').1 hc', e⟩)

theorem Spec.of_envEq {base : Env V} {cs : List (String × Fn V)} {r r' : Env V}
    (h : Spec base cs r) (hr : EnvEq r' r) : Spec base cs r' := by
  refine ⟨fun k hk => (hr k).trans (h.frame k hk), fun c hc => ?_⟩
  obtain ⟨v, hv, hl⟩ := h.derived c hc
  exact ⟨v, by rw [apply_congr r' r c.2 fun a _ => hr a]; exact hv, (hr c.1).trans hl⟩

/-- a solution reads every declared argument, so none is missing -/
theorem Spec.not_missing {base r : Env V} {cs : List (String × Fn V)} (h : Spec base cs r) : ¬ Missing base cs := by
  rintro ⟨c, hc, a, ha, hk, hl⟩
  obtain ⟨v, hv, _⟩ := h.derived c hc
  have hr : lookup a r = none := (h.frame a hk).trans hl
  cases ((apply_error_iff r c.2 .type).2 ⟨rfl, a, ha, hr⟩).symm.trans hv

/-- the head's value put first, a solution of the rest is a solution of the whole: the head reads nothing that is assigned later -/
theorem Spec.cons {base r : Env V} {k : String} {f : Fn V} {v : V} {rest : List (String × Fn V)}
    (hk : k ∉ rest.map (·.1)) (hf : ∀ a ∈ f.args, a ∉ ((k, f) :: rest).map (·.1)) (hv : apply base f = .ok v)
    (h : Spec (set k v base) rest r) : Spec base ((k, f) :: rest) r := by
  have hframe : ∀ j, j ∉ ((k, f) :: rest).map (·.1) → lookup j r = lookup j base := fun j hj => by
    rw [h.frame j fun hm => hj (List.mem_cons_of_mem _ hm), lookup_set, if_neg fun e => hj (List.mem_cons.2 (.inl e))]
  refine ⟨hframe, fun c hc => ?_⟩
  rcases List.mem_cons.1 hc with rfl | hc
  · exact ⟨v, (apply_congr r base f fun a ha => hframe a (hf a ha)).trans hv, by rw [h.frame k hk, lookup_set, if_pos rfl]⟩
  · exact h.derived c hc

/-- an argument missing after the head is assigned is not the head's key, and was missing before -/
theorem Missing.cons {base : Env V} {k : String} {f : Fn V} {v : V} {rest : List (String × Fn V)}
    (h : Missing (set k v base) rest) : Missing base ((k, f) :: rest) := by
  obtain ⟨c, hc, a, ha, hk, hl⟩ := h
  rw [lookup_set] at hl
  by_cases hak : a = k
  · rw [if_pos hak] at hl
    cases hl
  · rw [if_neg hak] at hl
    exact ⟨c, List.mem_cons_of_mem _ hc, a, ha, fun hm => (List.mem_cons.1 hm).elim hak hk, hl⟩

/-- sequential evaluation along a dependency order: what it returns solves the definitions, and it fails only for a missing argument -/
theorem evalAll_topo (ts : List (String × Fn V)) (base : Env V) (hn : (ts.map (·.1)).Nodup) (ht : Topo ts) :
    (∀ r, evalAll base ts = .ok r → Spec base ts r) ∧ ∀ e, evalAll base ts = .error e → Missing base ts := by
  induction ts generalizing base with
  | nil => exact ⟨fun r h => by cases h; exact ⟨fun _ _ => rfl, fun c hc => nomatch hc⟩, fun e h => (nomatch h)⟩
  | cons c rest ih =>
    obtain ⟨k, f⟩ := c
    rw [evalAll_cons]
    cases hv : apply base f with
    | error e =>
      obtain ⟨_, a, ha, hl⟩ := (apply_error_iff base f e).1 hv
      exact ⟨fun r h => (nomatch h), fun _ _ => ⟨(k, f), List.mem_cons_self, a, ha, ht.1 a ha, hl⟩⟩
    | ok v =>
      rw [List.map_cons, List.nodup_cons] at hn
      obtain ⟨ihs, ihm⟩ := ih (set k v base) hn.2 ht.2
      exact ⟨fun r h => (ihs r h).cons hn.1 ht.1 hv, fun e h => (ihm e h).cons⟩

theorem evalAll_topo_spec (ts : List (String × Fn V)) (base r : Env V)
    (hn : (ts.map (·.1)).Nodup) (ht : Topo ts) (h : evalAll base ts = .ok r) : Spec base ts r :=
  (evalAll_topo ts base hn ht).1 r h

theorem evalAll_topo_error_iff (ts : List (String × Fn V)) (base : Env V) (hn : (ts.map (·.1)).Nodup) (ht : Topo ts)
    (e : Err) : evalAll base ts = .error e ↔ e = .type ∧ Missing base ts := by
  refine ⟨fun h => ⟨evalAll_err ts base e h, (evalAll_topo ts base hn ht).2 e h⟩, fun ⟨he, hm⟩ => ?_⟩
  cases h : evalAll base ts with
  | error e' => rw [he, evalAll_err ts base e' h]
  | ok r => exact absurd hm (evalAll_topo_spec ts base r hn ht h).not_missing

theorem envEq_of_derived (ts : List (String × Fn V)) (r r' : Env V) (ht : Topo ts)
    (h : ∀ k, k ∉ ts.map (·.1) → lookup k r = lookup k r')
    (hd : ∀ c ∈ ts, ∃ v, apply r c.2 = .ok v ∧ lookup c.1 r = some v)
    (hd' : ∀ c ∈ ts, ∃ v, apply r' c.2 = .ok v ∧ lookup c.1 r' = some v) : EnvEq r r' := by
  induction ts with
  | nil => exact fun k => h k (fun hm => nomatch hm)
  | cons c rest ih =>
    -- the head reads keys on which `r` and `r'` agree already, so they agree on its key too
    have hc : lookup c.1 r = lookup c.1 r' := by
      obtain ⟨v, hv, hl⟩ := hd c List.mem_cons_self
      obtain ⟨v', hv', hl'⟩ := hd' c List.mem_cons_self
      rw [apply_congr r r' c.2 fun a ha => h a (ht.1 a ha), hv'] at hv
      cases hv
      rw [hl, hl']
    refine ih ht.2 (fun j hj => ?_) (fun c' hc' => hd c' (List.mem_cons_of_mem _ hc'))
      (fun c' hc' => hd' c' (List.mem_cons_of_mem _ hc'))
    by_cases e : j = c.1
    · rw [e]; exact hc
    · exact h j fun hm => (List.mem_cons.1 hm).elim e hj

theorem Spec.unique {base base' : Env V} {cs cs' : List (String × Fn V)} {r r' : Env V}
    (ht : Topo cs) (hb : EnvEq base base') (hm : ∀ c, c ∈ cs ↔ c ∈ cs')
    (h : Spec base cs r) (h' : Spec base' cs' r') : EnvEq r r' := by
  have h'' : Spec base cs r' := h'.congr hb.symm fun c => (hm c).symm
  exact envEq_of_derived cs r r' ht (fun k hk => (h.frame k hk).trans (h''.frame k hk).symm)
    h.derived h''.derived

theorem evalAll_topo_perm (ts ts' : List (String × Fn V)) (base base' : Env V)
    (hn : (ts.map (·.1)).Nodup) (hp : ts.Perm ts') (ht : Topo ts) (ht' : Topo ts')
    (hb : EnvEq base base') : ResEq (evalAll base ts) (evalAll base' ts') := by
  have hm : ∀ c, c ∈ ts ↔ c ∈ ts' := fun c => hp.mem_iff
  have hn' : (ts'.map (·.1)).Nodup := (hp.map _).nodup_iff.1 hn
  cases h : evalAll base ts with
  | error e =>
    have hmiss : Missing base' ts' := ((evalAll_topo ts base hn ht).2 e h).congr hb hm
    cases h' : evalAll base' ts' with
    | error e' =>
      rw [evalAll_err ts base e h, evalAll_err ts' base' e' h']
      exact rfl
    | ok r' => exact absurd hmiss (evalAll_topo_spec ts' base' r' hn' ht' h').not_missing
  | ok r =>
    have hs := evalAll_topo_spec ts base r hn ht h
    cases h' : evalAll base' ts' with
    | error e' =>
      exact absurd (((evalAll_topo ts' base' hn' ht').2 e' h').congr hb.symm fun c => (hm c).symm) hs.not_missing
    | ok r' => exact Spec.unique ht hb hm hs (evalAll_topo_spec ts' base' r' hn' ht' h')

theorem evalAll_perm_short {res res' : Env V} {cs cs' : List (String × Fn V)} (hp : cs.Perm cs') (h1 : cs.length ≤ 1)
    (hb : EnvEq res res') : ResEq (evalAll res cs) (evalAll res' cs') := by
  cases List.eq_of_perm_short hp h1
  exact evalAll_congr cs res res' hb

/-- no acyclicity is needed: the rounds are the same sets, and the callables of one round do not read each other -/
theorem loop_perm : ∀ (fuel : Nat) (res res' : Env V) (cs cs' : List (String × Fn V)),
    cs.length ≤ fuel → (cs.map (·.1)).Nodup → cs.Perm cs' → EnvEq res res' →
    ResEq (loop fuel res cs) (loop fuel res' cs') := by
  intro fuel
  induction fuel with
  | zero =>
    intro res res' cs cs' hl _ hp hb
    exact evalAll_perm_short hp (by omega) hb
  | succ fuel ih =>
    intro res res' cs cs' hl hn hp hb
    have hpi := hp.filter (independent (cs.map (·.1)))
    have hpr := hp.filter fun c => !independent (cs.map (·.1)) c
    have hi := independent_of_perm hp
    by_cases h1 : cs.length ≤ 1
    · rw [loop_short h1, loop_short (hp.length_eq ▸ h1)]
      exact evalAll_perm_short hp h1 hb
    · have h1' : ¬ cs'.length ≤ 1 := hp.length_eq ▸ h1
      by_cases hE : cs.filter (independent (cs.map (·.1))) = []
      · rw [loop_stuck h1 hE, loop_stuck h1' (hi ▸ (hE ▸ hpi).nil_eq.symm)]
        exact rfl
      · rw [loop_round h1 hE, loop_round h1' (hi ▸ fun h => hE (h ▸ hpi).eq_nil), ← hi]
        apply ResEq.bind
        · exact evalAll_topo_perm _ _ _ _ (List.nodup_keys_filter _ hn) hpi (ready_topo cs) (hi ▸ ready_topo cs') hb
        · intro r r' hr
          apply ih r r' _ _ _ (List.nodup_keys_filter _ hn) hpr hr
          have := length_rest_lt cs hE
          omega

theorem evalAll_ready_first (res : Env V) {cs ts : List (String × Fn V)} (hn : (cs.map (·.1)).Nodup)
    (hp : ts.Perm cs) (ht : Topo ts) :
    ResEq (evalAll res (cs.filter (independent (cs.map (·.1))) ++ ts.filter fun c => !independent (cs.map (·.1)) c))
      (evalAll res ts) := by
  have hperm : (cs.filter (independent (cs.map (·.1))) ++ ts.filter fun c => !independent (cs.map (·.1)) c).Perm cs :=
    (List.Perm.append_left _ (hp.filter _)).trans (List.filter_append_perm _ cs)
  exact evalAll_topo_perm _ _ _ _ ((hperm.map _).nodup_iff.2 hn) (hperm.trans hp.symm)
    (Topo.ready_append cs _ (Topo.filter _ ts ht) fun c hc => hp.mem_iff.1 (List.mem_filter.1 hc).1) ht (EnvEq.refl _)

theorem loop_eq_topo (fuel : Nat) (res : Env V) (cs ts : List (String × Fn V)) (hl : cs.length ≤ fuel)
    (hn : (cs.map (·.1)).Nodup) (hp : ts.Perm cs) (ht : Topo ts) : ResEq (loop fuel res cs) (evalAll res ts) := by
  refine loop_induction
    (P := fun res cs x => (cs.map (·.1)).Nodup → ∀ ts, ts.Perm cs → Topo ts → ResEq x (evalAll res ts))
    ?_ ?_ ?_ ?_ fuel res cs hl hn ts hp ht
  · intro res cs h1 _ ts hp _
    rw [List.eq_of_perm_short hp (hp.length_eq ▸ h1)]
    exact ResEq.refl _
  · intro res cs h1 hE _ ts hp ht
    cases ts with
    | nil => rw [← hp.length_eq] at h1; exact absurd (Nat.zero_le 1) h1
    | cons c rest =>
      -- the head of a dependency order is ready
      exact (List.filter_eq_nil_iff.1 hE c (hp.mem_iff.1 List.mem_cons_self)
        (independent_iff.2 fun a ha hm => ht.1 a ha ((hp.map (·.1)).mem_iff.2 hm))).elim
  · intro res cs e _ hr hn ts hp ht
    have := evalAll_ready_first res hn hp ht
    rwa [evalAll_append, hr] at this
  · intro res cs r x _ _ hr ih hn ts hp ht
    have := evalAll_ready_first res hn hp ht
    rw [evalAll_append, hr] at this
    exact (ih (List.nodup_keys_filter _ hn) _ (hp.filter _) (Topo.filter _ ts ht)).trans this

/-- the dependency graph on the pending keys has no cycle and no self-loop: no non-empty set of
pending keys each of which reads a member of the set -/
def Acyclic (cs : List (String × Fn V)) : Prop := ∀ S : List String, S ≠ [] → ¬ Closed S cs

theorem Closed.mono {S : List String} {cs cs' : List (String × Fn V)} (h : Closed S cs)
    (hm : ∀ c ∈ cs, c ∈ cs') : Closed S cs' := by
  intro k hk
  obtain ⟨c, hc, r⟩ := h k hk
  exact ⟨c, hm c hc, r⟩

theorem closed_keys_of_stuck (cs : List (String × Fn V))
    (h : cs.filter (independent (cs.map (·.1))) = []) : Closed (cs.map (·.1)) cs := by
  intro k hk
  obtain ⟨c, hc, e⟩ := List.mem_map.1 hk
  refine ⟨c, hc, e, ?_⟩
  exact Classical.byContradiction fun hno =>
    List.filter_eq_nil_iff.1 h c hc (independent_iff.2 fun a ha hm => hno ⟨a, ha, hm⟩)

theorem topo_no_closed (S : List String) (ts : List (String × Fn V)) (hn : (ts.map (·.1)).Nodup)
    (ht : Topo ts) (h : Closed S ts) : S = [] := by
  induction ts with
  | nil =>
    cases S with
    | nil => rfl
    | cons k _ => obtain ⟨c, hc, _⟩ := h k List.mem_cons_self; cases hc
  | cons c rest ih =>
    rw [List.map_cons, List.nodup_cons] at hn
    -- the head reads no key of the list, a member of a closed set reads one: the head's key is not in `S`
    have hc : c.1 ∉ S := by
      intro hcS
      obtain ⟨c', hc', e, a, ha, haS⟩ := h c.1 hcS
      have : c' = c := by
        rcases List.mem_cons.1 hc' with rfl | hr
        · rfl
        · exact absurd (List.mem_map.2 ⟨c', hr, e⟩) hn.1
      subst this
      obtain ⟨c'', hc'', e'', _⟩ := h a haS
      exact ht.1 a ha (List.mem_map.2 ⟨c'', hc'', e''⟩)
    refine ih hn.2 ht.2 fun k hk => ?_
    obtain ⟨c', hc', e, r⟩ := h k hk
    rcases List.mem_cons.1 hc' with rfl | hr
    · exact absurd (e ▸ hk) hc
    · exact ⟨c', hr, e, r⟩

theorem exists_topo_of_acyclic : ∀ (n : Nat) (cs : List (String × Fn V)), cs.length ≤ n →
    Acyclic cs → ∃ ts, ts.Perm cs ∧ Topo ts := by
  intro n
  induction n with
  | zero =>
    intro cs hl _
    have : cs = [] := List.eq_nil_of_length_eq_zero (by omega)
    exact ⟨[], by simp [this], trivial⟩
  | succ n ih =>
    intro cs hl hac
    cases hcs : cs with
    | nil => exact ⟨[], List.Perm.refl _, trivial⟩
    | cons c0 cs0 =>
      rw [← hcs]
      have hlt := length_rest_lt cs fun h => hac _ (by simp [hcs]) (closed_keys_of_stuck cs h)
      obtain ⟨ts', hp', ht'⟩ := ih (cs.filter fun c => !independent (cs.map (·.1)) c) (by omega)
        (fun S hS hcl => hac S hS (hcl.mono fun c hc => (List.mem_filter.1 hc).1))
      exact ⟨_, (List.Perm.append_left _ hp').trans (List.filter_append_perm _ cs),
        Topo.ready_append cs ts' ht' fun c hc => (List.mem_filter.1 (hp'.mem_iff.1 hc)).1⟩

theorem acyclic_iff_exists_topo (cs : List (String × Fn V)) (hn : (cs.map (·.1)).Nodup) :
    Acyclic cs ↔ ∃ ts, ts.Perm cs ∧ Topo ts := by
  constructor
  · exact exists_topo_of_acyclic cs.length cs (Nat.le_refl _)
  · rintro ⟨ts, hp, ht⟩ S hS hcl
    exact hS (topo_no_closed S ts ((hp.map _).nodup_iff.2 hn) ht
      (hcl.mono fun c hc => hp.mem_iff.2 hc))

theorem loop_err (fuel : Nat) (res : Env V) (cs : List (String × Fn V)) (hl : cs.length ≤ fuel) (e : Err)
    (h : loop fuel res cs = .error e) : e = .value ∨ e = .type := by
  refine loop_induction (P := fun _ _ x => x = .error e → e = .value ∨ e = .type) ?_ ?_ ?_ ?_ fuel res cs hl h
  · exact fun res cs _ h => .inr (evalAll_err cs res e h)
  · exact fun _ _ _ _ h => .inl (Except.error.inj h).symm
  · exact fun res cs e' _ hr h => .inr (Except.error.inj h ▸ evalAll_err _ res e' hr)
  · exact fun _ _ _ _ _ _ _ ih => ih

theorem two_keys_of_length : ∀ {cs : List (String × Fn V)}, (cs.map (·.1)).Nodup → ¬ cs.length ≤ 1 →
    ∃ a b, a ∈ cs.map (·.1) ∧ b ∈ cs.map (·.1) ∧ a ≠ b
  | [], _, h2 => absurd (Nat.zero_le 1) h2
  | [_], _, h2 => absurd (Nat.le_refl 1) h2
  | c :: c' :: _, hn, _ =>
    ⟨c.1, c'.1, List.mem_cons_self, List.mem_cons_of_mem _ List.mem_cons_self,
      fun (e : c.1 = c'.1) => (List.nodup_cons.1 hn).1 (List.mem_cons.2 (.inl e))⟩

theorem loop_value_closed (fuel : Nat) (res : Env V) (cs : List (String × Fn V)) (hl : cs.length ≤ fuel)
    (hn : (cs.map (·.1)).Nodup) (h : loop fuel res cs = .error .value) :
    ∃ (S : List String) (a b : String), a ∈ S ∧ b ∈ S ∧ a ≠ b ∧ Closed S cs := by
  refine loop_induction
    (P := fun _ cs x => (cs.map (·.1)).Nodup → x = .error .value →
      ∃ (S : List String) (a b : String), a ∈ S ∧ b ∈ S ∧ a ≠ b ∧ Closed S cs)
    ?_ ?_ ?_ ?_ fuel res cs hl hn h
  · intro res cs _ _ h
    cases evalAll_err cs res _ h
  · intro res cs h2 hE hn _
    obtain ⟨a, b, ha, hb, hab⟩ := two_keys_of_length hn h2
    exact ⟨_, a, b, ha, hb, hab, closed_keys_of_stuck cs hE⟩
  · intro res cs e _ hr _ h
    cases Except.error.inj h
    cases evalAll_err _ res _ hr
  · intro res cs r x _ _ _ ih hn h
    obtain ⟨S, a, b, ha, hb, hab, hcl⟩ := ih (List.nodup_keys_filter _ hn) h
    exact ⟨S, a, b, ha, hb, hab, hcl.mono fun c hc => (List.mem_filter.1 hc).1⟩

/-- every declared argument is a pending key other than the callable's own, or a key of the mapping -/
def WellScoped (res : Env V) (cs : List (String × Fn V)) : Prop :=
  ∀ c ∈ cs, ∀ a ∈ c.2.args, (a ∈ cs.map (·.1) ∧ a ≠ c.1) ∨ lookup a res ≠ none

theorem evalAll_ok_of_present (xs : List (String × Fn V)) (res : Env V)
    (h : ∀ c ∈ xs, ∀ a ∈ c.2.args, lookup a res ≠ none) :
    ∃ r, evalAll res xs = .ok r ∧ (∀ k, lookup k res ≠ none → lookup k r ≠ none) ∧
      ∀ c ∈ xs, lookup c.1 r ≠ none := by
  induction xs generalizing res with
  | nil => exact ⟨res, rfl, fun _ h => h, fun c hc => nomatch hc⟩
  | cons c xs ih =>
    obtain ⟨k, f⟩ := c
    cases hv : apply res f with
    | error e =>
      obtain ⟨_, a, ha, hl⟩ := (apply_error_iff res f e).1 hv
      exact absurd hl (h (k, f) List.mem_cons_self a ha)
    | ok v =>
      have hmono : ∀ j, lookup j res ≠ none → lookup j (set k v res) ≠ none := by
        intro j hj; rw [lookup_set]; split
        · exact fun e => nomatch e
        · exact hj
      obtain ⟨r, hr, hk, hd⟩ := ih (set k v res) fun c hc a ha => hmono a (h c (List.mem_cons_of_mem _ hc) a ha)
      refine ⟨r, by rw [evalAll_cons, hv]; exact hr, fun j hj => hk j (hmono j hj), fun c hc => ?_⟩
      rcases List.mem_cons.1 hc with rfl | hc
      · exact hk _ (by rw [lookup_set, if_pos rfl]; exact fun e => nomatch e)
      · exact hd c hc

theorem WellScoped.ready {res : Env V} {cs : List (String × Fn V)} (hw : WellScoped res cs) :
    ∀ c ∈ cs.filter (independent (cs.map (·.1))), ∀ a ∈ c.2.args, lookup a res ≠ none := by
  intro c hc a ha
  obtain ⟨hc, hi⟩ := List.mem_filter.1 hc
  exact (hw c hc a ha).resolve_left fun h => independent_iff.1 hi a ha h.1

theorem loop_no_type_error (fuel : Nat) (res : Env V) (cs : List (String × Fn V)) (hl : cs.length ≤ fuel)
    (hw : WellScoped res cs) : loop fuel res cs ≠ .error .type := by
  refine loop_induction (P := fun res cs x => WellScoped res cs → x ≠ .error .type) ?_ ?_ ?_ ?_ fuel res cs hl hw
  · intro res cs h1 hw
    -- the one pending callable cannot read its own key
    obtain ⟨r, hr, _⟩ := evalAll_ok_of_present cs res fun c hc a ha =>
      (hw c hc a ha).resolve_left fun ⟨hm, hne⟩ => by
        obtain ⟨c', hc', e⟩ := List.mem_map.1 hm
        have := List.two_le_length_of_mem cs c' c hc' hc fun h => hne (e ▸ h ▸ rfl)
        omega
    rw [hr]; exact fun h => nomatch h
  · exact fun _ _ _ _ _ h => nomatch h
  · intro res cs e _ he hw
    obtain ⟨r, hr, _⟩ := evalAll_ok_of_present _ res hw.ready
    rw [hr] at he; cases he
  · intro res cs r x _ _ hr ih hw
    obtain ⟨r', hr', hk, hd⟩ := evalAll_ok_of_present _ res hw.ready
    cases hr.symm.trans hr'
    refine ih fun c hc a ha => ?_
    rcases hw c (List.mem_filter.1 hc).1 a ha with ⟨hm, hne⟩ | hp
    · -- a pending argument was evaluated in this round or is still pending
      obtain ⟨c', hc', e⟩ := List.mem_map.1 hm
      by_cases hi : independent (cs.map (·.1)) c' = true
      · exact .inr (e ▸ hd c' (List.mem_filter.2 ⟨hc', hi⟩))
      · exact .inl ⟨List.mem_map.2 ⟨c', List.mem_filter.2 ⟨hc', by simpa using hi⟩, e⟩, hne⟩
    · exact .inr (hk a hp)

end Pyg.DictCall
