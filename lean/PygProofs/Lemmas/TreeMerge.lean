/-
  `items_to_tree(tree_items(u), base)` is the recursive merge of `u` into `base`, whatever the base (`build_kvs`): the one
  theorem behind the flatten / rebuild round trip, `tree_update` and `Dict + dict`.
-/
import PygProofs.Lemmas.TreeLemmas

namespace Pyg.Tree
open Pyg.DA Pyg.TreeTable

/-- the loop of `items_to_tree`: successive `_tree_setitem` calls -/
abbrev build (ig : List Val) (its : List (Path × Val)) (base : List (String × Val)) :
    List (String × Val) :=
  its.foldl (fun acc pv => setKVs acc pv.1 pv.2 ig) base

theorem build_keeps (ig : List Val) (p : Path) (w : Val) : ∀ (its : List (Path × Val)) (base : List (String × Val)),
    (∀ pv ∈ its, Branch pv.1 p) → getItem (.dict base) p = .ok w → getItem (.dict (build ig its base)) p = .ok w
  | [], _, _, h => h
  | pv :: its, base, hb, h =>
      build_keeps ig p w its _ (fun x hx => hb x (List.mem_cons_of_mem _ hx))
        (getItem_setKVs_branch pv.2 ig pv.1 p base w (hb pv List.mem_cons_self) h)

theorem build_reads_back : ∀ (its : List (Path × Val)) (base : List (String × Val)),
    (its.map (·.1)).Pairwise Branch → (∀ pv ∈ its, pv.1 ≠ []) →
    ∀ pv ∈ its, getItem (.dict (build [] its base)) pv.1 = .ok pv.2
  | [], _, _, _, _, hm => nomatch hm
  | x :: its, base, hp, hne, pv, hm => by
      rw [List.map_cons, List.pairwise_cons] at hp
      rcases List.mem_cons.1 hm with rfl | hm
      · exact build_keeps [] pv.1 pv.2 its _ (fun y hy => (hp.1 y.1 (List.mem_map_of_mem hy)).symm)
          (getItem_setKVs pv.1 base pv.2 (hne pv List.mem_cons_self))
      · exact build_reads_back its _ hp.2 (fun y hy => hne y (List.mem_cons_of_mem _ hy)) pv hm

theorem itemsToTree_eq_ok {its : List (Path × Val)} {base r : List (String × Val)} {ig : List Val} :
    itemsToTree its base ig = .ok r ↔
      (its.map (·.1)).Nodup ∧ its.any (·.1.isEmpty) = false ∧ r = build ig its base := by
  rw [itemsToTree]
  by_cases h1 : (its.map (·.1)).Nodup
  · by_cases h2 : its.any (·.1.isEmpty) = true
    · simp [h1, h2, throw, throwThe, MonadExceptOf.throw]
    · simp [h1, h2, pure, Except.pure, eq_comm]
  · simp [h1, throw, throwThe, MonadExceptOf.throw]

theorem update_dict (a : List (String × Val)) (u : Val) (ig : List Val) :
    update (.dict a) u ig = (itemsToTree (items u) a ig).map .dict := rfl

theorem update_dict_eq_ok {a : List (String × Val)} {u w : Val} {ig : List Val} :
    update (.dict a) u ig = .ok w ↔
      ((items u).map (·.1)).Nodup ∧ (items u).any (·.1.isEmpty) = false ∧ w = .dict (build ig (items u) a) := by
  rw [update_dict, Res.map_eq_ok_iff]
  exact ⟨fun ⟨r, hr, e⟩ => (itemsToTree_eq_ok.1 hr).imp_right (And.imp_right fun h => e.symm.trans (congrArg Val.dict h)),
    fun ⟨h1, h2, e⟩ => ⟨_, itemsToTree_eq_ok.2 ⟨h1, h2, rfl⟩, e.symm⟩⟩

/-- All the items `its` of a subtree hung below key `k` build that subtree in the branch at `k`: the first write makes
the branch (hence `its ≠ []`, unless the branch is there already), the others walk into it. -/
theorem build_push (ig : List Val) (k : String) : ∀ (its : List (Path × Val)), (∀ pv ∈ its, pv.1 ≠ []) →
    ∀ a : List (String × Val), (its ≠ [] ∨ ∃ s, lookup k a = some (.dict s)) →
    build ig (its.map fun pv => (k :: pv.1, pv.2)) a = DA.set k (.dict (build ig its (subOf k a))) a
  | [], _, a, h => by
      obtain ⟨s, hs⟩ := h.resolve_left fun h => h rfl
      exact (set_lookup_self k _ a (subOf_of_lookup hs ▸ hs)).symm
  | ([], _) :: _, hp, _, _ => absurd rfl (hp _ List.mem_cons_self)
  | (k2 :: rest, v) :: its, hp, a, _ => by
      have ih := build_push ig k its (fun pv hm => hp pv (List.mem_cons_of_mem _ hm))
        (DA.set k (.dict (setKVs (subOf k a) (k2 :: rest) v ig)) a)
        (Or.inr ⟨_, (lookup_set k k _ a).trans (if_pos rfl)⟩)
      rw [subOf_set, set_set] at ih
      exact ih

theorem merge_leaf (ig : List Val) (old v : Val) (hv : ∀ s, v ≠ .dict s) :
    merge ig old v = if ig.contains v then old else v :=
  merge.eq_3 ig old v hv fun _ s _ e => hv s e

theorem mergeNew_leaf (ig : List Val) (v : Val) (hv : ∀ s, v ≠ .dict s) : mergeNew ig v = v := mergeNew.eq_2 ig v hv

theorem mergeNew_dict (ig : List Val) (s : List (String × Val)) : mergeNew ig (.dict s) = .dict (mergeKVs ig [] s) := rfl

theorem merge_dict (ig : List Val) (old : Val) (s : List (String × Val)) :
    merge ig old (.dict s) = .dict (mergeKVs ig (match old with | .dict a => a | _ => []) s) := by
  cases old <;> rfl

/-- the value `tree_update` leaves at key `k` when the update holds `v` there -/
def mergeAt (ig : List Val) (k : String) (a : List (String × Val)) (v : Val) : Val :=
  match lookup k a with
  | some old => merge ig old v
  | none => mergeNew ig v

theorem mergeAt_of_lookup (ig : List Val) {k : String} {a : List (String × Val)} {old : Val} (h : lookup k a = some old)
    (v : Val) : mergeAt ig k a v = merge ig old v := by
  rw [mergeAt, h]

theorem mergeAt_of_none (ig : List Val) {k : String} {a : List (String × Val)} (h : lookup k a = none) (v : Val) :
    mergeAt ig k a v = mergeNew ig v := by
  rw [mergeAt, h]

theorem mergeAt_dict (ig : List Val) (k : String) (a s : List (String × Val)) :
    mergeAt ig k a (.dict s) = .dict (mergeKVs ig (subOf k a) s) := by
  rw [mergeAt, subOf]
  cases lookup k a with
  | none => rfl
  | some old => cases old <;> rfl

theorem mergeAt_leaf (ig : List Val) (k : String) (a : List (String × Val)) (v : Val) (hv : ∀ s, v ≠ .dict s) :
    mergeAt ig k a v = match lookup k a with
      | some old => if ig.contains v then old else v
      | none => v := by
  cases h : lookup k a with
  | none => exact (mergeAt_of_none ig h v).trans (mergeNew_leaf ig v hv)
  | some old => exact (mergeAt_of_lookup ig h v).trans (merge_leaf ig old v hv)

theorem mergeKVs_nil (ig : List Val) (a : List (String × Val)) : mergeKVs ig a [] = a := rfl

theorem mergeKVs_cons (ig : List Val) (k : String) (v : Val) (a b : List (String × Val)) :
    mergeKVs ig a ((k, v) :: b) = mergeKVs ig (DA.set k (mergeAt ig k a v) a) b := by
  rw [mergeKVs, mergeAt]
  cases lookup k a <;> rfl

theorem lookup_mergeKVs (ig : List Val) (k : String) : ∀ (b a : List (String × Val)), (b.map (·.1)).Nodup →
    lookup k (mergeKVs ig a b) =
      match lookup k b with
      | some v => some (mergeAt ig k a v)
      | none => lookup k a
  | [], _, _ => rfl
  | (k', v) :: b, a, hn => by
      rw [List.map_cons, List.nodup_cons] at hn
      rw [mergeKVs_cons, lookup_mergeKVs ig k b _ hn.2, lookup_cons]
      by_cases e : k = k'
      · subst e
        rw [lookup_eq_none k b hn.1, lookup_set, if_pos rfl, if_pos rfl]
      · simp only [if_neg e, mergeAt, lookup_set]

theorem mergeKVs_flat : ∀ (o a : List (String × Val)), (∀ kv ∈ o, ∀ s, kv.2 ≠ .dict s) → mergeKVs [] a o = setAll a o
  | [], _, _ => rfl
  | (k, v) :: o, a, h => by
      have hv := h (k, v) List.mem_cons_self
      rw [mergeKVs_cons, setAll_cons, mergeKVs_flat o _ fun kv hm => h kv (List.mem_cons_of_mem _ hm)]
      rw [mergeAt_leaf [] k a v hv]
      cases lookup k a <;> rfl

theorem build_leaf (ig : List Val) (v : Val) (hv : ∀ s, v ≠ .dict s) (k : String) (a : List (String × Val)) :
    build ig ((items v).map fun pv => (k :: pv.1, pv.2)) a = DA.set k (mergeAt ig k a v) a := by
  rw [items_leaf v hv]
  show setKVs a [k] v ig = _
  rw [setKVs_single]
  cases h : lookup k a with
  | none => rw [mergeAt_of_none ig h, mergeNew_leaf ig v hv, Option.isSome_none, Bool.false_and, if_neg Bool.false_ne_true]
  | some old =>
    rw [mergeAt_of_lookup ig h, merge_leaf ig old v hv, Option.isSome_some, Bool.true_and]
    by_cases hi : ig.contains v = true
    · rw [if_pos hi, if_pos hi, set_lookup_self k old a h]
    · rw [if_neg hi, if_neg hi]

theorem build_val_kvs (ig : List Val) :
    (∀ v : Val, noEmpty v = true → v ≠ .dict [] → ∀ (k : String) (a : List (String × Val)),
      build ig ((items v).map fun pv => (k :: pv.1, pv.2)) a = DA.set k (mergeAt ig k a v) a) ∧
    ∀ b : List (String × Val), noEmptyKVs b = true → ∀ a : List (String × Val),
      build ig (itemsKVs b) a = mergeKVs ig a b := by
  refine induction (fun v hv _ _ => build_leaf ig v hv) (fun s ih hne hnd k a => ?_) (fun _ _ => rfl)
    (fun k v b h1 h2 h a => ?_)
  · have hs0 : s ≠ [] := fun e => hnd (e ▸ rfl)
    rw [items_dict, build_push ig k (itemsKVs s) (itemsKVs_path_ne s) a (Or.inl (itemsKVs_ne_nil s hne hs0)),
      ih hne (subOf k a), mergeAt_dict]
  · rw [noEmptyKVs_cons] at h
    rw [mergeKVs_cons, ← h2 h.2.2, ← h1 h.2.1 h.1 k a, itemsKVs_cons]
    exact List.foldl_append ..

/-- the items of one non-empty subtree `v` of the update, hung below `k` -/
theorem build_val (ig : List Val) : ∀ (v : Val), noEmpty v = true → v ≠ .dict [] →
    ∀ (k : String) (a : List (String × Val)),
    build ig ((items v).map fun pv => (k :: pv.1, pv.2)) a = DA.set k (mergeAt ig k a v) a :=
  (build_val_kvs ig).1

theorem build_kvs (ig : List Val) : ∀ (b : List (String × Val)), noEmptyKVs b = true →
    ∀ a : List (String × Val), build ig (itemsKVs b) a = mergeKVs ig a b :=
  (build_val_kvs ig).2

theorem items_itemsKVs_nodup :
    (∀ v : Val, wf v = true → ((items v).map (·.1)).Nodup) ∧
    ∀ s : List (String × Val), (s.map (·.1)).Nodup → wfKVs s = true → ((itemsKVs s).map (·.1)).Nodup := by
  refine induction (fun v hv _ => ?_) (fun s ih h => ih ((wf_dict s).1 h).1 ((wf_dict s).1 h).2)
    (fun _ _ => List.nodup_nil) (fun k v s h1 h2 hn h => ?_)
  · rw [items_leaf v hv]
    exact List.pairwise_singleton _ _
  · rw [wfKVs_cons] at h
    rw [List.map_cons, List.nodup_cons] at hn
    rw [itemsKVs_cons, List.map_append, List.map_map, List.nodup_append]
    refine ⟨?_, h2 hn.2 h.2, ?_⟩
    · have e : ((fun (x : Path × Val) => x.1) ∘ fun (pv : Path × Val) => (k :: pv.1, pv.2)) =
          (fun p => k :: p) ∘ (fun x : Path × Val => x.1) := rfl
      rw [e, ← List.map_map]
      exact List.Pairwise.map _ (fun a b hab e => hab (List.cons.inj e).2) (h1 h.1)
    · intro p hp q hq e
      obtain ⟨x, _, rfl⟩ := List.mem_map.1 hp
      obtain ⟨pv, hpv, rfl⟩ := List.mem_map.1 hq
      obtain ⟨kv, hkv, r, _, rfl⟩ := mem_itemsKVs.1 hpv
      exact hn.1 ((List.cons.inj e).1 ▸ (List.mem_map_of_mem hkv : kv.1 ∈ s.map (·.1)))

theorem items_nodup : ∀ v : Val, wf v = true → ((items v).map (·.1)).Nodup := items_itemsKVs_nodup.1

theorem itemsKVs_nodup : ∀ s : List (String × Val), (s.map (·.1)).Nodup → wfKVs s = true →
    ((itemsKVs s).map (·.1)).Nodup :=
  items_itemsKVs_nodup.2

/-- `items_to_tree(tree_items(dict b), a, ignore)` for every `b` with distinct keys and without empty branches -/
theorem itemsToTree_items (ig : List Val) (a b : List (String × Val)) (hw : wf (.dict b) = true)
    (hn : noEmpty (.dict b) = true) :
    itemsToTree (items (.dict b)) a ig = .ok (mergeKVs ig a b) := by
  have he : (itemsKVs b).any (·.1.isEmpty) = false :=
    List.any_eq_false.2 fun pv hm => by rw [List.isEmpty_iff]; exact itemsKVs_path_ne b pv hm
  exact itemsToTree_eq_ok.2 ⟨items_nodup (.dict b) hw, he, (build_kvs ig b hn a).symm⟩

theorem mergeNew_self_mergeKVs_fresh (ig : List Val) :
    (∀ v : Val, wf v = true → mergeNew ig v = v) ∧
    ∀ b : List (String × Val), wfKVs b = true →
      ∀ a : List (String × Val), (a.map (·.1) ++ b.map (·.1)).Nodup → mergeKVs ig a b = a ++ b := by
  refine induction (fun v hv _ => mergeNew_leaf ig v hv) (fun s ih h => ?_) (fun _ a _ => (List.append_nil a).symm)
    (fun k v b h1 h2 h a hn => ?_)
  · rw [mergeNew_dict, ih ((wf_dict s).1 h).2 [] ((wf_dict s).1 h).1]
    rfl
  · rw [wfKVs_cons] at h
    have hk : k ∉ a.map (·.1) := fun hm => (List.nodup_append.1 hn).2.2 _ hm _ List.mem_cons_self rfl
    rw [mergeKVs_cons, mergeAt_of_none ig (lookup_eq_none k a hk), h1 h.1, set_of_not_mem k v a hk, h2 h.2,
      List.append_assoc]
    · rfl
    · rwa [List.map_append, List.append_assoc]

theorem mergeNew_self (ig : List Val) : ∀ v : Val, wf v = true → mergeNew ig v = v :=
  (mergeNew_self_mergeKVs_fresh ig).1

theorem mergeKVs_fresh (ig : List Val) : ∀ b : List (String × Val), wfKVs b = true →
    ∀ a : List (String × Val), (a.map (·.1) ++ b.map (·.1)).Nodup → mergeKVs ig a b = a ++ b :=
  (mergeNew_self_mergeKVs_fresh ig).2

theorem mergeKVs_nil_left (ig : List Val) (b : List (String × Val)) (hw : wf (.dict b) = true) : mergeKVs ig [] b = b :=
  mergeKVs_fresh ig b ((wf_dict b).1 hw).2 [] ((wf_dict b).1 hw).1

theorem merge_mergeKVs_self (ig : List Val) :
    (∀ v : Val, wf v = true → merge ig v v = v) ∧
    ∀ b : List (String × Val), wfKVs b = true →
      ∀ a : List (String × Val), (∀ kv ∈ b, lookup kv.1 a = some kv.2) → mergeKVs ig a b = a := by
  refine induction (fun v hv _ => ?_) (fun s ih h => ?_) (fun _ _ _ => rfl) (fun k v b h1 h2 h a hl => ?_)
  · rw [merge_leaf ig v v hv, ite_self]
  · rw [merge_dict, ih ((wf_dict s).1 h).2 s fun kv hm => lookup_of_mem_nodup kv.1 kv.2 s ((wf_dict s).1 h).1 hm]
  · rw [wfKVs_cons] at h
    have hk : lookup k a = some v := hl (k, v) List.mem_cons_self
    rw [mergeKVs_cons, mergeAt_of_lookup ig hk, h1 h.1, set_lookup_self k v a hk]
    exact h2 h.2 a fun kv hm => hl kv (List.mem_cons_of_mem _ hm)

theorem merge_self (ig : List Val) : ∀ v : Val, wf v = true → merge ig v v = v := (merge_mergeKVs_self ig).1

theorem mergeKVs_self (ig : List Val) : ∀ b : List (String × Val), wfKVs b = true →
    ∀ a : List (String × Val), (∀ kv ∈ b, lookup kv.1 a = some kv.2) → mergeKVs ig a b = a :=
  (merge_mergeKVs_self ig).2

/-- the loop `build` keeps the top-level keys distinct -/
theorem foldl_setKVs_keys_nodup (ig : List Val) (its : List (Path × Val)) (a : List (String × Val)) (h : (a.map (·.1)).Nodup) :
    ((build ig its a).map (·.1)).Nodup :=
  List.foldlRecOn (motive := fun b => (b.map (·.1)).Nodup) its _ h fun b hb pv _ => nodup_keys_setKVs ig b pv.1 pv.2 hb

end Pyg.Tree
