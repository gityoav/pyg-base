/- The numpy / pandas clauses of C04 (PygModel/NpDate.lean): the floor arithmetic of a datetime64 value, `dtNp` on each class numpy hands back. -/
import PygModel.NpDate
import PygProofs.Lemmas.DateLemmas

namespace Pyg.NpDate
open Pyg Pyg.Bump Pyg.DateParse Pyg.Gen Pyg.Greg

theorem EPOCH_val : EPOCH = 62135596800000000 := by decide

theorem np2dt_dispatch : Gen.np2dt .datetime = .same ∧ Gen.np2dt .date = .midnight ∧ Gen.np2dt .int = .pdTimestamp := by decide

/-- the value numpy stores for a fixed-length unit, and the instant it denotes: `t` floored to the unit (counted from 1970) -/
theorem instant_fixed (t k : Int) (u : NpUnit) (hk : u.micros = some k) (hpos : 0 < k) (h0 : 0 ≤ t - (t - EPOCH) % k) (h1 : t < MAXUS) :
    (Dt64.mk ((t - EPOCH) / k) u).instant = some (t - (t - EPOCH) % k) := by
  have e : EPOCH + (t - EPOCH) / k * k = t - (t - EPOCH) % k := by
    have := Int.mul_ediv_add_emod (t - EPOCH) k
    rw [Int.mul_comm] at this; omega
  have hm : 0 ≤ (t - EPOCH) % k := Int.emod_nonneg _ (by omega)
  cases u <;> simp only [NpUnit.micros, Option.some.injEq, reduceCtorEq] at hk <;> subst hk <;>
    simp only [Dt64.instant, NpUnit.micros] <;> rw [e, if_pos ⟨h0, by omega⟩]

theorem micros_dvd_day (u : NpUnit) (k : Int) (hk : u.micros = some k) (hW : u ≠ .W) : 0 < k ∧ ∃ c, 0 < c ∧ DAYUS = k * c := by
  cases u <;> simp only [NpUnit.micros, Option.some.injEq, reduceCtorEq] at hk <;> try (exact absurd rfl hW)
  all_goals subst hk
  · exact ⟨by decide, 1, by decide, rfl⟩
  · exact ⟨by decide, 24, by decide, rfl⟩
  · exact ⟨by decide, 1440, by decide, rfl⟩
  · exact ⟨by decide, 86400, by decide, rfl⟩
  · exact ⟨by decide, 86400000, by decide, rfl⟩
  · exact ⟨by decide, 86400000000, by decide, rfl⟩

/-- 1970-01-01 is a midnight (`EPOCH = 719162 * DAYUS`): a unit that divides the day floors an instant counted from it as it floors the instant itself -/
theorem emod_epoch (k c t : Int) (h : DAYUS = k * c) : (t - EPOCH) % k = t % k := by
  have : EPOCH = k * (c * 719162) := by rw [← Int.mul_assoc, ← h]; decide
  rw [this, Int.sub_mul_emod_self_left]

theorem floor_nonneg (t k : Int) (h0 : 0 ≤ t) (hk : 0 < k) : 0 ≤ t - t % k := by
  rw [Int.emod_def, Int.sub_sub_self]
  exact Int.mul_nonneg (Int.le_of_lt hk) (Int.ediv_nonneg h0 (Int.le_of_lt hk))

theorem day_of_floor (k c t : Int) (hk : 0 < k) (h : DAYUS = k * c) : (t - t % k) - (t - t % k) % DAYUS = t - t % DAYUS := by
  have e : (t - t % k) / DAYUS = t / DAYUS := by
    rw [h, Int.emod_def, Int.sub_sub_self, Int.mul_ediv_mul_of_pos _ _ hk, Int.ediv_ediv_of_nonneg (Int.le_of_lt hk)]
  rw [Int.emod_def (t - t % k), Int.emod_def t DAYUS, e]
  omega

theorem dtNp_datetime (x : Dt64) (T : Int) (hi : x.instant = some T) (hu : x.unit.isDateUnit = false) : dtNp x = some (.datetime T) := by
  unfold dtNp np2dt astypePy
  simp [hi, hu, PyTime.cls, np2dt_dispatch.1]

theorem dtNp_date (x : Dt64) (T : Int) (hi : x.instant = some T) (hu : x.unit.isDateUnit = true) : dtNp x = some (.datetime (dropTime T)) := by
  unfold dtNp np2dt astypePy
  simp [hi, hu, PyTime.cls, np2dt_dispatch.2.1]

theorem dtNp_ns (v : Int) (h : -9223372036854775808 < v ∧ v < 9223372036854775808) : dtNp ⟨v, .ns⟩ = some (.stamp v) := by
  unfold dtNp np2dt astypePy
  simp [Dt64.instant, Dt64.toStamp, PyTime.cls, np2dt_dispatch.2.2, h.1, h.2]

theorem np2dt_fixed (u : NpUnit) (k : Int) (hk : u.micros = some k) (t : Int) (h0 : 0 ≤ t - (t - EPOCH) % k) (h1 : t < MAXUS) :
    dtOfNp t u = some (.datetime (t - (t - EPOCH) % k)) := by
  have hE := EPOCH_val
  cases u <;> simp only [NpUnit.micros, Option.some.injEq, reduceCtorEq] at hk <;> subst hk
  all_goals simp only [dtOfNp, dt64Of, NpUnit.micros, Option.bind_some]
  -- W, D: numpy hands back a date, rebuilt at midnight; the floor is a midnight (the unit is whole days, and so is 1970-01-01)
  · rw [dtNp_date _ _ (instant_fixed t _ .W rfl (by decide) h0 h1) rfl, dropTime_midnight _ h0 (by omega) (by unfold DAYUS; omega)]
  · rw [dtNp_date _ _ (instant_fixed t _ .D rfl (by decide) h0 h1) rfl, dropTime_midnight _ h0 (by omega) (by unfold DAYUS; omega)]
  all_goals exact dtNp_datetime _ _ (instant_fixed t _ _ rfl (by decide) h0 h1) rfl

end Pyg.NpDate
