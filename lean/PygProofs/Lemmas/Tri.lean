/-
  The "consistent triple" calculus behind the transitivity of lexicographic comparisons defined by nested
  recursion (`cmpN`), and `lexArr`, the comparison of two lists pair by pair (python's `cmparr`).
-/
namespace Pyg

/-- `tri ab bc ac`: the three comparison outcomes `cmp a b`, `cmp b c`, `cmp a c` (with the
reverse outcomes given by `swap`) are those of some total preorder on `{a,b,c}`. -/
def tri (ab bc ac : Ordering) : Bool :=
  let ba := ab.swap; let cb := bc.swap; let ca := ac.swap
  (!(ab.isLE && bc.isLE) || ac.isLE) &&
  (!(ac.isLE && cb.isLE) || ab.isLE) &&
  (!(ba.isLE && ac.isLE) || bc.isLE) &&
  (!(bc.isLE && ca.isLE) || ba.isLE) &&
  (!(ca.isLE && ab.isLE) || cb.isLE) &&
  (!(cb.isLE && ba.isLE) || ca.isLE)

theorem tri_iff : ∀ {ab bc ac : Ordering}, tri ab bc ac ↔
    (ab.isLE → bc.isLE → ac.isLE) ∧ (ac.isLE → bc.swap.isLE → ab.isLE) ∧
    (ab.swap.isLE → ac.isLE → bc.isLE) ∧ (bc.isLE → ac.swap.isLE → ab.swap.isLE) ∧
    (ac.swap.isLE → ab.isLE → bc.swap.isLE) ∧ (bc.swap.isLE → ab.swap.isLE → ac.swap.isLE) := by
  decide

theorem TransCmp.of_tri {α} {f : α → α → Ordering} (hs : ∀ a b, f a b = (f b a).swap)
    (ht : ∀ a b c, tri (f a b) (f b c) (f a c)) : Std.TransCmp f where
  eq_swap := hs _ _
  isLE_trans := (tri_iff.1 (ht _ _ _)).1

theorem TransCmp.comap {α β} {f : α → α → Ordering} [Std.TransCmp f] (g : β → α) :
    Std.TransCmp fun a b => f (g a) (g b) where
  eq_swap := Std.OrientedCmp.eq_swap
  isLE_trans := Std.TransCmp.isLE_trans

/-- with explicit arguments, as the library's `mergeSort` lemmas take their two hypotheses -/
theorem isLE_trans_explicit {α} {f : α → α → Ordering} [Std.TransCmp f] (a b c : α) :
    (f a b).isLE = true → (f b c).isLE = true → (f a c).isLE = true :=
  Std.TransCmp.isLE_trans

theorem isLE_total {α} {f : α → α → Ordering} [Std.TransCmp f] (a b : α) : ((f a b).isLE || (f b a).isLE) = true := by
  rw [Std.OrientedCmp.eq_swap (cmp := f) (a := a)]
  cases f b a <;> rfl

theorem then_of_ne_eq {o : Ordering} (h : o ≠ .eq) (x : Ordering) : o.then x = o := by
  cases o with
  | eq => exact absurd rfl h
  | _ => rfl

theorem tri_cases : ∀ {ab bc ac : Ordering}, tri ab bc ac →
    (ab = .eq ∧ bc = .eq ∧ ac = .eq) ∨ (ab ≠ .eq ∧ bc ≠ .eq ∧ ac ≠ .eq) ∨
    (ab = .eq ∧ bc = ac ∧ ac ≠ .eq) ∨ (bc = .eq ∧ ab = ac ∧ ac ≠ .eq) ∨
    (ac = .eq ∧ ab ≠ .eq ∧ bc ≠ .eq ∧ bc = ab.swap) := by
  decide

theorem tri_tie : ∀ {o : Ordering} (x : Ordering), o ≠ .eq → tri x o o ∧ tri o x o ∧ tri o o.swap x := by
  decide

/-- Lexicographic combination.  The second comparison is consulted only within a tie of the first: between all
three points, where it is consistent by assumption, or within one pair, where any outcome is. -/
theorem tri_then_of_tie {a1 b1 c1 a2 b2 c2 : Ordering} (h1 : tri a1 b1 c1)
    (h2 : a1 = .eq → b1 = .eq → c1 = .eq → tri a2 b2 c2) :
    tri (a1.then a2) (b1.then b2) (c1.then c2) := by
  rcases tri_cases h1 with ⟨rfl, rfl, rfl⟩ | ⟨ha, hb, hc⟩ | ⟨rfl, rfl, hc⟩ | ⟨rfl, rfl, hc⟩ | ⟨rfl, ha, hb, rfl⟩
  · exact h2 rfl rfl rfl
  · rw [then_of_ne_eq ha, then_of_ne_eq hb, then_of_ne_eq hc]
    exact h1
  · rw [then_of_ne_eq hc, then_of_ne_eq hc]
    exact (tri_tie a2 hc).1
  · rw [then_of_ne_eq hc, then_of_ne_eq hc]
    exact (tri_tie b2 hc).2.1
  · rw [then_of_ne_eq ha, then_of_ne_eq hb]
    exact (tri_tie c2 ha).2.2

theorem tri_then {a1 b1 c1 a2 b2 c2 : Ordering} (h1 : tri a1 b1 c1) (h2 : tri a2 b2 c2) :
    tri (a1.then a2) (b1.then b2) (c1.then c2) :=
  tri_then_of_tie h1 fun _ _ _ => h2

theorem tri_compare {α} [Ord α] [Std.TransOrd α] (x y z : α) :
    tri (compare x y) (compare y z) (compare x z) := by
  rw [tri_iff]
  simp only [← Std.OrientedOrd.eq_swap (α := α)]
  exact ⟨Std.TransOrd.isLE_trans, Std.TransOrd.isLE_trans, Std.TransOrd.isLE_trans,
    Std.TransOrd.isLE_trans, Std.TransOrd.isLE_trans, Std.TransOrd.isLE_trans⟩

theorem tri_compare_then {α} [Ord α] [Std.TransOrd α] [Std.LawfulEqOrd α] (x y z : α)
    {o1 o2 o3 : Ordering} (h : x = y → y = z → tri o1 o2 o3) :
    tri ((compare x y).then o1) ((compare y z).then o2) ((compare x z).then o3) :=
  tri_then_of_tie (tri_compare x y z) fun h1 h2 _ =>
    h (Std.LawfulEqOrd.compare_eq_iff_eq.1 h1) (Std.LawfulEqOrd.compare_eq_iff_eq.1 h2)

theorem swap_compare_then {α} [Ord α] [Std.OrientedOrd α] [Std.LawfulEqOrd α] (x y : α)
    {o o' : Ordering} (h : x = y → o = o'.swap) :
    (compare x y).then o = ((compare y x).then o').swap := by
  rw [Ordering.swap_then, ← Std.OrientedOrd.eq_swap]
  cases e : compare x y
  case eq => exact h (Std.LawfulEqOrd.compare_eq_iff_eq.1 e)
  all_goals rfl

/-- first non-`eq` outcome along two zipped lists (Python: `cmparr`) -/
def lexArr {α β} (f : α → β → Ordering) : List α → List β → Ordering
  | x :: xs, y :: ys => (f x y).then (lexArr f xs ys)
  | _, _ => .eq

theorem lexArr_map {α β γ δ} (f : γ → δ → Ordering) (g : α → γ) (h : β → δ) : ∀ (xs : List α) (ys : List β),
    lexArr f (xs.map g) (ys.map h) = lexArr (fun a b => f (g a) (h b)) xs ys
  | [], _ | _ :: _, [] => rfl
  | x :: xs, y :: ys => congrArg (f (g x) (h y)).then (lexArr_map f g h xs ys)

theorem lexArr_append {α β} (f : α → β → Ordering) : ∀ (a : List α) (a' : List β) (b : List α) (b' : List β),
    a.length = a'.length → lexArr f (a ++ b) (a' ++ b') = (lexArr f a a').then (lexArr f b b')
  | [], [], _, _, _ => rfl
  | x :: a, y :: a', b, b', h => by
    show (f x y).then (lexArr f (a ++ b) (a' ++ b')) = ((f x y).then _).then _
    rw [lexArr_append f a a' b b' (Nat.succ.inj h), Ordering.then_assoc]
  | [], _ :: _, _, _, h | _ :: _, [], _, _, h => nomatch h

theorem lexArr_eq_eq_iff {α β} (f : α → β → Ordering) : ∀ (xs : List α) (ys : List β),
    lexArr f xs ys = .eq ↔ ∀ p ∈ xs.zip ys, f p.1 p.2 = .eq
  | [], _ => ⟨fun _ _ h => (nomatch h), fun _ => rfl⟩
  | _ :: _, [] => ⟨fun _ _ h => (nomatch h), fun _ => rfl⟩
  | x :: xs, y :: ys => by
    rw [lexArr, Ordering.then_eq_eq, lexArr_eq_eq_iff f xs ys, List.zip_cons_cons, List.forall_mem_cons]

theorem tri_lexArr {α} (f : α → α → Ordering) :
    ∀ (xs ys zs : List α), xs.length = ys.length → ys.length = zs.length →
      (∀ x ∈ xs, ∀ y z, tri (f x y) (f y z) (f x z)) →
      tri (lexArr f xs ys) (lexArr f ys zs) (lexArr f xs zs)
  | [], [], [], _, _, _ => rfl
  | x :: xs, y :: ys, z :: zs, h1, h2, h =>
      tri_then (h x List.mem_cons_self y z)
        (tri_lexArr f xs ys zs (Nat.succ.inj h1) (Nat.succ.inj h2)
          fun a ha => h a (List.mem_cons_of_mem x ha))
  | [], _ :: _, _, h1, _, _ | _ :: _, [], _, h1, _, _ => nomatch h1
  | _, [], _ :: _, _, h2, _ | _, _ :: _, [], _, h2, _ => nomatch h2

theorem swap_lexArr {α} (f : α → α → Ordering) :
    ∀ (xs ys : List α), (∀ x ∈ xs, ∀ y, f x y = (f y x).swap) →
      lexArr f xs ys = (lexArr f ys xs).swap
  | [], [], _ | [], _ :: _, _ | _ :: _, [], _ => rfl
  | x :: xs, y :: ys, h => by
      rw [lexArr, lexArr, Ordering.swap_then, h x List.mem_cons_self y,
        swap_lexArr f xs ys fun a ha => h a (List.mem_cons_of_mem x ha)]

theorem lexArr_map_eq_eq_iff {α β γ} (f : β → γ → Ordering) (g : α → β) (h : α → γ) (l : List α) :
    lexArr f (l.map g) (l.map h) = .eq ↔ ∀ c ∈ l, f (g c) (h c) = .eq := by
  induction l with
  | nil => exact ⟨fun _ _ hc => (nomatch hc), fun _ => rfl⟩
  | cons a l ih => rw [List.map_cons, List.map_cons, lexArr, Ordering.then_eq_eq, ih, List.forall_mem_cons]

end Pyg
