import PygModel.USet
import PygProofs.Lemmas.HeapStep
import PygProofs.Lemmas.Basics.Lists

namespace List
variable {α : Type}

theorem getD_nodup (heap : List (List α)) (inv : ∀ u ∈ heap, u.Nodup) (h : Nat) : (heap.getD h []).Nodup := by
  rw [List.getD_eq_getElem?_getD]
  cases e : heap[h]? with
  | none => exact List.nodup_nil
  | some u => exact inv u (List.mem_of_getElem? e)

variable [DecidableEq α]

theorem filter_mem_singleton_nil (u : List α) (x : α) (h : x ∉ u) : u.filter (· ∈ [x]) = [] :=
  List.filter_eq_nil_iff.2 fun _ ha hd => h (List.mem_singleton.1 (of_decide_eq_true hd) ▸ ha)

theorem filter_mem_singleton (u : List α) (x : α) (hu : u.Nodup) (h : x ∈ u) : u.filter (· ∈ [x]) = [x] := by
  induction u with
  | nil => cases h
  | cons y ys ih =>
    rw [List.nodup_cons] at hu
    by_cases e : y = x
    · subst e
      rw [List.filter_cons_of_pos (by simp), filter_mem_singleton_nil ys y hu.1]
    · rw [List.filter_cons_of_neg (by simpa using e)]
      exact ih hu.2 ((List.mem_cons.1 h).resolve_left (Ne.symm e))

end List

namespace Pyg.USet
variable {α : Type} [DecidableEq α]

theorem mk_eq_eraseDups : ∀ xs : List α, mk xs = xs.eraseDups
  | [] => rfl
  | x :: xs => by
    rw [mk, mk_eq_eraseDups xs, List.eraseDups_cons, List.eraseDups_filter]
    congr 1
    apply List.filter_congr
    intro a _
    simp only [ne_eq, decide_not]
    rfl

theorem mem_mk (a : α) (xs : List α) : a ∈ mk xs ↔ a ∈ xs := by
  rw [mk_eq_eraseDups, List.mem_eraseDups]

theorem mk_nodup (xs : List α) : (mk xs).Nodup :=
  mk_eq_eraseDups xs ▸ List.nodup_eraseDups xs

theorem mk_sublist : ∀ xs : List α, (mk xs).Sublist xs
  | [] => List.Sublist.refl _
  | x :: xs => (List.filter_sublist.trans (mk_sublist xs)).cons_cons x

theorem mk_of_nodup (xs : List α) (h : xs.Nodup) : mk xs = xs :=
  (mk_eq_eraseDups xs).trans (List.eraseDups_of_nodup xs h)

theorem mk_append (xs ys : List α) : mk (xs ++ ys) = mk xs ++ (mk ys).filter (· ∉ xs) := by
  rw [mk_eq_eraseDups, mk_eq_eraseDups, mk_eq_eraseDups, List.eraseDups_append, List.removeAll, List.eraseDups_filter]
  congr 1
  apply List.filter_congr
  intro a _
  simp

theorem addList_eq (u xs : List α) (hu : u.Nodup) : addList u xs = u ++ (mk xs).filter (· ∉ u) := by
  rw [addList, mk_append, mk_of_nodup u hu]

theorem subList_eq (u xs : List α) (hu : u.Nodup) : subList u xs = u.filter (· ∉ xs) :=
  mk_of_nodup _ (hu.sublist List.filter_sublist)

theorem andList_eq (u xs : List α) (hu : u.Nodup) : andList u xs = u.filter (· ∈ xs) :=
  mk_of_nodup _ (hu.sublist List.filter_sublist)

theorem addElem_eq (u : List α) (x : α) (hu : u.Nodup) : addElem u x = addList u [x] := by
  rw [addList_eq u [x] hu, addElem]
  split
  · rename_i h; simp [copy, mkTrusted, mk, h]
  · rw [mk_append, mk_of_nodup u hu]

theorem subElem_eq (u : List α) (x : α) (hu : u.Nodup) : subElem u x = subList u [x] := by
  rw [subElem]
  split
  · rename_i h
    rw [subList_eq u [x] hu]
    symm; show _ = u; rw [List.filter_eq_self]
    intro a ha
    rw [decide_eq_true_eq, List.mem_singleton]
    rintro rfl; exact h ha
  · rfl

theorem andElem_eq (u : List α) (x : α) (hu : u.Nodup) : andElem u x = andList u [x] := by
  rw [andList_eq u [x] hu, andElem]
  split
  · rename_i h; exact (List.filter_mem_singleton u x hu h).symm
  · rename_i h; exact (List.filter_mem_singleton_nil u x h).symm

omit [DecidableEq α] in
theorem nodup_insertAt_fresh (u : List α) (i : Nat) (x : α) (hu : u.Nodup) (hx : x ∉ u) : (insertAt u i x).Nodup := by
  unfold insertAt
  rw [← List.take_append_drop i u] at hu hx
  rw [List.nodup_append] at hu ⊢
  rw [List.mem_append, not_or] at hx
  refine ⟨hu.1, List.nodup_cons.2 ⟨hx.2, hu.2.1⟩, fun a ha b hb => ?_⟩
  rcases List.mem_cons.1 hb with rfl | hb
  · exact fun e => hx.1 (e ▸ ha)
  · exact hu.2.2 a ha b hb

/-- the plain python list operation behind an in-place ulist operation (independent reference) -/
def listOp (u : List α) : Op α → Option (List α)
  | .append _ x => some (u ++ [x])
  | .extend _ xs => some (u ++ xs)
  | .iadd _ xs => some (u ++ xs)
  | .insert _ i x => some (u.take i ++ x :: u.drop i)
  | .setI _ i x => if i < u.length then some (u.set i x) else none
  | .imul _ n => some ((List.replicate n u).flatten)
  | _ => none

omit [DecidableEq α] in
theorem repeatN_eq (u : List α) (n : Nat) : repeatN u n = (List.replicate n u).flatten := by
  induction n with
  | zero => rfl
  | succ n ih => rw [repeatN, ih, List.replicate_succ, List.flatten_cons]

theorem inplace_eq (u : List α) (op : Op α) : inplace u op = (listOp u op).map mk := by
  cases op <;> simp only [inplace, listOp, Option.map, insertAt, repeatN_eq]
  -- left: `u[i] = x`, on whether the index is in range
  split <;> rfl

theorem stepIn_effect {New : List α → Prop} (heap : List (List α)) (h : Nat) (op : Op α) (ht : op.target = some h) :
    HeapStep New (fun _ u' => u'.Nodup) heap op.target (stepIn heap h op) := by
  unfold stepIn
  cases hh : heap[h]? with
  | none => exact .same
  | some u =>
    dsimp only
    rw [inplace_eq]
    cases listOp u op with
    | none => exact .same
    | some l => exact .write h u _ ht hh (mk_nodup l)

theorem step_effect (heap : List (List α)) (op : Op α) :
    HeapStep (fun r => (∀ u ∈ heap, u.Nodup) → r.Nodup) (fun _ u' => u'.Nodup) heap op.target (step heap op) := by
  cases op
  case new xs => exact .alloc _ fun _ => mk_nodup _
  case copy h => exact .alloc _ fun inv => List.getD_nodup heap inv h
  case addL h xs => exact .alloc _ fun _ => mk_nodup _
  case addE h x => exact .alloc _ fun inv => by rw [addElem_eq _ x (List.getD_nodup heap inv h)]; exact mk_nodup _
  case andL h xs => exact .alloc _ fun _ => mk_nodup _
  case andE h x => exact .alloc _ fun inv => by rw [andElem_eq _ x (List.getD_nodup heap inv h)]; exact mk_nodup _
  case subL h xs => exact .alloc _ fun _ => mk_nodup _
  case subE h x => exact .alloc _ fun inv => by rw [subElem_eq _ x (List.getD_nodup heap inv h)]; exact mk_nodup _
  case addH h g => exact .alloc _ fun _ => mk_nodup _
  case andH h g => exact .alloc _ fun _ => mk_nodup _
  case subH h g => exact .alloc _ fun _ => mk_nodup _
  case append h x => exact stepIn_effect heap h _ rfl
  case extend h xs => exact stepIn_effect heap h _ rfl
  case iadd h xs => exact stepIn_effect heap h _ rfl
  case insert h i x => exact stepIn_effect heap h _ rfl
  case setI h i x => exact stepIn_effect heap h _ rfl
  case imul h n => exact stepIn_effect heap h _ rfl

theorem step_nodup (heap : List (List α)) (op : Op α) (inv : ∀ u ∈ heap, u.Nodup) : ∀ u ∈ step heap op, u.Nodup :=
  (step_effect heap op).forall_mem inv (fun _ h => h inv) fun _ _ _ h => h

end Pyg.USet
