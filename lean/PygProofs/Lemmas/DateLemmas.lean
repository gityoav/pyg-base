/- C04: `dt` on calendar dates (range check, `dropTime`) and on dateutil's reading of a numeric triple: both dialects answer `readAs` of the
   fields in their own order. -/
import PygModel.DateParse
import PygProofs.Lemmas.Basics.Chars
import PygProofs.Lemmas.MonthLemmas

namespace Pyg.DateParse
open Pyg Pyg.Bump Pyg.Greg

theorem valid_lt {y m d : Nat} (v : Valid y m d) : y < 10000 ∧ m < 100 ∧ d < 100 := by
  have := v.bounds
  omega

theorem valid_first {y m d : Nat} (v : Valid y m d) : Valid y m 1 ∧ Valid y 1 1 := by
  unfold Valid at *
  have := dim_bounds y m v.2.2.1 v.2.2.2.1
  have := dim_bounds y 1 (by omega) (by omega)
  omega

theorem mkDateChecked_valid (y m d : Nat) (v : Valid y m d) : mkDateChecked y m d = .ok (mkDate y m d) := by
  unfold Valid at v
  unfold mkDateChecked
  simp only [Int.toNat_natCast]
  rw [if_pos (by omega)]

theorem mkDateChecked_invalid (y m d : Nat) (h : ¬ Valid y m d) : mkDateChecked y m d = .error .value := by
  unfold mkDateChecked
  rw [if_neg]
  intro hc
  apply h
  unfold Valid
  simp only [Int.toNat_natCast] at hc
  omega

theorem mkDate_day_in_range (y m d : Nat) (v : Valid y m d) : 0 ≤ mkDate y m d ∧ mkDate y m d + DAYUS ≤ MAXUS := by
  have := ord_range y m d v
  unfold mkDate ofOrd MAXUS DAYUS
  omega

theorem checkRange_in_day (y m d : Nat) (v : Valid y m d) (tod : Int) (h0 : 0 ≤ tod ∧ tod < DAYUS) :
    checkRange (mkDate y m d + tod) = .ok (mkDate y m d + tod) := by
  have := mkDate_day_in_range y m d v
  exact (checkRange_ok _ _).2 ⟨⟨by omega, by omega⟩, rfl⟩

theorem ymdDate_valid (y m d : Nat) (v : Valid y m d) : ymdDate y m d = .ok (mkDate y m d) := by
  have hv := v.bounds
  unfold ymdDate
  rw [ymd_small_day _ _ _ (by omega), ym_of_normal (y : Int) m y m (by omega) (by omega) rfl,
    mkMonthPlus_of_day y m d (by omega) (by omega), checkRange_mkDate y m d v]

theorem dropTime_sub_tod (t : Int) (h0 : 0 ≤ t) (h1 : t < MAXUS) : dropTime t = t - todOf t :=
  (date_of_instant t ⟨h0, h1⟩).2.1.symm

theorem dropTime_ofOrd (t : Int) (h0 : 0 ≤ t) (h1 : t < MAXUS) : dropTime t = ofOrd (ordOf t) := by
  rw [dropTime_sub_tod t h0 h1, sub_todOf]

theorem dropTime_midnight (t : Int) (h0 : 0 ≤ t) (h1 : t < MAXUS) (hm : t % DAYUS = 0) : dropTime t = t := by
  rw [dropTime_sub_tod t h0 h1, todOf, hm]; omega

theorem dropTime_in_day (y m d : Nat) (v : Valid y m d) (tod : Int) (h0 : 0 ≤ tod ∧ tod < DAYUS) :
    dropTime (mkDate y m d + tod) = mkDate y m d := by
  have := mkDate_day_in_range y m d v
  rw [dropTime_sub_tod _ (by omega) (by omega)]
  unfold todOf mkDate ofOrd at *; unfold DAYUS at *; omega

theorem dropTime_mkDate (y m d : Nat) (v : Valid y m d) : dropTime (mkDate y m d) = mkDate y m d := by
  unfold dropTime; rw [ymdOf_mkDate y m d v]

/-! dates the statements of C04 name, in microseconds: the first day `dt2str` is stated for, the first whole day whose nanosecond count
fits int64 (`np.datetime64[ns]`) and the day after the last one -/

theorem mkDate_1000 : mkDate 1000 1 1 = 364877 * 86400000000 := by decide

theorem mkDate_1677_9_22 : mkDate 1677 9 22 = 52912310400000000 := by decide +kernel

theorem mkDate_2262_4_11 : mkDate 2262 4 11 = 71358883200000000 := by decide +kernel

/-- what `dt` answers for a text read as the fields `(y, m, d)` and a time of day: the instant when they are a calendar date, else
ValueError (`datetime(y, m, d)` raises, in dateutil or in the dialect code) -/
def readAs (y m d : Nat) (tod : Int) : Res Int := if Valid y m d then checkRange (mkDate y m d + tod) else .error .value

theorem readAs_valid {y m d : Nat} (v : Valid y m d) (tod : Int) : readAs y m d tod = checkRange (mkDate y m d + tod) := if_pos v

theorem readAs_invalid {y m d : Nat} (v : ¬ Valid y m d) (tod : Int) : readAs y m d tod = .error .value := if_neg v

theorem mkDateChecked_bind (y m d : Nat) (tod : Int) :
    ((mkDateChecked y m d).bind fun t => checkRange (t + tod)) = readAs y m d tod := by
  by_cases v : Valid y m d
  · rw [readAs_valid v, mkDateChecked_valid y m d v]
    rfl
  · rw [readAs_invalid v, mkDateChecked_invalid y m d v]
    rfl

/-- dateutil's own date has to exist before the dialect code runs; that changes nothing when the answer is a ValueError without it anyway -/
theorem mkDateChecked_guard (y m d : Nat) (r : Res Int) (h : ¬ Valid y m d → r = .error .value) :
    ((mkDateChecked y m d).bind fun _ => r) = r := by
  by_cases v : Valid y m d
  · rw [mkDateChecked_valid y m d v]
    rfl
  · rw [mkDateChecked_invalid y m d v, h v]
    rfl

theorem dtCs_plain (uk : Bool) (cs : List Char) (y m d : Nat) (hms us : Int) (h0 : ¬ hms < 0)
    (h : parseCs cs = some ⟨false, 0, y, m, d, hms, us⟩) : dtCs uk cs = some (readAs y m d (hms + us)) := by
  unfold dtCs
  rw [h]
  simp only [Option.map_some]
  rw [if_neg h0]
  -- both dialects construct `datetime(y, m, d)` again and add the time of day
  have e : (if uk = true then ukDecide ⟨false, 0, y, m, d, hms, us⟩ else usDecide ⟨false, 0, y, m, d, hms, us⟩) = readAs y m d (hms + us) := by
    rw [← mkDateChecked_bind]
    cases uk <;> simp [ukDecide, usDecide, Int.add_assoc]
  rw [e, mkDateChecked_guard y m d _ (fun v => readAs_invalid v _)]

/-! the dialect decision on the reading `⟨true, a, y, month, day, ..⟩` dateutil gives for `a<sep>b<sep>yyyy` (month first unless `a > 12`):
the fields in the dialect's own order -/

theorem duResolve_of_gt {a : Int} (h : a > 12) (b : Int) : duResolve a b = (b, a) := if_pos h

theorem duResolve_of_le {a : Int} (h : ¬ a > 12) (b : Int) : duResolve a b = (a, b) := if_neg h

theorem usDecide_numeric3 (a b y : Nat) (hms us : Int) :
    usDecide ⟨true, a, y, (duResolve a b).1, (duResolve a b).2, hms, us⟩ = readAs y a b (hms + us) := by
  unfold usDecide
  rw [← mkDateChecked_bind]
  by_cases ha : (a : Int) > 12
  · rw [duResolve_of_gt ha, mkDateChecked_invalid y a b (not_valid_month (by omega))]
    by_cases hab : (b : Int) = a
    · simp only [hab, ne_eq, not_true_eq_false, and_false, if_false]
      rw [← hab, mkDateChecked_invalid y b b (not_valid_month (by omega))]
      rfl
    · simp only [ne_eq, hab, not_false_eq_true, and_self, if_true]
      rfl
  · rw [duResolve_of_le ha]
    simp only [ne_eq, not_true_eq_false, and_false, if_false, Int.add_assoc]

/-- UK: day first.  When dateutil read month-first (`a ≤ 12`) and its day is below 13 the swap goes through `_ymd`, which rolls
impossible fields over instead of raising: only there the fields have to be known to be a date -/
theorem ukDecide_numeric3 (a b y : Nat) (hms us : Int) (h : a ≤ 12 → b ≤ 12 → Valid y b a) :
    ukDecide ⟨true, a, y, (duResolve a b).1, (duResolve a b).2, hms, us⟩ = readAs y b a (hms + us) := by
  unfold ukDecide
  by_cases ha : (a : Int) > 12
  · have c1 : ¬ ((a : Int) < 13) := by omega
    rw [duResolve_of_gt ha]
    simp only [if_true, c1, if_false, ne_eq, not_true_eq_false, Int.add_assoc]
    exact mkDateChecked_bind y b a _
  · rw [duResolve_of_le ha]
    by_cases hb : (b : Int) < 13
    · have v := h (by omega) (by omega)
      simp only [hb, if_true]
      rw [ymdDate_valid y b a v, readAs_valid v, ← Int.add_assoc]
      rfl
    · have hab : (a : Int) ≠ b := by omega
      simp only [hb, if_false, ne_eq, hab, not_false_eq_true, if_true]
      rw [readAs_invalid (not_valid_month (by omega))]

/-- what `dtCs` computes for an ambiguous reading: dateutil's own date (month first unless `a > 12`) has to exist before the dialect
decides; it exists whenever the dialect's does -/
theorem us_guarded (a b y : Nat) (hms us : Int) :
    ((mkDateChecked y (duResolve a b).1 (duResolve a b).2).bind fun _ =>
      usDecide ⟨true, a, y, (duResolve a b).1, (duResolve a b).2, hms, us⟩) = readAs y a b (hms + us) := by
  rw [usDecide_numeric3]
  by_cases ha : (a : Int) > 12
  · rw [duResolve_of_gt ha]
    exact mkDateChecked_guard y b a _ (fun _ => readAs_invalid (not_valid_month (by omega)) _)
  · rw [duResolve_of_le ha]
    exact mkDateChecked_guard y a b _ (fun v => readAs_invalid v _)

theorem uk_guarded (a b y : Nat) (hms us : Int) :
    ((mkDateChecked y (duResolve a b).1 (duResolve a b).2).bind fun _ =>
      ukDecide ⟨true, a, y, (duResolve a b).1, (duResolve a b).2, hms, us⟩) = readAs y b a (hms + us) := by
  by_cases ha : (a : Int) > 12
  · rw [ukDecide_numeric3 a b y hms us (by omega), duResolve_of_gt ha]
    exact mkDateChecked_guard y b a _ (fun v => readAs_invalid v _)
  · by_cases v : Valid y a b
    · rw [ukDecide_numeric3 a b y hms us (fun _ hb => valid_swap hb v), duResolve_of_le ha, mkDateChecked_valid y a b v]
      rfl
    · rw [duResolve_of_le ha, mkDateChecked_invalid y a b v, readAs_invalid (fun v' => v (valid_swap (by omega) v'))]
      rfl

theorem toLower_pair_iff (d : String) (a b : Char) (A B : Char)
    (ha : 97 ≤ a.val.toNat ∧ a.val.toNat ≤ 122) (hA : A.val.toNat + 32 = a.val.toNat)
    (hb : 97 ≤ b.val.toNat ∧ b.val.toNat ≤ 122) (hB : B.val.toNat + 32 = b.val.toNat) :
    d.toList.map Char.toLower = [a, b] ↔ d ∈ [String.ofList [a, b], String.ofList [A, B], String.ofList [A, b], String.ofList [a, B]] := by
  constructor
  · intro h
    match hd : d.toList, h with
    | [x, y], h =>
      simp only [List.map_cons, List.map_nil, List.cons.injEq, and_true] at h
      rw [Char.toLower_eq_iff_of_lower x a A ha hA, Char.toLower_eq_iff_of_lower y b B hb hB] at h
      have e : d = String.ofList [x, y] := by rw [← hd, String.ofList_toList]
      rcases h with ⟨h1 | h1, h2 | h2⟩ <;> subst h1 <;> subst h2 <;> simp [e]
  · intro h
    simp only [List.mem_cons, List.not_mem_nil, or_false] at h
    rcases h with h | h | h | h <;> subst h <;> simp only [String.toList_ofList, List.map_cons, List.map_nil, List.cons.injEq, and_true]
      <;> rw [Char.toLower_eq_iff_of_lower _ a A ha hA, Char.toLower_eq_iff_of_lower _ b B hb hB] <;> simp

theorem dialectOf_iff_lower (d : String) :
    (dialectOf d = some true ↔ d.toList.map Char.toLower = ['u', 'k']) ∧ (dialectOf d = some false ↔ d.toList.map Char.toLower = ['u', 's']) := by
  unfold dialectOf
  by_cases h1 : d.toList.map Char.toLower = ['u', 'k']
  · simp [h1]
  · by_cases h2 : d.toList.map Char.toLower = ['u', 's'] <;> simp [h1, h2]

theorem dialectOf_uk_iff (d : String) : dialectOf d = some true ↔ d ∈ ["uk", "UK", "Uk", "uK"] := by
  rw [(dialectOf_iff_lower d).1, toLower_pair_iff d 'u' 'k' 'U' 'K' (by decide) (by decide) (by decide) (by decide)]

theorem dialectOf_us_iff (d : String) : dialectOf d = some false ↔ d ∈ ["us", "US", "Us", "uS"] := by
  rw [(dialectOf_iff_lower d).2, toLower_pair_iff d 'u' 's' 'U' 'S' (by decide) (by decide) (by decide) (by decide)]

theorem dtStrD_of {d : String} {uk : Bool} (h : dialectOf d = some uk) (s : String) : dtStrD d s = dtStr uk s := by
  unfold dtStrD
  rw [h, Option.bind_some]

end Pyg.DateParse
