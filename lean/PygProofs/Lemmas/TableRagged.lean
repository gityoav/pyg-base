/-
  Lemmas for `dictable(rows, columns = header)` with RAGGED rows (C01, `new_rows_ragged`): what the two
  nested `zipper`s of `_rows_as_dict` do when the rows do not all have the header's length.
-/
import PygProofs.Lemmas.TableCons

namespace Pyg
namespace Table

/-- `dict(zipper(columns, zipper(*rows)))`: transpose to the common length `n`, refuse one name over several columns, pair -/
theorem dataCols_rows_of_lens {cs : List String} {rs : List (List Cell)} {n : Nat} (hne : rs ≠ [])
    (hl : lens (rs.map (·.length)) = .ok n) :
    dataCols (.rows rs) (some cs) =
      some (if cs.length = 1 ∧ 1 < n then .error .value else
        match zipper2 cs ((List.range n).map fun j => rs.map fun r => (bcast n r).getD j Cell.none) with
        | .error e => .error e
        | .ok kvs => .ok (ofPairs kvs)) := by
  obtain ⟨r0, rest, rfl⟩ := List.exists_cons_of_ne_nil hne
  simp only [dataCols, zipper_of_lens Cell.none hl, headerMisfit, List.length_map, List.length_range,
    Bool.and_eq_true, beq_iff_eq, decide_eq_true_eq, gt_iff_lt]
  rfl

theorem dataCols_rows_of_lens_error {cs : List String} {rs : List (List Cell)} {e : Err}
    (hl : lens (rs.map (·.length)) = .error e) : dataCols (.rows rs) (some cs) = some (.error .value) := by
  have he := lens_error_value hl
  subst he
  match rs with
  | [] => cases hl
  | r0 :: rest => simp only [dataCols, zipper, hl]

/-- rows of the header's length or 1: the length-1 ones are repeated across the header -/
theorem dataCols_rows_ragged (cs : List String) (rs : List (List Cell)) (hcs : cs.Nodup)
    (hne : rs ≠ []) (hall : ∀ r ∈ rs, r.length = cs.length ∨ r.length = 1) :
    dataCols (.rows rs) (some cs) = some (.ok (ofRows cs (rs.map (bcast cs.length)))) := by
  -- the inner `zipper` transposes to the header's length, or (every row has one cell) to ONE column
  obtain ⟨n, hl, hn⟩ : ∃ n, lens (rs.map (·.length)) = .ok n ∧ (n = cs.length ∨ n = 1 ∧ ∀ r ∈ rs, r.length = 1) := by
    by_cases hex : ∃ r ∈ rs, r.length = cs.length
    · obtain ⟨r, hr, hrl⟩ := hex
      refine ⟨_, lens_of_mem (fun l hl => ?_) (List.mem_map.2 ⟨r, hr, hrl⟩), Or.inl rfl⟩
      obtain ⟨r', hr', rfl⟩ := List.mem_map.1 hl
      exact hall r' hr'
    · have h1 : ∀ r ∈ rs, r.length = 1 := fun r hr => (hall r hr).resolve_left fun h => hex ⟨r, hr, h⟩
      refine ⟨1, lens_const (by simpa using hne) fun l hl => ?_, Or.inr ⟨rfl, h1⟩⟩
      obtain ⟨r, hr, rfl⟩ := List.mem_map.1 hl
      exact h1 r hr
  -- which the outer `zipper` repeats under every name: either way, column `j` holds entry `j` of every broadcast row
  have hcols : bcast cs.length ((List.range n).map fun j => rs.map fun r => (bcast n r).getD j Cell.none) =
      (List.range cs.length).map fun j => rs.map fun r => (bcast cs.length r).getD j Cell.none := by
    rcases hn with rfl | ⟨rfl, h1⟩
    · exact bcast_self (by rw [List.length_map, List.length_range])
    · have hrep := List.map_const' (l := List.range cs.length) (b := rs.map fun r => (bcast 1 r).getD 0 Cell.none)
      rw [List.length_range] at hrep
      rw [show List.range 1 = [0] from rfl, List.map_singleton, bcast_singleton, ← hrep]
      exact List.map_congr_left fun j hj => List.map_congr_left fun r hr => by
        rw [bcast_getD_of_one (h1 r hr) (List.mem_range.1 hj), bcast_self (h1 r hr)]
  rw [dataCols_rows_of_lens hne hl, if_neg (by rcases hn with rfl | ⟨rfl, _⟩ <;> omega),
    zipper2_right_fits (by rw [List.length_map, List.length_range]; exact hn.imp id And.left), hcols]
  have hz : cs.zip ((List.range cs.length).map fun j => rs.map fun r => (bcast cs.length r).getD j Cell.none) =
      ofRows cs (rs.map (bcast cs.length)) := by
    rw [ofRows_eq_zip]
    simp only [List.map_map, Function.comp_def]
  simp only
  rw [hz, ofPairs_of_nodup _ (by rw [← cols, ofRows_cols]; exact hcs)]

/-- a row of a third length: one of the two `zipper`s raises -/
theorem dataCols_rows_bad (cs : List String) (rs : List (List Cell)) (hc : cs.length ≠ 1)
    (hbad : ∃ r ∈ rs, r.length ≠ cs.length ∧ r.length ≠ 1) :
    dataCols (.rows rs) (some cs) = some (.error .value) := by
  obtain ⟨r, hr, hb1, hb2⟩ := hbad
  cases hl : lens (rs.map (·.length)) with
  | error e => exact dataCols_rows_of_lens_error hl
  | ok n =>
    have hrn : r.length = n := by
      rcases lens_ok hl r.length (List.mem_map.2 ⟨r, hr, rfl⟩) with h | h
      · exact h
      · exact absurd h hb2
    rw [dataCols_rows_of_lens (List.ne_nil_of_mem hr) hl, if_neg (fun h => hc h.1),
      zipper2_misfit hc (by rw [List.length_map, List.length_range]; omega)
        (by rw [List.length_map, List.length_range]; omega)]

theorem construct_rows_ragged (cs : List String) (rs : List (List Cell)) (hcs : cs.Nodup) (hk : cs ≠ [])
    (hall : ∀ r ∈ rs, r.length = cs.length ∨ r.length = 1) :
    construct (.rows rs) (some cs) [] = some (.ok (ofRows cs (rs.map (bcast cs.length)))) := by
  by_cases hne : rs = []
  · subst hne
    have hnd : (ofRows cs []).cols.Nodup := by rw [ofRows_cols]; exact hcs
    have h1 : construct (.rows []) (some cs) [] = some (Table.finish (ofPairs (cs.map fun k => (k, [])))) := rfl
    have h2 : (cs.map fun k => (k, ([] : List Cell))) = ofRows cs [] := by
      rw [ofRows_eq_zip]
      apply List.ext_getElem
      · simp
      · intro i h1 h2
        simp
    rw [h1, h2, ofPairs_of_nodup _ hnd, finish_rect (ofRows_rect cs [])]
    rfl
  · refine construct_of_dataCols (dataCols_rows_ragged cs rs hcs hne hall) (by rw [ofRows_cols]; exact hcs)
      (ofRows_rect cs _) fun cs' h => ?_
    cases h
    exact ⟨(ofRows_cols _ _).symm, fun he => hk (by rw [← ofRows_cols cs (rs.map (bcast cs.length)), he]; rfl)⟩

theorem foldl_set_same_key (k : String) (vs : List (List Cell)) (v0 : List Cell) :
    ((List.replicate vs.length k).zip vs).foldl (fun t kv => Table.set t kv.1 kv.2) [(k, v0)] =
      [(k, vs.getLast?.getD v0)] := by
  induction vs generalizing v0 with
  | nil => rfl
  | cons v vs ih =>
    simp only [List.length_cons, List.replicate_succ, List.zip_cons_cons, List.foldl_cons]
    have : Table.set [(k, v0)] k v = [(k, v)] := by simp [Table.set, Table.has]
    rw [this, ih, List.getLast?_cons, Option.getD_some]

theorem ofPairs_same_key (k : String) (vs : List (List Cell)) :
    ofPairs ((List.replicate vs.length k).zip vs) =
      match vs.getLast? with
      | Option.none => []
      | some v => [(k, v)] := by
  cases vs with
  | nil => rfl
  | cons v vs =>
    unfold ofPairs
    simp only [List.length_cons, List.replicate_succ, List.zip_cons_cons, List.foldl_cons]
    have : Table.set [] k v = [(k, v)] := by simp [Table.set, Table.has]
    rw [this, foldl_set_same_key, List.getLast?_cons]

/-- one-name header (`headerMisfit`): rows of several cells are a `ValueError`, rows of one cell or none give one column -/
theorem dataCols_rows_header1 (k : String) (rs : List (List Cell)) (hne : rs ≠ []) (n : Nat)
    (hl : lens (rs.map (·.length)) = .ok n) :
    dataCols (.rows rs) (some [k]) =
      some (if n > 1 then .error .value else
        .ok (if n = 0 then [] else [(k, rs.map fun r => (bcast n r).getD (n - 1) .none)])) := by
  rw [dataCols_rows_of_lens hne hl]
  by_cases hn : n > 1
  · rw [if_pos ⟨rfl, hn⟩, if_pos hn]
  · rw [if_neg (fun h => hn h.2), if_neg hn, zipper2_one_left]
    have := ofPairs_same_key k ((List.range n).map fun j => rs.map fun r => (bcast n r).getD j .none)
    simp only [List.length_map, List.length_range] at this ⊢
    rw [this]
    cases n with
    | zero => rfl
    | succ m => simp [List.range_succ, List.getLast?_append]

/-- the same after the constructor's tail (no record when some row is empty) -/
theorem construct_rows_header1 (k : String) (rs : List (List Cell)) (n : Nat)
    (hl : lens (rs.map (·.length)) = .ok n) :
    construct (.rows rs) (some [k]) [] =
      some (if 1 < n then .error .value else
        .ok [(k, if n = 0 then [] else rs.map fun r => (bcast n r).getD (n - 1) .none)]) := by
  by_cases hne : rs = []
  · subst hne
    cases hl
    rfl
  · have hdc := dataCols_rows_header1 k rs hne n hl
    by_cases hn : 1 < n
    · rw [if_pos hn] at hdc ⊢
      exact construct_of_dataCols_error hdc
    · rw [if_neg hn] at hdc ⊢
      by_cases h0 : n = 0
      · subst h0
        simp only [construct, hdc]
        rfl
      · rw [if_neg h0] at hdc ⊢
        exact construct_of_dataCols hdc (by simp [cols])
          (by intro c hc; rw [List.mem_singleton.1 hc]) fun cs h => by cases h; exact ⟨rfl, by simp⟩

end Table
end Pyg
