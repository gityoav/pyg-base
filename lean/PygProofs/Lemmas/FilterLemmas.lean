/-
  On a selection `t.gatherRows idx` of the rows of a table, `inc` and `exc` (PygModel/Filter.lean) return the selection at
  `idx.filter p` for a predicate `p` of the row index; a rectangular table is its own selection at `List.range n`.
-/
import PygModel.Filter
import PygProofs.Lemmas.Basics
import PygProofs.Lemmas.TableRows

namespace Pyg

/-- the comparison of two cells as numbers at the end of `Cell.pyEq` -/
theorem numEq_iff (oa ob : Option Int) :
    (match oa, ob with | some x, some y => x == y | _, _ => false) = true ↔ ∃ x, oa = some x ∧ ob = some x := by
  cases oa with
  | none => simp
  | some x =>
    cases ob with
    | none => simp
    | some y =>
      simp only [beq_iff_eq, Option.some.injEq, exists_eq_left']
      exact eq_comm

namespace Table

theorem ne_nil_of_conds {t : Table} {conds : List (String × Cond)} (hc : conds ≠ [])
    (hk : ∀ kc ∈ conds, t.has kc.1 = true) : t ≠ [] := by
  obtain ⟨kc, hkc⟩ := List.exists_mem_of_ne_nil conds hc
  exact ne_nil_of_has (hk kc hkc)

theorem rowD_gatherRows (t : Table) (idx : List Nat) (j : Nat) (hj : j < idx.length) :
    (t.gatherRows idx).rowD j = t.rowD idx[j] := by
  simp only [rowD, gatherRows, List.map_map, Function.comp_def, List.getD_map_of_lt _ idx _ j hj]

theorem lookup_rowD (t : Table) (i : Nat) (k : String) : (t.rowD i).lookup k = t.cellAt i k := by
  rw [cellAt, col?_eq_lookup]
  exact List.lookup_map_val (fun _ c => c.getD i .none) k t

theorem fixup_sel {t : Table} (hne : t ≠ []) (idx l : List Nat) :
    (t.gatherRows idx).fixup (t.gatherRows l) = t.gatherRows l := by
  rw [fixup, nrows_gatherRows hne, emptyLike_gatherRows]
  cases l <;> rfl

theorem getColE_gatherRows {t : Table} {k : String} {col : List Cell} (hk : t.col? k = some col) (idx : List Nat) :
    (t.gatherRows idx).getColE k = .ok (idx.map fun i => col.getD i .none) := by
  rw [getColE, col?_gatherRows, hk]
  rfl

theorem getColE_gatherRows_error {t : Table} {k : String} (hk : t.has k = false) (idx : List Nat) :
    (t.gatherRows idx).getColE k = .error .key := by
  rw [getColE, col?_gatherRows, col?_eq_none hk]
  rfl

theorem incStep_gather {t : Table} (hne : t ≠ []) (idx : List Nat) (k : String) (c : Cond) (col : List Cell)
    (hk : t.col? k = some col) :
    (t.gatherRows idx).incStep (k, c) = .ok (t.gatherRows (idx.filter fun i => c.test (col.getD i .none))) := by
  cases idx with
  | nil =>
    rw [incStep, getColE_gatherRows hk]
    exact congrArg Except.ok (emptyLike_gatherRows t [])
  | cons i idx =>
    rw [← getMask_gather hne (i :: idx), incStep, getColE_gatherRows hk]
    simp only [List.map_map]
    rfl

/-- all conditions hold of row `i` of `t` (a condition on a column that is not there does not hold) -/
def sat (t : Table) (conds : List (String × Cond)) (i : Nat) : Bool :=
  conds.all fun kc => match t.cellAt i kc.1 with
    | some v => kc.2.test v
    | Option.none => false

theorem sat_gatherRows (t : Table) (idx : List Nat) (conds : List (String × Cond)) (j : Nat) (hj : j < idx.length) :
    (t.gatherRows idx).sat conds j = t.sat conds idx[j] := by
  simp only [sat, cellAt_gatherRows t idx _ j hj]

theorem incSteps_append (res : Table) (a b : List (String × Cond)) :
    res.incSteps (a ++ b) = match res.incSteps a with | .error e => .error e | .ok r => r.incSteps b := by
  induction a generalizing res with
  | nil => rfl
  | cons x xs ih =>
    simp only [List.cons_append, incSteps]
    cases res.incStep x with
    | error e => rfl
    | ok r => exact ih r

theorem filter_sat_nil (t : Table) (idx : List Nat) : idx.filter (t.sat []) = idx :=
  List.filter_eq_self.2 fun _ _ => rfl

theorem incSteps_gather {t : Table} (hne : t ≠ []) (conds : List (String × Cond))
    (hk : ∀ kc ∈ conds, t.has kc.1 = true) (idx : List Nat) :
    (t.gatherRows idx).incSteps conds = .ok (t.gatherRows (idx.filter (t.sat conds))) := by
  induction conds generalizing idx with
  | nil =>
    rw [filter_sat_nil]
    rfl
  | cons kc conds ih =>
    obtain ⟨k, c⟩ := kc
    obtain ⟨col, hcol⟩ := (has_iff_col? t k).1 (hk (k, c) List.mem_cons_self)
    have hsat : t.sat ((k, c) :: conds) = fun i => t.sat conds i && c.test (col.getD i .none) := by
      funext i
      simp only [sat, List.all_cons, cellAt_of_col hcol, Bool.and_comm]
    simp only [incSteps, incStep_gather hne idx k c col hcol,
      ih (fun kc' h' => hk kc' (List.mem_cons_of_mem _ h')), List.filter_filter, hsat]

theorem incSteps_range {t : Table} {n : Nat} (hr : t.Rect n) (hne : t ≠ []) (conds : List (String × Cond))
    (hk : ∀ kc ∈ conds, t.has kc.1 = true) :
    t.incSteps conds = .ok (t.gatherRows ((List.range n).filter (t.sat conds))) := by
  have h := incSteps_gather hne conds hk (List.range n)
  rwa [gatherRows_range hr] at h

theorem inc_none (t : Table) {conds : List (String × Cond)} (hc : conds ≠ []) :
    t.inc Option.none conds = (t.incSteps conds).map t.fixup := by
  cases conds with
  | nil => exact absurd rfl hc
  | cons kc conds =>
    simp only [inc, Option.isNone_none, List.isEmpty_cons, Bool.and_false, Bool.false_eq_true, if_false]
    cases t.incSteps (kc :: conds) <;> rfl

theorem inc_gather {t : Table} (idx : List Nat) (conds : List (String × Cond)) (hk : ∀ kc ∈ conds, t.has kc.1 = true) :
    (t.gatherRows idx).inc Option.none conds = .ok (t.gatherRows (idx.filter (t.sat conds))) := by
  cases conds with
  | nil =>
    rw [filter_sat_nil]
    rfl
  | cons kc conds =>
    have hne : t ≠ [] := ne_nil_of_has (hk kc List.mem_cons_self)
    rw [inc_none _ (List.cons_ne_nil kc conds), incSteps_gather hne _ hk]
    exact congrArg Except.ok (fixup_sel hne idx _)

theorem excFlag_ok {t : Table} (conds : List (String × Cond)) (hk : ∀ kc ∈ conds, t.has kc.1 = true) (i : Nat) :
    t.excFlag conds i = .ok (!t.sat conds i) := by
  have : mapE (t.rowCheck i) conds = .ok (conds.map fun kc => match t.cellAt i kc.1 with
      | some v => kc.2.test v | Option.none => false) := by
    apply mapE_of_ok
    intro kc hkc
    obtain ⟨col, hcol⟩ := (has_iff_col? t kc.1).1 (hk kc hkc)
    rw [rowCheck, cellAt_of_col hcol]
  rw [excFlag, this]
  simp only [sat, List.all_map]
  rfl

theorem excFlag_missing {t : Table} (i : Nat) (conds : List (String × Cond))
    (h : ∃ kc ∈ conds, t.has kc.1 = false) : t.excFlag conds i = .error .key := by
  have herr : ∀ kc, ∀ e', t.rowCheck i kc = .error e' → e' = .key := fun kc e' he => by
    unfold rowCheck at he
    cases hc : t.cellAt i kc.1 <;> rw [hc] at he <;> cases he
    rfl
  obtain ⟨kc, hkc, hf⟩ := h
  have hkey : t.rowCheck i kc = .error .key := by
    rw [rowCheck, cellAt_eq_none hf]
  rw [excFlag, mapE_eq_mapM, List.mapM_eq_error_of_mem ⟨kc, hkc, _, hkey⟩ fun kc _ => herr kc]

theorem exc_none (t : Table) {conds : List (String × Cond)} (hc : conds ≠ []) :
    t.exc Option.none conds =
      if t.nrows = 0 then .ok (t.fixup t) else
        match mapE (t.excFlag conds) (List.range t.nrows) with
        | .error e => .error e
        | .ok m => (t.getMask m).map t.fixup := by
  cases conds with
  | nil => exact absurd rfl hc
  | cons kc conds =>
    simp only [exc, Option.isNone_none, List.isEmpty_cons, Bool.and_false, Bool.false_eq_true, if_false,
      Bool.not_false, Bool.true_and, bne_iff_ne, ne_eq, ite_not]
    split
    · rfl
    · cases mapE (t.excFlag (kc :: conds)) (List.range t.nrows) with
      | error e => rfl
      | ok m =>
        simp only
        cases t.getMask m <;> rfl

theorem exc_gather {t : Table} (idx : List Nat) (conds : List (String × Cond)) (hc : conds ≠ [])
    (hk : ∀ kc ∈ conds, t.has kc.1 = true) :
    (t.gatherRows idx).exc Option.none conds = .ok (t.gatherRows (idx.filter fun i => !t.sat conds i)) := by
  have hne := ne_nil_of_conds hc hk
  rw [exc_none _ hc, nrows_gatherRows hne]
  split
  · rename_i h0
    cases List.eq_nil_of_length_eq_zero h0
    exact congrArg Except.ok (fixup_sel hne [] [])
  · have hm : ((List.range idx.length).map fun j => !(t.gatherRows idx).sat conds j) = idx.map fun i => !t.sat conds i :=
      List.map_range_eq_map idx _ _ fun j hj => by rw [sat_gatherRows t idx conds j hj]
    rw [mapE_of_ok (g := fun j => !(t.gatherRows idx).sat conds j) fun j _ =>
      excFlag_ok conds (fun kc hkc => by rw [has_gatherRows]; exact hk kc hkc) j]
    simp only
    rw [hm, getMask_gather hne]
    exact congrArg Except.ok (fixup_sel hne idx _)

/-- `keepRows` returns a table WITHOUT columns when no row is kept (`fixup_keep` gives the columns back) -/
theorem keepRows_ok {t : Table} {n : Nat} (hr : t.Rect n) (hne : t ≠ []) (keep : Nat → Except Err Bool) (p : Nat → Bool)
    (h : ∀ i < n, keep i = .ok (p i)) :
    t.keepRows keep =
      .ok (if ((List.range n).filter p).isEmpty then [] else t.gatherRows ((List.range n).filter p)) := by
  rw [keepRows, nrows_of_rect hr hne, mapE_of_ok (g := p) (fun i hi => h i (List.mem_range.1 hi))]
  simp only [List.flagged_map]
  split <;> rfl

theorem fixup_keep {t : Table} (hne : t ≠ []) (idx : List Nat) :
    t.fixup (if idx.isEmpty then [] else t.gatherRows idx) = t.gatherRows idx := by
  cases idx with
  | nil => rfl
  | cons i idx =>
    show t.fixup (t.gatherRows (i :: idx)) = _
    rw [fixup, nrows_gatherRows hne]
    rfl

theorem keepRows_error {t : Table} {n : Nat} (hr : t.Rect n) (hne : t ≠ []) (keep : Nat → Except Err Bool)
    (i : Nat) (hi : i < n) (e : Err) (he : keep i = .error e) (hb : ∀ j < i, ∃ b, keep j = .ok b) :
    t.keepRows keep = .error e := by
  rw [keepRows, nrows_of_rect hr hne, mapE_error_at keep e (List.range n) i (by simpa using hi) (by simpa using he)
    (fun j hj => by simpa using hb j hj)]

theorem inc_some (t : Table) (f : Table → Nat → Except Err Bool) (conds : List (String × Cond)) :
    t.inc (some f) conds =
      match t.keepRows (f t) with
      | .error e => .error e
      | .ok res => match res.incSteps conds with
        | .error e => .error e
        | .ok res => .ok (t.fixup res) := by
  simp only [inc, Option.isNone_some, Bool.false_and, Bool.false_eq_true, if_false]
  rfl

theorem exc_some (t : Table) (f : Table → Nat → Except Err Bool) (conds : List (String × Cond)) :
    t.exc (some f) conds =
      match t.keepRows fun i => (f t i).map (!·) with
      | .error e => .error e
      | .ok res =>
        if !conds.isEmpty && res.nrows != 0 then
          match mapE (res.excFlag conds) (List.range res.nrows) with
          | .error e => .error e
          | .ok m => match res.getMask m with
            | .error e => .error e
            | .ok res => .ok (t.fixup res)
        else .ok (t.fixup res) := by
  simp only [exc, Option.isNone_some, Bool.false_and, Bool.false_eq_true, if_false]
  rfl

theorem inc_fn_eq (t : Table) (f : Table → Nat → Except Err Bool) :
    t.inc (some f) [] = (t.keepRows (f t)).map t.fixup := by
  rw [inc_some]
  cases t.keepRows (f t) <;> rfl

theorem exc_fn_eq (t : Table) (f : Table → Nat → Except Err Bool) :
    t.exc (some f) [] = (t.keepRows fun i => (f t i).map (!·)).map t.fixup := by
  rw [exc_some]
  cases t.keepRows _ <;> rfl

theorem find_of_inc {t : Table} {key : String} {col : List Cell} (hcol : t.col? key = some col)
    {fn : Option (Table → Nat → Except Err Bool)} {conds : List (String × Cond)} {idx : List Nat}
    (h : t.inc fn conds = .ok (t.gatherRows idx)) :
    t.find key fn conds =
      match idx.map fun i => col.getD i .none with
      | [] => .error .value
      | x :: rest => if rest.all (x.valEq ·) then .ok x else .error .value := by
  simp only [find, (has_iff_col? t key).2 ⟨col, hcol⟩, Bool.not_true, Bool.false_eq_true, if_false, h,
    nrows_gatherRows (ne_nil_of_col? hcol), getColE_gatherRows hcol]
  cases idx <;> rfl

theorem first_of_equal_iff {cells : List Cell} {r : Except Err Cell}
    (hr : r = match cells with
      | [] => .error .value
      | x :: rest => if rest.all (x.valEq ·) then .ok x else .error .value) (v : Cell) :
    (r = .ok v ↔ ∃ rest, cells = v :: rest ∧ ∀ x ∈ rest, v.valEq x = true) ∧ (∀ e, r = .error e → e = .value) := by
  subst hr
  cases cells with
  | nil => exact ⟨⟨(fun h => nomatch h), (fun ⟨_, h, _⟩ => nomatch h)⟩, fun e h => by cases h; rfl⟩
  | cons x rest =>
    simp only [List.cons.injEq]
    by_cases hall : rest.all (x.valEq ·) = true
    · rw [if_pos hall]
      refine ⟨⟨?_, ?_⟩, fun e h => nomatch h⟩
      · intro h; cases h; exact ⟨rest, ⟨rfl, rfl⟩, List.all_eq_true.1 hall⟩
      · rintro ⟨_, ⟨rfl, _⟩, _⟩; rfl
    · rw [if_neg hall]
      refine ⟨⟨(fun h => nomatch h), ?_⟩, fun e h => by cases h; rfl⟩
      rintro ⟨_, ⟨rfl, rfl⟩, h⟩
      exact absurd (List.all_eq_true.2 h) hall

end Table
end Pyg
