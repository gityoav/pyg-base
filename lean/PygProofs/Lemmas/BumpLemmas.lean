/-
  About PygModel/Bump.lean (C09; the range arithmetic also serves C04 and C10).  The business-day block `Gen.bOff` is brought to a
  normal form from a weekday (`bOff_weekday`; a weekend day is first rolled to Monday, `roll`) and compared with day-by-day counting
  (`nextWd` / `prevWd`); an instant is a day and a time of day, and the step acts on the day.
-/
import PygModel.Bump

namespace Pyg.Bump
open Pyg Pyg.Gen

theorem wd_range (o : Int) : 0 ≤ wd o ∧ wd o < 7 := by unfold wd; omega

/-- the next weekday strictly after ordinal `o` (specification: day-by-day reading of "business day") -/
def nextWd (o : Int) : Int := if wd o = 4 then o + 3 else if wd o = 5 then o + 2 else o + 1

/-- the previous weekday strictly before ordinal `o` -/
def prevWd (o : Int) : Int := if wd o = 0 then o - 3 else if wd o = 6 then o - 2 else o - 1

def iter (f : Int → Int) : Nat → Int → Int
  | 0, o => o
  | k + 1, o => f (iter f k o)

theorem iter_succ_inner (f : Int → Int) (k : Nat) (o : Int) : iter f (k + 1) o = iter f k (f o) := by
  induction k with
  | zero => rfl
  | succ k ih => simp only [iter] at ih ⊢; rw [ih]

/-- `nextWd` really is the next weekday: later, a weekday, and nothing but weekend days in between -/
theorem nextWd_spec (o : Int) :
    o < nextWd o ∧ wd (nextWd o) < 5 ∧ ∀ x, o < x → x < nextWd o → 5 ≤ wd x := by
  unfold nextWd wd; refine ⟨by omega, by omega, ?_⟩; intro x h1 h2; omega

theorem prevWd_spec (o : Int) :
    prevWd o < o ∧ wd (prevWd o) < 5 ∧ ∀ x, prevWd o < x → x < o → 5 ≤ wd x := by
  unfold prevWd wd; refine ⟨by omega, by omega, ?_⟩; intro x h1 h2; omega

/-- from a weekday: the business days themselves plus two days for every weekend crossed -/
theorem bOff_weekday (w n : Int) (h : 0 ≤ w ∧ w < 5) : bOff w n = n + 2 * ((w + n) / 5) := by
  unfold bOff; simp only []; omega

theorem bOff_weekend (w n : Int) (h : 4 < w) : bOff w n = 7 - w + bOff 0 n := by
  unfold bOff; simp only []; omega

/-- after the weekend roll the block moves by whole weeks and then by at most six more days -/
theorem bOff_weeks (w n : Int) (h : 0 ≤ w ∧ w < 7) :
    (if w > 4 then 7 - w else 0) + 7 * (n / 5) ≤ bOff w n ∧ bOff w n ≤ (if w > 4 then 7 - w else 0) + 7 * (n / 5) + 6 := by
  unfold bOff; simp only []; omega

theorem bOff_sign (w n : Int) (hw : 0 ≤ w ∧ w < 7) : (1 ≤ n → 1 ≤ bOff w n) ∧ (n ≤ -1 → bOff w n ≤ -1) := by
  by_cases h : w < 5
  · rw [bOff_weekday w n ⟨hw.1, h⟩]
    omega
  · rw [bOff_weekend w n (by omega), bOff_weekday 0 n (by omega)]
    omega

theorem wd_add_bOff (o n : Int) : wd (o + bOff (wd o) n) < 5 := by
  unfold bOff wd; simp only []; omega

theorem bOff_zero (o : Int) (h : wd o < 5) : bOff (wd o) 0 = 0 := by
  have r := wd_range o
  rw [bOff_weekday _ 0 ⟨r.1, h⟩]; omega

/-- from a weekday, bumps add up (the landing day is a weekday again, so nothing is rolled) -/
theorem bOff_add (o a b : Int) (h : wd o < 5) :
    (o + bOff (wd o) a) + bOff (wd (o + bOff (wd o) a)) b = o + bOff (wd o) (a + b) := by
  have l := wd_add_bOff o a
  rw [bOff_weekday _ b ⟨(wd_range _).1, l⟩, bOff_weekday _ a ⟨(wd_range o).1, h⟩, bOff_weekday _ (a + b) ⟨(wd_range o).1, h⟩]
  unfold wd at *; omega

theorem nextWd_weekday (o : Int) (h : wd o < 5) : nextWd o = o + bOff (wd o) 1 := by
  rw [bOff_weekday _ 1 ⟨(wd_range o).1, h⟩]; unfold nextWd wd at *; omega

theorem prevWd_weekday (o : Int) (h : wd o < 5) : prevWd o = o + bOff (wd o) (-1) := by
  rw [bOff_weekday _ (-1) ⟨(wd_range o).1, h⟩]; unfold prevWd wd at *; omega

theorem bOff_succ (o : Int) (h : wd o < 5) (k : Int) : nextWd (o + bOff (wd o) k) = o + bOff (wd o) (k + 1) := by
  rw [nextWd_weekday _ (wd_add_bOff o k), bOff_add o k 1 h]

theorem bOff_pred (o : Int) (h : wd o < 5) (k : Int) : prevWd (o + bOff (wd o) k) = o + bOff (wd o) (k - 1) := by
  rw [prevWd_weekday _ (wd_add_bOff o k), bOff_add o k (-1) h]; rfl

theorem bOff_strictMono (o₁ o₂ n : Int) (h₁ : wd o₁ < 5) (h₂ : wd o₂ < 5) (h : o₁ < o₂) :
    o₁ + bOff (wd o₁) n < o₂ + bOff (wd o₂) n := by
  rw [bOff_weekday _ n ⟨(wd_range o₁).1, h₁⟩, bOff_weekday _ n ⟨(wd_range o₂).1, h₂⟩]
  unfold wd at *; omega

/-- the day the block counts from: a Saturday / Sunday is rolled forward to the following Monday -/
def roll (o : Int) : Int := if wd o > 4 then o + (7 - wd o) else o

theorem wd_roll (o : Int) : wd (roll o) < 5 := by unfold roll wd; split <;> omega

theorem roll_mono (o₁ o₂ : Int) (h : o₁ ≤ o₂) : roll o₁ ≤ roll o₂ := by unfold roll wd; omega

theorem roll_eq_iff (o₁ o₂ : Int) (h : o₁ ≤ o₂) :
    roll o₁ = roll o₂ ↔ (o₁ = o₂ ∨ (5 ≤ wd o₁ ∧ o₂ ≤ o₁ + (7 - wd o₁))) := by
  unfold roll wd; omega

theorem nextWd_weekend (o : Int) (h : 4 < wd o) : nextWd o = roll o := by
  unfold nextWd roll wd at *; omega

theorem prevWd_roll (o : Int) (h : 4 < wd o) : prevWd (roll o) = prevWd o := by
  unfold roll
  rw [if_pos h]
  unfold prevWd wd at *; omega

theorem bOff_roll (o n : Int) : o + bOff (wd o) n = roll o + bOff (wd (roll o)) n := by
  unfold roll
  split
  · rename_i h
    have e : wd (o + (7 - wd o)) = 0 := by unfold wd at *; omega
    rw [bOff_weekend _ n h, e]; omega
  · rfl

theorem bOff_lt_of_roll_lt (o₁ o₂ n : Int) (h : roll o₁ < roll o₂) : o₁ + bOff (wd o₁) n < o₂ + bOff (wd o₂) n := by
  rw [bOff_roll o₁, bOff_roll o₂]
  exact bOff_strictMono _ _ n (wd_roll o₁) (wd_roll o₂) h

theorem bOff_eq_iff (o₁ o₂ n : Int) (h : o₁ ≤ o₂) :
    o₁ + bOff (wd o₁) n = o₂ + bOff (wd o₂) n ↔ (o₁ = o₂ ∨ (5 ≤ wd o₁ ∧ o₂ ≤ o₁ + (7 - wd o₁))) := by
  rw [← roll_eq_iff o₁ o₂ h]
  constructor
  · intro e
    have m := roll_mono o₁ o₂ h
    by_cases q : roll o₁ = roll o₂
    · exact q
    · have := bOff_lt_of_roll_lt o₁ o₂ n (by omega); omega
  · intro e; rw [bOff_roll o₁, bOff_roll o₂, e]

theorem ordOf_add_days (t k : Int) : ordOf (t + k * DAYUS) = ordOf t + k := by
  unfold ordOf DAYUS; omega

theorem todOf_add_days (t k : Int) : todOf (t + k * DAYUS) = todOf t := by
  unfold todOf DAYUS; omega

theorem ordOf_ofOrd (o : Int) : ordOf (ofOrd o) = o := by unfold ordOf ofOrd DAYUS; omega

theorem todOf_ofOrd (o : Int) : todOf (ofOrd o) = 0 := by unfold todOf ofOrd DAYUS; omega

theorem split_t (t : Int) : t = ofOrd (ordOf t) + todOf t ∧ 0 ≤ todOf t ∧ todOf t < DAYUS := by
  unfold ofOrd ordOf todOf DAYUS; omega

theorem ofOrd_add (o k : Int) : ofOrd (o + k) = ofOrd o + k * DAYUS := by unfold ofOrd DAYUS; omega

theorem sub_todOf (t : Int) : t - todOf t = ofOrd (ordOf t) := by
  have := split_t t; omega

theorem days_le_iff (k t : Int) : k * DAYUS ≤ t ↔ k + 1 ≤ ordOf t := by unfold ordOf DAYUS; omega

theorem lt_days_iff (t k : Int) : t < k * DAYUS ↔ ordOf t ≤ k := by unfold ordOf DAYUS; omega

theorem ordOf_pos (t : Int) (h : 0 ≤ t) : 1 ≤ ordOf t := by
  have := (days_le_iff 0 t).1 (by omega); omega

theorem lt_iff_lex (a b : Int) : a < b ↔ ordOf a < ordOf b ∨ (ordOf a = ordOf b ∧ todOf a < todOf b) := by
  unfold ordOf todOf DAYUS; omega

/-- a datetime: inside [0001-01-01, 9999-12-31] -/
def InRange (t : Int) : Prop := 0 ≤ t ∧ t < MAXUS

instance (t : Int) : Decidable (InRange t) := by unfold InRange; infer_instance

theorem checkRange_of_inRange {t : Int} (h : InRange t) : checkRange t = .ok t := if_pos h

theorem checkRange_of_not_inRange {t : Int} (h : ¬ InRange t) : checkRange t = .error .other := if_neg h

theorem checkRange_ok (x y : Int) : checkRange x = .ok y ↔ (0 ≤ x ∧ x < MAXUS) ∧ y = x := by
  by_cases h : InRange x
  · rw [checkRange_of_inRange h]
    exact ⟨fun e => ⟨h, by cases e; rfl⟩, fun e => by rw [e.2]⟩
  · rw [checkRange_of_not_inRange h]
    exact ⟨fun e => (by cases e), fun e => absurd e.1 h⟩

/-- the value of a successful result (to evaluate closed examples with `decide`) -/
def okVal : Res Int → Option Int
  | .ok t => some t
  | .error _ => none

theorem inRange_iff (t : Int) : InRange t ↔ 1 ≤ ordOf t ∧ ordOf t ≤ 3652059 := by
  unfold InRange MAXUS ordOf DAYUS; omega

theorem inRange_ofOrd (o : Int) : InRange (ofOrd o) ↔ 1 ≤ o ∧ o ≤ 3652059 := by rw [inRange_iff, ordOf_ofOrd]

theorem dtBump_append (t : Int) (a b : List BumpArg) : dtBump t (a ++ b) = (dtBump t a).bind fun t' => dtBump t' b := by
  induction a generalizing t with
  | nil => rfl
  | cons x xs ih =>
    simp only [List.cons_append, dtBump]
    cases bumpOne t x with
    | error e => rfl
    | ok t' => exact ih t'

theorem dtBump_congr_arg {a b : BumpArg} (t : Int) (pre post : List BumpArg) (h : ∀ t, bumpOne t a = bumpOne t b) :
    dtBump t (pre ++ a :: post) = dtBump t (pre ++ b :: post) := by
  rw [dtBump_append, dtBump_append]
  congr 1; funext t'
  rw [dtBump, dtBump, h t']

theorem walkDays_ok (t c r : Int) (ks : List Int) :
    walkDays t c ks = .ok r ↔ (∀ k ∈ ks, InRange (t + k * DAYUS)) ∧ r = (ks.getLast?.map (fun k => t + k * DAYUS)).getD c := by
  induction ks generalizing c with
  | nil => simp only [walkDays, List.not_mem_nil, false_imp_iff, implies_true, true_and, List.getLast?_nil, Option.map_none, Option.getD_none]
           constructor
           · intro e; cases e; rfl
           · intro e; rw [e]
  | cons k ks ih =>
    simp only [walkDays, List.mem_cons, forall_eq_or_imp]
    by_cases hk : InRange (t + k * DAYUS)
    · simp only [checkRange_of_inRange hk, Except.bind, ih, hk, true_and]
      cases ks with
      | nil => simp
      | cons k' ks' =>
        obtain ⟨l, hl⟩ : ∃ l, (k' :: ks').getLast? = some l := ⟨_, List.getLast?_eq_some_getLast (by simp)⟩
        simp [List.getLast?_cons_cons, hl]
    · simp only [checkRange_of_not_inRange hk, Except.bind, hk, false_and, iff_false]
      intro x; cases x

/-- the offsets the block passes through: after the weekend roll, after the whole weeks, after the remaining days -/
theorem bOffPath_eq (w n : Int) :
    bOffPath w n = [if w > 4 then 7 - w else 0, (if w > 4 then 7 - w else 0) + 7 * (n / 5), bOff w n] := by
  unfold bOffPath bOff; simp only []; split <;> simp

/-- the datetimes constructed on the way lie between start and result for a forward bump; for a backward bump from a weekday they are
not above the start and at most six days below the result (the week count is applied first) -/
theorem bOffPath_between (w n : Int) (hw : 0 ≤ w ∧ w < 7) : ∀ j ∈ bOffPath w n,
    (0 ≤ n → 0 ≤ j ∧ j ≤ bOff w n) ∧ (n < 0 → w < 5 → bOff w n - 6 ≤ j ∧ j ≤ 0) := by
  intro j hj
  rw [bOffPath_eq] at hj
  simp only [List.mem_cons, List.not_mem_nil, or_false] at hj
  have bw := bOff_weeks w n hw
  omega

theorem bday_ok_iff (t n r : Int) :
    applyStep t (.bday n) = .ok r ↔
      (∀ k ∈ bOffPath (wdOf t) n, InRange (t + k * DAYUS)) ∧ r = t + bOff (wdOf t) n * DAYUS := by
  simp only [applyStep, walkDays_ok]
  rw [bOffPath_eq]; simp

theorem bday_ok (t n r : Int) (h : applyStep t (.bday n) = .ok r) :
    (0 ≤ t + bOff (wdOf t) n * DAYUS ∧ t + bOff (wdOf t) n * DAYUS < MAXUS) ∧ r = t + bOff (wdOf t) n * DAYUS := by
  rw [bday_ok_iff] at h
  exact ⟨h.1 (bOff (wdOf t) n) (by rw [bOffPath_eq]; simp), h.2⟩

theorem wdOf_bday (t n : Int) : wdOf (t + bOff (wdOf t) n * DAYUS) < 5 := by
  unfold wdOf; rw [ordOf_add_days]; exact wd_add_bOff _ _

theorem bOff_add_instant (t a b : Int) (w : wdOf t < 5) :
    t + bOff (wdOf t) a * DAYUS + bOff (wdOf (t + bOff (wdOf t) a * DAYUS)) b * DAYUS = t + bOff (wdOf t) (a + b) * DAYUS := by
  have := bOff_add (ordOf t) a b w
  unfold wdOf; rw [ordOf_add_days, Int.add_assoc, ← Int.add_mul]; congr 2; omega

theorem bday_ok_start (t n r : Int) (w : wdOf t < 5) (h : applyStep t (.bday n) = .ok r) : InRange t := by
  rw [bday_ok_iff, bOffPath_eq] at h
  have := h.1 _ (List.mem_cons_self ..)
  rwa [if_neg (by omega), Int.zero_mul, Int.add_zero] at this

/-- with start and result representable every datetime on the way is, unless a backward bump from a weekday lands in the first six
days of year 1: the block first goes back whole weeks, up to six days further than it lands -/
theorem bdayPath_inRange (t n : Int) (ht : InRange t) (hr : InRange (t + bOff (wdOf t) n * DAYUS))
    (h : 0 ≤ n ∨ (wdOf t < 5 ∧ 6 * DAYUS ≤ t + bOff (wdOf t) n * DAYUS)) :
    ∀ j ∈ bOffPath (wdOf t) n, InRange (t + j * DAYUS) := by
  intro j hj
  have hp := bOffPath_between (wdOf t) n (wd_range _) j hj
  unfold InRange DAYUS at *
  by_cases h0 : 0 ≤ n
  · have := hp.1 h0
    constructor <;> omega
  · obtain ⟨h2, h3⟩ := h.resolve_left h0
    have := hp.2 (by omega) h2
    constructor <;> omega

theorem bday_defined (t n : Int) (w : wdOf t < 5) (ht : InRange t) (hr : InRange (t + bOff (wdOf t) n * DAYUS))
    (hlo : 0 ≤ n ∨ 6 * DAYUS ≤ t + bOff (wdOf t) n * DAYUS) :
    applyStep t (.bday n) = .ok (t + bOff (wdOf t) n * DAYUS) :=
  (bday_ok_iff t n _).2 ⟨bdayPath_inRange t n ht hr (hlo.imp_right fun h => ⟨w, h⟩), rfl⟩

end Pyg.Bump
