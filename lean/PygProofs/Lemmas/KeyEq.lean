/-
  Key equality as the property statements word it (`keyEq`, written from the statements of C02 / C11, not from
  the code; a `datetime.date` reaches the model as the datetime of its midnight), and the proof that the model's
  `cmp` returns 0 on exactly these pairs.
-/
import PygProofs.Lemmas.CmpLemmas

namespace Pyg

/-- equality of two scalar key cells as the statements word it (floats are stored in quarters: `.flt q` = q/4) -/
def keyEq : Cell → Cell → Bool
  | .none, .none => true
  | .nan, .nan => true
  | .pinf, .pinf => true
  | .ninf, .ninf => true
  | .bool a, .bool b => a == b
  | .str a, .str b => a == b
  | .dt a, .dt b => a == b
  | .int a, .int b => a == b
  | .flt a, .flt b => a == b
  | .int a, .flt q => 4 * a == q
  | .flt q, .int a => q == 4 * a
  | _, _ => false

/-- equality of two key tuples: same number of components, every component `keyEq` -/
def keysEq (xs ys : List Cell) : Prop :=
  xs.length = ys.length ∧ ∀ i (h : i < xs.length), keyEq xs[i] (ys.getD i .none) = true

/-- the same, computable -/
def keysEqB (xs ys : List Cell) : Bool :=
  xs.length == ys.length && (xs.zip ys).all fun p => keyEq p.1 p.2

theorem Cell.cmp_isEq (a b : Cell) : (Cell.cmp a b).isEq = keyEq a b := by
  cases a <;> cases b
  case bool.bool x y => cases x <;> cases y <;> rfl
  case str.str x y | dt.dt x y | int.int x y | flt.flt x y | int.flt x y | flt.int x y =>
    rw [Bool.eq_iff_iff, Ordering.isEq_iff_eq_eq]
    simp [Cell.cmp, Cell.cmpSame, Cell.rank, Cell.num, Cell.skey, keyEq] <;> omega
  -- the remaining pairs compare no payload: both sides compute
  all_goals rfl

theorem Cell.cmp_eq_iff (a b : Cell) : Cell.cmp a b = .eq ↔ keyEq a b = true := by
  rw [← Ordering.isEq_iff_eq_eq, Cell.cmp_isEq]

theorem cmp_cell_eq_iff (a b : Cell) : cmp (.cell a) (.cell b) = .eq ↔ keyEq a b = true :=
  Cell.cmp_eq_iff a b

theorem cmp_tuple_eq_iffB (xs ys : List Cell) :
    cmp (.tuple (xs.map .cell)) (.tuple (ys.map .cell)) = .eq ↔ keysEqB xs ys = true := by
  simp only [cmp_tuple_cells, Ordering.then_eq_eq, lexArr_eq_eq_iff, Cell.cmp_eq_iff, keysEqB, Bool.and_eq_true,
    beq_iff_eq, Nat.compare_eq_eq, List.all_eq_true]

theorem cmp_tuple_ne {xs ys : List Cell} (h : keysEqB xs ys = false) :
    cmp (.tuple (xs.map .cell)) (.tuple (ys.map .cell)) ≠ .eq :=
  fun he => Bool.false_ne_true (h.symm.trans ((cmp_tuple_eq_iffB xs ys).1 he))

theorem keysEq_cons {x y : Cell} {xs ys : List Cell} :
    keysEq (x :: xs) (y :: ys) ↔ keyEq x y = true ∧ keysEq xs ys := by
  simp only [keysEq, List.length_cons, Nat.add_right_cancel_iff]
  constructor
  · rintro ⟨hl, h⟩
    exact ⟨h 0 (Nat.zero_lt_succ _), hl, fun i hi => h (i + 1) (Nat.succ_lt_succ hi)⟩
  · rintro ⟨h0, hl, h⟩
    refine ⟨hl, fun i hi => ?_⟩
    cases i with
    | zero => exact h0
    | succ i => exact h i (Nat.lt_of_succ_lt_succ hi)

theorem keysEqB_iff (xs ys : List Cell) : keysEqB xs ys = true ↔ keysEq xs ys := by
  induction xs generalizing ys with
  | nil => cases ys <;> simp [keysEqB, keysEq]
  | cons x xs ih =>
    cases ys with
    | nil => simp [keysEqB, keysEq]
    | cons y ys =>
      rw [keysEq_cons, ← ih]
      simp only [keysEqB, List.length_cons, List.zip_cons_cons, List.all_cons, Bool.and_eq_true,
        beq_iff_eq, Nat.add_right_cancel_iff]
      exact and_left_comm

/-- **key tuples** (C02, C11): `cmp` is 0 on two tuples of scalar cells exactly when they have the same number of
components and are `keyEq` component by component -/
theorem cmp_tuple_eq_iff (xs ys : List Cell) :
    cmp (.tuple (xs.map .cell)) (.tuple (ys.map .cell)) = .eq ↔ keysEq xs ys := by
  rw [cmp_tuple_eq_iffB, keysEqB_iff]

theorem lexArr_cells_right : ∀ (vs : List Val) (ys : List Cell), vs.length = ys.length →
    lexArr cmp vs (ys.map .cell) = .eq → ∃ xs : List Cell, vs = xs.map .cell
  | [], [], _, _ => ⟨[], rfl⟩
  | [], _ :: _, h, _ | _ :: _, [], h, _ => nomatch h
  | v :: vs, y :: ys, h, he => by
    rw [List.map_cons, lexArr, Ordering.then_eq_eq] at he
    obtain ⟨c', rfl⟩ := Val.eq_cell_of_rank (c := y) (cmp_rank_eq he.1)
    obtain ⟨xs, rfl⟩ := lexArr_cells_right vs ys (Nat.succ.inj h) he.2
    exact ⟨c' :: xs, rfl⟩

/-- the key a join row or a group carries: whatever `cmp` finds equal to a tuple of scalar cells is such a tuple -/
theorem cmp_eq_tuple_cells {v : Val} {ys : List Cell} (h : cmp v (.tuple (ys.map .cell)) = .eq) :
    ∃ xs : List Cell, v = .tuple (xs.map .cell) ∧ keysEq xs ys := by
  -- equal under `cmp` means equal type rank: `v` is a tuple, and then member by member a scalar cell
  obtain ⟨vs, rfl⟩ := Val.eq_tuple_of_rank (cmp_rank_eq h)
  have h' := h
  rw [cmp_tuple, Ordering.then_eq_eq, Nat.compare_eq_eq, List.length_map] at h'
  obtain ⟨xs, rfl⟩ := lexArr_cells_right vs ys h'.1 h'.2
  exact ⟨xs, rfl, (cmp_tuple_eq_iff xs ys).1 h⟩

theorem keyEq_refl (a : Cell) : keyEq a a = true := by
  rw [← Cell.cmp_eq_iff]
  exact Std.ReflCmp.compare_self

theorem keyEq_symm {a b : Cell} (h : keyEq a b = true) : keyEq b a = true := by
  rw [← Cell.cmp_eq_iff] at *
  exact Std.OrientedCmp.eq_symm h

theorem keyEq_trans {a b c : Cell} (h1 : keyEq a b = true) (h2 : keyEq b c = true) : keyEq a c = true := by
  rw [← Cell.cmp_eq_iff] at *
  exact Std.TransCmp.eq_trans h1 h2

example : keyEq (.int 1) (.flt 4) = true ∧ keyEq .none .none = true ∧ keyEq .nan .nan = true := by decide
example : keyEq (.int 1) (.str "1") = false ∧ keyEq .none .nan = false ∧ keyEq .pinf .nan = false ∧
    keyEq .pinf .ninf = false ∧ keyEq (.bool true) (.int 1) = false ∧ keyEq (.int 0) .none = false ∧
    keyEq (.int 1) (.flt 5) = false ∧ keyEq (.str "") .none = false := by decide

end Pyg
