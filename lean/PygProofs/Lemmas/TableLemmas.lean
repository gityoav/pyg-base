/-
  The dictable model (PygModel/Table.lean) through closed forms: `setitem`, the row selections, `getProj`,
  `getColE`, `finish` / `construct`, `callLoop` have an equation (`*_eq`) or an inversion (`*_ok`) through which the other
  files use them instead of unfolding them.
-/
import PygModel.Table
import PygProofs.Lemmas.Basics
import PygProofs.Lemmas.ZipLemmas

namespace Pyg
open Table

theorem mapE_eq_mapM {α β ε} (f : α → Except ε β) (xs : List α) : mapE f xs = xs.mapM f := by
  induction xs with
  | nil => rfl
  | cons x xs ih =>
    rw [mapE, List.mapM_cons, ih]
    cases f x with
    | error e => rfl
    | ok y => cases xs.mapM f <;> rfl

theorem mapE_ok_length {α β : Type} {f : α → Res β} {xs : List α} {ys : List β}
    (h : mapE f xs = .ok ys) : ys.length = xs.length :=
  List.mapM_ok_length (mapE_eq_mapM f xs ▸ h)

theorem mapE_ok_getElem {α β : Type} {f : α → Res β} {xs : List α} {ys : List β}
    (h : mapE f xs = .ok ys) (i : Nat) (hi : i < xs.length) (hi' : i < ys.length) :
    f xs[i] = .ok ys[i] := by
  obtain ⟨v, hv, hy⟩ := (List.mapM_eq_ok_iff.1 (mapE_eq_mapM f xs ▸ h)).2 i xs[i] (List.getElem?_eq_getElem hi)
  rw [hv, (List.getElem?_eq_some_iff.1 hy).2]

theorem mapE_ok_mem {α β : Type} {f : α → Res β} {xs : List α} {ys : List β}
    (h : mapE f xs = .ok ys) {y : β} (hy : y ∈ ys) : ∃ x ∈ xs, f x = .ok y :=
  List.mem_of_mapM_ok (mapE_eq_mapM f xs ▸ h) y hy

theorem mapE_of_ok {α β : Type} {f : α → Res β} {g : α → β} {xs : List α}
    (h : ∀ x ∈ xs, f x = .ok (g x)) : mapE f xs = .ok (xs.map g) :=
  (mapE_eq_mapM f xs).trans (List.mapM_ok_of_forall h)

theorem mapE_error_mem {α β ε} {f : α → Except ε β} {xs : List α} {e : ε} (h : mapE f xs = .error e) :
    ∃ x ∈ xs, f x = .error e := by
  obtain ⟨i, x, hx, he⟩ := List.mapM_eq_error (mapE_eq_mapM f xs ▸ h)
  exact ⟨x, List.mem_of_getElem? hx, he⟩

theorem mapE_congr {α β ε} {f g : α → Except ε β} {xs : List α} (h : ∀ x ∈ xs, f x = g x) :
    mapE f xs = mapE g xs := by
  rw [mapE_eq_mapM, mapE_eq_mapM, List.mapM_congr h]

theorem mapE_map {α β γ ε} (f : β → Except ε γ) (g : α → β) (xs : List α) :
    mapE f (xs.map g) = mapE (fun x => f (g x)) xs := by
  rw [mapE_eq_mapM, mapE_eq_mapM, List.mapM_map]
  rfl

theorem mapE_error_at {α β ε} (f : α → Except ε β) (e : ε) (xs : List α) (k : Nat) (hk : k < xs.length)
    (he : f xs[k] = .error e) (hb : ∀ j (hj : j < k), ∃ b, f (xs[j]'(Nat.lt_trans hj hk)) = .ok b) :
    mapE f xs = .error e := by
  induction xs generalizing k with
  | nil => cases hk
  | cons x xs ih =>
    cases k with
    | zero => simp only [mapE, show f x = .error e from he]
    | succ k =>
      obtain ⟨b, hb0⟩ := hb 0 (Nat.succ_pos k)
      have ih := ih k (Nat.lt_of_succ_lt_succ hk) he (fun j hj => hb (j + 1) (Nat.succ_lt_succ hj))
      simp only [mapE, show f x = .ok b from hb0, ih]

theorem lens_nil : lens [] = .ok 0 := rfl

theorem lens_eq_lensOf (ls : List Nat) : lens ls = lensOf ls := rfl

theorem lens_error_iff (ls : List Nat) :
    lens ls = .error .value ↔ ∃ a ∈ ls, ∃ b ∈ ls, a ≠ 1 ∧ b ≠ 1 ∧ a ≠ b := by
  rw [lens_eq_lensOf, lensOf_error_iff]
  constructor
  · rintro ⟨_, a, ha, b, hb, hab, h1, h2⟩
    exact ⟨a, ha, b, hb, h1, h2, hab⟩
  · rintro ⟨a, ha, b, hb, h1, h2, hab⟩
    exact ⟨rfl, a, ha, b, hb, hab, h1, h2⟩

theorem lens_error_value {ls : List Nat} {e : Err} (h : lens ls = .error e) : e = .value :=
  ((lensOf_error_iff ls e).1 h).1

theorem lens_ok_inv {ls : List Nat} {n : Nat} (hne : ls ≠ []) (h : lens ls = .ok n) :
    (∀ l ∈ ls, l = n ∨ l = 1) ∧ (n = 1 ∨ n ∈ ls) := by
  have hagree : ∀ a ∈ ls, ∀ b ∈ ls, a ≠ 1 → b ≠ 1 → a = b := fun a ha b hb ha1 hb1 =>
    Classical.byContradiction fun hab => by
      rw [(lens_error_iff ls).2 ⟨a, ha, b, hb, ha1, hb1, hab⟩] at h
      cases h
  by_cases hex : ∃ a ∈ ls, a ≠ 1
  · obtain ⟨a, ha, ha1⟩ := hex
    have hall : ∀ l ∈ ls, l = a ∨ l = 1 := fun l hl =>
      (Classical.em (l = 1)).elim Or.inr fun h1 => Or.inl (hagree l hl a ha h1 ha1)
    have hn : a = n := Except.ok.inj ((lensOf_ok ls a hne hall (Or.inr ha)).symm.trans h)
    exact hn ▸ ⟨hall, Or.inr ha⟩
  · have h1 : ∀ l ∈ ls, l = 1 := fun l hl => Classical.byContradiction fun hl1 => hex ⟨l, hl, hl1⟩
    cases (lensOf_ok ls 1 hne (fun l hl => Or.inl (h1 l hl)) (Or.inl rfl)).symm.trans h
    exact ⟨fun l hl => Or.inl (h1 l hl), Or.inl rfl⟩

theorem lens_of_mem {ls : List Nat} {n : Nat} (hall : ∀ l ∈ ls, l = n ∨ l = 1) (hex : n ∈ ls) :
    lens ls = .ok n :=
  lensOf_ok ls n (List.ne_nil_of_mem hex) hall (Or.inr hex)

theorem lens_const {ls : List Nat} {n : Nat} (hne : ls ≠ []) (h : ∀ l ∈ ls, l = n) : lens ls = .ok n := by
  obtain ⟨a, as, rfl⟩ := List.exists_cons_of_ne_nil hne
  exact lensOf_ok _ n hne (fun l hl => Or.inl (h l hl)) (Or.inr (h a List.mem_cons_self ▸ List.mem_cons_self))

theorem lens_ok {ls : List Nat} {n : Nat} (h : lens ls = .ok n) : ∀ l ∈ ls, l = n ∨ l = 1 := fun l hl =>
  (lens_ok_inv (List.ne_nil_of_mem hl) h).1 l hl

theorem lens_ok_mem {ls : List Nat} {n : Nat} (h : lens ls = .ok n) (hn : n ≠ 1) (hne : ls ≠ []) : n ∈ ls :=
  (lens_ok_inv hne h).2.resolve_left hn

theorem lens_big_iff (ls : List Nat) : (∀ n, lens ls = .ok n → 1 < n) ↔ ∃ l ∈ ls, 2 ≤ l := by
  constructor
  · intro h
    cases hl : lens ls with
    | ok n =>
      have hn := h n hl
      have hne : ls ≠ [] := by
        rintro rfl
        cases hl
        exact absurd hn (by decide)
      exact ⟨n, lens_ok_mem hl (by omega) hne, hn⟩
    | error e =>
      obtain ⟨a, ha, b, hb, h1, h2, h3⟩ := (lens_error_iff ls).1 (by rw [hl, lens_error_value hl])
      by_cases h : 2 ≤ a
      · exact ⟨a, ha, h⟩
      · exact ⟨b, hb, by omega⟩
  · rintro ⟨l, hl, h2⟩ n hn
    rcases lens_ok hn l hl with h | h <;> omega

theorem lens_pair_self (n : Nat) : lens [n, n] = .ok n :=
  lens_const (List.cons_ne_nil _ _) (by simp)

theorem lens_pair_one_right (n : Nat) : lens [n, 1] = .ok n := by
  by_cases h : n = 1
  · subst h; rfl
  · simp [lens, h]

theorem lens_pair_one_left (k : Nat) : lens [1, k] = .ok k := by
  by_cases h : k = 1
  · subst h; rfl
  · simp [lens, h]

theorem lens_pair_misfit {n k : Nat} (hn : n ≠ 1) (hk : k ≠ 1) (hnk : k ≠ n) : lens [n, k] = .error .value := by
  simp [lens, hn, hk]
  omega

theorem bcast_length {α} {n : Nat} {v : List α} (h : v.length = n ∨ v.length = 1) :
    (bcast n v).length = n := by
  unfold bcast
  split
  · simp
  · rename_i hne
    rcases h with h | h
    · exact h
    · exfalso
      match v, h with
      | [x], _ => exact hne x rfl

theorem bcast_self {α} {n : Nat} {v : List α} (h : v.length = n) : bcast n v = v := by
  unfold bcast
  split
  · simp at h; subst h; rfl
  · rfl

theorem bcast_singleton {α} (n : Nat) (x : α) : bcast n [x] = List.replicate n x := rfl

theorem bcast_map {α β} (f : α → β) (n : Nat) (xs : List α) : bcast n (xs.map f) = (bcast n xs).map f := by
  cases xs with
  | nil => rfl
  | cons x xs =>
    cases xs with
    | nil => simp [bcast]
    | cons y ys => rfl

theorem mem_of_mem_bcast {α} {n : Nat} {v : List α} {x : α} (h : x ∈ bcast n v) : x ∈ v := by
  unfold bcast at h
  split at h
  · rw [List.eq_of_mem_replicate h]
    exact List.mem_singleton.2 rfl
  · exact h

theorem bcast_getD_of_one {c j : Nat} {r : List Cell} (h1 : r.length = 1) (hj : j < c) :
    (bcast c r).getD j .none = r.getD 0 .none := by
  match r, h1 with
  | [a], _ => simp [bcast, List.getD_eq_getElem?_getD, hj]

theorem zipper2_same {α β} {xs : List α} {ys : List β} (h : ys.length = xs.length) :
    zipper2 xs ys = .ok (xs.zip ys) := by
  unfold zipper2
  rw [h, lens_pair_self]
  simp only
  rw [bcast_self rfl, bcast_self h]

theorem zipper2_one_right {α β} (xs : List α) (y : β) :
    zipper2 xs [y] = .ok (xs.zip (List.replicate xs.length y)) := by
  unfold zipper2
  rw [List.length_singleton, lens_pair_one_right]
  simp only
  rw [bcast_self rfl, bcast_singleton]

theorem zipper2_right_fits {α β} {xs : List α} {ys : List β} (h : ys.length = xs.length ∨ ys.length = 1) :
    zipper2 xs ys = .ok (xs.zip (bcast xs.length ys)) := by
  rcases h with h | h
  · rw [zipper2_same h, bcast_self h]
  · obtain ⟨y, rfl⟩ := List.length_eq_one_iff.1 h
    rw [zipper2_one_right, bcast_singleton]

theorem zipper2_one_left {α β} (x : α) (ys : List β) :
    zipper2 [x] ys = .ok ((List.replicate ys.length x).zip ys) := by
  unfold zipper2
  rw [List.length_singleton, lens_pair_one_left]
  simp only
  rw [bcast_self rfl, bcast_singleton]

theorem zipper2_misfit {α β} {xs : List α} {ys : List β} (hx : xs.length ≠ 1) (hy : ys.length ≠ 1)
    (h : ys.length ≠ xs.length) : zipper2 xs ys = .error .value := by
  unfold zipper2
  rw [lens_pair_misfit hx hy h]

theorem zipper2_map {α β γ} (f : α → γ) (xs : List α) (m : List β) :
    zipper2 (xs.map f) m =
      match zipper2 xs m with
      | .error e => .error e
      | .ok ps => .ok (ps.map fun p => (f p.1, p.2)) := by
  unfold zipper2
  rw [List.length_map]
  cases lens [xs.length, m.length] with
  | error e => rfl
  | ok n =>
    simp only [bcast_map, List.zip_map_left]
    congr 1

theorem zipper2_ok_fst {α β} {xs : List α} {ys : List β} {ps : List (α × β)} (h : zipper2 xs ys = .ok ps) :
    ∀ p ∈ ps, p.1 ∈ xs := by
  unfold zipper2 at h
  split at h
  · cases h
  · cases h
    exact fun p hp => mem_of_mem_bcast (List.of_mem_zip hp).1

theorem zipper_of_lens {α} (d : α) {vs : List (List α)} {n : Nat} (hl : lens (vs.map (·.length)) = .ok n) :
    zipper d vs = .ok ((List.range n).map fun i => vs.map fun v => (bcast n v).getD i d) := by
  unfold zipper
  rw [hl]

theorem dedupKeys_eq_eraseDups : ∀ ks : List String, dedupKeys ks = ks.eraseDups
  | [] => rfl
  | k :: ks => by
    rw [dedupKeys, dedupKeys_eq_eraseDups ks, List.eraseDups_cons, List.eraseDups_filter]
    rfl

theorem mem_dedupKeys {k : String} {ks : List String} : k ∈ dedupKeys ks ↔ k ∈ ks := by
  rw [dedupKeys_eq_eraseDups, List.mem_eraseDups]

theorem nodup_dedupKeys (ks : List String) : (dedupKeys ks).Nodup :=
  dedupKeys_eq_eraseDups ks ▸ List.nodup_eraseDups ks

theorem dedupKeys_append_singleton (xs : List String) (k : String) :
    dedupKeys (xs ++ [k]) = if k ∈ xs then dedupKeys xs else dedupKeys xs ++ [k] := by
  simp only [dedupKeys_eq_eraseDups, List.eraseDups_append]
  by_cases h : k ∈ xs <;> simp [h, List.removeAll, List.eraseDups_cons]

theorem dedupKeys_of_nodup (l : List String) (h : l.Nodup) : dedupKeys l = l :=
  (dedupKeys_eq_eraseDups l).trans (List.eraseDups_of_nodup l h)

theorem dedupKeys_dedup_left (xs ys : List String) : dedupKeys (dedupKeys xs ++ ys) = dedupKeys (xs ++ ys) := by
  simp only [dedupKeys_eq_eraseDups, List.eraseDups_append, List.eraseDups_eraseDups]
  congr 2
  apply List.filter_congr
  intro a _
  simp [List.mem_eraseDups]

theorem dedupKeys_dedup_right (xs ys : List String) : dedupKeys (xs ++ dedupKeys ys) = dedupKeys (xs ++ ys) := by
  simp only [dedupKeys_eq_eraseDups, List.eraseDups_append, List.removeAll, List.eraseDups_filter, List.eraseDups_eraseDups]

namespace Table

theorem rect_nil (n : Nat) : Rect [] n := by intro c hc; cases hc

theorem nrows_of_rect {t : Table} {n : Nat} (h : t.Rect n) (hne : t ≠ []) : t.nrows = n := by
  cases t with
  | nil => exact absurd rfl hne
  | cons c t => exact h c List.mem_cons_self

theorem nrows_of_rect_zero {t : Table} (h : t.Rect 0) : t.nrows = 0 := by
  cases t with
  | nil => rfl
  | cons c t => exact h c List.mem_cons_self

theorem len_nil : Table.len [] = .ok 0 := rfl

theorem len_rect {t : Table} {n : Nat} (h : t.Rect n) (hne : t ≠ []) : t.len = .ok n := by
  unfold Table.len
  apply lens_const
  · simpa using hne
  · intro l hl
    obtain ⟨c, hc, rfl⟩ := List.mem_map.1 hl
    exact h c hc

theorem len_eq_nrows {t : Table} {n : Nat} (h : t.Rect n) : t.len = .ok t.nrows := by
  cases t with
  | nil => rfl
  | cons c t =>
    have := len_rect h (by simp)
    rw [this, nrows_of_rect h (by simp)]

theorem finish_eq (t : Table) : t.finish = t.len.map fun n => t.map fun c => (c.1, bcast n c.2) := by
  unfold finish
  cases t.len <;> rfl

theorem finish_ok {t t' : Table} (h : t.finish = .ok t') :
    ∃ n, t.len = .ok n ∧ t' = t.map fun c => (c.1, bcast n c.2) := by
  rw [finish_eq] at h
  cases hl : t.len with
  | error e => rw [hl] at h; cases h
  | ok n => rw [hl] at h; exact ⟨n, rfl, (Except.ok.inj h).symm⟩

/-- the last step of `dictable.__init__` (`n = lens(*kwargs.values())`, length-1 columns repeated) is the
identity on a rectangular dict -/
theorem finish_rect {t : Table} {n : Nat} (h : t.Rect n) : t.finish = .ok t := by
  rw [finish_eq, len_eq_nrows h]
  refine congrArg Except.ok ((List.map_congr_left fun c hc => ?_).trans (List.map_id' t))
  cases t with
  | nil => cases hc
  | cons c0 t0 => rw [nrows_of_rect h (by simp), bcast_self (h c hc)]

theorem rect_map_bcast {t : Table} {n : Nat} (h : t.len = .ok n) : Rect (t.map fun c => (c.1, bcast n c.2)) n := by
  intro c hc
  obtain ⟨c', hc', rfl⟩ := List.mem_map.1 hc
  exact bcast_length (lens_ok h _ (List.mem_map.2 ⟨c', hc', rfl⟩))

theorem finish_ok_rect {t t' : Table} (h : t.finish = .ok t') : ∃ n, t'.Rect n := by
  obtain ⟨n, hn, rfl⟩ := finish_ok h
  exact ⟨n, rect_map_bcast hn⟩

theorem has_nil (k : String) : Table.has [] k = false := rfl

theorem set_eq_setKey (t : Table) (k : String) (v : List Cell) : t.set k v = List.setKey t k v := rfl

theorem set_rect {t : Table} {n : Nat} {k : String} {v : List Cell} (h : t.Rect n) (hv : v.length = n) :
    (t.set k v).Rect n :=
  fun c hc => (List.mem_setKey hc).elim (h c) (· ▸ hv)

theorem set_ne_nil (t : Table) (k : String) (v : List Cell) : t.set k v ≠ [] := by
  unfold Table.set
  split
  · rename_i hh
    intro he
    have : t = [] := by simpa using he
    subst this
    simp [Table.has] at hh
  · simp

theorem erase_rect {t : Table} {n : Nat} (k : String) (h : t.Rect n) : (t.erase k).Rect n := by
  intro c hc
  exact h c (List.mem_filter.1 hc).1

theorem emptyLike_rect (t : Table) : t.emptyLike.Rect 0 := by
  intro c hc
  obtain ⟨c', _, rfl⟩ := List.mem_map.1 hc
  rfl

theorem foldl_set_rect {n : Nat} (kvs : List (String × List Cell)) (h : ∀ kv ∈ kvs, kv.2.length = n)
    (t : Table) (ht : t.Rect n) : (kvs.foldl (fun t kv => t.set kv.1 kv.2) t).Rect n :=
  List.foldl_preserves (P := fun t : Table => t.Rect n) (fun _ kv hkv hb => set_rect hb (h kv hkv)) ht

theorem ofPairs_rect {n : Nat} {kvs : List (String × List Cell)} (h : ∀ kv ∈ kvs, kv.2.length = n) :
    (ofPairs kvs).Rect n := foldl_set_rect kvs h [] (rect_nil n)

theorem isEmpty_false {t : Table} (hne : t ≠ []) : t.isEmpty = false := by cases t <;> simp_all

theorem setitem_nil (k : String) (v : ColVal) : Table.setitem [] k v = .ok [(k, v.value)] := by
  simp [setitem, Table.len, lens, Table.set, Table.has]

/-- the code's two success branches agree: `bcast n v = v` for a value of length `n` -/
theorem setitem_eq {t : Table} {n : Nat} (hr : t.Rect n) (hne : t ≠ []) (k : String) (v : ColVal) :
    t.setitem k v = if v.value.length = n ∨ v.value.length = 1 then .ok (t.set k (bcast n v.value))
      else .error .value := by
  unfold setitem
  rw [len_rect hr hne, isEmpty_false hne]
  simp only [Bool.or_false, beq_iff_eq]
  by_cases h1 : v.value.length = n
  · rw [if_pos h1, if_pos (Or.inl h1), bcast_self h1]
  · rw [if_neg h1]
    by_cases h2 : v.value.length = 1
    · rw [if_pos h2, if_pos (Or.inr h2)]
    · rw [if_neg h2, if_neg (fun h => h.elim h1 h2)]

theorem setitem_ok {t t' : Table} {n : Nat} (hr : t.Rect n) (hne : t ≠ []) {k : String} {v : ColVal}
    (h : t.setitem k v = .ok t') : (v.value.length = n ∨ v.value.length = 1) ∧ t' = t.set k (bcast n v.value) := by
  rw [setitem_eq hr hne] at h
  split at h
  · exact ⟨‹_›, (Except.ok.inj h).symm⟩
  · cases h

theorem setitem_ok_set {t t' : Table} {k : String} {v : ColVal} (h : t.setitem k v = .ok t') :
    ∃ v', t' = t.set k v' := by
  unfold Table.setitem at h
  split at h
  · cases h
  · dsimp only at h
    split at h
    · exact ⟨_, (Except.ok.inj h).symm⟩
    · split at h
      · exact ⟨_, (Except.ok.inj h).symm⟩
      · cases h

theorem setitem_fits {t : Table} {n : Nat} (hr : t.Rect n) (hne : t ≠ []) (k : String) {v : ColVal}
    (hv : v.value.length = n) : t.setitem k v = .ok (t.set k v.value) := by
  rw [setitem_eq hr hne, if_pos (Or.inl hv), bcast_self hv]

theorem setitem_empty_col {t : Table} (hr : t.Rect 0) (k : String) :
    t.setitem k (.many []) = .ok (t.set k []) := by
  by_cases hne : t = []
  · rw [hne]; rfl
  · exact setitem_fits hr hne k rfl

theorem setitem_of_mapE_rows {t : Table} {n : Nat} (hr : t.Rect n) (hne : t ≠ []) {g : Nat → Except Err Cell}
    {vs : List Cell} (hvs : mapE g (List.range t.nrows) = .ok vs) (k : String) :
    vs.length = n ∧ t.setitem k (.many vs) = .ok (t.set k vs) := by
  have hlen : vs.length = n := by rw [mapE_ok_length hvs, List.length_range, nrows_of_rect hr hne]
  exact ⟨hlen, setitem_fits hr hne k (v := .many vs) hlen⟩

theorem setitem_rect_same {t t' : Table} {n : Nat} {k : String} {v : ColVal} (h : t.Rect n) (hne : t ≠ [])
    (hs : t.setitem k v = .ok t') : t'.Rect n ∧ t' ≠ [] := by
  obtain ⟨hl, rfl⟩ := setitem_ok h hne hs
  exact ⟨set_rect h (bcast_length hl), set_ne_nil _ _ _⟩

theorem setitem_rect {t t' : Table} {n : Nat} {k : String} {v : ColVal} (h : t.Rect n)
    (hs : t.setitem k v = .ok t') : ∃ n', t'.Rect n' := by
  by_cases hne : t = []
  · subst hne
    cases (setitem_nil k v).symm.trans hs
    exact ⟨v.value.length, fun c hc => by rw [List.mem_singleton.1 hc]⟩
  · exact ⟨n, (setitem_rect_same h hne hs).1⟩

/-- the callables `callLoop` evaluates at a stage: those that read no pending key -/
def indepFns (fns : List (String × Fn)) : List (String × Fn) :=
  fns.filter fun kf => kf.2.args.all fun a => !(fns.map (·.1)).contains a

/-- the callables still pending after that stage -/
def restFns (fns : List (String × Fn)) : List (String × Fn) :=
  fns.filter fun kf => !((indepFns fns).any (·.1 == kf.1))

theorem callLoop_succ (fuel : Nat) (res : Table) (fns : List (String × Fn)) :
    res.callLoop (fuel + 1) fns =
      if fns.length > 1 then
        if (indepFns fns).isEmpty then .error .value
        else match res.setFns (indepFns fns) with
          | .error e => .error e
          | .ok res' => res'.callLoop fuel (restFns fns)
      else res.setFns fns := rfl

theorem callLoop_induct {motive : Nat → Table → List (String × Fn) → Except Err Table → Prop}
    (last : ∀ fuel res fns, fuel = 0 ∨ fns.length ≤ 1 → motive fuel res fns (res.setFns fns))
    (circ : ∀ fuel res fns, 1 < fns.length → indepFns fns = [] → motive (fuel + 1) res fns (.error .value))
    (fail : ∀ fuel res fns e, 1 < fns.length → indepFns fns ≠ [] → res.setFns (indepFns fns) = .error e →
      motive (fuel + 1) res fns (.error e))
    (next : ∀ fuel res fns res', 1 < fns.length → indepFns fns ≠ [] → res.setFns (indepFns fns) = .ok res' →
      motive fuel res' (restFns fns) (res'.callLoop fuel (restFns fns)) →
      motive (fuel + 1) res fns (res'.callLoop fuel (restFns fns))) :
    ∀ fuel res fns, motive fuel res fns (res.callLoop fuel fns) := by
  intro fuel
  induction fuel with
  | zero => exact fun res fns => last 0 res fns (Or.inl rfl)
  | succ fuel ih =>
    intro res fns
    rw [callLoop_succ]
    split
    · rename_i hlen
      split
      · exact circ fuel res fns hlen (List.isEmpty_iff.1 ‹_›)
      · rename_i hind
        have hne : indepFns fns ≠ [] := fun h => hind (List.isEmpty_iff.2 h)
        split
        · exact fail fuel res fns _ hlen hne ‹_›
        · exact next fuel res fns _ hlen hne ‹_› (ih _ _)
    · exact last _ res fns (Or.inr (Nat.le_of_not_lt ‹_›))

section Keeps
variable {P : Table → Prop} (hP : ∀ {t t' : Table} {k : String} {v : ColVal}, P t → t.setitem k v = .ok t' → P t')
include hP

theorem update_keeps {t : Table} (kvs : List (String × ColVal)) (h : P t) : P (t.update kvs).1 := by
  induction kvs generalizing t with
  | nil => exact h
  | cons kv kvs ih =>
    obtain ⟨k, v⟩ := kv
    simp only [update]
    split
    · exact h
    · rename_i t' hs
      exact ih (hP h hs)

theorem updateE_keeps {t t' : Table} {kvs : List (String × ColVal)} (h : P t) (hu : t.updateE kvs = .ok t') :
    P t' := by
  have := update_keeps hP kvs h
  unfold updateE at hu
  split at hu
  · rename_i t'' heq
    cases hu
    rwa [heq] at this
  · cases hu

theorem setFn_keeps {t t' : Table} {kf : String × Fn} (h : P t) (hs : t.setFn kf = .ok t') : P t' := by
  unfold setFn at hs
  split at hs
  · cases hs
  · exact hP h hs

theorem setFns_keeps {t t' : Table} (fns : List (String × Fn)) (h : P t) (hs : t.setFns fns = .ok t') : P t' := by
  induction fns generalizing t with
  | nil => cases hs; exact h
  | cons kf fns ih =>
    simp only [setFns] at hs
    split at hs
    · cases hs
    · rename_i t1 h1
      exact ih (setFn_keeps hP h h1) hs

theorem callLoop_keeps {t t' : Table} (fuel : Nat) (fns : List (String × Fn)) (h : P t)
    (hs : t.callLoop fuel fns = .ok t') : P t' := by
  refine callLoop_induct (motive := fun _ t _ r => P t → ∀ t', r = .ok t' → P t') ?_ ?_ ?_ ?_ fuel t fns h t' hs
  · exact fun _ res fns _ h t' hs => setFns_keeps hP fns h hs
  · exact fun _ _ _ _ _ _ _ hs => nomatch hs
  · exact fun _ _ _ _ _ _ _ _ _ hs => nomatch hs
  · exact fun _ res fns res' _ _ hres ih h => ih (setFns_keeps hP _ h hres)

theorem call_keeps {t t' : Table} {consts : List (String × ColVal)} {fns : List (String × Fn)} (h : P t)
    (hs : t.call consts fns = .ok t') : P t' := by
  unfold call at hs
  split at hs
  · cases hs
  · rename_i t1 h1
    exact callLoop_keeps hP _ _ (updateE_keeps hP h h1) hs

theorem doKey_keeps {t t' : Table} {f : DoFn} {k : String} (h : P t) (hs : t.doKey f k = .ok t') : P t' := by
  unfold doKey at hs
  split at hs
  · cases hs
  · exact hP h hs

theorem doKeys_keeps {t t' : Table} {f : DoFn} (ks : List String) (h : P t) (hs : t.doKeys f ks = .ok t') :
    P t' := by
  induction ks generalizing t with
  | nil => cases hs; exact h
  | cons k ks ih =>
    simp only [doKeys] at hs
    split at hs
    · cases hs
    · rename_i t1 h1
      exact ih (doKey_keeps hP h h1) hs

end Keeps

theorem setitem_keeps_rect {t t' : Table} {k : String} {v : ColVal} (h : ∃ n, t.Rect n)
    (hs : t.setitem k v = .ok t') : ∃ n, t'.Rect n :=
  h.elim fun _ hn => setitem_rect hn hs

theorem updateE_rect {t t' : Table} {n : Nat} {kvs : List (String × ColVal)} (h : t.Rect n)
    (hu : t.updateE kvs = .ok t') : ∃ n', t'.Rect n' := updateE_keeps setitem_keeps_rect ⟨n, h⟩ hu

theorem cols_map {α} (l : List α) (f : α → String × List Cell) : Table.cols (l.map f) = l.map fun x => (f x).1 :=
  List.map_map

theorem cols_map_key (t : Table) (f : String → String) :
    Table.cols (t.map fun c => (f c.1, c.2)) = t.cols.map f := by
  rw [cols_map, cols, List.map_map]
  rfl

theorem cols_map_snd (t : Table) (f : String × List Cell → List Cell) :
    Table.cols (t.map fun c => (c.1, f c)) = t.cols :=
  cols_map t _

theorem getSlice_ok {t t' : Table} {a b s : Option Int} (h : t.getSlice a b s = .ok t') :
    t' = t.map fun c => (c.1, pySlice c.2 a b (s.getD 1)) := by
  unfold getSlice at h
  split at h
  · cases h
  · exact (Except.ok.inj h).symm

theorem getMask_eq (t : Table) (m : List Bool) : t.getMask m = (maskIdx t.nrows m).map t.gatherRows := by
  unfold getMask
  cases maskIdx t.nrows m with
  | error e => rfl
  | ok idx => cases idx <;> rfl

theorem getMaskC_ok {t t' : Table} {m : List Bool} (h : t.getMaskC m = .ok t') : t.getMask m = .ok t' := by
  unfold getMaskC at h
  split at h
  · exact h
  · cases h

theorem delitem_ok {t t' : Table} {k : String} (h : t.delitem k = .ok t') : t' = t.erase k := by
  unfold delitem at h
  split at h
  · exact (Except.ok.inj h).symm
  · cases h

theorem getMask_ok {t t' : Table} {m : List Bool} (h : t.getMask m = .ok t') :
    ∃ idx, maskIdx t.nrows m = .ok idx ∧ t' = t.gatherRows idx := by
  rw [getMask_eq] at h
  cases hi : maskIdx t.nrows m with
  | error e => rw [hi] at h; cases h
  | ok idx => rw [hi] at h; exact ⟨idx, rfl, (Except.ok.inj h).symm⟩

theorem mapE_pyIdx (n : Nat) (is : List Int) :
    mapE (fun i => match pyIdx n i with | some j => Except.ok j | Option.none => Except.error Err.index) is =
      if is.all (fun i => (pyIdx n i).isSome) then .ok (is.filterMap (pyIdx n)) else .error .index := by
  rw [mapE_eq_mapM]
  exact List.mapM_eq_ite_all _ _ fun i _ => by cases pyIdx n i <;> rfl

theorem getTake_eq (t : Table) (is : List Int) :
    t.getTake is = if is.all (fun i => (pyIdx t.nrows i).isSome) then
      .ok (t.gatherRows (is.filterMap (pyIdx t.nrows))) else .error .index := by
  unfold getTake
  cases is with
  | nil => rfl
  | cons i is =>
    rw [if_neg (by simp)]
    -- the `match` in `getTake` and the one in `mapE_pyIdx` agree only after unfolding
    erw [mapE_pyIdx]
    cases (i :: is).all fun i => (pyIdx t.nrows i).isSome <;> rfl

theorem getTake_ok {t t' : Table} {is : List Int} (h : t.getTake is = .ok t') :
    (∀ i ∈ is, (pyIdx t.nrows i).isSome) ∧ t' = t.gatherRows (is.filterMap (pyIdx t.nrows)) := by
  rw [getTake_eq] at h
  split at h
  · exact ⟨fun i hi => List.all_eq_true.1 ‹_› i hi, (Except.ok.inj h).symm⟩
  · cases h

theorem has_iff_col? (t : Table) (k : String) : t.has k = true ↔ ∃ col, t.col? k = some col := by
  rw [← Option.isSome_iff_exists, col?, Option.isSome_map, List.find?_isSome, Table.has, List.any_eq_true]

theorem contains_cols (t : Table) (k : String) : t.cols.contains k = t.has k := by
  unfold Table.has cols
  induction t with
  | nil => rfl
  | cons c t ih =>
    simp only [List.map_cons, List.contains_cons, List.any_cons, ih]
    rw [Bool.beq_comm]

theorem has_eq_isSome_col? (t : Table) (k : String) : t.has k = (t.col? k).isSome :=
  Bool.eq_iff_iff.2 ((has_iff_col? t k).trans Option.isSome_iff_exists.symm)

theorem col?_eq_lookup (t : Table) (k : String) : t.col? k = t.lookup k := List.find?_key_map_snd t k

theorem has_iff_mem_cols (t : Table) (k : String) : t.has k = true ↔ k ∈ t.cols := List.any_key_iff_mem_keys

theorem col?_eq_none {t : Table} {k : String} (h : t.has k = false) : t.col? k = Option.none := by
  cases hc : t.col? k with
  | none => rfl
  | some col => rw [(has_iff_col? t k).2 ⟨col, hc⟩] at h; cases h

theorem col?_of_mem {t : Table} {k : String} (h : k ∈ t.cols) : ∃ xs, t.col? k = some xs :=
  (has_iff_col? t k).1 ((has_iff_mem_cols t k).2 h)

theorem mem_cols_of_col? {t : Table} {k : String} {xs : List Cell} (h : t.col? k = some xs) : k ∈ t.cols :=
  (has_iff_mem_cols t k).1 ((has_iff_col? t k).2 ⟨xs, h⟩)

theorem ne_nil_of_has {t : Table} {k : String} (h : t.has k = true) : t ≠ [] := by
  rintro rfl; cases h

theorem ne_nil_of_col? {t : Table} {k : String} {col : List Cell} (h : t.col? k = some col) : t ≠ [] := by
  rintro rfl; cases h

theorem getCol_of_col? {t : Table} {k : String} {c : List Cell} (h : t.col? k = some c) : t.getCol k = c := by
  simp [getCol, h]

theorem col?_mem {t : Table} {k : String} {c : List Cell} (h : t.col? k = some c) : ∃ e ∈ t, e.2 = c := by
  obtain ⟨e, he, rfl⟩ := Option.map_eq_some_iff.1 h
  exact ⟨e, (List.find?_key_some he).1, rfl⟩

theorem col?_length {t : Table} {n : Nat} {k : String} {c : List Cell} (hr : t.Rect n)
    (h : t.col? k = some c) : c.length = n := by
  obtain ⟨e, he, rfl⟩ := col?_mem h
  exact hr e he

theorem getColE_eq (t : Table) (k : String) :
    t.getColE k = if t.cols.contains k then .ok (t.getCol k) else .error .key := by
  rw [contains_cols, has_eq_isSome_col?]
  unfold getColE getCol
  cases t.col? k <;> rfl

theorem mapE_getColE {β} (t : Table) (g : String → List Cell → β) (ks : List String) :
    mapE (fun k => (t.getColE k).map (g k)) ks =
      if ks.all t.cols.contains then .ok (ks.map fun k => g k (t.getCol k)) else .error .key := by
  induction ks with
  | nil => rfl
  | cons k ks ih =>
    rw [mapE, ih, getColE_eq, List.all_cons]
    cases t.cols.contains k with
    | false => rfl
    | true => cases ks.all t.cols.contains <;> rfl

theorem getProj_eq (t : Table) (ks : List String) :
    t.getProj ks = if ks.isEmpty then .ok t.emptyLike else
      if ks.all t.cols.contains then .ok (ofPairs (ks.map fun k => (k, t.getCol k))) else .error .key := by
  unfold getProj
  split
  · rfl
  · rw [mapE_congr (g := fun k => (t.getColE k).map fun c => (k, c)) (fun k _ => by cases t.getColE k <;> rfl),
      mapE_getColE]
    cases ks.all t.cols.contains <;> rfl

theorem getProj_ok {t t' : Table} {ks : List String} (h : t.getProj ks = .ok t') :
    t' = t.emptyLike ∨ t' = ofPairs (ks.map fun k => (k, t.getCol k)) := by
  rw [getProj_eq] at h
  split at h
  · exact Or.inl (Except.ok.inj h).symm
  · split at h
    · exact Or.inr (Except.ok.inj h).symm
    · cases h

/-- the `columns` restriction of `dictable.__init__`: the dict restricted to `columns` (absent ones `[None]`; empty columns when
there is no data at all) -/
def restrict (columns : Option (List String)) (kw : Table) : Table :=
  match columns with
  | Option.none => kw
  | some cs =>
    if kw.length > 0 then ofPairs (cs.map fun k => (k, (kw.col? k).getD [Cell.none]))
    else ofPairs (cs.map fun k => (k, []))

theorem construct_of_dataCols_none {data : Data} {columns : Option (List String)}
    (kwargs : List (String × ColVal)) (hdc : dataCols data columns = Option.none) :
    construct data columns kwargs = Option.none := by
  simp only [construct, hdc]

theorem construct_of_dataCols_error {data : Data} {columns : Option (List String)}
    {kwargs : List (String × ColVal)} {e : Err} (hdc : dataCols data columns = some (.error e)) :
    construct data columns kwargs = some (.error e) := by
  simp only [construct, hdc]

theorem construct_of_dataCols_ok {data : Data} {columns : Option (List String)} {dk : Table}
    (kwargs : List (String × ColVal)) (hdc : dataCols data columns = some (.ok dk)) :
    construct data columns kwargs =
      some (restrict columns ((ofPairs (kwargs.map fun kv => (kv.1, kv.2.value))).updateWith dk)).finish := by
  simp only [construct, hdc]
  rfl

theorem construct_ok {data : Data} {columns : Option (List String)} {kwargs : List (String × ColVal)} {t : Table}
    (h : construct data columns kwargs = some (.ok t)) :
    ∃ dk, dataCols data columns = some (.ok dk) ∧
      (restrict columns ((ofPairs (kwargs.map fun kv => (kv.1, kv.2.value))).updateWith dk)).finish = .ok t := by
  cases hdc : dataCols data columns with
  | none => rw [construct_of_dataCols_none _ hdc] at h; cases h
  | some r =>
    cases r with
    | error e => rw [construct_of_dataCols_error hdc] at h; cases h
    | ok dk => rw [construct_of_dataCols_ok _ hdc] at h; exact ⟨dk, rfl, Option.some.inj h⟩

end Table
end Pyg
