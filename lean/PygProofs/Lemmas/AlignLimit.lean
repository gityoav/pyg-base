/-
  C03, `limit` on the as-of join: the model's walk along the requested labels with a counter (`limAux`, pandas' `pad` /
  `backfill`) equals a counter-free description - a requested label `t` gets the observation `(s, v)` it lands on iff `s = t` or
  fewer than `limit` requested labels lie strictly between `s` and `t`.  One induction for both directions (`before d`).
-/
import PygProofs.Lemmas.AlignAsOf

namespace Pyg.Align
open Pyg Pyg.Fill

/-- number of requested labels strictly between `a` and `b` -/
def between (idx : List Int) (a b : Int) : Nat := idx.countP fun u => decide (a < u ∧ u < b)

/-- the cell of a requested label `t` under ffill with a limit, from the reference: the last non-NaN observation `(s, v)` at or
before `t` iff `s = t` or fewer than `limit` requested labels lie strictly between `s` and `t` -/
def ffillLim (lim : Option Nat) (idx : List Int) (ix : List Int) (c : Col) (t : Int) : Option Int :=
  match lastObsAt ix c t with
  | Option.none => Option.none
  | some (s, v) => if s = t ∨ within lim (between idx s t) = true then some v else Option.none

/-- the mirror image for bfill (the count runs over the requested labels strictly between `t` and `s`) -/
def bfillLim (lim : Option Nat) (idx : List Int) (ix : List Int) (c : Col) (t : Int) : Option Int :=
  match firstObsAt ix c t with
  | Option.none => Option.none
  | some (s, v) => if s = t ∨ within lim (between idx t s) = true then some v else Option.none

/-- `a` comes strictly before `b` in the direction of the fill -/
def before (d : Dir) (a b : Int) : Bool :=
  match d with
  | .ffill => decide (a < b)
  | .bfill => decide (b < a)

theorem before_irrefl (d : Dir) (a : Int) : before d a a = false := by
  cases d <;> exact decide_eq_false (Int.lt_irrefl a)

theorem before_asymm (d : Dir) (a b : Int) (h : before d a b = true) : before d b a = false := by
  cases d <;> exact decide_eq_false (Int.not_lt.mpr (Int.le_of_lt (of_decide_eq_true h)))

theorem before_trans (d : Dir) (a b c : Int) (h1 : before d a b = true) (h2 : before d b c = true) : before d a c = true := by
  cases d
  · exact decide_eq_true (Int.lt_trans (of_decide_eq_true h1) (of_decide_eq_true h2))
  · exact decide_eq_true (Int.lt_trans (of_decide_eq_true h2) (of_decide_eq_true h1))

theorem before_total (d : Dir) (a b : Int) (hne : a ≠ b) (h : before d b a = false) : before d a b = true := by
  cases d
  · exact decide_eq_true (Int.lt_iff_le_and_ne.mpr ⟨Int.not_lt.mp (of_decide_eq_false h), hne⟩)
  · exact decide_eq_true (Int.lt_iff_le_and_ne.mpr ⟨Int.not_lt.mp (of_decide_eq_false h), hne.symm⟩)

/-- what the lookup `asofObs` must satisfy for the counter argument (both hold for `posAsOf` on sorted labels and for `posNext`) -/
structure AsofOK (d : Dir) (o : List (Int × Int)) : Prop where
  notAfter : ∀ t s v, asofObs d o t = some (s, v) → before d t s = false
  mono : ∀ t t' s' v', before d t t' = true → asofObs d o t' = some (s', v') →
    (asofObs d o t).map Prod.fst ≠ some s' → before d t s' = true

theorem countP_between (d : Dir) (s t : Int) (pre rest : List Int)
    (hs : (pre ++ t :: rest).Pairwise fun a b => before d a b = true) :
    (pre ++ t :: rest).countP (fun u => before d s u && before d u t) = pre.countP fun u => before d s u := by
  have hp := List.pairwise_append.mp hs
  rw [List.countP_append]
  have h2 : (t :: rest).countP (fun u => before d s u && before d u t) = 0 := by
    rw [List.countP_eq_zero]
    intro x hx
    rcases List.mem_cons.mp hx with rfl | hx
    · simp [before_irrefl]
    · have := (List.pairwise_cons.mp hp.2.1).1 x hx
      simp [before_asymm d _ _ this]
  rw [h2, Nat.add_zero]
  apply List.countP_congr
  intro x hx
  have := hp.2.2 x hx t (by simp)
  simp [this]

/-- counter-free cell: the count is taken over the requested labels strictly between the observation and `t` -/
def limCellAll (d : Dir) (lim : Option Nat) (o : List (Int × Int)) (all : List Int) (t : Int) : Option Int :=
  match asofObs d o t with
  | Option.none => Option.none
  | some (s, v) =>
    if s = t ∨ within lim (all.countP fun u => before d s u && before d u t) = true then some v else Option.none

/-- one step of the walk, the three cases of the model in one equation: the state after `t` is the label of the observation `t`
landed on and the number of inexact matches it has served -/
theorem limAux_cons (d : Dir) (lim : Option Nat) (o : List (Int × Int)) (prev : Option Int) (k : Nat) (t : Int) (ts : List Int) :
    limAux d lim o prev k (t :: ts) =
      (match asofObs d o t with
        | Option.none => Option.none
        | some (s, v) => if s = t ∨ within lim (if prev = some s then k else 0) = true then some v else Option.none) ::
      limAux d lim o ((asofObs d o t).map Prod.fst)
        (match asofObs d o t with
          | Option.none => 0
          | some (s, _) => if s = t then 0 else (if prev = some s then k else 0) + 1) ts := by
  simp only [limAux]
  cases asofObs d o t with
  | none => rfl
  | some sv =>
    obtain ⟨s, v⟩ := sv
    by_cases hst : s = t
    · simp only [hst, true_or, if_true, Option.map_some]
    · simp only [hst, false_or, if_false, Option.map_some]

theorem countP_beyond_zero {d : Dir} {l : List Int} {s : Int} (h : ∀ x ∈ l, before d x s = true) :
    l.countP (fun x => before d s x) = 0 :=
  List.countP_eq_zero.mpr fun x hx => by rw [before_asymm d x s (h x hx)]; exact Bool.false_ne_true

/-- a label that lands elsewhere than an earlier label `t` does lands beyond `t`, hence beyond everything passed up to `t` -/
theorem AsofOK.count_zero {d : Dir} {o : List (Int × Int)} (hok : AsofOK d o) {pre : List Int} {t t' s' v' : Int}
    (hpre : ∀ u ∈ pre, before d u t = true) (htt : before d t t' = true) (ha' : asofObs d o t' = some (s', v'))
    (hne : (asofObs d o t).map Prod.fst ≠ some s') : (pre ++ [t]).countP (fun x => before d s' x) = 0 := by
  have hts : before d t s' = true := hok.mono t t' s' v' htt ha' hne
  refine countP_beyond_zero fun x hx => ?_
  rcases List.mem_append.mp hx with hx | hx
  · exact before_trans d x t s' (hpre x hx) hts
  · cases List.mem_singleton.mp hx; exact hts

/-- the walk with a counter, started after the labels `pre` in state `(prev, k)`, gives every label the counter-free cell
`limCellAll`.  The invariant of the walk is `hst`: whatever observation `s` a label still to come lands on, the counter for `s`
(which is `k` if the previous label landed on `s`, else 0) is the number of labels passed that lie beyond `s`. -/
theorem limAux_spec (d : Dir) (lim : Option Nat) (o : List (Int × Int)) (hok : AsofOK d o) (ts pre : List Int)
    (prev : Option Int) (k : Nat) (hs : (pre ++ ts).Pairwise fun a b => before d a b = true)
    (hst : ∀ t s v, (∀ x ∈ pre, before d x t = true) → asofObs d o t = some (s, v) →
      (if prev = some s then k else 0) = pre.countP fun x => before d s x) :
    limAux d lim o prev k ts = ts.map (limCellAll d lim o (pre ++ ts)) := by
  induction ts generalizing pre prev k with
  | nil => rfl
  | cons t ts ih =>
    have hpre_t : ∀ u ∈ pre, before d u t = true := fun u hu =>
      (List.pairwise_append.mp hs).2.2 u hu t List.mem_cons_self
    rw [limAux_cons, List.map_cons]
    congr 1
    · simp only [limCellAll, countP_between d _ t pre ts hs]
      cases ha : asofObs d o t with
      | none => rfl
      | some sv =>
        obtain ⟨s, v⟩ := sv
        simp only [hst t s v hpre_t ha]
    · rw [show pre ++ t :: ts = (pre ++ [t]) ++ ts by rw [List.append_assoc]; rfl] at hs ⊢
      refine ih (pre ++ [t]) _ _ hs fun t' s' v' hall ha' => ?_
      by_cases e : (asofObs d o t).map Prod.fst = some s'
      · obtain ⟨⟨s, v⟩, ha, rfl⟩ := Option.map_eq_some_iff.mp e
        rw [if_pos e, ha, List.countP_append, List.countP_singleton]
        dsimp only
        by_cases hst' : s = t
        · -- exact match: nothing passed lies beyond `t`
          cases hst'
          rw [if_pos rfl, before_irrefl, countP_beyond_zero hpre_t]
          rfl
        · -- inexact match: `t` is one more label beyond `s`
          rw [if_neg hst', hst t s v hpre_t ha, before_total d s t hst' (hok.notAfter t s v ha)]
          rfl
      · rw [if_neg e]
        exact (hok.count_zero hpre_t (hall t (List.mem_append_right _ List.mem_cons_self)) ha' e).symm

theorem limAux_eq_map (d : Dir) (lim : Option Nat) (o : List (Int × Int)) (hok : AsofOK d o) (idx : List Int)
    (hs : idx.Pairwise fun a b => before d a b = true) :
    limAux d lim o Option.none 0 idx = idx.map (limCellAll d lim o idx) :=
  limAux_spec d lim o hok idx [] Option.none 0 (by simpa using hs) fun _ _ _ _ _ => if_neg nofun

/-- only the forward lookup needs a sorted index -/
theorem asofObs_obs_iff (d : Dir) (ix : List Int) (c : Col) (hs : d = .ffill → SortedL ix) (t s v : Int) :
    asofObs d (obs ix c) t = some (s, v) ↔
      ∃ i, ix[i]? = some s ∧ before d t s = false ∧ c[i]? = some (some v) ∧
        ∀ (j : Nat) (s' w : Int), (match d with | .ffill => i < j | .bfill => j < i) → ix[j]? = some s' →
          before d t s' = false → c[j]? ≠ some (some w) := by
  cases d with
  | ffill => simp only [asofObs_ffill ix c t (hs rfl), lastObsAt_iff, before, decide_eq_false_iff_not, Int.not_lt]
  | bfill => simp only [asofObs_bfill, firstObsAt_iff, before, decide_eq_false_iff_not, Int.not_lt]

theorem asofOK_obs (d : Dir) (ix : List Int) (c : Col) (hs : d = .ffill → SortedL ix) : AsofOK d (obs ix c) := by
  constructor
  · intro t s v h
    obtain ⟨_, _, h2, _⟩ := (asofObs_obs_iff d ix c hs t s v).mp h
    exact h2
  · intro t t' s' v' htt h hne
    obtain ⟨i, h1, _, h3, h4⟩ := (asofObs_obs_iff d ix c hs t' s' v').mp h
    cases hb : before d t s' with
    | true => rfl
    | false =>
      -- `s'` is not beyond `t` either, and whatever is not beyond `t` is not beyond `t'`: `t` lands on `s'` as well
      refine (hne ?_).elim
      rw [(asofObs_obs_iff d ix c hs t s' v').mpr ⟨i, h1, hb, h3, fun j s'' w hj hjs hn => h4 j s'' w hj hjs ?_⟩]
      · rfl
      · cases hb' : before d t' s'' with
        | false => rfl
        | true => rw [before_trans d t t' s'' htt hb'] at hn; cases hn

theorem limAux_nolimit (d : Dir) (o : List (Int × Int)) (prev : Option Int) (k : Nat) (idx : List Int) :
    limAux d Option.none o prev k idx = idx.map (asofAt d o) := by
  induction idx generalizing prev k with
  | nil => rfl
  | cons t ts ih =>
    rw [limAux_cons, ih, List.map_cons, asofAt_eq]
    cases asofObs d o t with
    | none => rfl
    | some sv => simp [within]

theorem asofColLim_nolimit (d : Dir) (fidx : List Int) (c : Col) (idx : List Int) :
    asofColLim d Option.none fidx c idx = asofCol d fidx c idx := by
  cases d with
  | ffill => simp only [asofColLim, limAux_nolimit, asofCol_eq]
  | bfill => simp only [asofColLim, limAux_nolimit, asofCol_eq, List.map_reverse, List.reverse_reverse]

theorem limAux_length (d : Dir) (lim : Option Nat) (o : List (Int × Int)) (prev : Option Int) (k : Nat) (ts : List Int) :
    (limAux d lim o prev k ts).length = ts.length := by
  induction ts generalizing prev k with
  | nil => rfl
  | cons t ts ih => rw [limAux_cons, List.length_cons, ih, List.length_cons]

theorem asofColLim_length (d : Dir) (lim : Option Nat) (fidx : List Int) (c : Col) (idx : List Int) :
    (asofColLim d lim fidx c idx).length = idx.length := by
  cases d <;> simp [asofColLim, limAux_length]

theorem limited_eq_some_iff (o : Option (Int × Int)) (p : Int → Prop) [DecidablePred p] (v : Int) :
    (match o with
      | Option.none => Option.none
      | some (s, w) => if p s then some w else Option.none) = some v ↔ ∃ s, o = some (s, v) ∧ p s := by
  rcases o with _ | ⟨s, w⟩
  · exact ⟨nofun, fun ⟨_, h, _⟩ => nomatch h⟩
  · by_cases hp : p s
    · simp only [if_pos hp]
      exact ⟨fun e => ⟨s, by cases e; rfl, hp⟩, fun ⟨_, e, _⟩ => by cases e; rfl⟩
    · simp only [if_neg hp]
      exact ⟨nofun, fun ⟨_, e, hp'⟩ => by cases e; exact (hp hp').elim⟩

theorem ffillLim_eq_some_iff (lim : Option Nat) (idx ix : List Int) (c : Col) (t v : Int) :
    ffillLim lim idx ix c t = some v ↔
      ∃ s, lastObsAt ix c t = some (s, v) ∧ (s = t ∨ within lim (between idx s t) = true) :=
  limited_eq_some_iff (lastObsAt ix c t) (fun s => s = t ∨ within lim (between idx s t) = true) v

theorem bfillLim_eq_some_iff (lim : Option Nat) (idx ix : List Int) (c : Col) (t v : Int) :
    bfillLim lim idx ix c t = some v ↔
      ∃ s, firstObsAt ix c t = some (s, v) ∧ (s = t ∨ within lim (between idx t s) = true) :=
  limited_eq_some_iff (firstObsAt ix c t) (fun s => s = t ∨ within lim (between idx t s) = true) v

theorem asofColLim_ffill (lim : Option Nat) (fidx : List Int) (c : Col) (idx : List Int) (hf : SortedL fidx) (hi : SortedL idx) :
    asofColLim .ffill lim fidx c idx = idx.map (ffillLim lim idx fidx c) := by
  simp only [asofColLim]
  rw [limAux_eq_map .ffill lim _ (asofOK_obs .ffill fidx c fun _ => hf) idx (by simpa [before] using hi)]
  apply List.map_congr_left
  intro t _
  simp only [limCellAll, ffillLim, asofObs_ffill fidx c t hf, before, between, Bool.decide_and]
  rcases lastObsAt fidx c t with _ | ⟨s, v⟩ <;> rfl

theorem asofColLim_bfill (lim : Option Nat) (fidx : List Int) (c : Col) (idx : List Int) (hi : SortedL idx) :
    asofColLim .bfill lim fidx c idx = idx.map (bfillLim lim idx fidx c) := by
  simp only [asofColLim]
  have hr : idx.reverse.Pairwise fun a b => before .bfill a b = true := by
    rw [List.pairwise_reverse]; simpa [before] using hi
  rw [limAux_eq_map .bfill lim _ (asofOK_obs .bfill fidx c nofun) idx.reverse hr, ← List.map_reverse, List.reverse_reverse]
  apply List.map_congr_left
  intro t _
  simp only [limCellAll, bfillLim, asofObs_bfill fidx c t, before, between, Bool.decide_and, List.countP_reverse, Bool.and_comm]

end Pyg.Align
