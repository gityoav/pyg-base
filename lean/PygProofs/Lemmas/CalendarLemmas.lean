/-
  Lemmas about PygModel/Calendar.lean for C05, with the definitions the C05 statements use.  The table `c.bdays` is the inverse of the count `K`
  (`s ∈ c.bdays` is "`s` is a key"), and each operation that reads it is stated once on it, answer and `KeyError` alike.
-/
import PygModel.Calendar
import PygProofs.Lemmas.Basics

namespace Pyg.Calendar
open Pyg
open Pyg.Civil (wd)

theorem loopUp_spec (cond : Int → Bool) : ∀ (k : Nat) (t : Int),
    t ≤ loopUp cond k t ∧ loopUp cond k t ≤ t + k ∧ (∀ s, t ≤ s → s < loopUp cond k t → cond s = true) ∧
    (loopUp cond k t < t + k → cond (loopUp cond k t) = false)
  | 0, t => ⟨Int.le_refl t, by simp [loopUp], fun s h1 h2 => by simp only [loopUp] at h2; omega,
      fun h => by simp [loopUp] at h⟩
  | k + 1, t => by
    unfold loopUp
    split
    · next hc =>
      obtain ⟨h1, h2, h3, h4⟩ := loopUp_spec cond k (t + 1)
      refine ⟨by omega, by omega, fun s hs1 hs2 => ?_, fun h => h4 (by omega)⟩
      by_cases hs : s = t
      · rw [hs]; exact hc
      · exact h3 s (by omega) hs2
    · next hc => exact ⟨Int.le_refl t, by omega, fun s h1 h2 => by omega, fun _ => by simpa using hc⟩

theorem loopUp_ge (cond : Int → Bool) (k : Nat) (t : Int) : t ≤ loopUp cond k t := (loopUp_spec cond k t).1

theorem loopUp_skipped (cond : Int → Bool) (k : Nat) (t s : Int) (h1 : t ≤ s) (h2 : s < loopUp cond k t) : cond s = true :=
  (loopUp_spec cond k t).2.2.1 s h1 h2

theorem loopUp_stops (cond : Int → Bool) (k : Nat) (t b : Int) (h1 : t ≤ b) (h2 : b < t + k) (hb : cond b = false) :
    loopUp cond k t ≤ b ∧ cond (loopUp cond k t) = false := by
  obtain ⟨_, _, h3, h4⟩ := loopUp_spec cond k t
  have hle : loopUp cond k t ≤ b := by
    by_cases h : b < loopUp cond k t
    · rw [h3 b h1 h] at hb; cases hb
    · omega
  exact ⟨hle, h4 (by omega)⟩

theorem loopDown_eq_neg (cond : Int → Bool) : ∀ (k : Nat) (t : Int), loopDown cond k t = -loopUp (fun s => cond (-s)) k (-t)
  | 0, t => by simp [loopDown, loopUp]
  | k + 1, t => by
    simp only [loopDown, loopUp, Int.neg_neg]
    split
    · rw [loopDown_eq_neg cond k (t - 1), show -(t - 1) = -t + 1 by omega]
    · rw [Int.neg_neg]

theorem loopDown_le (cond : Int → Bool) (k : Nat) (t : Int) : loopDown cond k t ≤ t := by
  have := loopUp_ge (fun s => cond (-s)) k (-t)
  rw [loopDown_eq_neg]; omega

theorem loopDown_skipped (cond : Int → Bool) (k : Nat) (t s : Int) (h1 : s ≤ t) (h2 : loopDown cond k t < s) : cond s = true := by
  rw [loopDown_eq_neg] at h2
  have := loopUp_skipped (fun s => cond (-s)) k (-t) (-s) (by omega) (by omega)
  rwa [Int.neg_neg] at this

theorem loopDown_stops (cond : Int → Bool) (k : Nat) (t b : Int) (h1 : b ≤ t) (h2 : t < b + k) (hb : cond b = false) :
    b ≤ loopDown cond k t ∧ cond (loopDown cond k t) = false := by
  have := loopUp_stops (fun s => cond (-s)) k (-t) (-b) (by omega) (by omega) (by rwa [Int.neg_neg])
  rw [loopDown_eq_neg]
  exact ⟨by omega, this.2⟩

theorem mem_daysUp : ∀ (n : Nat) (a x : Int), x ∈ daysUp a n ↔ a ≤ x ∧ x < a + n
  | 0, a, x => by simp [daysUp]
  | n + 1, a, x => by
    simp only [daysUp, List.mem_cons, mem_daysUp n (a + 1) x]
    omega

theorem daysUp_append : ∀ (m n : Nat) (a : Int), daysUp a (m + n) = daysUp a m ++ daysUp (a + m) n
  | 0, n, a => by simp [daysUp]
  | m + 1, n, a => by
    have : m + 1 + n = (m + n) + 1 := by omega
    rw [this]
    simp only [daysUp, List.cons_append, daysUp_append m n (a + 1)]
    have : a + 1 + (m : Int) = a + ((m + 1 : Nat) : Int) := by omega
    rw [this]

theorem pairwise_daysUp : ∀ (n : Nat) (a : Int), (daysUp a n).Pairwise (· < ·)
  | 0, a => by simp [daysUp]
  | n + 1, a => by
    simp only [daysUp, List.pairwise_cons]
    refine ⟨?_, pairwise_daysUp n (a + 1)⟩
    intro x hx
    rw [mem_daysUp] at hx
    omega

theorem mem_daysFromTo (a b x : Int) : x ∈ daysFromTo a b ↔ a ≤ x ∧ x ≤ b := by
  unfold daysFromTo
  rw [mem_daysUp]
  omega

theorem daysFromTo_split (a b e : Int) (h1 : a ≤ b + 1) (h2 : b ≤ e) :
    daysFromTo a e = daysFromTo a b ++ daysFromTo (b + 1) e := by
  unfold daysFromTo
  rw [show e + 1 - a = (b + 1 - a) + (e + 1 - (b + 1)) by omega, Int.toNat_add (by omega) (by omega), daysUp_append,
    Int.toNat_of_nonneg (by omega), show a + (b + 1 - a) = b + 1 by omega]

theorem daysFromTo_self (a : Int) : daysFromTo a a = [a] := by
  unfold daysFromTo
  have : (a + 1 - a).toNat = 1 := by omega
  rw [this]; rfl

theorem daysFromTo_empty (a b : Int) (h : b < a) : daysFromTo a b = [] := by
  unfold daysFromTo
  have : (b + 1 - a).toNat = 0 := by omega
  rw [this]; rfl

theorem mem_bd (c : Cal) (a b x : Int) : x ∈ c.bd a b ↔ a ≤ x ∧ x ≤ b ∧ c.isB x = true := by
  unfold Cal.bd
  rw [List.mem_filter, mem_daysFromTo]
  exact ⟨fun ⟨⟨h1, h2⟩, h3⟩ => ⟨h1, h2, h3⟩, fun ⟨h1, h2, h3⟩ => ⟨⟨h1, h2⟩, h3⟩⟩

theorem bd_split (c : Cal) (a b e : Int) (h1 : a ≤ b + 1) (h2 : b ≤ e) :
    c.bd a e = c.bd a b ++ c.bd (b + 1) e := by
  unfold Cal.bd
  rw [daysFromTo_split a b e h1 h2, List.filter_append]

theorem bd_empty (c : Cal) (a b : Int) (h : b < a) : c.bd a b = [] := by
  unfold Cal.bd; rw [daysFromTo_empty a b h]; rfl

theorem bd_self (c : Cal) (a : Int) : c.bd a a = if c.isB a then [a] else [] := by
  unfold Cal.bd; rw [daysFromTo_self]; simp [List.filter]
  cases c.isB a <;> rfl

theorem pairwise_bd (c : Cal) (a b : Int) : (c.bd a b).Pairwise (· < ·) :=
  (pairwise_daysUp _ _).filter _

theorem nodup_bd (c : Cal) (a b : Int) : (c.bd a b).Nodup :=
  (pairwise_bd c a b).imp (fun h => by omega)

theorem bd_split_at (c : Cal) (a e x : Int) (h1 : a ≤ x) (h2 : x ≤ e) (hx : c.isB x = true) :
    c.bd a e = c.bd a (x - 1) ++ x :: c.bd (x + 1) e := by
  rw [bd_split c a (x - 1) e (by omega) (by omega)]
  have : x - 1 + 1 = x := by omega
  rw [this, bd_split c x x e (by omega) h2, bd_self, hx]
  rfl

/-- number of business days in `[a, b]` -/
def cnt (c : Cal) (a b : Int) : Nat := (c.bd a b).length

theorem cnt_split (c : Cal) (a b e : Int) (h1 : a ≤ b + 1) (h2 : b ≤ e) :
    cnt c a e = cnt c a b + cnt c (b + 1) e := by
  unfold cnt; rw [bd_split c a b e h1 h2, List.length_append]

theorem cnt_empty (c : Cal) (a b : Int) (h : b < a) : cnt c a b = 0 := by
  unfold cnt; rw [bd_empty c a b h]; rfl

theorem cnt_self (c : Cal) (a : Int) : cnt c a a = if c.isB a then 1 else 0 := by
  unfold cnt; rw [bd_self]; cases c.isB a <;> rfl

theorem cnt_pos_iff (c : Cal) (a b : Int) : 0 < cnt c a b ↔ ∃ x, a ≤ x ∧ x ≤ b ∧ c.isB x = true := by
  unfold cnt
  rw [List.length_pos_iff_exists_mem]
  simp only [mem_bd]

theorem cnt_lt (c : Cal) (a r r' x : Int) (h : a ≤ r + 1) (h1 : r < x) (h2 : x ≤ r') (hx : c.isB x = true) :
    cnt c a r < cnt c a r' := by
  rw [cnt_split c a r r' h (by omega)]
  have := (cnt_pos_iff c (r + 1) r').2 ⟨x, by omega, h2, hx⟩
  omega

theorem cnt_zero (c : Cal) (a b : Int) (h : ∀ x, a ≤ x → x ≤ b → c.isB x = false) : cnt c a b = 0 :=
  Nat.eq_zero_of_not_pos fun hp => by
    obtain ⟨x, h1, h2, hx⟩ := (cnt_pos_iff c a b).1 hp
    rw [h x h1 h2] at hx
    cases hx

theorem isHol_eq_not_isB (c : Cal) (t : Int) : c.isHol t = !c.isB t := by
  simp [Cal.isHol, Cal.isB, Bool.not_and]

theorem isB_of_isHol_eq_false {c : Cal} {t : Int} (h : c.isHol t = false) : c.isB t = true := by
  simpa [isHol_eq_not_isB] using h

theorem isB_eq_false_of_isHol {c : Cal} {t : Int} (h : c.isHol t = true) : c.isB t = false := by
  simpa [isHol_eq_not_isB] using h

theorem isB_eq_false_of_weekend {c : Cal} {t : Int} (h : c.weekend.contains (wd t) = true) : c.isB t = false := by
  unfold Cal.isB
  rw [h]; rfl

/-- the two loops of `adjust(t, 'f')` over arbitrary predicates: step over `hol` days up to `e`, then over `we` days beyond `e`.
`adjust(t, 'p')` is the same walk seen through `t ↦ -t` (`adjP_eq`). -/
def adjUp (hol we : Int → Bool) (e t : Int) : Int :=
  loopUp (fun t => decide (t > e) && we t) 7 (loopUp (fun t => hol t && decide (t ≤ e)) ((e + 1 - t).toNat + 1) t)

theorem adjUp_spec (hol we : Int → Bool) (e t : Int) :
    t ≤ adjUp hol we e t ∧
    (∀ s, t ≤ s → s < adjUp hol we e t → if s ≤ e then hol s = true else we s = true) ∧
    (adjUp hol we e t ≤ e → hol (adjUp hol we e t) = false) ∧
    ((∀ x, ∃ b, x ≤ b ∧ b < x + 7 ∧ we b = false) → e < adjUp hol we e t → we (adjUp hol we e t) = false) := by
  unfold adjUp
  generalize hk : (e + 1 - t).toNat + 1 = k
  generalize hc1 : (fun t => hol t && decide (t ≤ e)) = c1
  generalize hc2 : (fun t => decide (t > e) && we t) = c2
  have c1_iff : ∀ s, c1 s = true ↔ hol s = true ∧ s ≤ e := by intro s; simp [← hc1]
  have c2_iff : ∀ s, c2 s = true ↔ e < s ∧ we s = true := by intro s; simp [← hc2]
  -- where a loop stops inside its own region, its predicate is false
  have c1_stop : ∀ s, c1 s = false → s ≤ e → hol s = false := by intro s h hs; simpa [← hc1, hs] using h
  have c2_stop : ∀ s, c2 s = false → e < s → we s = false := by intro s h hs; simpa [← hc2, hs] using h
  -- the first loop has fuel to reach the first day beyond `e`, where it stops at the latest
  obtain ⟨b, hb1, hb2, hb3⟩ : ∃ b, t ≤ b ∧ b < t + k ∧ e < b := by
    by_cases h : t ≤ e + 1
    · exact ⟨e + 1, h, by omega, by omega⟩
    · exact ⟨t, by omega, by omega, by omega⟩
  have st1 := loopUp_stops c1 k t b hb1 hb2 (by rw [← Bool.not_eq_true, c1_iff]; omega)
  have ge1 := loopUp_ge c1 k t
  have sk1 := loopUp_skipped c1 k t
  generalize loopUp c1 k t = r1 at *
  have ge2 := loopUp_ge c2 7 r1
  have sk2 := loopUp_skipped c2 7 r1
  refine ⟨by omega, fun s hs1 hs2 => ?_, fun hle => ?_, fun hw hlt => ?_⟩
  · by_cases h : s < r1
    · have := (c1_iff s).1 (sk1 s hs1 h)
      rw [if_pos this.2]; exact this.1
    · have := (c2_iff s).1 (sk2 s (by omega) hs2)
      rw [if_neg (by omega)]; exact this.2
  · have : loopUp c2 7 r1 = r1 := by
      by_cases h : r1 < loopUp c2 7 r1
      · have := (c2_iff r1).1 (sk2 r1 (by omega) h); omega
      · omega
    rw [this] at hle ⊢
    exact c1_stop r1 st1.2 hle
  · obtain ⟨b', b1, b2, b3⟩ := hw r1
    exact c2_stop _ (loopUp_stops c2 7 r1 b' b1 (by omega) (by rw [← Bool.not_eq_true, c2_iff, b3]; simp)).2 hlt

theorem adjF_eq (c : Cal) (t : Int) : c.adjF t = adjUp c.isHol (fun t => c.weekend.contains (wd t)) c.t1 t := rfl

theorem adjP_eq (c : Cal) (t : Int) :
    c.adjP t = -adjUp (fun t => c.isHol (-t)) (fun t => c.weekend.contains (wd (-t))) (-c.t0) (-t) := by
  have h1 : (fun s => c.isHol (-s) && decide (-s ≥ c.t0)) = fun s => c.isHol (-s) && decide (s ≤ -c.t0) := by
    funext s; congr 1; exact decide_eq_decide.2 (by omega)
  have h2 : (fun s => decide (-s < c.t0) && c.weekend.contains (wd (-s))) =
      fun s => decide (s > -c.t0) && c.weekend.contains (wd (-s)) := by
    funext s; congr 1; exact decide_eq_decide.2 (by omega)
  unfold Cal.adjP adjUp
  rw [loopDown_eq_neg, loopDown_eq_neg, Int.neg_neg, h1, h2, show t + 1 - c.t0 = -c.t0 + 1 - -t by omega]

theorem adjF_spec (c : Cal) (t : Int) :
    t ≤ c.adjF t ∧ (∀ s, t ≤ s → s < c.adjF t → c.isB s = false) ∧ (c.adjF t ≤ c.t1 → c.isB (c.adjF t) = true) := by
  obtain ⟨h1, h2, h3, _⟩ := adjUp_spec c.isHol (fun t => c.weekend.contains (wd t)) c.t1 t
  refine ⟨h1, fun s hs1 hs2 => ?_, fun hle => isB_of_isHol_eq_false (h3 hle)⟩
  have := h2 s hs1 hs2
  split at this
  · exact isB_eq_false_of_isHol this
  · exact isB_eq_false_of_weekend this

theorem adjP_spec (c : Cal) (t : Int) :
    c.adjP t ≤ t ∧ (∀ s, s ≤ t → c.adjP t < s → c.isB s = false) ∧ (c.t0 ≤ c.adjP t → c.isB (c.adjP t) = true) := by
  obtain ⟨h1, h2, h3, _⟩ := adjUp_spec (fun t => c.isHol (-t)) (fun t => c.weekend.contains (wd (-t))) (-c.t0) (-t)
  rw [adjP_eq]
  refine ⟨by omega, fun s hs1 hs2 => ?_, fun hle => isB_of_isHol_eq_false (h3 (by omega))⟩
  have := h2 (-s) (by omega) (by omega)
  rw [Int.neg_neg] at this
  split at this
  · exact isB_eq_false_of_isHol this
  · exact isB_eq_false_of_weekend this

theorem adjust_f (c : Cal) (t : Int) : c.adjust .f t = c.adjF t := rfl

theorem adjust_p (c : Cal) (t : Int) : c.adjust .p t = c.adjP t := rfl

theorem adjF_le (c : Cal) (t b : Int) (hb : t ≤ b) (hB : c.isB b = true) : c.adjF t ≤ b :=
  Int.not_lt.1 fun hlt => by rw [(adjF_spec c t).2.1 b hb hlt] at hB; cases hB

theorem le_adjP (c : Cal) (t b : Int) (hb : b ≤ t) (hB : c.isB b = true) : b ≤ c.adjP t :=
  Int.not_lt.1 fun hlt => by rw [(adjP_spec c t).2.1 b hb hlt] at hB; cases hB

theorem adjust_bday (c : Cal) (a : Adj) (t : Int) (hB : c.isB t = true) : c.adjust a t = t := by
  have hf : c.adjF t = t := Int.le_antisymm (adjF_le c t t (Int.le_refl t) hB) (adjF_spec c t).1
  have hp : c.adjP t = t := Int.le_antisymm (adjP_spec c t).1 (le_adjP c t t (Int.le_refl t) hB)
  cases a <;> simp [Cal.adjust, hf, hp]

/-- some weekday is not a weekend day (otherwise the real `adjust` never returns; the driver refuses such calendars) -/
def NonDeg (c : Cal) : Prop := ∃ d : Int, 0 ≤ d ∧ d < 7 ∧ d ∉ c.weekend

theorem wd_hit_up (r d : Int) (h0 : 0 ≤ d) (h7 : d < 7) : ∃ b, r ≤ b ∧ b < r + 7 ∧ wd b = d := by
  refine ⟨r + (d - (r + 6) % 7) % 7, by omega, by omega, ?_⟩
  unfold wd; omega

theorem NonDeg.week_up {c : Cal} (hnd : NonDeg c) (x : Int) : ∃ b, x ≤ b ∧ b < x + 7 ∧ c.weekend.contains (wd b) = false := by
  obtain ⟨d, d0, d7, dw⟩ := hnd
  obtain ⟨b, b1, b2, b3⟩ := wd_hit_up x d d0 d7
  exact ⟨b, b1, b2, by rw [b3]; simpa using dw⟩

theorem adjF_beyond (c : Cal) (hnd : NonDeg c) (t : Int) :
    (c.t1 < c.adjF t → wd (c.adjF t) ∉ c.weekend) ∧
    ∀ s, t ≤ s → c.t1 < s → s < c.adjF t → wd s ∈ c.weekend := by
  obtain ⟨_, h2, _, h4⟩ := adjUp_spec c.isHol (fun t => c.weekend.contains (wd t)) c.t1 t
  rw [adjF_eq]
  refine ⟨fun hlt => by simpa using h4 hnd.week_up hlt, fun s hs1 hs2 hs3 => ?_⟩
  have := h2 s hs1 hs3
  rw [if_neg (by omega)] at this
  simpa using this

theorem adjP_beyond (c : Cal) (hnd : NonDeg c) (t : Int) :
    (c.adjP t < c.t0 → wd (c.adjP t) ∉ c.weekend) ∧
    ∀ s, s ≤ t → s < c.t0 → c.adjP t < s → wd s ∈ c.weekend := by
  obtain ⟨_, h2, _, h4⟩ := adjUp_spec (fun t => c.isHol (-t)) (fun t => c.weekend.contains (wd (-t))) (-c.t0) (-t)
  have week_neg : ∀ x, ∃ b, x ≤ b ∧ b < x + 7 ∧ c.weekend.contains (wd (-b)) = false := fun x =>
    have ⟨b, b1, b2, b3⟩ := hnd.week_up (-x - 6)
    ⟨-b, by omega, by omega, by rwa [Int.neg_neg]⟩
  rw [adjP_eq]
  refine ⟨fun hlt => by simpa using h4 week_neg (by omega), fun s hs1 hs2 hs3 => ?_⟩
  have := h2 (-s) (by omega) (by omega)
  rw [if_neg (by omega), Int.neg_neg] at this
  simpa using this

/-- business days of the calendar strictly before `x` -/
def K (c : Cal) (x : Int) : Nat := cnt c c.t0 (x - 1)

theorem K_add (c : Cal) (a b : Int) (h0 : c.t0 ≤ a) (h : a ≤ b) : K c b = K c a + cnt c a (b - 1) := by
  unfold K
  rw [cnt_split c c.t0 (a - 1) (b - 1) (by omega) (by omega)]
  have : a - 1 + 1 = a := by omega
  rw [this]

theorem K_mono (c : Cal) (a b : Int) (h0 : c.t0 ≤ a) (h : a ≤ b) : K c a ≤ K c b := by
  rw [K_add c a b h0 h]; omega

theorem K_lt (c : Cal) (a b : Int) (h0 : c.t0 ≤ a) (h : a < b) (hB : c.isB a = true) : K c a < K c b :=
  cnt_lt c c.t0 (a - 1) (b - 1) a (by omega) (by omega) (by omega) hB

theorem K_lt_iff (c : Cal) (a b : Int) (ha : c.t0 ≤ a) (hb : c.t0 ≤ b) (hB : c.isB a = true) : K c a < K c b ↔ a < b := by
  refine ⟨fun h => ?_, fun h => K_lt c a b ha h hB⟩
  by_cases hle : b ≤ a
  · have := K_mono c b a hb hle; omega
  · omega

theorem K_succ (c : Cal) (a : Int) (h0 : c.t0 ≤ a) (hB : c.isB a = true) : K c (a + 1) = K c a + 1 := by
  rw [K_add c a (a + 1) h0 (by omega), show a + 1 - 1 = a by omega, cnt_self, if_pos hB]

theorem Cal.mem_bdays {c : Cal} {x : Int} : x ∈ c.bdays ↔ c.t0 ≤ x ∧ x ≤ c.t1 ∧ c.isB x = true := mem_bd c _ _ x

theorem bdays_split_at {c : Cal} {a : Int} (h : a ∈ c.bdays) : c.bdays = c.bd c.t0 (a - 1) ++ a :: c.bd (a + 1) c.t1 :=
  have ⟨h0, h1, hB⟩ := Cal.mem_bdays.1 h
  bd_split_at c c.t0 c.t1 a h0 h1 hB

theorem length_bdays {c : Cal} {s : Int} (h : s ∈ c.bdays) : c.bdays.length = K c s + 1 + cnt c (s + 1) c.t1 := by
  rw [bdays_split_at h, List.length_append, List.length_cons]
  unfold K cnt; omega

theorem K_lt_length {c : Cal} {a : Int} (h : a ∈ c.bdays) : K c a < c.bdays.length := by
  rw [length_bdays h]; omega

theorem bdays_get_iff (c : Cal) (i : Nat) (r : Int) : c.bdays[i]? = some r ↔ r ∈ c.bdays ∧ i = K c r := by
  have hK : ∀ {a}, a ∈ c.bdays → c.bdays[K c a]? = some a := fun h => by
    rw [bdays_split_at h]
    exact (List.getElem?_append_right (Nat.le_refl _)).trans (by simp)
  refine ⟨fun h => ?_, fun ⟨hr, e⟩ => e ▸ hK hr⟩
  have hr := List.mem_of_getElem? h
  exact ⟨hr, (List.getElem?_inj (List.getElem?_some_lt h) (nodup_bd c c.t0 c.t1)).1 (h.trans (hK hr).symm)⟩

theorem K_inj {c : Cal} {a b : Int} (ha : a ∈ c.bdays) (hb : b ∈ c.bdays) (h : K c a = K c b) : a = b :=
  Option.some.inj (((bdays_get_iff c _ a).2 ⟨ha, rfl⟩).symm.trans ((bdays_get_iff c _ b).2 ⟨hb, h⟩))

theorem getElem?_bd (c : Cal) (a b : Int) (i : Nat) (h0 : c.t0 ≤ a) (h1 : b ≤ c.t1) (hi : i < (c.bd a b).length) :
    (c.bd a b)[i]? = c.bdays[K c a + i]? := by
  have hle : a ≤ b := by
    by_cases h : b < a
    · rw [bd_empty c a b h] at hi; cases hi
    · omega
  unfold Cal.bdays K cnt
  rw [bd_split c c.t0 (a - 1) c.t1 (by omega) (by omega), show a - 1 + 1 = a by omega, bd_split c a b c.t1 (by omega) h1,
    List.getElem?_append_right (Nat.le_add_right _ i), Nat.add_sub_cancel_left, List.getElem?_append_left hi]

theorem idxIn_append_cons (a : Int) : ∀ (pre post : List Int), a ∉ pre →
    idxIn a (pre ++ a :: post) = some pre.length
  | [], post, _ => by simp [idxIn]
  | x :: pre, post, h => by
    have hx : x ≠ a := by intro e; subst e; simp at h
    have hp : a ∉ pre := by intro e; exact h (List.mem_cons_of_mem _ e)
    simp [idxIn, hx, idxIn_append_cons a pre post hp]

theorem idxIn_none (a : Int) : ∀ (l : List Int), a ∉ l → idxIn a l = none
  | [], _ => rfl
  | x :: l, h => by
    have hx : x ≠ a := by intro e; subst e; simp at h
    have hp : a ∉ l := by intro e; exact h (List.mem_cons_of_mem _ e)
    simp [idxIn, hx, idxIn_none a l hp]

theorem idxIn_getElem? (a : Int) : ∀ (l : List Int) (i : Nat), idxIn a l = some i → l[i]? = some a
  | [], i, h => by simp [idxIn] at h
  | x :: xs, i, h => by
    unfold idxIn at h
    split at h
    · next hx => cases h; rw [hx]; rfl
    · obtain ⟨j, hj, rfl⟩ := Option.map_eq_some_iff.1 h
      exact idxIn_getElem? a xs j hj

theorem idxIn_some_mem (a : Int) (l : List Int) (i : Nat) (h : idxIn a l = some i) : a ∈ l :=
  List.mem_of_getElem? (idxIn_getElem? a l i h)

theorem clockOfT_eq_ok_iff {tbl : List Int} {a : Int} {i : Nat} : clockOfT tbl a = .ok i ↔ idxIn a tbl = some i := by
  unfold clockOfT
  split <;> simp [*]

theorem clockOfT_eq_error_iff {tbl : List Int} {a : Int} {e : Err} : clockOfT tbl a = .error e ↔ idxIn a tbl = none ∧ e = .key := by
  unfold clockOfT
  split <;> simp [*, eq_comm]

theorem clockOfT_getElem? (tbl : List Int) (a : Int) (i : Nat) (h : clockOfT tbl a = .ok i) : tbl[i]? = some a :=
  idxIn_getElem? a tbl i (clockOfT_eq_ok_iff.1 h)

theorem atIdxT_eq_ok_iff {tbl : List Int} {j v : Int} : atIdxT tbl j = .ok v ↔ 0 ≤ j ∧ tbl[j.toNat]? = some v := by
  unfold atIdxT
  split
  · simp; omega
  · split <;> simp [*]; omega

theorem atIdxT_eq_error {tbl : List Int} {j : Int} {e : Err} (h : atIdxT tbl j = .error e) : e = .key := by
  unfold atIdxT at h
  split at h
  · cases h; rfl
  · split at h <;> cases h; rfl

/-- number of elements of python `range(a, stop, step)` -/
def pyRangeLen (a stop step : Int) : Nat :=
  (if step > 0 then (stop - a + step - 1) / step else (a - stop + (-step) - 1) / (-step)).toNat

theorem pyRange_getElem? (a stop step : Int) (i : Nat) (h : i < pyRangeLen a stop step) :
    (pyRange a stop step)[i]? = some (a + (i : Int) * step) := by
  unfold pyRange
  unfold pyRangeLen at h
  simp only [List.getElem?_map]
  rw [List.getElem?_range h]
  rfl

theorem pyRange_length (a stop step : Int) : (pyRange a stop step).length = pyRangeLen a stop step := by
  unfold pyRange pyRangeLen; simp

theorem pyRangeLen_one (a stop : Int) : pyRangeLen a stop 1 = (stop - a).toNat := by
  unfold pyRangeLen
  rw [if_pos (by omega), Int.ediv_one, show stop - a + 1 - 1 = stop - a by omega]

theorem pyRangeLen_neg_one (a stop : Int) : pyRangeLen a stop (-1) = (a - stop).toNat := by
  unfold pyRangeLen
  rw [if_neg (by omega), Int.neg_neg, Int.ediv_one, show a - stop + 1 - 1 = a - stop by omega]

theorem clockOfT_bdays (c : Cal) (s : Int) : clockOfT c.bdays s = if s ∈ c.bdays then .ok (K c s) else .error .key := by
  split
  · next h =>
    rw [clockOfT_eq_ok_iff, bdays_split_at h]
    exact idxIn_append_cons s _ _ fun hm => by rw [mem_bd] at hm; omega
  · next h => unfold clockOfT; rw [idxIn_none s _ h]

theorem atIdxT_bdays_eq_ok_iff (c : Cal) (j r : Int) : atIdxT c.bdays j = .ok r ↔ r ∈ c.bdays ∧ j = K c r := by
  rw [atIdxT_eq_ok_iff, bdays_get_iff]
  exact ⟨fun ⟨hj, hr, e⟩ => ⟨hr, by omega⟩, fun ⟨hr, e⟩ => ⟨by omega, hr, by omega⟩⟩

theorem adjust_mem {c : Cal} (a : Adj) {t : Int} (h : t ∈ c.bdays) : c.adjust a t = t :=
  adjust_bday c a t (Cal.mem_bdays.1 h).2.2

/-- "inside the calendar's range" for `add` from the (adjusted) business day `s` by `n`: `s` is in the table and
so is position `K s + n` — exactly what the table path needs in order not to raise `KeyError` -/
def InRange (c : Cal) (s n : Int) : Prop :=
  c.t0 ≤ s ∧ s ≤ c.t1 ∧ c.isB s = true ∧ 0 ≤ (K c s : Int) + n ∧ (K c s : Int) + n < c.bdays.length

theorem InRange.mem {c : Cal} {s n : Int} (h : InRange c s n) : s ∈ c.bdays := Cal.mem_bdays.2 ⟨h.1, h.2.1, h.2.2.1⟩

theorem inRange_iff (c : Cal) (s n : Int) : InRange c s n ↔ s ∈ c.bdays ∧ ∃ r ∈ c.bdays, (K c r : Int) = K c s + n := by
  constructor
  · intro h
    have hlt : (K c s + n).toNat < c.bdays.length := by have := h.2.2.2; omega
    refine ⟨h.mem, _, List.getElem_mem hlt, ?_⟩
    have := ((bdays_get_iff c _ _).1 (List.getElem?_eq_getElem hlt)).2
    have := h.2.2.2.1
    omega
  · intro ⟨hs, r, hr, e⟩
    have := K_lt_length hr
    have ⟨s0, s1, sB⟩ := Cal.mem_bdays.1 hs
    exact ⟨s0, s1, sB, by omega, by omega⟩

theorem K_next (c : Cal) (s r : Int) (h0 : c.t0 ≤ s) (h : s < r) (hB : c.isB s = true)
    (hn : ∀ x, s < x → x < r → c.isB x = false) : K c r = K c s + 1 := by
  rw [K_add c s r h0 (by omega), cnt_split c s s (r - 1) (by omega) (by omega), cnt_self, if_pos hB,
    cnt_zero c (s + 1) (r - 1) fun x h1 h2 => hn x (by omega) (by omega)]

theorem add_table (c : Cal) (a : Adj) (t n : Int) (hn : 1 < n.natAbs) :
    c.add a t n = (clockOfT c.bdays (c.adjust a t)).bind fun i => atIdxT c.bdays (i + n) := by
  unfold Cal.add Cal.addT
  rw [if_pos hn]; rfl

theorem add_table_eq_ok_iff (c : Cal) (a : Adj) (t n r : Int) (hn : 1 < n.natAbs) :
    c.add a t n = .ok r ↔ c.adjust a t ∈ c.bdays ∧ r ∈ c.bdays ∧ (K c r : Int) = K c (c.adjust a t) + n := by
  rw [add_table c a t n hn, clockOfT_bdays]
  split
  · next h =>
    show atIdxT _ _ = _ ↔ _
    rw [atIdxT_bdays_eq_ok_iff]
    exact ⟨fun e => ⟨h, e.1, by omega⟩, fun e => ⟨e.2.1, by omega⟩⟩
  · next h => exact ⟨fun e => (nomatch e), fun e => absurd e.1 h⟩

theorem add_table_error (c : Cal) (a : Adj) (t n : Int) (e : Err) (hn : 1 < n.natAbs) (h : c.add a t n = .error e) : e = .key := by
  rw [add_table c a t n hn, clockOfT_bdays] at h
  split at h
  · exact atIdxT_eq_error h
  · cases h; rfl

theorem Cal.add_one_eq (c : Cal) (a : Adj) (t : Int) : c.add a t 1 = .ok (loopUp c.isHol c.addFuel (c.adjust a t + 1)) := rfl

theorem Cal.add_neg_one_eq (c : Cal) (a : Adj) (t : Int) : c.add a t (-1) = .ok (loopDown c.isHol c.addFuel (c.adjust a t - 1)) := rfl

theorem Cal.add_zero_eq (c : Cal) (a : Adj) (t : Int) : c.add a t 0 = .ok (c.adjust a t) := rfl

theorem loopUp_isHol (c : Cal) (k : Nat) (s b : Int) (h1 : s < b) (h2 : b ≤ s + k) (hB : c.isB b = true) :
    c.isB (loopUp c.isHol k (s + 1)) = true ∧ s < loopUp c.isHol k (s + 1) ∧ loopUp c.isHol k (s + 1) ≤ b ∧
    ∀ x, s < x → x < loopUp c.isHol k (s + 1) → c.isB x = false := by
  have st := loopUp_stops c.isHol k (s + 1) b (by omega) (by omega) (by rw [isHol_eq_not_isB, hB]; rfl)
  have ge := loopUp_ge c.isHol k (s + 1)
  exact ⟨isB_of_isHol_eq_false st.2, by omega, st.1,
    fun x hx1 hx2 => isB_eq_false_of_isHol (loopUp_skipped c.isHol k (s + 1) x (by omega) hx2)⟩

theorem loopDown_isHol (c : Cal) (k : Nat) (s b : Int) (h1 : b < s) (h2 : s ≤ b + k) (hB : c.isB b = true) :
    c.isB (loopDown c.isHol k (s - 1)) = true ∧ loopDown c.isHol k (s - 1) < s ∧ b ≤ loopDown c.isHol k (s - 1) ∧
    ∀ x, loopDown c.isHol k (s - 1) < x → x < s → c.isB x = false := by
  have st := loopDown_stops c.isHol k (s - 1) b (by omega) (by omega) (by rw [isHol_eq_not_isB, hB]; rfl)
  have le := loopDown_le c.isHol k (s - 1)
  exact ⟨isB_of_isHol_eq_false st.2, by omega, st.1,
    fun x hx1 hx2 => isB_eq_false_of_isHol (loopDown_skipped c.isHol k (s - 1) x (by omega) hx1)⟩

theorem add_spec (c : Cal) (a : Adj) (t n : Int) (h : InRange c (c.adjust a t) n) :
    ∃ r, c.add a t n = .ok r ∧ r ∈ c.bdays ∧ (K c r : Int) = K c (c.adjust a t) + n := by
  by_cases hn : 1 < n.natAbs
  · obtain ⟨hs, r, hr, rK⟩ := (inRange_iff c _ n).1 h
    exact ⟨r, (add_table_eq_ok_iff c a t n r hn).2 ⟨hs, hr, rK⟩, hr, rK⟩
  · obtain ⟨h0, h1, hB, hj0, hj1⟩ := h
    have hs := Cal.mem_bdays.2 ⟨h0, h1, hB⟩
    have hfuel : c.t1 - c.t0 < c.addFuel := by unfold Cal.addFuel; omega
    obtain rfl | rfl | rfl : n = 1 ∨ n = -1 ∨ n = 0 := by omega
    · -- a business day after `s` exists in the range; the loop stops on the first one
      rw [length_bdays hs] at hj1
      obtain ⟨b, b0, b1, bB⟩ := (cnt_pos_iff c (c.adjust a t + 1) c.t1).1 (by omega)
      obtain ⟨rB, hlt, hle, hsk⟩ := loopUp_isHol c c.addFuel (c.adjust a t) b b0 (by omega) bB
      exact ⟨_, Cal.add_one_eq c a t, Cal.mem_bdays.2 ⟨by omega, by omega, rB⟩, by rw [K_next c _ _ h0 hlt hB hsk]; rfl⟩
    · obtain ⟨b, b0, b1, bB⟩ := (cnt_pos_iff c c.t0 (c.adjust a t - 1)).1 (by unfold K at hj0; omega)
      obtain ⟨rB, hlt, hle, hsk⟩ := loopDown_isHol c c.addFuel (c.adjust a t) b (by omega) (by omega) bB
      refine ⟨_, Cal.add_neg_one_eq c a t, Cal.mem_bdays.2 ⟨by omega, by omega, rB⟩, ?_⟩
      rw [K_next c _ _ (by omega) hlt rB hsk]; omega
    · exact ⟨_, Cal.add_zero_eq c a t, hs, by omega⟩

theorem bdaysBetween_bdays (c : Cal) (a : Adj) (x y : Int) (hx : c.adjust a x ∈ c.bdays) (hy : c.adjust a y ∈ c.bdays) :
    c.bdaysBetween a x y = .ok ((K c (c.adjust a y) : Int) - K c (c.adjust a x)) := by
  unfold Cal.bdaysBetween Cal.bdaysBetweenT
  rw [clockOfT_bdays, clockOfT_bdays, if_pos hx, if_pos hy]; rfl

theorem clock_bdays (c : Cal) (t : Int) :
    c.clock t = if c.adjust c.adj t ∈ c.bdays then .ok (K c (c.adjust c.adj t)) else .error .key := by
  unfold Cal.clock Cal.clockT
  rw [clockOfT_bdays]
  split
  · cases hi : idxIn t c.bdays with
    | none => rfl
    | some i =>
      -- `t` itself is a key: it is its own adjustment, so the `.get` and its default agree
      have ht := idxIn_some_mem t _ i hi
      have := clockOfT_bdays c t
      rw [if_pos ht, clockOfT_eq_ok_iff, hi] at this
      rw [adjust_mem c.adj ht, ← Option.some.inj this]; rfl
  · rfl

theorem mapM_pyRange_ok_iff {β : Type} (f : Int → Res β) (a stop step : Int) (r : List β) :
    (pyRange a stop step).mapM f = .ok r ↔
    r.length = pyRangeLen a stop step ∧ ∀ i : Nat, i < r.length → ∃ v, f (a + i * step) = .ok v ∧ r[i]? = some v := by
  rw [List.mapM_eq_ok_iff, pyRange_length]
  refine and_congr_right fun len => ⟨fun h i hi => h i _ (pyRange_getElem? _ _ _ i (len ▸ hi)), fun h i x hx => ?_⟩
  have hi : i < r.length := len ▸ pyRange_length .. ▸ List.getElem?_some_lt hx
  rw [pyRange_getElem? _ _ _ i (len ▸ hi)] at hx
  cases hx; exact h i hi

/-- both look-ups come before the step is used, also before the `ValueError` of `range(.., 0)` -/
theorem drangeB_bdays (c : Cal) (x y k : Int) :
    c.drangeB x y k =
      if c.adjust c.adj x ∈ c.bdays ∧ c.adjust c.adj y ∈ c.bdays then
        if k = 0 then .error .value
        else (pyRange (K c (c.adjust c.adj x)) (K c (c.adjust c.adj y) + k) k).mapM (atIdxT c.bdays)
      else .error .key := by
  unfold Cal.drangeB Cal.drangeBT
  rw [clockOfT_bdays, clockOfT_bdays]
  by_cases hx : c.adjust c.adj x ∈ c.bdays
  · by_cases hy : c.adjust c.adj y ∈ c.bdays
    · rw [if_pos hx, if_pos hy, if_pos (And.intro hx hy)]; rfl
    · rw [if_pos hx, if_neg hy, if_neg (fun h => hy h.2 : ¬(_ ∧ _))]; rfl
  · rw [if_neg hx, if_neg (fun h => hx h.1 : ¬(_ ∧ _))]; rfl

/-- `Calendar.drange(x, y, 'kb')` read off the table: python's `range(i0, i1 + k, k)` over the positions `i0`, `i1` of the adjusted
endpoints -/
theorem drangeB_eq_ok_iff (c : Cal) (x y k : Int) (lk : List Int) :
    c.drangeB x y k = .ok lk ↔
    c.adjust c.adj x ∈ c.bdays ∧ c.adjust c.adj y ∈ c.bdays ∧ k ≠ 0 ∧
    lk.length = pyRangeLen (K c (c.adjust c.adj x)) (K c (c.adjust c.adj y) + k) k ∧
    ∀ i : Nat, i < lk.length → 0 ≤ (K c (c.adjust c.adj x) : Int) + i * k ∧
      lk[i]? = c.bdays[((K c (c.adjust c.adj x) : Int) + i * k).toNat]? := by
  rw [drangeB_bdays]
  split
  · next hm =>
    split
    · next hk => exact ⟨fun e => (nomatch e), fun h => absurd hk h.2.2.1⟩
    · next hk =>
      rw [mapM_pyRange_ok_iff]
      refine ⟨fun ⟨len, get⟩ => ⟨hm.1, hm.2, hk, len, fun i hi => ?_⟩, fun ⟨_, _, _, len, get⟩ => ⟨len, fun i hi => ?_⟩⟩
      · obtain ⟨v, hv, e⟩ := get i hi
        have := atIdxT_eq_ok_iff.1 hv
        exact ⟨this.1, e ▸ this.2.symm⟩
      · obtain ⟨h0, e⟩ := get i hi
        exact ⟨lk[i], atIdxT_eq_ok_iff.2 ⟨h0, by rw [← e]; exact List.getElem?_eq_getElem hi⟩, List.getElem?_eq_getElem hi⟩
  · next hm => exact ⟨fun e => (nomatch e), fun h => absurd ⟨h.1, h.2.1⟩ hm⟩

/-- run a history of `calendar(key, ...)` calls -/
def runReg (month : Int → Int) (r : Registry) (ops : List (String × CalArgs)) : Registry :=
  ops.foldl (fun r op => (r.calendar month op.1 op.2).1) r

theorem get?_set_same (r : Registry) (k : String) (c : Cal) : (r.set k c).get? k = some c := by
  unfold Registry.set Registry.get?
  rw [List.find?_key_map_snd, List.lookup_cons_filter, if_pos rfl]

theorem get?_set_other (r : Registry) (k k' : String) (c : Cal) (h : k' ≠ k) :
    (r.set k' c).get? k = r.get? k := by
  unfold Registry.set Registry.get?
  rw [List.find?_key_map_snd, List.find?_key_map_snd, List.lookup_cons_filter, if_neg (Ne.symm h)]

theorem calendar_fetch (month : Int → Int) (r : Registry) (k : String) (c : Cal) (h : r.get? k = some c) :
    r.calendar month k ⟨none, none, none, none⟩ = (r, c) := by
  simp [Registry.calendar, h, CalArgs.isDefault]

theorem calendar_register (month : Int → Int) (r : Registry) (k : String) (a : CalArgs)
    (h : a.isDefault = false ∨ r.get? k = none) : ((r.calendar month k a).1).get? k = some (mkCal month a) := by
  unfold Registry.calendar
  rcases h with h | h
  · cases hg : r.get? k <;> simp [h, get?_set_same]
  · simp [h, get?_set_same]

theorem calendar_frame (month : Int → Int) (r : Registry) (k k' : String) (a : CalArgs) (c : Cal)
    (hk : r.get? k = some c) (h : k' = k → a.isDefault = true) :
    ((r.calendar month k' a).1).get? k = some c := by
  unfold Registry.calendar
  by_cases e : k' = k
  · subst e
    simp [hk, h rfl]
  · cases hg : r.get? k' <;> cases hd : a.isDefault <;> simp [get?_set_other r k k' _ e, hk]

end Pyg.Calendar
