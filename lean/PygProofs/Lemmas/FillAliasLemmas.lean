/-
  C12, "the input object is not modified": on the store of PygModel/FillAlias.lean the caller's cell is never written and
  `res` holds the pure model's value; under `_nona`, what an allocation does to aliasing.
-/
import PygModel.FillAlias
import PygProofs.Lemmas.FillIndep

namespace Pyg.FillAlias
open Pyg Pyg.Fill

/-- the caller's object is intact, `res` points to an existing cell, and every write so far went into a cell allocated
during the call -/
structure Inv (df : Frame) (s : Store) : Prop where
  input : s.cells[0]? = some df
  bound : s.res < s.cells.length
  fresh : ∀ w ∈ s.writes, 0 < w ∧ w < s.cells.length

theorem inv_init (df : Frame) : Inv df { cells := [df], res := 0, writes := [] } :=
  ⟨rfl, by simp, by simp⟩

theorem inv_rebind {df : Frame} {s : Store} (h : Inv df s) (g : Frame → Frame) : Inv df (exec s (.rebind g)) := by
  have hpos : 0 < s.cells.length := by have := h.bound; omega
  refine ⟨?_, by simp [exec], ?_⟩
  · simp only [exec]; rw [List.getElem?_append_left hpos]; exact h.input
  · intro w hw; have := h.fresh w hw; simp only [exec, List.length_append, List.length_cons, List.length_nil]; omega

theorem inv_assign {df : Frame} {s : Store} (h : Inv df s) (g : Frame → Frame) (hr : 0 < s.res) :
    Inv df (exec s (.assign g)) := by
  refine ⟨?_, by simpa [exec] using h.bound, ?_⟩
  · simp only [exec]; rw [List.getElem?_set_ne (by omega)]; exact h.input
  · intro w hw
    simp only [exec, List.mem_cons] at hw
    simp only [exec, List.length_set]
    rcases hw with rfl | hw
    · exact ⟨hr, h.bound⟩
    · exact h.fresh w hw

theorem stmts_cases (series : Bool) (lim : Option Nat) (f : Frame) (m : Method) :
    (series = true ∧ ∃ inv, stmts series lim f m = tailStmts inv lim f ∧ step lim f m = tailStep inv lim f) ∨
    stmts series lim f m = (match step lim f m with
      | .ok g => (.ok [Stmt.rebind fun _ => g] : Res (List Stmt)) | .error e => .error e) := by
  cases series with
  | false => exact .inr (by cases m <;> rfl)
  | true =>
    cases m with
    | ffillNa => exact .inl ⟨rfl, _, rfl, step_ffillNa lim f⟩
    | ffill0 => exact .inl ⟨rfl, _, rfl, step_ffill0 lim f⟩
    | const c => exact .inr rfl
    | ffill => exact .inr rfl
    | bfill => exact .inr rfl
    | fnna => exact .inr rfl
    | nona => exact .inr rfl

theorem stmts_shape (series : Bool) (lim : Option Nat) (f : Frame) (m : Method) (ps : List Stmt)
    (h : stmts series lim f m = .ok ps) :
    ps = [] ∨ (∃ g, ps = [.rebind g]) ∨ ∃ g k, ps = [.rebind g, .assign k] := by
  rcases stmts_cases series lim f m with ⟨_, inv, hst, _⟩ | hst
  · rw [hst, tailStmts] at h
    split at h
    · split at h
      · cases h; exact .inl rfl
      · split at h
        · cases h; exact .inr (.inr ⟨_, _, rfl⟩)
        · cases h
    · cases h
  · rw [hst] at h
    split at h
    · cases h; exact .inr (.inl ⟨_, rfl⟩)
    · cases h

theorem inv_runStep {df : Frame} {s s' : Store} (series : Bool) (lim : Option Nat) (m : Method) (h : Inv df s)
    (hr : runStep series lim s m = .ok s') : Inv df s' := by
  rw [runStep] at hr
  split at hr
  · rename_i ps hps
    cases hr
    rcases stmts_shape series lim _ m ps hps with rfl | ⟨g, rfl⟩ | ⟨g, k, rfl⟩
    · exact h
    · exact inv_rebind h g
    · exact inv_assign (inv_rebind h g) k (Nat.lt_of_le_of_lt (Nat.zero_le _) h.bound)
  · cases hr

/-- what a statement does to the value `res` points to: both kinds apply their function to it -/
def Stmt.fn : Stmt → Frame → Frame
  | .rebind g => g
  | .assign g => g

theorem cur_exec (s : Store) (st : Stmt) (hb : s.res < s.cells.length) :
    cur (exec s st) = st.fn (cur s) ∧ (exec s st).res < (exec s st).cells.length := by
  cases st <;> simp [cur, exec, Stmt.fn, hb]

theorem cur_foldl (ps : List Stmt) (s : Store) (hb : s.res < s.cells.length) :
    cur (ps.foldl exec s) = ps.foldl (fun f st => st.fn f) (cur s) ∧
      (ps.foldl exec s).res < (ps.foldl exec s).cells.length := by
  induction ps generalizing s with
  | nil => exact ⟨rfl, hb⟩
  | cons st ps ih =>
    obtain ⟨a, b⟩ := cur_exec s st hb
    rw [List.foldl_cons, List.foldl_cons, ← a]
    exact ih _ b

theorem tail_sim (inv : Option Int) (lim : Option Nat) (f : Frame) (c : String × Col) (hc : f.cols = [c]) :
    ResRel (fun ps g => ps.foldl (fun f st => Stmt.fn st f) f = g) (tailStmts inv lim f) (tailStep inv lim f) := by
  obtain ⟨idx, cols⟩ := f
  cases hc
  simp only [tailStmts, tailStep, List.all_cons, List.all_nil, Bool.and_true]
  cases hl : lastValidTime idx c.2 with
  | none => simp [ResRel, Frame.mapCols, ffillTail, hl]
  | some t =>
    cases hlim : limOk lim with
    | false => exact rfl
    | true => simp [ResRel, Stmt.fn, Frame.mapCols, ffillTail, hl, tailSet]

/-- what a pass keeps: `res` points to an existing cell that holds the pure model's value, a Series stays one column -/
def Sim (series : Bool) (s : Store) (g : Frame) : Prop :=
  cur s = g ∧ s.res < s.cells.length ∧ (series = true → ∃ c, g.cols = [c])

theorem runStep_sim (series : Bool) (lim : Option Nat) (m : Method) (s : Store) (f : Frame) (h : Sim series s f) :
    ResRel (Sim series) (runStep series lim s m) (step lim f m) := by
  obtain ⟨rfl, hb, h1⟩ := h
  have hs : ResRel (fun ps g => ps.foldl (fun f st => Stmt.fn st f) (cur s) = g) (stmts series lim (cur s) m)
      (step lim (cur s) m) := by
    rcases stmts_cases series lim (cur s) m with ⟨hser, inv, hst, hstep⟩ | hst
    · obtain ⟨c, hc⟩ := h1 hser
      rw [hst, hstep]
      exact tail_sim inv lim _ c hc
    · rw [hst]
      cases step lim (cur s) m
      · exact rfl
      · exact rfl
  rw [runStep]
  cases hst : stmts series lim (cur s) m <;> cases hstep : step lim (cur s) m <;> rw [hst, hstep] at hs
  · exact hs
  · exact hs.elim
  · exact hs.elim
  · rename_i ps g
    obtain ⟨a, b⟩ := cur_foldl ps s hb
    refine ⟨a.trans hs, b, fun hser => ?_⟩
    obtain ⟨c, hc⟩ := h1 hser
    exact List.length_eq_one_iff.mp ((step_ncols lim _ _ m hstep).trans (congrArg List.length hc))

theorem nonaPd_eq_edgeCases (edge : Option Int) (f : Frame) :
    nonaPd edge f =
      let res := f.gather ((List.range f.nrows).filter f.rowValid)
      let s1 : NStore Frame := NStore.alloc { cells := [⟨f, Option.none⟩], ret := 0, writes := [] } res Option.none
      edgeCases edge res.idx.isEmpty s1
        (s1.alloc (f.gather ((List.range f.nrows).filter fun i => decide (f.idx.getD i 0 ≤ res.idx.getLastD 0))) Option.none)
        (s1.alloc (f.gather ((List.range f.nrows).filter fun i => decide (f.idx.getD i 0 ≥ res.idx.headD 0))) Option.none) := rfl

theorem nonaArrS_eq_edgeCases (copy : Bool) (edge : Option Int) (cols : List Col) :
    nonaArrS copy edge cols =
      let valid := (List.range (ofArr cols).nrows).filter (ofArr cols).rowValid
      let s1 : NStore (List Col) := NStore.alloc { cells := [⟨cols, Option.none⟩], ret := 0, writes := [] } (nonaArr cols) Option.none
      let slice (v : List Col) : NStore (List Col) :=
        if copy then (s1.alloc v (some 0)).alloc v Option.none else s1.alloc v (some 0)
      edgeCases edge valid.isEmpty s1 (slice (cols.map fun c => c.take (valid.getLastD 0 + 1)))
        (slice (cols.map fun c => c.drop (valid.headD 0))) := rfl

theorem reachesInput_zero {α} (s : NStore α) (fuel : Nat) : reachesInput s fuel 0 = true := by
  cases fuel <;> rfl

theorem cells_alloc {α} (s : NStore α) (v : α) (b : Option Nat) : (s.alloc v b).cells[s.cells.length]? = some ⟨v, b⟩ :=
  List.getElem?_concat_length

theorem result_alloc {α} (s : NStore α) (v : α) (b : Option Nat) : (s.alloc v b).result = some v := by
  rw [NStore.result, show (s.alloc v b).ret = s.cells.length from rfl, cells_alloc]
  rfl

theorem aliasesInput_alloc {α} (s : NStore α) (v : α) (b : Option Nat) :
    (s.alloc v b).aliasesInput = (s.cells.length == 0 ||
      match b with
      | some k => reachesInput (s.alloc v b) s.cells.length k
      | Option.none => false) := by
  show reachesInput _ (s.cells ++ [_]).length s.cells.length = _
  rw [List.length_append, List.length_singleton, reachesInput, cells_alloc]
  rfl

theorem alloc_owned {α} (s : NStore α) (v : α) (c : NCell α) (h0 : s.cells[0]? = some c) (hw : s.writes = []) :
    (s.alloc v Option.none).cells[0]? = some c ∧ (s.alloc v Option.none).writes = [] ∧
    (s.alloc v Option.none).ret ≠ 0 ∧ (s.alloc v Option.none).aliasesInput = false ∧ some v = (s.alloc v Option.none).result := by
  have h := List.getElem?_some_lt h0
  refine ⟨(List.getElem?_append_left h).trans h0, hw, Nat.ne_of_gt h, ?_, (result_alloc s v _).symm⟩
  rw [aliasesInput_alloc]
  exact Bool.or_eq_false_iff.mpr ⟨beq_false_of_ne (Nat.ne_of_gt h), rfl⟩

theorem alloc_view {α} (s : NStore α) (v : α) :
    (s.alloc v (some 0)).aliasesInput = true ∧ some v = (s.alloc v (some 0)).result := by
  refine ⟨?_, (result_alloc s v _).symm⟩
  rw [aliasesInput_alloc]
  exact Bool.or_eq_true_iff.mpr (.inr (reachesInput_zero _ _))

end Pyg.FillAlias
