/-
  Multi-column frames.  `_drop_repeats` on a frame drops a row only if EVERY column repeats; seen from one column it drops
  SOME of the repeats of that column (`RepSub`), which no as-of cut notices.  `List.mergeSort` and `List.eraseDups` do not
  reduce in the kernel: the concrete witnesses of C17 go through the one-date lemmas (`*_single`).
-/
import PygProofs.Lemmas.BitempHistories

namespace Pyg.Bitemp

abbrev stepF : Option (List (Option Int)) → StoreF → StoreF := stepG RowF.vals (List.zipWith Option.or) allRepeat

theorem dropRepeatsF_eq (d : StoreF) : dropRepeatsF d = keepLastF (stepF Option.none d) := by
  cases d with
  | nil => rfl
  | cons r rest =>
    unfold dropRepeatsF
    simp only [List.map_cons, ffillF, List.drop_succ_cons, List.drop_zero,
      List.zip_cons_cons, List.filter_cons, if_true, stepF, stepG]
    rw [List.zipWith_cons_dropLast, mask_eq_stepG RowF.vals (List.zipWith Option.or) allRepeat ffillFromF fun _ _ _ => rfl]

theorem keepLastF_sublist (c : StoreF) : (keepLastF c).Sublist c := by
  fun_induction keepLastF c with
  | case1 => exact List.Sublist.refl _
  | case2 r rest h ih => exact ih.cons _
  | case3 r rest h ih => exact ih.cons_cons _

theorem dropRepeatsF_sublist (c : StoreF) : (dropRepeatsF c).Sublist c := by
  rw [dropRepeatsF_eq]; exact (keepLastF_sublist _).trans (stepG_sublist ..)

def SortedLtF (c : StoreF) : Prop := c.Pairwise (fun a b => a.stamp < b.stamp)

theorem keepLastF_of_sortedLt (c : StoreF) (h : SortedLtF c) : keepLastF c = c := by
  fun_induction keepLastF c with
  | case1 => rfl
  | case2 r rest hany ih =>
    obtain ⟨x, hx, he⟩ := List.any_eq_true.mp hany
    have := List.rel_of_pairwise_cons h hx
    rw [beq_iff_eq] at he
    omega
  | case3 r rest hany ih => rw [ih h.tail]

def cell (c : Nat) (vs : List (Option Int)) : Option Int := (vs[c]?).join

def projF (c : Nat) (r : RowF) : Row := ⟨r.date, r.stamp, cell c r.vals⟩

theorem colF_eq_map (c : Nat) (rows : StoreF) : colF c rows = rows.map (projF c) := rfl

theorem cell_zipWith_or (c : Nat) (a b : List (Option Int)) (ha : c < a.length) (hb : c < b.length) :
    cell c (List.zipWith Option.or a b) = (cell c a).or (cell c b) := by
  simp [cell, List.getElem?_zipWith, List.getElem?_eq_getElem ha, List.getElem?_eq_getElem hb]

theorem npEq_of_allRepeat (c : Nat) (a b : List (Option Int)) (ha : c < a.length) (hb : c < b.length)
    (h : allRepeat a b = true) : npEq (cell c a) (cell c b) = true := by
  unfold allRepeat at h
  rw [List.all_eq_true] at h
  have hm : npEq a[c] b[c] ∈ List.zipWith npEq a b := by
    rw [List.mem_iff_getElem]
    exact ⟨c, by simp only [List.length_zipWith]; omega, by simp⟩
  have := h _ hm
  simpa [cell, List.getElem?_eq_getElem ha, List.getElem?_eq_getElem hb] using this

theorem stepF_repSub (c w : Nat) (hc : c < w) (prev : Option (List (Option Int))) (d : StoreF)
    (hw : ∀ r ∈ d, r.vals.length = w) (hp : ∀ p ∈ prev, p.length = w) :
    RepSub (prev.map (cell c)) (colF c (stepF prev d)) (colF c d) := by
  unfold stepF
  fun_induction stepG RowF.vals (List.zipWith Option.or) allRepeat prev d with
  | case1 => exact RepSub.nil _
  | case2 r rest ih =>
    have ih' := ih (fun x hx => hw x (List.mem_cons_of_mem _ hx)) (by simpa using hw r List.mem_cons_self)
    simp only [colF_eq_map, List.map_cons, Option.map_none]
    exact RepSub.keep _ _ _ _ (by simpa [colF_eq_map, projF] using ih')
  | case3 p r rest h ih =>
    have hr : r.vals.length = w := hw r List.mem_cons_self
    have hpl : p.length = w := hp p rfl
    have hcell := cell_zipWith_or c r.vals p (by omega) (by omega)
    have ih' := ih (fun x hx => hw x (List.mem_cons_of_mem _ hx)) (by simp [hr, hpl])
    have hrep := npEq_of_allRepeat c _ _ (by simp [hr, hpl, hc]) (by omega) h
    rw [Option.map_some, hcell] at ih'
    rw [hcell] at hrep
    simp only [colF_eq_map, List.map_cons, Option.map_some]
    exact RepSub.drop _ _ _ _ hrep (by simpa [colF_eq_map, projF] using ih')
  | case4 p r rest h ih =>
    have hr : r.vals.length = w := hw r List.mem_cons_self
    have hpl : p.length = w := hp p rfl
    have ih' := ih (fun x hx => hw x (List.mem_cons_of_mem _ hx)) (by simp [hr, hpl])
    rw [Option.map_some, cell_zipWith_or c r.vals p (by omega) (by omega)] at ih'
    simp only [colF_eq_map, List.map_cons, Option.map_some]
    exact RepSub.keep _ _ _ _ (by simpa [colF_eq_map, projF] using ih')

theorem mem_sortStampF {r : RowF} {c : StoreF} : r ∈ sortStampF c ↔ r ∈ c := List.mem_mergeSort

theorem mem_groupF {rows : StoreF} {d : Int} {r : RowF} : r ∈ groupF d rows ↔ r ∈ rows ∧ r.date = d := by
  simp [groupF]

theorem groupF_append (d : Int) (a b : StoreF) : groupF d (a ++ b) = groupF d a ++ groupF d b := by
  simp [groupF]

theorem groupF_sortStampF (d : Int) (rows : StoreF) : groupF d (sortStampF rows) = sortStampF (groupF d rows) :=
  List.mergeSort_filter (by intro a b c; simp only [decide_eq_true_eq]; omega)
    (by intro a b; simp only [Bool.or_eq_true, decide_eq_true_eq]; omega) _ _

theorem sortStampF_of_sorted {c : StoreF} (h : c.Pairwise (fun a b => a.stamp ≤ b.stamp)) : sortStampF c = c :=
  List.mergeSort_of_pairwise (h.imp (by intro a b hab; simpa using hab))

theorem mem_datesF {rows : StoreF} {d : Int} : d ∈ datesF rows ↔ ∃ r ∈ rows, r.date = d :=
  List.mem_mergeSort_eraseDups.trans List.mem_map

theorem datesF_nodup (rows : StoreF) : (datesF rows).Nodup := List.sorted_nodup Int.lt_irrefl (List.pairwise_mergeSort_eraseDups _)

theorem datesF_eq (c : Nat) (rows : StoreF) : datesF rows = dates (colF c rows) := by
  simp [datesF, dates, colF, List.map_map, Function.comp_def]

theorem colF_groupF (c : Nat) (d : Int) (rows : StoreF) : colF c (groupF d rows) = group d (colF c rows) := by
  simp only [colF_eq_map, groupF, group, List.filter_map]
  rfl

theorem colF_filter_vis (c : Nat) (asof : Option Int) (rows : StoreF) :
    colF c (rows.filter fun r => vis asof ⟨r.date, r.stamp, Option.none⟩) = (colF c rows).filter (vis asof) := by
  simp only [colF_eq_map, List.filter_map]
  congr 1

/-- the as-of filter of `bi_read` on frame rows -/
def visF (asof : Option Int) (r : RowF) : Bool := vis asof ⟨r.date, r.stamp, Option.none⟩

theorem colF_filter_visF (c : Nat) (asof : Option Int) (rows : StoreF) :
    colF c (rows.filter (visF asof)) = (colF c rows).filter (vis asof) :=
  colF_filter_vis c asof rows

theorem filter_visF_none (rows : StoreF) : rows.filter (visF Option.none) = rows :=
  List.filter_eq_self.mpr fun _ _ => rfl

theorem biReadF_eq (st : StoreF) (asof : Option Int) (n : Int) :
    biReadF st asof n = (datesF (sortStampF (st.filter (visF asof)))).map fun d =>
      (d, ((nthF n (groupF d (sortStampF (st.filter (visF asof))))).map (·.vals)).getD []) := by
  cases asof with
  | none => simp only [biReadF, filter_visF_none]
  | some T => rfl

theorem biReadFS_eq (w : Nat) (st : StoreF) (asof : Option Int) (sel : Sel) :
    biReadFS w st asof sel = (datesF (sortStampF (st.filter (visF asof)))).map fun d =>
      (d, (List.range w).map fun c => sel.apply (colF c (groupF d (sortStampF (st.filter (visF asof)))))) := by
  cases asof with
  | none => simp only [biReadFS, filter_visF_none]
  | some T => rfl

theorem colF_sortStampF (c : Nat) (rows : StoreF) : colF c (sortStampF rows) = sortStamp (colF c rows) := by
  rw [colF_eq_map, colF_eq_map]
  exact List.map_mergeSort (by intro a _ b _; rfl)

theorem colF_append (c : Nat) (a b : StoreF) : colF c (a ++ b) = colF c a ++ colF c b := by simp [colF_eq_map]

theorem groupF_mergeFramesF (d : Int) (o n : StoreF) :
    groupF d (mergeFramesF [o, n]) = dropRepeatsF (sortStampF (groupF d (o ++ n))) := by
  have e : [o, n].flatten = o ++ n := by simp
  rw [← groupF_sortStampF, ← e]
  exact List.filter_flatMap_groups RowF.date dropRepeatsF dropRepeatsF_sublist rfl _ _ (datesF_nodup _) (fun _ => mem_datesF) d

theorem mergeFramesF_subset (o n : StoreF) {r : RowF} (h : r ∈ mergeFramesF [o, n]) : r ∈ o ++ n := by
  have h1 : r ∈ groupF r.date (mergeFramesF [o, n]) := mem_groupF.mpr ⟨h, rfl⟩
  rw [groupF_mergeFramesF] at h1
  have := (dropRepeatsF_sublist _).subset h1
  exact (mem_groupF.mp (mem_sortStampF.mp this)).1

/-- `Inv` seen from column `c` of a frame store: per date the ROWS strictly increase in stamp (no NaN-first clause: frame rows
    are kept raw), column `c` folds at every cut as column `c` of the published rows, published rows only -/
structure InvC (c : Nat) (st rows : StoreF) : Prop where
  sorted : ∀ d, SortedLtF (groupF d st)
  specEq : SpecEq (colF c st) (colF c rows)
  published : ∀ r ∈ st, r ∈ rows

theorem sortedLe_colF (c : Nat) {X : StoreF} (h : SortedLtF X) : SortedLe (colF c X) := by
  rw [colF_eq_map]
  unfold SortedLe
  rw [List.pairwise_map]
  exact h.imp (by intro a b hab; show a.stamp ≤ b.stamp; omega)

/-- one merge of frames in which every date's rows strictly increase in stamp: sort and `keepLastF` change nothing, the store
    is the concatenation without the rows that repeat in every column -/
theorem groupF_mergeFramesF_of_sortedLt {o n : StoreF} (hX : ∀ d, SortedLtF (groupF d (o ++ n))) (d : Int) :
    groupF d (mergeFramesF [o, n]) = stepF Option.none (groupF d (o ++ n)) := by
  rw [groupF_mergeFramesF, sortStampF_of_sorted ((hX d).imp Int.le_of_lt), dropRepeatsF_eq,
    keepLastF_of_sortedLt _ ((hX d).sublist (stepG_sublist ..))]

theorem mergeFramesF_specEq (c w : Nat) (hc : c < w) {o n : StoreF} (hw : ∀ r ∈ o ++ n, r.vals.length = w)
    (hX : ∀ d, SortedLtF (groupF d (o ++ n))) : SpecEq (colF c (mergeFramesF [o, n])) (colF c (o ++ n)) := by
  intro d p hp
  have hrs := stepF_repSub c w hc Option.none (groupF d (o ++ n)) (fun r hr => hw r (mem_groupF.mp hr).1) (by simp)
  rw [Option.map_none] at hrs
  rw [← colF_groupF, groupF_mergeFramesF_of_sortedLt hX, hrs.spec hp (sortedLe_colF c (hX d)), colF_groupF]

theorem invC_merge (c w : Nat) (hc : c < w) {st rows n : StoreF} (h : InvC c st rows)
    (hw : ∀ r ∈ rows ++ n, r.vals.length = w) (hs : ∀ d, SortedLtF (groupF d (rows ++ n))) :
    InvC c (mergeFramesF [st, n]) (rows ++ n) := by
  obtain ⟨hg, he, hm⟩ := h
  have hsub := List.append_subset_append hm n
  have hX : ∀ d, SortedLtF (groupF d (st ++ n)) := fun d => List.pairwise_filter_append_of_subset (hg d) hm (hs d)
  refine ⟨fun d => ?_, ?_, fun r hr => hsub r (mergeFramesF_subset _ _ hr)⟩
  · rw [groupF_mergeFramesF_of_sortedLt hX]
    exact (hX d).sublist (stepG_sublist ..)
  · refine (mergeFramesF_specEq c w hc (fun r hr => hw r (hsub r hr)) hX).trans ?_
    rw [colF_append, colF_append]
    exact specEq_append he _

def mergeStepFF (st : Option StoreF) (f : StoreF) : Option StoreF := some (biMergeF st f)

theorem invC_foldl (c w : Nat) (hc : c < w) (rest : List StoreF) : ∀ (st rows : StoreF), InvC c st rows →
    (∀ r ∈ rows ++ rest.flatten, r.vals.length = w) → (∀ d, SortedLtF (groupF d (rows ++ rest.flatten))) →
    ∃ st', rest.foldl mergeStepFF (some st) = some st' ∧ InvC c st' (rows ++ rest.flatten) := by
  induction rest with
  | nil => intro st rows h _ _; exact ⟨st, rfl, by simpa using h⟩
  | cons f rest ih =>
    intro st rows h hw hs
    have e : rows ++ (f :: rest).flatten = (rows ++ f) ++ rest.flatten := by simp
    rw [e] at hs hw ⊢
    have hs1 : ∀ d, SortedLtF (groupF d (rows ++ f)) := by
      intro d
      have := hs d
      rw [groupF_append] at this
      exact (List.pairwise_append.mp this).1
    have hw1 : ∀ r ∈ rows ++ f, r.vals.length = w := fun r hr => hw r (List.mem_append_left _ hr)
    exact ih _ _ (invC_merge c w hc h hw1 hs1) hw hs

theorem historyFF_eq (log : List (Int × TSF)) :
    historyFF log = (log.map fun v => BiF v.2 v.1).foldl mergeStepFF Option.none := by
  unfold historyFF
  rw [List.foldl_map]
  rfl

theorem logRowsF_eq (log : List (Int × TSF)) : logRowsF log = (log.map fun v => BiF v.2 v.1).flatten := by
  simp [logRowsF, List.flatMap_def]

theorem historyFF_invC (c w : Nat) (hc : c < w) (v : Int × TSF) (rest : List (Int × TSF))
    (hw : ∀ r ∈ logRowsF (v :: rest), r.vals.length = w) (hs : ∀ d, SortedLtF (groupF d (logRowsF (v :: rest)))) :
    ∃ st, historyFF (v :: rest) = some st ∧ InvC c st (logRowsF (v :: rest)) := by
  rw [logRowsF_eq] at hw hs ⊢
  simp only [List.map_cons, List.flatten_cons] at hw hs ⊢
  have h0 : InvC c (BiF v.2 v.1) (BiF v.2 v.1) := by
    refine ⟨?_, SpecEq.refl _, fun _ h => h⟩
    intro d
    have := hs d
    rw [groupF_append] at this
    exact (List.pairwise_append.mp this).1
  obtain ⟨st, hst, hi⟩ := invC_foldl c w hc (rest.map fun v => BiF v.2 v.1) _ _ h0 hw hs
  exact ⟨st, (historyFF_eq (v :: rest)).trans hst, hi⟩

theorem cell_range_map (c w : Nat) (hc : c < w) (f : Nat → Option Int) : cell c ((List.range w).map f) = f c := by
  simp [cell, hc]

theorem biReadFS_col (c w : Nat) (hc : c < w) (st : StoreF) (asof : Option Int) (sel : Sel) :
    (biReadFS w st asof sel).map (fun p => (p.1, cell c p.2)) = biReadS (colF c st) asof sel := by
  rw [biReadFS_eq, biReadS_eq, ← colF_filter_visF, List.map_map, datesF_eq c, colF_sortStampF]
  apply List.map_congr_left
  intro d _
  simp only [Function.comp, cell_range_map c w hc, colF_groupF, colF_sortStampF]

theorem historyFF_some (v : Int × TSF) (rest : List (Int × TSF)) : ∃ st, historyFF (v :: rest) = some st :=
  List.foldl_preserves (P := fun o => ∃ st, o = some st) (l := rest) (fun _ _ _ _ => ⟨_, rfl⟩) ⟨_, rfl⟩

theorem historyFF_cols (w : Nat) (log : List (Int × TSF)) (hne : log ≠ []) (hw : ∀ r ∈ logRowsF log, r.vals.length = w)
    (hs : ∀ d, SortedLtF (groupF d (logRowsF log))) :
    ∃ st, historyFF log = some st ∧
      ∀ c, c < w → (∀ d, SortedLe (group d (colF c st))) ∧ SpecEq (colF c st) (colF c (logRowsF log)) := by
  match log, hne with
  | [], hne => exact absurd rfl hne
  | v :: rest, _ =>
    obtain ⟨st, hst⟩ := historyFF_some v rest
    refine ⟨st, hst, fun c hc => ?_⟩
    obtain ⟨st', hst', hg, he, _⟩ := historyFF_invC c w hc v rest hw hs
    rw [hst] at hst'; cases hst'
    exact ⟨fun d => by rw [← colF_groupF]; exact sortedLe_colF c (hg d), he⟩

theorem nthF_proj (c : Nat) (n : Int) (v : StoreF) : (nthF n v).map (projF c) = nth n (v.map (projF c)) := by
  rw [nthF_eq, nth_eq, List.length_map, List.getElem?_map]

theorem biReadF_col (c : Nat) (st : StoreF) (asof : Option Int) (n : Int) :
    (biReadF st asof n).map (fun p => (p.1, cell c p.2)) = biRead (colF c st) asof n := by
  rw [biReadF_eq, biRead_eq, ← colF_filter_visF, List.map_map, datesF_eq c, colF_sortStampF]
  apply List.map_congr_left
  intro d _
  simp only [Function.comp]
  rw [← colF_sortStampF, ← colF_groupF, colF_eq_map, nthVal, ← nthF_proj]
  cases nthF n (groupF d (sortStampF (st.filter (visF asof)))) with
  | none => simp [cell]
  | some r => simp [projF]

def emb (st : Store) : StoreF := st.map embRow

theorem keepLastF_emb (l : Store) : keepLastF (emb l) = emb (keepLast l) := by
  induction l with
  | nil => rfl
  | cons r rest ih =>
    have e : (emb rest).any (·.stamp == (embRow r).stamp) = rest.any (·.stamp == r.stamp) := by
      simp [emb, List.any_map, embRow, Function.comp_def]
    show keepLastF (embRow r :: emb rest) = _
    simp only [keepLastF, keepLast, e]
    split
    · exact ih
    · show _ = embRow r :: emb (keepLast rest); rw [ih]

theorem allRepeat_single (a p : Option Int) : allRepeat [a] [p] = npEq a p := by
  simp [allRepeat]

theorem stepF_emb (prev : Option (Option Int)) (d : Store) :
    stepF (prev.map fun p => [p]) (emb d) = emb (stepS prev d) := by
  have hz : ∀ (r : Row) (p : Option Int), List.zipWith Option.or (embRow r).vals [p] = [r.val.or p] := fun _ _ => rfl
  unfold stepS
  fun_induction stepG Row.val Option.or npEq prev d with
  | case1 a => cases a <;> rfl
  | case2 r rest ih => exact congrArg (embRow r :: ·) ih
  | case3 p r rest h ih =>
    show stepG RowF.vals (List.zipWith Option.or) allRepeat (some [p]) (embRow r :: emb rest) = _
    rw [stepG, hz, allRepeat_single, if_pos h]
    exact ih
  | case4 p r rest h ih =>
    show stepG RowF.vals (List.zipWith Option.or) allRepeat (some [p]) (embRow r :: emb rest) = _
    rw [stepG, hz, allRepeat_single, if_neg h]
    exact congrArg (embRow r :: ·) ih

theorem dropRepeatsF_emb (d : Store) : dropRepeatsF (emb d) = emb (dropRepeats d) := by
  rw [dropRepeatsF_eq, dropRepeats_eq]
  have := stepF_emb Option.none d
  simp only [Option.map_none] at this
  rw [this, keepLastF_emb]

theorem sortStampF_emb (l : Store) : sortStampF (emb l) = emb (sortStamp l) := by
  unfold emb sortStamp
  exact (List.map_mergeSort (by intro a _ b _; rfl)).symm

theorem datesF_emb (l : Store) : datesF (emb l) = dates l := by
  simp [datesF, dates, emb, List.map_map, Function.comp_def, embRow]

theorem groupF_emb (d : Int) (l : Store) : groupF d (emb l) = emb (group d l) := by
  simp only [groupF, group, emb, List.filter_map]
  rfl

theorem mergeFramesF_emb (bis : List Store) : mergeFramesF (bis.map emb) = emb (mergeFrames bis) := by
  unfold mergeFramesF mergeFrames
  have e : (bis.map emb).flatten = emb bis.flatten := by
    show (bis.map (List.map embRow)).flatten = List.map embRow bis.flatten
    rw [List.map_flatten]
  simp only [e, sortStampF_emb, datesF_emb, groupF_emb, dropRepeatsF_emb]
  simp [emb, List.map_flatMap]

theorem biMergeF_emb (old : Option Store) (new : Store) : biMergeF (old.map emb) (emb new) = emb (biMerge old new) := by
  cases old with
  | none => rfl
  | some o => exact mergeFramesF_emb [o, new]

theorem nthF_emb (n : Int) (v : Store) : nthF n (emb v) = (nth n v).map embRow := by
  rw [nthF_eq, nth_eq, emb, List.length_map, List.getElem?_map]

theorem emb_filter_vis (asof : Option Int) (st : Store) : emb (st.filter (vis asof)) = (emb st).filter (visF asof) := by
  simp only [emb, List.filter_map]; rfl

theorem biReadF_emb (st : Store) (asof : Option Int) (n : Int) :
    biReadF (emb st) asof n = (biRead st asof n).map fun p => (p.1, [p.2]) := by
  rw [biReadF_eq, biRead_eq, ← emb_filter_vis, List.map_map, sortStampF_emb, datesF_emb]
  apply List.map_congr_left
  intro d hd
  simp only [Function.comp, groupF_emb, nthF_emb, nthVal]
  cases hn : nth n (group d (sortStamp (st.filter (vis asof)))) with
  | some r => simp [embRow]
  | none =>
    -- a group of a date of the frame is not empty, `_nth` clamps into it
    exfalso
    have hlen : 0 < (group d (sortStamp (st.filter (vis asof)))).length :=
      List.length_pos_iff.mpr (group_ne_nil.mpr (mem_dates.mp hd))
    rw [nth_eq, List.getElem?_eq_none_iff] at hn
    exact absurd (nthIdx_lt n hlen) (Nat.not_lt.mpr hn)

theorem datesF_single (d : Int) (rows : StoreF) (hd : ∀ r ∈ rows, r.date = d) (hne : rows ≠ []) : datesF rows = [d] := by
  unfold datesF
  rw [List.eraseDups_all_eq d _ (by intro x hx; obtain ⟨r, hr, rfl⟩ := List.mem_map.mp hx; exact hd r hr) (by simpa using hne)]
  simp

theorem groupF_single (d : Int) (rows : StoreF) (hd : ∀ r ∈ rows, r.date = d) : groupF d rows = rows := by
  unfold groupF; rw [List.filter_eq_self]; intro r hr; simp [hd r hr]

theorem mergeFramesF_single (d : Int) (o n : StoreF) (hd : ∀ r ∈ o ++ n, r.date = d) (hne : o ++ n ≠ [])
    (hs : (o ++ n).Pairwise (fun a b => a.stamp ≤ b.stamp)) : mergeFramesF [o, n] = dropRepeatsF (o ++ n) := by
  unfold mergeFramesF
  simp only [List.flatten_cons, List.flatten_nil, List.append_nil]
  rw [sortStampF_of_sorted hs, datesF_single d _ hd hne]
  simp [groupF_single d _ hd]

theorem biReadF_single (d : Int) (st : StoreF) (hd : ∀ r ∈ st, r.date = d) (hne : st ≠ [])
    (hs : st.Pairwise (fun a b => a.stamp ≤ b.stamp)) (w : Int) :
    biReadF st Option.none w = [(d, ((nthF w st).map (·.vals)).getD [])] := by
  unfold biReadF
  simp only []
  rw [sortStampF_of_sorted hs, datesF_single d _ hd hne]
  simp [groupF_single d _ hd]

theorem biReadFS_single (width : Nat) (d : Int) (st : StoreF) (hd : ∀ r ∈ st, r.date = d) (hne : st ≠ [])
    (hs : st.Pairwise (fun a b => a.stamp ≤ b.stamp)) (sel : Sel) :
    biReadFS width st Option.none sel = [(d, (List.range width).map fun c => sel.apply (colF c st))] := by
  unfold biReadFS
  simp only []
  rw [sortStampF_of_sorted hs, datesF_single d _ hd hne]
  simp [groupF_single d _ hd]

end Pyg.Bitemp
