/-
  The list-of-records view of the dictable model: how `rows`/`cols` move through the row-selecting
  operations and through `concat`.
-/
import PygProofs.Lemmas.TableRect

namespace Pyg
namespace Table

theorem col?_gatherRows (t : Table) (idx : List Nat) (k : String) :
    (t.gatherRows idx).col? k = (t.col? k).map fun c => idx.map fun i => c.getD i .none := by
  rw [col?, gatherRows, List.find?_map, Option.map_map, col?, Option.map_map]
  rfl

theorem rows_of_rect {t : Table} {n : Nat} (h : t.Rect n) (hne : t ≠ []) : t.rows = (List.range n).map t.row := by
  rw [rows, nrows_of_rect h hne]

theorem rows_length {t : Table} {n : Nat} (h : t.Rect n) (hne : t ≠ []) : t.rows.length = n := by
  simp [rows_of_rect h hne]

theorem nrows_gatherRows {t : Table} (hne : t ≠ []) (idx : List Nat) : (t.gatherRows idx).nrows = idx.length := by
  cases t with
  | nil => exact absurd rfl hne
  | cons c t => simp [gatherRows, nrows]

theorem rows_gatherRows {t : Table} (hne : t ≠ []) (idx : List Nat) :
    (t.gatherRows idx).rows = idx.map t.row := by
  rw [rows, nrows_gatherRows hne]
  exact List.map_range_eq_map idx _ _ fun j hj => row_gatherRows t idx j hj

theorem cols_emptyLike (t : Table) : t.emptyLike.cols = t.cols := cols_map_snd t _

theorem gatherRows_range {t : Table} {n : Nat} (h : t.Rect n) : t.gatherRows (List.range n) = t :=
  (List.map_congr_left fun c hc => by rw [← h c hc, List.map_getD_range]).trans (List.map_id' t)

theorem maskIdx_full (n : Nat) (m : List Bool) (hm : m.length = n) :
    maskIdx n m = .ok ((((List.range n).zip m).filter (·.2)).map (·.1)) := by
  unfold maskIdx
  rw [zipper2_same (by rw [hm, List.length_range])]

theorem maskIdx_lt {n : Nat} {m : List Bool} {idx : List Nat} (h : maskIdx n m = .ok idx) :
    ∀ i ∈ idx, i < n := by
  unfold maskIdx at h
  split at h
  · cases h
  · rename_i ps hps
    cases h
    intro i hi
    obtain ⟨p, hp, rfl⟩ := List.mem_map.1 hi
    exact List.mem_range.1 (zipper2_ok_fst hps p (List.mem_filter.1 hp).1)

theorem getSlice_eq_gather {t : Table} {n : Nat} (h : t.Rect n) (a b s : Option Int) (hs : s ≠ some 0) :
    t.getSlice a b s = .ok (t.gatherRows (sliceIdx n a b (s.getD 1))) := by
  rw [getSlice, beq_false_of_ne hs, Bool.false_and, if_neg Bool.false_ne_true, gatherRows]
  congr 1
  apply List.map_congr_left
  intro c hc
  rw [pySlice, h c hc]

theorem cols_concat (ts : List Table) : (concat ts).cols = dedupKeys (ts.flatMap Table.cols) :=
  (cols_map _ _).trans (List.map_id' _)

theorem col?_map_keys (keys : List String) (F : String → List Cell) (k : String) (hk : k ∈ keys) :
    Table.col? (keys.map fun k' => (k', F k')) k = some (F k) := by
  rw [col?, List.find?_key_map, if_pos hk]
  rfl

theorem rows_flatMap {α} (ts : List α) (len : α → Nat) (keys : List String) (g : String → α → List Cell)
    (hg : ∀ k ∈ keys, ∀ t ∈ ts, (g k t).length = len t) :
    (List.range ((ts.map len).sum)).map (fun j => keys.map fun k => (ts.flatMap (g k)).getD j .none)
      = ts.flatMap fun t => (List.range (len t)).map fun i => keys.map fun k => (g k t).getD i .none := by
  induction ts with
  | nil => rfl
  | cons t ts ih =>
    simp only [List.map_cons, List.sum_cons, List.flatMap_cons, List.range_add, List.map_append, List.map_map]
    congr 1
    · apply List.map_congr_left
      intro j hj
      apply List.map_congr_left
      intro k hk
      have hl := hg k hk t List.mem_cons_self
      have hj' : j < (g k t).length := by rw [hl]; simpa using hj
      simp [List.getD_eq_getElem?_getD, List.getElem?_append_left hj']
    · rw [← ih (fun k hk t' ht' => hg k hk t' (List.mem_cons_of_mem _ ht'))]
      apply List.map_congr_left
      intro j _
      apply List.map_congr_left
      intro k hk
      have hl := hg k hk t List.mem_cons_self
      simp only [List.getD_eq_getElem?_getD]
      rw [List.getElem?_append_right (by omega)]
      congr 2
      omega

theorem eq_nil_of_concat_cols_nil {ts : List Table} (hk : (concat ts).cols = []) : ∀ t ∈ ts, t = [] := by
  intro t ht
  cases t with
  | nil => rfl
  | cons c t' =>
    have : c.1 ∈ (concat ts).cols := by
      rw [cols_concat, mem_dedupKeys]
      exact List.mem_flatMap.2 ⟨_, ht, by simp [cols]⟩
    rw [hk] at this
    cases this

theorem rows_concat (ts : List Table) (hr : ∀ t ∈ ts, ∃ n, t.Rect n) :
    (concat ts).rows = ts.flatMap fun t => (List.range t.nrows).map fun i =>
      (concat ts).cols.map fun k => (t.getCol k).getD i .none := by
  by_cases hk : (concat ts).cols = []
  · have h0 : concat ts = [] := List.map_eq_nil_iff.1 hk
    rw [h0]
    exact (List.flatMap_eq_nil_iff.2 fun t ht => by rw [eq_nil_of_concat_cols_nil hk t ht]; rfl).symm
  · have hn : (concat ts).nrows = (ts.map Table.nrows).sum :=
      nrows_of_rect (concat_rect hr) fun he => hk (by rw [he]; rfl)
    have := rows_flatMap ts Table.nrows (dedupKeys (ts.flatMap Table.cols)) (fun k t => t.getCol k)
      (fun k _ t ht => by obtain ⟨n, hn⟩ := hr t ht; exact getCol_length k hn)
    rw [cols_concat, ← this, rows, hn]
    exact List.map_congr_left fun j _ => by simp [row, concat, List.map_map, Function.comp_def]

theorem rows_getD (t : Table) (n : Nat) (hr : t.Rect n) (hne : t ≠ []) (j : Nat) (hj : j < n) :
    t.rows.getD j [] = t.row j := by
  simp [rows_of_rect hr hne, List.getD_eq_getElem?_getD, hj]

theorem zip_cols_row (t : Table) (i : Nat) :
    t.cols.zip (t.row i) = t.map fun c => (c.1, c.2.getD i .none) := by
  simp [cols, row, List.zip_map']

/-- looking a key up in row `i` read as a record = looking the column up and taking its entry `i` -/
theorem find?_zip_cols_row (t : Table) (i : Nat) (k : String) :
    (t.cols.zip (t.row i)).find? (·.1 == k) = (t.find? (·.1 == k)).map fun c => (c.1, c.2.getD i .none) := by
  rw [zip_cols_row, List.find?_map]
  rfl

theorem lookup_row (t : Table) (i : Nat) (k : String) :
    Recs.lookup t.cols (t.row i) k = (t.getCol k).getD i .none := by
  unfold Recs.lookup getCol col?
  rw [find?_zip_cols_row]
  cases t.find? (fun c => c.1 == k) with
  | none =>
    simp only [Option.map_none, Option.getD_none, List.getD_eq_getElem?_getD, List.getElem?_replicate]
    split <;> rfl
  | some e => rfl

theorem cellAt_of_col {t : Table} {k : String} {col : List Cell} (hk : t.col? k = some col) (i : Nat) :
    t.cellAt i k = some (col.getD i .none) := by
  rw [cellAt, hk]; rfl

theorem cellAt_eq_none {t : Table} {k : String} (h : t.has k = false) (i : Nat) : t.cellAt i k = Option.none := by
  rw [cellAt, col?_eq_none h]; rfl

theorem gatherRows_ne_nil {t : Table} (hne : t ≠ []) (idx : List Nat) : t.gatherRows idx ≠ [] :=
  fun h => hne (List.map_eq_nil_iff.1 h)

theorem has_gatherRows (t : Table) (idx : List Nat) (k : String) : (t.gatherRows idx).has k = t.has k := by
  rw [Table.has, gatherRows, List.any_map]; rfl

theorem cellAt_gatherRows (t : Table) (idx : List Nat) (k : String) (j : Nat) (hj : j < idx.length) :
    (t.gatherRows idx).cellAt j k = t.cellAt idx[j] k := by
  rw [cellAt, col?_gatherRows, Option.map_map]
  exact congrArg (Option.map · _) (funext fun c => List.getD_map_of_lt _ idx _ j hj)

theorem gatherRows_gatherRows (t : Table) (idx idx2 : List Nat) (h : ∀ j ∈ idx2, j < idx.length) :
    (t.gatherRows idx).gatherRows idx2 = t.gatherRows (idx2.map fun j => idx.getD j 0) := by
  simp only [gatherRows, List.map_map]
  apply List.map_congr_left
  intro c _
  simp only [Function.comp, Prod.mk.injEq, true_and]
  apply List.map_congr_left
  intro j hj
  have hj' := h j hj
  rw [List.getD_map_of_lt _ idx _ j hj']
  simp only [Function.comp, List.getD_eq_getElem?_getD, List.getElem?_eq_getElem hj', Option.getD_some]

theorem emptyLike_gatherRows (t : Table) (idx : List Nat) : (t.gatherRows idx).emptyLike = t.gatherRows [] :=
  gatherRows_gatherRows t idx [] (fun _ h => nomatch h)

theorem gatherRows_filter_gather (t : Table) (idx : List Nat) (q p : Nat → Bool)
    (h : ∀ j (hj : j < idx.length), q j = p idx[j]) :
    (t.gatherRows idx).gatherRows ((List.range idx.length).filter q) = t.gatherRows (idx.filter p) := by
  have hq : ∀ j ∈ List.range idx.length, q j = (p ∘ fun j => idx.getD j 0) j := by
    intro j hj
    have hj' := List.mem_range.1 hj
    simp [h j hj', List.getD_eq_getElem?_getD, hj']
  rw [gatherRows_gatherRows t idx _ (fun j hj => List.mem_range.1 (List.mem_filter.1 hj).1),
    List.filter_congr hq, ← List.filter_map, List.map_getD_range]

theorem rows_filter_sublist {t : Table} {n : Nat} (hr : t.Rect n) (hne : t ≠ []) (p : Nat → Bool) :
    (t.gatherRows ((List.range n).filter p)).rows.Sublist t.rows := by
  rw [rows_gatherRows hne, rows_of_rect hr hne]
  exact List.filter_sublist.map _

theorem rows_filter_perm {t : Table} {n : Nat} (hr : t.Rect n) (hne : t ≠ []) (p : Nat → Bool) :
    ((t.gatherRows ((List.range n).filter p)).rows ++
      (t.gatherRows ((List.range n).filter fun i => !p i)).rows).Perm t.rows := by
  rw [rows_gatherRows hne, rows_gatherRows hne, ← List.map_append, rows_of_rect hr hne]
  exact (List.filter_append_perm p _).map _

theorem getMask_gather {t : Table} (hne : t ≠ []) (idx : List Nat) (p : Nat → Bool) :
    (t.gatherRows idx).getMask (idx.map p) = .ok (t.gatherRows (idx.filter p)) := by
  have hm := maskIdx_full idx.length (idx.map p) (List.length_map p)
  rw [getMask_eq, nrows_gatherRows hne, hm]
  show Except.ok _ = _
  rw [gatherRows_gatherRows _ _ _ (maskIdx_lt hm), List.positions_filter idx p 0]

end Table
end Pyg
