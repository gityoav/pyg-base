/-
  One step of the history machine, seen through `abs`, is one step of the list-of-records machine.
-/
import PygProofs.Lemmas.TableMaskPlain

namespace Pyg
open Table

/-- a machine state (heap, outcome) read as lists of records -/
def absStep (p : Heap × Out) : RHeap × Out := (p.1.map abs, p.2)

/-- the outcomes of a history of the dictable machine, line by line -/
def stepTrace (s : Heap) : List Op → List Out
  | [] => []
  | op :: ops => (step s op).2 :: stepTrace (step s op).1 ops

theorem map_put (s : Heap) (d : Nat) (t : Table) :
    (s.put d t).map abs = RHeap.put (s.map abs) d (abs t) := by
  unfold Heap.put RHeap.put
  rw [List.length_map]
  split <;> simp [List.map_set]

theorem absStep_bind (s : Heap) (d : Nat) {r : Except Err Table} {r' : Except Err Recs}
    (h : r.map abs = r') : absStep (s.bind d r) = RHeap.bind (s.map abs) d r' := by
  subst h
  cases r with
  | error e => rfl
  | ok t => simp only [Heap.bind, absStep, map_put]; rfl

theorem absStep_query (s : Heap) (r : Except Err Val) :
    absStep (s.query r) = RHeap.query (s.map abs) r := by
  cases r <;> rfl

theorem absStep_withT (s : Heap) (hs : HeapRect s) (h : Nat) {f : Table → Heap × Out} {g : Recs → RHeap × Out}
    (hfg : ∀ t n, t.Rect n → absStep (f t) = g (abs t)) :
    absStep (match s[h]? with | some t => f t | Option.none => (s, .badHandle)) =
      match (s.map abs)[h]? with | some r => g r | Option.none => (s.map abs, .badHandle) := by
  rw [List.getElem?_map]
  cases ht : s[h]? with
  | none => rfl
  | some t =>
    obtain ⟨n, hn⟩ := hs.get ht
    exact hfg t n hn

theorem step_refines (s : Heap) (op : Op) (hs : HeapRect s) :
    absStep (step s op) = specStep (s.map abs) op := by
  cases op with
  | new dst data columns kwargs =>
    simp only [step, specStep]
    rw [← abs_construct]
    cases construct data columns kwargs with
    | none => rfl
    | some r => exact absStep_bind s dst rfl
  | setitem h k v =>
    refine absStep_withT s hs h fun t n hn => ?_
    rw [← abs_setitem hn]
    cases t.setitem k v <;> simp only [absStep, Except.map, List.map_set]
  | delitem h k =>
    refine absStep_withT s hs h fun t n hn => ?_
    rw [← abs_delitem hn]
    cases t.delitem k <;> simp only [absStep, Except.map, List.map_set]
  | update h kvs =>
    refine absStep_withT s hs h fun t n hn => ?_
    rw [abs_update hn]
    rcases t.update kvs with ⟨t', _ | e⟩ <;> simp only [absStep, List.map_set]
  | len h =>
    refine absStep_withT s hs h fun t n hn => ?_
    rw [absStep_query, len_abs hn]
    rfl
  | shape h =>
    refine absStep_withT s hs h fun t n hn => ?_
    rw [absStep_query, len_abs hn]
    simp only [Except.map, abs_cols, cols, List.length_map]
  | row h i => exact absStep_withT s hs h fun t n hn => by rw [absStep_query, abs_getRow hn]
  | col h k => exact absStep_withT s hs h fun t n hn => by rw [absStep_query, abs_getColE hn]
  | iter h => exact absStep_withT s hs h fun t _ _ => absStep_query s _
  | tup h ks => exact absStep_withT s hs h fun t n hn => by rw [absStep_query, abs_getTuple hn]
  | apply h f => exact absStep_withT s hs h fun t _ _ => by rw [absStep_query, abs_applyFn t]
  | slice dst h a b st => exact absStep_withT s hs h fun t n hn => absStep_bind s dst (abs_getSlice hn a b st)
  | mask dst h m => exact absStep_withT s hs h fun t _ _ => absStep_bind s dst (abs_getMaskC t m)
  | take dst h is => exact absStep_withT s hs h fun t _ _ => absStep_bind s dst (abs_getTake t is)
  | proj dst h ks => exact absStep_withT s hs h fun t n hn => absStep_bind s dst (abs_getProj hn ks)
  | call dst h consts fns => exact absStep_withT s hs h fun t n hn => absStep_bind s dst (abs_call hn consts fns)
  | relabel dst h r =>
    exact absStep_withT s hs h fun t n hn => absStep_bind s dst (congrArg Except.ok (abs_relabel_any hn r))
  | doo dst h f keys => exact absStep_withT s hs h fun t n hn => absStep_bind s dst (abs_doCols hn f keys)
  | concat dst hs' =>
    simp only [step, specStep, List.getElem?_map, List.mapM_option_map]
    cases hm : hs'.mapM (fun h => s[h]?) with
    | none => rfl
    | some ts =>
      have hrect : ∀ t ∈ ts, ∃ n, t.Rect n := fun t ht => hs t (mem_of_mapM_getElem? hs' ts hm t ht)
      match ts, hrect with
      | [], _ => exact absStep_bind s dst rfl
      | [_], _ => rfl
      | t1 :: t2 :: ts, hrect =>
        exact absStep_bind s dst (congrArg Except.ok (abs_concat (t1 :: t2 :: ts) hrect))
  | addrec dst h r =>
    refine absStep_withT s hs h fun t n hn => ?_
    rw [← abs_construct]
    cases hc : construct (Data.cols (r.map fun kv => (kv.1, ColVal.one kv.2))) Option.none [] with
    | none => rfl
    | some r2 =>
      cases r2 with
      | error e => rfl
      | ok t2 =>
        exact absStep_bind s dst (congrArg Except.ok
          (abs_concat [t, t2] (List.forall_mem_pair ⟨n, hn⟩ (construct_rect hc))))
  | addnone h => exact absStep_withT s hs h fun _ _ _ => rfl
  | copy dst h => exact absStep_withT s hs h fun t _ _ => absStep_bind s dst rfl

end Pyg
