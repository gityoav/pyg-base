/-
  Bounds of the python slice index list `sliceIdx` (PygModel/Table.lean): every selected index is inside
  the list, and the indices are strictly increasing (positive step) / decreasing (negative step); and the range of `pyIdx`.
-/
import PygModel.Table

namespace Pyg

theorem pyIdx_lt {n : Nat} {i : Int} {j : Nat} (h : pyIdx n i = some j) : j < n := by
  unfold pyIdx at h
  split at h
  · cases h; omega
  · split at h
    · cases h; omega
    · cases h

theorem pyIdx_zero (i : Int) : pyIdx 0 i = Option.none := by
  unfold pyIdx
  rw [if_neg (by omega), if_neg (by omega)]

theorem mul_lt_of_lt_ceilDiv (d s : Int) (k : Nat) (hs : 0 < s) (hk : k < ((d + s - 1) / s).toNat) :
    (k : Int) * s < d := by
  have hq : (d + s - 1) / s * s ≤ d + s - 1 := Int.ediv_mul_le _ (Int.ne_of_gt hs)
  generalize (d + s - 1) / s = q at hk hq
  have hm : ((k : Int) + 1) * s ≤ q * s := Int.mul_le_mul_of_nonneg_right (by omega) (Int.le_of_lt hs)
  rw [Int.add_mul, Int.one_mul] at hm
  omega

theorem slice_pos_bound (N start stop s : Int) (k : Nat) (hs : 0 < s) (h0 : 0 ≤ start) (hN : stop ≤ N)
    (hk : k < (if stop > start then ((stop - start + s - 1) / s).toNat else 0)) :
    0 ≤ start + k * s ∧ start + k * s < N := by
  split at hk
  · have hlt := mul_lt_of_lt_ceilDiv (stop - start) s k hs hk
    have hnn : 0 ≤ (k : Int) * s := Int.mul_nonneg (Int.natCast_nonneg k) (Int.le_of_lt hs)
    omega
  · omega

theorem slice_neg_bound (N start stop s : Int) (k : Nat) (hs : s < 0) (h0 : -1 ≤ stop) (hN : start ≤ N - 1)
    (hk : k < (if start > stop then ((start - stop + (-s) - 1) / (-s)).toNat else 0)) :
    0 ≤ start + k * s ∧ start + k * s < N := by
  split at hk
  · have hlt := mul_lt_of_lt_ceilDiv (start - stop) (-s) k (Int.neg_pos_of_neg hs) hk
    have hnn : 0 ≤ (k : Int) * (-s) := Int.mul_nonneg (Int.natCast_nonneg k) (Int.le_of_lt (Int.neg_pos_of_neg hs))
    rw [Int.mul_neg] at hlt hnn
    omega
  · omega

theorem sliceIdx_pos (n : Nat) (a b : Option Int) (s : Int) (hs : s > 0) :
    ∃ start stop : Int, 0 ≤ start ∧ stop ≤ n ∧
      sliceIdx n a b s = (List.range (if stop > start then ((stop - start + s - 1) / s).toNat else 0)).map
        fun (k : Nat) => (start + (k : Int) * s).toNat := by
  refine ⟨_, _, ?_, ?_, by rw [sliceIdx, if_pos hs]⟩
  · cases a with
    | none => exact Int.le_refl 0
    | some x => dsimp only; split <;> omega
  · cases b with
    | none => exact Int.le_refl _
    | some x => dsimp only; split <;> omega

theorem sliceIdx_neg (n : Nat) (a b : Option Int) (s : Int) (hs : s < 0) :
    ∃ start stop : Int, -1 ≤ stop ∧ start ≤ n - 1 ∧
      sliceIdx n a b s = (List.range (if start > stop then ((start - stop + (-s) - 1) / (-s)).toNat else 0)).map
        fun (k : Nat) => (start + (k : Int) * s).toNat := by
  refine ⟨_, _, ?_, ?_, by rw [sliceIdx, if_neg (Int.not_lt.2 (Int.le_of_lt hs))]⟩
  · cases b with
    | none => exact Int.le_refl _
    | some x => dsimp only; split <;> omega
  · cases a with
    | none => exact Int.le_refl _
    | some x => dsimp only; split <;> omega

theorem sliceIdx_lt (n : Nat) (a b : Option Int) (s : Int) (hs : s ≠ 0) : ∀ i ∈ sliceIdx n a b s, i < n := by
  intro i hi
  rcases Int.lt_or_gt_of_ne hs with hneg | hpos
  · obtain ⟨start, stop, h1, h2, he⟩ := sliceIdx_neg n a b s hneg
    rw [he] at hi
    obtain ⟨k, hk, rfl⟩ := List.mem_map.1 hi
    have := slice_neg_bound n start stop s k hneg h1 h2 (List.mem_range.1 hk)
    omega
  · obtain ⟨start, stop, h1, h2, he⟩ := sliceIdx_pos n a b s hpos
    rw [he] at hi
    obtain ⟨k, hk, rfl⟩ := List.mem_map.1 hi
    have := slice_pos_bound n start stop s k hpos h1 h2 (List.mem_range.1 hk)
    omega

theorem sliceIdx_increasing (n : Nat) (a b : Option Int) (s : Int) (hs : s > 0) :
    (sliceIdx n a b s).Pairwise (· < ·) := by
  obtain ⟨start, stop, h1, h2, he⟩ := sliceIdx_pos n a b s hs
  rw [he, List.pairwise_map]
  apply List.Pairwise.imp_of_mem _ List.pairwise_lt_range
  intro k1 k2 hk1 _ hlt
  have b1 := slice_pos_bound n start stop s k1 hs h1 h2 (List.mem_range.1 hk1)
  have hm : (k1 : Int) * s < k2 * s := Int.mul_lt_mul_of_pos_right (by omega) hs
  omega

theorem sliceIdx_decreasing (n : Nat) (a b : Option Int) (s : Int) (hs : s < 0) :
    (sliceIdx n a b s).Pairwise (· > ·) := by
  obtain ⟨start, stop, h1, h2, he⟩ := sliceIdx_neg n a b s hs
  rw [he, List.pairwise_map]
  apply List.Pairwise.imp_of_mem _ List.pairwise_lt_range
  intro k1 k2 _ hk2 hlt
  have b2 := slice_neg_bound n start stop s k2 hs h1 h2 (List.mem_range.1 hk2)
  have hm : (k2 : Int) * s < k1 * s := Int.mul_lt_mul_of_neg_right (by omega) hs
  omega

end Pyg
