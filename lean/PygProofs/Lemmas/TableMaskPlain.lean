/-
  Where the `zipper`-based mask IS the plain zip+filter `Recs.getMaskPlain`, and what it does instead on a one-record table.
-/
import PygProofs.Lemmas.TableAbs

namespace Pyg

namespace Recs

theorem getMaskPlain_full {r : Recs} {m : List Bool} (h : m.length = r.rows.length) :
    r.getMaskPlain m = .ok ⟨r.cols, ((r.rows.zip m).filter (·.2)).map (·.1)⟩ := by
  unfold getMaskPlain
  rw [if_pos h]

theorem getMaskPlain_one {r : Recs} (h : r.rows.length ≠ 1) (b : Bool) :
    r.getMaskPlain [b] = .ok ⟨r.cols, if b then r.rows else []⟩ := by
  unfold getMaskPlain
  rw [if_neg fun h1 => h h1.symm]

theorem getMaskPlain_misfit {r : Recs} {m : List Bool} (h1 : m.length ≠ r.rows.length) (h2 : m.length ≠ 1) :
    r.getMaskPlain m = .error .value := by
  unfold getMaskPlain
  rw [if_neg h1]
  match m, h2 with
  | [], _ => rfl
  | [_], h2 => exact absurd rfl h2
  | _ :: _ :: _, _ => rfl

theorem getMaskPlain_ok {r r' : Recs} {m : List Bool} (h : r.getMaskPlain m = .ok r') :
    r'.rows.Sublist r.rows ∧ r'.cols = r.cols := by
  by_cases hk : m.length = r.rows.length
  · cases (getMaskPlain_full hk).symm.trans h
    exact ⟨(List.filter_sublist.map _).trans (by rw [List.map_fst_zip (by omega)]; exact List.Sublist.refl _), rfl⟩
  · by_cases h1 : m.length = 1
    · obtain ⟨b, rfl⟩ := List.length_eq_one_iff.1 h1
      cases (getMaskPlain_one (fun h => hk (h ▸ rfl)) b).symm.trans h
      cases b
      · exact ⟨List.nil_sublist _, rfl⟩
      · exact ⟨List.Sublist.refl _, rfl⟩
    · rw [getMaskPlain_misfit hk h1] at h
      cases h

theorem getMask_eq_plain (r : Recs) (m : List Bool) (h : r.rows.length ≠ 1 ∨ m.length = 1) :
    r.getMask m = r.getMaskPlain m := by
  by_cases hk : m.length = r.rows.length
  · rw [getMask, zipper2_same hk, getMaskPlain_full hk]
  · by_cases h1 : m.length = 1
    · obtain ⟨b, rfl⟩ := List.length_eq_one_iff.1 h1
      rw [getMask, zipper2_one_right, getMaskPlain_one (fun h => hk (h ▸ rfl))]
      simp only
      rw [List.mask_const_eq]
    · rw [getMask, zipper2_misfit (h.resolve_right h1) h1 hk, getMaskPlain_misfit hk h1]

theorem getMask_one_record (cols : List String) (x : List Cell) (m : List Bool) (hk : m.length ≠ 1) :
    Recs.getMask ⟨cols, [x]⟩ m = .ok ⟨cols, List.replicate (m.count true) x⟩ ∧
    Recs.getMaskPlain ⟨cols, [x]⟩ m = .error .value := by
  refine ⟨?_, getMaskPlain_misfit hk hk⟩
  rw [getMask, zipper2_one_left]
  simp only
  rw [List.mask_of_replicate_row]

theorem getMask_ne_plain (r : Recs) (m : List Bool) (hn : r.rows.length = 1) (hk : m.length ≠ 1) :
    (∃ r', r.getMask m = .ok r') ∧ r.getMaskPlain m = .error .value := by
  obtain ⟨cols, rows⟩ := r
  match rows, hn with
  | [x], _ => exact ⟨⟨_, (getMask_one_record cols x m hk).1⟩, (getMask_one_record cols x m hk).2⟩

end Recs

namespace Table

/-- **masks, unconditionally**: `d[mask]` of the model, seen as records, IS the plain zip+filter reading -
one flag per record, or a single flag, `ValueError` otherwise (also for a one-row table) -/
theorem abs_getMaskC (t : Table) (m : List Bool) : (t.getMaskC m).map abs = (abs t).getMaskPlain m := by
  unfold getMaskC
  by_cases hg : m.length = t.nrows ∨ m.length = 1
  · rw [if_pos hg, abs_getMask]
    apply Recs.getMask_eq_plain
    by_cases h1 : m.length = 1
    · exact Or.inr h1
    · left; rw [abs_rows_length]; omega
  · rw [if_neg hg]
    exact (Recs.getMaskPlain_misfit (by rw [abs_rows_length]; exact fun h => hg (Or.inl h))
      fun h => hg (Or.inr h)).symm

end Table
end Pyg
