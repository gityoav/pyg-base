/-
  What the model's scanner reads (C04).  The spellings are described by predicates independent of the scanner (`IsNumeral`, `TimeText`,
  `IsMonthName`, the grammar `PlainText`); `Scans` relates a text to its tokens, and each reading is proved from the description of the text.
-/
import PygProofs.Lemmas.TokenLemmas
import PygProofs.Lemmas.DateLemmas
import PygProofs.Lemmas.Basics.Lists
namespace Pyg.DateParse
open Pyg Pyg.Bump Pyg.Gen Pyg.Greg

theorem sep_cases (c : Char) (h : isDateSep c = true) : (c = '-' ∨ c = '/' ∨ c = '.') ∨ c = ' ' := by
  simp only [isDateSep, Bool.or_eq_true, decide_eq_true_eq] at h
  rcases h with ((h | h) | h) | h <;> simp [h]

theorem sep_not_digit_alpha (c : Char) (h : isDateSep c = true) : c.isDigit = false ∧ c.isAlpha = false := by
  rcases sep_cases c h with (rfl | rfl | rfl) | rfl <;> decide

/-- a decimal numeral of at most `k` digits: a non-empty run of the characters `0..9` -/
def IsNumeral (k : Nat) (cs : List Char) : Prop := cs ≠ [] ∧ cs.length ≤ k ∧ ∀ c ∈ cs, c.isDigit = true

instance (k : Nat) (cs : List Char) : Decidable (IsNumeral k cs) := by unfold IsNumeral; exact inferInstance

theorem IsNumeral.cons {k : Nat} {cs : List Char} (h : IsNumeral k cs) : ∃ c r, cs = c :: r ∧ c.isDigit = true := by
  cases cs with
  | nil => exact absurd rfl h.1
  | cons c r => exact ⟨c, r, rfl, h.2.2 c (by simp)⟩

theorem IsNumeral.len_pos {k : Nat} {cs : List Char} (h : IsNumeral k cs) : 1 ≤ cs.length := by
  obtain ⟨c, r, rfl, _⟩ := h.cons
  simp

theorem ofNat_digit : ∀ k, k < 10 → (Char.ofNat (48 + k)).isDigit = true ∧ (Char.ofNat (48 + k)).toNat - 48 = k := by decide

theorem digit_isDigit (n : Nat) : (digit n).isDigit = true := (ofNat_digit (n % 10) (Nat.mod_lt _ (by omega))).1

theorem digit_val (n : Nat) : (digit n).toNat - 48 = n % 10 := (ofNat_digit (n % 10) (Nat.mod_lt _ (by omega))).2

/-- the last `k` decimal digits of `n`, most significant first: `pad2`, `pad4`, `pad6` are the widths 2, 4 and 6 -/
def padk : Nat → Nat → List Char
  | 0, _ => []
  | k + 1, n => padk k (n / 10) ++ [digit n]

theorem pad2_eq (n : Nat) : pad2 n = padk 2 n := rfl

theorem pad4_eq (n : Nat) : pad4 n = padk 4 n := by
  simp only [pad4, padk, Nat.div_div_eq_div_mul, List.nil_append, List.cons_append]

theorem pad6_eq (n : Nat) : pad6 n = padk 6 n := by
  simp only [pad6, padk, Nat.div_div_eq_div_mul, List.nil_append, List.cons_append]

theorem length_padk (k n : Nat) : (padk k n).length = k := by
  induction k generalizing n with
  | zero => rfl
  | succ k ih => simp only [padk, List.length_append, ih, List.length_singleton]

theorem isDigit_of_mem_padk (k n : Nat) : ∀ c ∈ padk k n, c.isDigit = true := by
  induction k generalizing n with
  | zero => intro c hc; cases hc
  | succ k ih =>
    intro c hc
    simp only [padk, List.mem_append, List.mem_singleton] at hc
    rcases hc with hc | rfl
    · exact ih _ c hc
    · exact digit_isDigit n

theorem isNumeral_padk (k n : Nat) (hk : 0 < k) : IsNumeral k (padk k n) :=
  ⟨fun e => by have := length_padk k n; rw [e] at this; simp at this; omega, by rw [length_padk]; omega, isDigit_of_mem_padk k n⟩

theorem digitsVal_snoc (ds : List Char) (c : Char) : digitsVal (ds ++ [c]) = 10 * digitsVal ds + (c.toNat - 48) := by
  simp only [digitsVal, List.foldl_append, List.foldl_cons, List.foldl_nil]

theorem digitsVal_append_padk (ds : List Char) (k n : Nat) : digitsVal (ds ++ padk k n) = digitsVal ds * 10 ^ k + n % 10 ^ k := by
  induction k generalizing n with
  | zero => simp [padk, Nat.mod_one]
  | succ k ih =>
    rw [padk, ← List.append_assoc, digitsVal_snoc, ih, digit_val, Nat.pow_succ, Nat.mul_comm (10 ^ k) 10, Nat.mod_mul, Nat.mul_add,
      Nat.mul_left_comm]
    omega

theorem digitsVal_padk (k n : Nat) (h : n < 10 ^ k) : digitsVal (padk k n) = n := by
  have := digitsVal_append_padk [] k n
  rw [List.nil_append, Nat.mod_eq_of_lt h] at this
  rw [this]; simp [digitsVal]

theorem isNumeral_pad2 (n : Nat) : IsNumeral 2 (pad2 n) := isNumeral_padk 2 n (by omega)

theorem isNumeral_pad4 (n : Nat) : IsNumeral 4 (pad4 n) := pad4_eq n ▸ isNumeral_padk 4 n (by omega)

theorem isNumeral_pad6 (n : Nat) : IsNumeral 6 (pad6 n) := pad6_eq n ▸ isNumeral_padk 6 n (by omega)

theorem val_pad2 (n : Nat) (h : n < 100) : digitsVal (pad2 n) = n := digitsVal_padk 2 n h

theorem val_pad4 (n : Nat) (h : n < 10000) : digitsVal (pad4 n) = n := pad4_eq n ▸ digitsVal_padk 4 n h

theorem val_pad6 (n : Nat) (h : n < 1000000) : digitsVal (pad6 n) = n := pad6_eq n ▸ digitsVal_padk 6 n h

theorem compact_isNumeral (y m d : Nat) : IsNumeral 8 (pad4 y ++ pad2 m ++ pad2 d) := by
  refine ⟨by simp [pad4], Nat.le_refl 8, fun c hc => ?_⟩
  simp only [List.mem_append] at hc
  rcases hc with (hc | hc) | hc
  · exact (isNumeral_pad4 y).2.2 c hc
  · exact (isNumeral_pad2 m).2.2 c hc
  · exact (isNumeral_pad2 d).2.2 c hc

theorem compact_val (y m d : Nat) (hy : y < 10000) (hm : m < 100) (hd : d < 100) :
    digitsVal (pad4 y ++ pad2 m ++ pad2 d) = 10000 * y + 100 * m + d := by
  rw [pad2_eq, pad2_eq, digitsVal_append_padk, digitsVal_append_padk, val_pad4 y hy, Nat.mod_eq_of_lt hm, Nat.mod_eq_of_lt hd]
  omega

/-! `spanAlpha` is `List.span Char.isAlpha`; "the rest does not start with a letter" is written `∀ c, rest.head? = some c → c.isAlpha = false` -/

theorem spanAlpha_eq (cs : List Char) : spanAlpha cs = (cs.takeWhile Char.isAlpha, cs.dropWhile Char.isAlpha) := by
  induction cs with
  | nil => rfl
  | cons c r ih =>
    unfold spanAlpha
    by_cases hc : c.isAlpha = true <;> simp [hc, ih]

theorem spanAlpha_prefix (w rest : List Char) (hw : ∀ c ∈ w, c.isAlpha = true) (hr : ∀ c, rest.head? = some c → c.isAlpha = false) :
    spanAlpha (w ++ rest) = (w, rest) := by
  rw [spanAlpha_eq, List.takeWhile_append_of_pos hw, List.dropWhile_append_of_pos hw, List.takeWhile_eq_nil_of_head? _ rest hr, List.dropWhile_eq_self_of_head? _ rest hr,
    List.append_nil]

theorem spanAlpha_spec (cs : List Char) :
    cs = (spanAlpha cs).1 ++ (spanAlpha cs).2 ∧ (∀ c ∈ (spanAlpha cs).1, c.isAlpha = true)
      ∧ ∀ c, (spanAlpha cs).2.head? = some c → c.isAlpha = false := by
  rw [spanAlpha_eq]
  exact ⟨List.takeWhile_append_dropWhile.symm, fun c hc => List.all_eq_true.mp List.all_takeWhile c hc, List.forall_head?_dropWhile _ _⟩

/-- what the scanner does, token by token: a maximal run of digits, a maximal run of letters, or one other character.  `Scans cs tks`:
`tks` are the tokens of `cs`; sound (`Scans.scan`) and complete (`scans_scan`) for `scan` with any fuel above the length of the text -/
inductive Scans : List Char → List Tk → Prop
  | nil : Scans [] []
  | numeral {k : Nat} {cs rest : List Char} {tks : List Tk} : IsNumeral k cs → NonDigitHead rest → Scans rest tks →
      Scans (cs ++ rest) (.num (digitsVal cs) cs.length :: tks)
  | word {w rest : List Char} {tks : List Tk} : w ≠ [] → (∀ c ∈ w, c.isAlpha = true) → (∀ c, rest.head? = some c → c.isAlpha = false) → Scans rest tks →
      Scans (w ++ rest) (.word (w.map Char.toLower) :: tks)
  | sep {c : Char} {rest : List Char} {tks : List Tk} : c.isDigit = false → c.isAlpha = false → Scans rest tks →
      Scans (c :: rest) (.sep c :: tks)

theorem Scans.scan {cs : List Char} {tks : List Tk} (h : Scans cs tks) : ∀ fuel, cs.length < fuel → scan fuel cs = tks := by
  induction h with
  | nil =>
    intro fuel _
    cases fuel <;> rfl
  | @numeral k ds rest tks hn hr _ ih =>
    intro fuel hf
    obtain ⟨c, r, rfl, hc⟩ := hn.cons
    obtain ⟨f, rfl⟩ : ∃ f, fuel = f + 1 := ⟨fuel - 1, by omega⟩
    have hs := spanDigits_prefix (c :: r) rest hn.2.2 hr
    simp only [List.cons_append, List.length_cons, List.length_append] at hs hf ⊢
    simp only [DateParse.scan, hc, if_true, hs, List.length_cons, ih f (by omega)]
  | @word w rest tks hne hw hr _ ih =>
    intro fuel hf
    obtain ⟨c, r, rfl⟩ := List.exists_cons_of_ne_nil hne
    obtain ⟨f, rfl⟩ : ∃ f, fuel = f + 1 := ⟨fuel - 1, by omega⟩
    have hc := hw c (by simp)
    have hs := spanAlpha_prefix (c :: r) rest hw hr
    simp only [List.cons_append, List.length_cons, List.length_append] at hs hf ⊢
    simp only [DateParse.scan, Char.isAlpha_not_digit c hc, hc, if_true, hs, Bool.false_eq_true, if_false, ih f (by omega)]
  | @sep c rest tks h1 h2 _ ih =>
    intro fuel hf
    obtain ⟨f, rfl⟩ : ∃ f, fuel = f + 1 := ⟨fuel - 1, by omega⟩
    simp only [List.length_cons] at hf
    simp only [DateParse.scan, h1, h2, Bool.false_eq_true, if_false, ih f (by omega)]

theorem scans_scan (fuel : Nat) (cs : List Char) (hf : cs.length < fuel) : Scans cs (scan fuel cs) := by
  induction fuel generalizing cs with
  | zero => omega
  | succ f ih =>
    cases cs with
    | nil => exact .nil
    | cons c r =>
      simp only [List.length_cons] at hf
      unfold DateParse.scan
      by_cases hc : c.isDigit = true
      · have sp := spanDigits_spec (c :: r)
        have hl : (spanDigits (c :: r)).2.length ≤ r.length := by
          simp only [spanDigits, hc, if_true]
          exact spanDigits_len r
        have hne : (spanDigits (c :: r)).1 ≠ [] := by simp [spanDigits, hc]
        simp only [hc, if_true]
        have := Scans.numeral ⟨hne, Nat.le_refl _, sp.2.1⟩ sp.2.2 (ih _ (by omega))
        rwa [← sp.1] at this
      · by_cases ha : c.isAlpha = true
        · have sp := spanAlpha_spec (c :: r)
          have hl : (spanAlpha (c :: r)).2.length ≤ r.length := by
            simp only [spanAlpha, ha, if_true]
            exact spanAlpha_len r
          have hne : (spanAlpha (c :: r)).1 ≠ [] := by simp [spanAlpha, ha]
          simp only [hc, ha, if_true, Bool.false_eq_true, if_false]
          have := Scans.word hne sp.2.1 sp.2.2 (ih _ (by omega))
          rwa [← sp.1] at this
        · simp only [hc, ha, Bool.false_eq_true, if_false]
          exact .sep (by simpa using hc) (by simpa using ha) (ih r (by omega))

theorem parseCs_of_scans {cs : List Char} {tks : List Tk} (h : Scans cs tks) : parseCs cs = parseTokens tks := by
  unfold parseCs; rw [h.scan _ (Nat.lt_succ_self _)]

theorem scans_self (cs : List Char) : Scans cs (scan (cs.length + 1) cs) := scans_scan _ cs (Nat.lt_succ_self _)

theorem Scans.numeral_sep {k : Nat} {cs : List Char} {c : Char} {rest : List Char} {tks : List Tk} (h : IsNumeral k cs)
    (h1 : c.isDigit = false) (h2 : c.isAlpha = false) (hs : Scans rest tks) :
    Scans (cs ++ c :: rest) (.num (digitsVal cs) cs.length :: .sep c :: tks) :=
  Scans.numeral h (ndh_cons c rest h1) (Scans.sep h1 h2 hs)

theorem scans_digit_head (c : Char) (r : List Char) (hc : c.isDigit = true) : ∃ v l ts, Scans (c :: r) (.num v l :: ts) := by
  have h := scans_self (c :: r)
  simp only [List.length_cons, DateParse.scan, hc, if_true] at h
  exact ⟨_, _, _, h⟩

/-- what may stand between the date and the time of day -/
def IsLead (l : Char) : Prop := l = ' ' ∨ l = 'T'

/-- the time-of-day suffixes of the spellings (independent description): nothing, or a blank / `T` followed by `h:m`,
`h:m:s` or `h:m:s.f` with 1-2 digit fields and a fraction of 1-6 digits; the last two arguments are the value in
microseconds of the `h:m:s` part and of the fraction -/
inductive TimeText : List Char → Int → Int → Prop
  | none : TimeText [] 0 0
  | hm (l : Char) (hh mm : List Char) : IsLead l → IsNumeral 2 hh → IsNumeral 2 mm → digitsVal hh < 24 → digitsVal mm < 60 →
      TimeText (l :: (hh ++ ':' :: mm)) ((digitsVal hh * 3600000000 + digitsVal mm * 60000000 : Nat) : Int) 0
  | hms (l : Char) (hh mm ss : List Char) : IsLead l → IsNumeral 2 hh → IsNumeral 2 mm → IsNumeral 2 ss →
      digitsVal hh < 24 → digitsVal mm < 60 → digitsVal ss < 60 →
      TimeText (l :: (hh ++ ':' :: (mm ++ ':' :: ss)))
        ((digitsVal hh * 3600000000 + digitsVal mm * 60000000 + digitsVal ss * 1000000 : Nat) : Int) 0
  | frac (l : Char) (hh mm ss fr : List Char) : IsLead l → IsNumeral 2 hh → IsNumeral 2 mm → IsNumeral 2 ss → IsNumeral 6 fr →
      digitsVal hh < 24 → digitsVal mm < 60 → digitsVal ss < 60 →
      TimeText (l :: (hh ++ ':' :: (mm ++ ':' :: (ss ++ '.' :: fr))))
        ((digitsVal hh * 3600000000 + digitsVal mm * 60000000 + digitsVal ss * 1000000 : Nat) : Int)
        ((digitsVal fr * 10 ^ (6 - fr.length) : Nat) : Int)

/-- so `dtCs` does not take the "impossible time" exit -/
theorem TimeText.nonneg {tm : List Char} {a b : Int} (h : TimeText tm a b) : ¬ (a < 0) := by
  cases h <;> omega

theorem TimeText.ndh {tm : List Char} {a b : Int} (h : TimeText tm a b) : NonDigitHead tm := by
  cases h with
  | none => exact ndh_nil
  | hm l _ _ hl | hms l _ _ _ hl | frac l _ _ _ _ hl =>
    rcases hl with rfl | rfl <;> exact ndh_cons _ _ (by decide)

theorem Scans.lead {l : Char} {k : Nat} {cs rest : List Char} {tks : List Tk} (hl : IsLead l) (h : IsNumeral k cs) (hs : Scans (cs ++ rest) tks) :
    ∃ tk, (tk = Tk.sep ' ' ∨ tk = Tk.word ['t']) ∧ Scans (l :: (cs ++ rest)) (tk :: tks) := by
  rcases hl with rfl | rfl
  · exact ⟨_, Or.inl rfl, Scans.sep (by decide) (by decide) hs⟩
  · -- `T` in front of a digit is a word of one letter
    obtain ⟨c, r, rfl, hc⟩ := h.cons
    exact ⟨_, Or.inr rfl, Scans.word (w := ['T']) (by simp) (by decide) (List.forall_head?_cons _ (Char.isDigit_not_alpha c hc)) hs⟩

theorem parseTime_hm {lead : Tk} (hl : lead = .sep ' ' ∨ lead = .word ['t']) (h lh mi lmi : Nat) (hh : h < 24) (hmi : mi < 60) :
    parseTime [lead, .num h lh, .sep ':', .num mi lmi] = some (((h * 3600000000 + mi * 60000000 : Nat) : Int), 0) := by
  simp only [parseTime, hl, hh, hmi, and_self, if_true]

theorem parseTime_hms {lead : Tk} (hl : lead = .sep ' ' ∨ lead = .word ['t']) (h lh mi lmi s ls : Nat) (hh : h < 24) (hmi : mi < 60)
    (hs : s < 60) :
    parseTime [lead, .num h lh, .sep ':', .num mi lmi, .sep ':', .num s ls]
      = some (((h * 3600000000 + mi * 60000000 + s * 1000000 : Nat) : Int), 0) := by
  simp only [parseTime, hl, hh, hmi, hs, and_self, if_true]

theorem parseTime_frac {lead : Tk} (hl : lead = .sep ' ' ∨ lead = .word ['t']) (h lh mi lmi s ls fr len : Nat) (hh : h < 24)
    (hmi : mi < 60) (hs : s < 60) (hlen : len ≤ 6) :
    parseTime [lead, .num h lh, .sep ':', .num mi lmi, .sep ':', .num s ls, .sep '.', .num fr len]
      = some (((h * 3600000000 + mi * 60000000 + s * 1000000 : Nat) : Int), ((fr * 10 ^ (6 - len) : Nat) : Int)) := by
  simp only [parseTime, hl, hh, hmi, hs, hlen, and_self, if_true]

theorem TimeText.scans {tm : List Char} {hms us : Int} (h : TimeText tm hms us) : ∃ tks, Scans tm tks ∧ parseTime tks = some (hms, us) := by
  have colon : ':'.isDigit = false ∧ ':'.isAlpha = false := by decide
  have dot : '.'.isDigit = false ∧ '.'.isAlpha = false := by decide
  cases h with
  | none => exact ⟨[], Scans.nil, rfl⟩
  | hm l hh mm hl h1 h2 r1 r2 =>
    obtain ⟨tk, htk, e⟩ := Scans.lead hl h1 (Scans.numeral_sep h1 colon.1 colon.2 (Scans.numeral h2 ndh_nil Scans.nil))
    rw [List.append_nil] at e
    exact ⟨_, e, parseTime_hm htk _ _ _ _ r1 r2⟩
  | hms l hh mm ss hl h1 h2 h3 r1 r2 r3 =>
    obtain ⟨tk, htk, e⟩ := Scans.lead hl h1 (Scans.numeral_sep h1 colon.1 colon.2 (Scans.numeral_sep h2 colon.1 colon.2
      (Scans.numeral h3 ndh_nil Scans.nil)))
    rw [List.append_nil] at e
    exact ⟨_, e, parseTime_hms htk _ _ _ _ _ _ r1 r2 r3⟩
  | frac l hh mm ss fr hl h1 h2 h3 h4 r1 r2 r3 =>
    obtain ⟨tk, htk, e⟩ := Scans.lead hl h1 (Scans.numeral_sep h1 colon.1 colon.2 (Scans.numeral_sep h2 colon.1 colon.2
      (Scans.numeral_sep h3 dot.1 dot.2 (Scans.numeral h4 ndh_nil Scans.nil))))
    rw [List.append_nil] at e
    exact ⟨_, e, parseTime_frac htk _ _ _ _ _ _ _ _ r1 r2 r3 h4.2.1⟩

theorem timeText_pad_hms (l : Char) (hl : IsLead l) (h mi s : Nat) (hh : h < 24) (hmi : mi < 60) (hs : s < 60) :
    TimeText (l :: (pad2 h ++ ':' :: (pad2 mi ++ ':' :: pad2 s))) ((h * 3600000000 + mi * 60000000 + s * 1000000 : Nat) : Int) 0 := by
  have := TimeText.hms l (pad2 h) (pad2 mi) (pad2 s) hl (isNumeral_pad2 h) (isNumeral_pad2 mi) (isNumeral_pad2 s)
  rw [val_pad2 h (by omega), val_pad2 mi (by omega), val_pad2 s (by omega)] at this
  exact this hh hmi hs

theorem timeText_pad_frac (l : Char) (hl : IsLead l) (h mi s us : Nat) (hh : h < 24) (hmi : mi < 60) (hs : s < 60) (hus : us < 1000000) :
    TimeText (l :: (pad2 h ++ ':' :: (pad2 mi ++ ':' :: (pad2 s ++ '.' :: pad6 us))))
      ((h * 3600000000 + mi * 60000000 + s * 1000000 : Nat) : Int) (us : Int) := by
  have := TimeText.frac l (pad2 h) (pad2 mi) (pad2 s) (pad6 us) hl (isNumeral_pad2 h) (isNumeral_pad2 mi) (isNumeral_pad2 s)
    (isNumeral_pad6 us)
  rw [val_pad2 h (by omega), val_pad2 mi (by omega), val_pad2 s (by omega), val_pad6 us hus] at this
  simpa [pad6] using this hh hmi hs

/-- every name of dateutil's table is found in its own row (no name is listed for two months): checked on the generated table -/
theorem duTable_ok : ((List.range 12).all fun i => (Gen.duMonths.getD i []).all fun n =>
    monthIn Gen.duMonths 1 n.toList == some ((i : Int) + 1)) = true := by decide +kernel

/-- `w` is — in any capitalisation — one of the names dateutil's table lists for month `m` (`jan`, `january`, …, `sep`, `sept`, `september`, …) -/
def IsMonthName (m : Nat) (w : List Char) : Prop :=
  1 ≤ m ∧ w ≠ [] ∧ (∀ c ∈ w, c.isAlpha = true) ∧ ∃ n ∈ Gen.duMonths.getD (m - 1) [], n.toList = w.map Char.toLower

instance (m : Nat) (w : List Char) : Decidable (IsMonthName m w) := by unfold IsMonthName; infer_instance

theorem monthOf_name (m : Nat) (w : List Char) (h : IsMonthName m w) : monthOf (w.map Char.toLower) = some (m : Int) := by
  obtain ⟨h1, _, _, n, hn, e⟩ := h
  have hlt : m - 1 < 12 := by
    by_cases hc : m - 1 < 12
    · exact hc
    · have : Gen.duMonths.getD (m - 1) [] = [] := by
        rw [List.getD_eq_getElem?_getD, List.getElem?_eq_none (by rw [show Gen.duMonths.length = 12 by decide]; omega)]; rfl
      rw [this] at hn; exact absurd hn (by simp)
  have ok := duTable_ok
  simp only [List.all_eq_true, List.mem_range, beq_iff_eq] at ok
  have := ok (m - 1) hlt n hn
  unfold monthOf
  rw [← e, this]
  congr 1; omega

theorem IsMonthName.ndh {m : Nat} {w : List Char} (h : IsMonthName m w) (rest : List Char) : NonDigitHead (w ++ rest) := by
  obtain ⟨_, hne, hw, _⟩ := h
  cases w with
  | nil => exact absurd rfl hne
  | cons c cs => exact ndh_cons _ _ (Char.isAlpha_not_digit c (hw c (by simp)))

theorem parse_numeric3_text (a b yy tm : List Char) (s1 s2 : Char) (hms us : Int) (ha : IsNumeral 2 a) (hb : IsNumeral 2 b)
    (hy : IsNumeral 4 yy) (hy4 : yy.length = 4) (h1 : isDateSep s1 = true) (h2 : isDateSep s2 = true) (ht : TimeText tm hms us) :
    parseCs (a ++ s1 :: (b ++ s2 :: (yy ++ tm)))
      = some ⟨true, digitsVal a, digitsVal yy, (duResolve (digitsVal a) (digitsVal b)).1, (duResolve (digitsVal a) (digitsVal b)).2, hms, us⟩ := by
  have p1 := sep_not_digit_alpha s1 h1
  have p2 := sep_not_digit_alpha s2 h2
  obtain ⟨tks, hs, pt⟩ := ht.scans
  rw [parseCs_of_scans (Scans.numeral_sep ha p1.1 p1.2 (Scans.numeral_sep hb p2.1 p2.2 (Scans.numeral hy ht.ndh hs)))]
  simp only [parseTokens, hy4, ha.2.1, hb.2.1, h1, h2, and_self, if_true, pt, mk, Option.map_some]

theorem dtCs_triple (uk : Bool) (a b yy tm : List Char) (s1 s2 : Char) (hms us : Int)
    (ha : IsNumeral 2 a) (hb : IsNumeral 2 b) (hyy : IsNumeral 4 yy) (hy4 : yy.length = 4)
    (h1 : isDateSep s1 = true) (h2 : isDateSep s2 = true) (ht : TimeText tm hms us) :
    dtCs uk (a ++ s1 :: (b ++ s2 :: (yy ++ tm))) = some
      (if uk then readAs (digitsVal yy) (digitsVal b) (digitsVal a) (hms + us) else readAs (digitsVal yy) (digitsVal a) (digitsVal b) (hms + us)) := by
  unfold dtCs
  rw [parse_numeric3_text a b yy tm s1 s2 hms us ha hb hyy hy4 h1 h2 ht, Option.map_some, if_neg ht.nonneg]
  cases uk
  · exact congrArg some (us_guarded (digitsVal a) (digitsVal b) (digitsVal yy) hms us)
  · exact congrArg some (uk_guarded (digitsVal a) (digitsVal b) (digitsVal yy) hms us)

/-- the spellings dateutil reads by itself, without the dialect: `PlainText cs y m d hms us` = the text `cs` writes the fields `y m d` and the
time of day `hms + us` year first (`yyyy<sep>m<sep>d`, each separator one of `-` `/` `.` blank), with a month name (`d Mon yyyy`,
`d-Mon-yyyy`, `Mon d, yyyy`, `Mon d yyyy`) or as `yyyymmdd` -/
inductive PlainText : List Char → Nat → Nat → Nat → Int → Int → Prop
  | iso {yy mm dd tm : List Char} {s1 s2 : Char} {hms us : Int} : IsNumeral 4 yy → yy.length = 4 → IsNumeral 2 mm → IsNumeral 2 dd →
      isDateSep s1 = true → isDateSep s2 = true → (s1 = s2 ∨ (s1 ≠ '.' ∧ s2 ≠ '.')) → TimeText tm hms us →
      PlainText (yy ++ s1 :: (mm ++ s2 :: (dd ++ tm))) (digitsVal yy) (digitsVal mm) (digitsVal dd) hms us
  | dMy {m : Nat} {dd w yy tm : List Char} {s : Char} {hms us : Int} : (s = ' ' ∨ s = '-') → IsNumeral 2 dd → IsMonthName m w →
      IsNumeral 4 yy → yy.length = 4 → TimeText tm hms us →
      PlainText (dd ++ s :: (w ++ s :: (yy ++ tm))) (digitsVal yy) m (digitsVal dd) hms us
  | Mdy_comma {m : Nat} {dd w yy tm : List Char} {hms us : Int} : IsNumeral 2 dd → IsMonthName m w → IsNumeral 4 yy → yy.length = 4 →
      TimeText tm hms us → PlainText (w ++ ' ' :: (dd ++ ',' :: ' ' :: (yy ++ tm))) (digitsVal yy) m (digitsVal dd) hms us
  | Mdy {m : Nat} {dd w yy tm : List Char} {hms us : Int} : IsNumeral 2 dd → IsMonthName m w → IsNumeral 4 yy → yy.length = 4 →
      TimeText tm hms us → PlainText (w ++ ' ' :: (dd ++ ' ' :: (yy ++ tm))) (digitsVal yy) m (digitsVal dd) hms us
  | compact {y m d : Nat} : y < 10000 → m < 100 → d < 100 → PlainText (pad4 y ++ pad2 m ++ pad2 d) y m d 0 0

/-- the scanner's reading of a plain spelling: its fields, in the order written; its time of day is a possible one (`dtCs` raises on `hms < 0`) -/
theorem PlainText.parse {cs : List Char} {y m d : Nat} {hms us : Int} (h : PlainText cs y m d hms us) :
    parseCs cs = some ⟨false, 0, y, m, d, hms, us⟩ ∧ ¬ hms < 0 := by
  cases h with
  | @iso yy mm dd tm s1 s2 _ _ hy hy4 hm hd h1 h2 hdot ht =>
    refine ⟨?_, ht.nonneg⟩
    have p1 := sep_not_digit_alpha s1 h1
    have p2 := sep_not_digit_alpha s2 h2
    obtain ⟨tks, hs, pt⟩ := ht.scans
    rw [parseCs_of_scans (Scans.numeral_sep hy p1.1 p1.2 (Scans.numeral_sep hm p2.1 p2.2 (Scans.numeral hd ht.ndh hs)))]
    -- the first arm of `parseTokens` tests whether the FIFTH token has length 4, so the length of `dd` has to be a literal for `simp` to pass it
    have hm' := hm.2.1
    have hdl : dd.length = 1 ∨ dd.length = 2 := by have := hd.2.1; have := hd.len_pos; omega
    have h12 : (1 : Nat) ≤ 2 := by omega
    rcases hdl with e | e <;>
      simp only [parseTokens, hy4, e, hm', h1, h2, hdot, and_self, if_true, pt, mk, Option.map_some, Nat.le_refl, h12]
  | @dMy m dd w yy tm s _ _ hs hd hw hy hy4 ht =>
    refine ⟨?_, ht.nonneg⟩
    have ps : s.isDigit = false ∧ s.isAlpha = false := by rcases hs with rfl | rfl <;> decide
    obtain ⟨tks, hts, pt⟩ := ht.scans
    rw [parseCs_of_scans (Scans.numeral_sep hd ps.1 ps.2 (Scans.word hw.2.1 hw.2.2.1 (List.forall_head?_cons _ ps.2)
      (Scans.sep ps.1 ps.2 (Scans.numeral hy ht.ndh hts))))]
    rcases hs with rfl | rfl <;>
      simp only [parseTokens, hy4, hd.2.1, monthOf_name m w hw, pt, mk, true_or, or_true, and_self, if_true, Option.bind_some, Option.map_some]
  | @Mdy_comma m dd w yy tm _ _ hd hw hy hy4 ht =>
    refine ⟨?_, ht.nonneg⟩
    obtain ⟨tks, hts, pt⟩ := ht.scans
    rw [parseCs_of_scans (Scans.word hw.2.1 hw.2.2.1 (List.forall_head?_cons _ (by decide)) (Scans.sep (by decide) (by decide)
      (Scans.numeral_sep hd (by decide) (by decide) (Scans.sep (by decide) (by decide) (Scans.numeral hy ht.ndh hts)))))]
    simp only [parseTokens, hy4, hd.2.1, monthOf_name m w hw, pt, mk, if_true, Option.bind_some, Option.map_some]
  | @Mdy m dd w yy tm _ _ hd hw hy hy4 ht =>
    refine ⟨?_, ht.nonneg⟩
    obtain ⟨tks, hts, pt⟩ := ht.scans
    rw [parseCs_of_scans (Scans.word hw.2.1 hw.2.2.1 (List.forall_head?_cons _ (by decide)) (Scans.sep (by decide) (by decide)
      (Scans.numeral_sep hd (by decide) (by decide) (Scans.numeral hy ht.ndh hts))))]
    simp only [parseTokens, hy4, hd.2.1, monthOf_name m w hw, pt, mk, if_true, Option.bind_some, Option.map_some]
  | compact hy hm hd =>
    refine ⟨?_, Int.lt_irrefl 0⟩
    have hs := Scans.numeral (compact_isNumeral y m d) ndh_nil Scans.nil
    rw [List.append_nil, compact_val y m d hy hm hd] at hs
    rw [parseCs_of_scans hs]
    have e1 : (10000 * y + 100 * m + d) / 10000 = y := by omega
    have e2 : (10000 * y + 100 * m + d) % 10000 / 100 = m := by omega
    have e3 : (10000 * y + 100 * m + d) % 100 = d := by omega
    rw [show (pad4 y ++ pad2 m ++ pad2 d).length = 8 from rfl]
    simp only [parseTokens, mk, e1, e2, e3, Option.map_some]

theorem PlainText.dtCs {cs : List Char} {y m d : Nat} {hms us : Int} (h : PlainText cs y m d hms us) (uk : Bool) :
    dtCs uk cs = some (readAs y m d (hms + us)) :=
  dtCs_plain uk cs y m d hms us h.parse.2 h.parse.1

/-- what `dt2str` writes is a plain spelling, read back as `t`: `yyyymmdd` at midnight, otherwise the ISO date and a time suffix whose value
is the time of day -/
theorem dt2strCs_plainText (t : Int) (h0 : 0 ≤ t) (h1 : t < MAXUS) :
    ∃ y m d hms us, PlainText (dt2strCs t) y m d hms us ∧ readAs y m d (hms + us) = .ok t := by
  have st := (split_t t).2
  unfold todOf DAYUS at st
  obtain ⟨T, hT⟩ : ∃ T : Nat, (todOf t).toNat = T := ⟨_, rfl⟩
  have hTi : (T : Int) = t % 86400000000 := by unfold todOf DAYUS at hT; omega
  have hs : T / 1000000 / 3600 < 24 ∧ T / 1000000 / 60 % 60 < 60 ∧ T / 1000000 % 60 < 60 ∧ T % 1000000 < 1000000 := by omega
  have hsum : T / 1000000 / 3600 * 3600000000 + T / 1000000 / 60 % 60 * 60000000 + T / 1000000 % 60 * 1000000 + T % 1000000 = T := by
    omega
  obtain ⟨v, hdate, _⟩ := date_of_instant t ⟨h0, h1⟩
  have hl := valid_lt v
  unfold todOf DAYUS at hdate
  have back : ∀ hms us : Int, hms + us = t % 86400000000 →
      readAs (ymdOf t).y (ymdOf t).m (ymdOf t).d (hms + us) = .ok t := fun hms us e => by
    rw [readAs_valid v, ← hdate, e, show t - t % 86400000000 + t % 86400000000 = t by omega]
    exact (checkRange_ok t t).2 ⟨⟨h0, h1⟩, rfl⟩
  refine ⟨(ymdOf t).y, (ymdOf t).m, (ymdOf t).d, ?_⟩
  unfold dt2strCs
  simp only [hT]
  by_cases hz : T = 0
  · rw [if_pos hz]
    exact ⟨0, 0, .compact hl.1 hl.2.1 hl.2.2, back 0 0 (by omega)⟩
  · rw [if_neg hz]
    have iso : ∀ {tm : List Char} {hms us : Int}, TimeText tm hms us →
        PlainText (pad4 (ymdOf t).y ++ '-' :: (pad2 (ymdOf t).m ++ '-' :: (pad2 (ymdOf t).d ++ tm))) (ymdOf t).y (ymdOf t).m (ymdOf t).d hms us :=
      fun ht => by
        have := PlainText.iso (isNumeral_pad4 (ymdOf t).y) rfl (isNumeral_pad2 (ymdOf t).m) (isNumeral_pad2 (ymdOf t).d)
          (s1 := '-') (s2 := '-') (by decide) (by decide) (Or.inl rfl) ht
        rwa [val_pad4 _ hl.1, val_pad2 _ hl.2.1, val_pad2 _ hl.2.2] at this
    by_cases hus : T % 1000000 = 0
    · rw [if_pos hus]
      have := iso (timeText_pad_hms 'T' (Or.inr rfl) _ _ _ hs.1 hs.2.1 hs.2.2.1)
      exact ⟨_, _, by simpa only [List.append_assoc, List.cons_append] using this, back _ _ (by omega)⟩
    · rw [if_neg hus]
      have := iso (timeText_pad_frac 'T' (Or.inr rfl) _ _ _ _ hs.1 hs.2.1 hs.2.2.1 hs.2.2.2)
      exact ⟨_, _, by simpa only [List.append_assoc, List.cons_append] using this, back _ _ (by omega)⟩

/-- views of a reply: its value when it is one, whether it is a ValueError -/
def okView : Option (Res Int) → Option Int
  | some (.ok t) => some t
  | _ => none

def isValueError : Option (Res Int) → Bool
  | some (.error .value) => true
  | _ => false

theorem eq_of_okView {r : Option (Res Int)} {t : Int} (h : okView r = some t) : r = some (.ok t) := by
  match r, h with
  | some (.ok v), h => simp only [okView, Option.some.injEq] at h; rw [h]

theorem eq_of_isValueError {r : Option (Res Int)} (h : isValueError r = true) : r = some (.error .value) := by
  match r, h with
  | some (.error .value), _ => rfl

/-- `ambiguity.search(t) is not None`: the text starts with 1-2 digits, a separator (one of `-`, `/`, blank, `.`), 1-2 digits, a separator,
2-4 digits (a direct transcription of the regex; the rest of the text is arbitrary) -/
def MatchesAmbiguity (cs : List Char) : Prop :=
  ∃ a b y rest : List Char, ∃ s1 s2 : Char, cs = a ++ s1 :: (b ++ s2 :: (y ++ rest))
    ∧ (1 ≤ a.length ∧ a.length ≤ 2 ∧ ∀ c ∈ a, c.isDigit = true)
    ∧ (1 ≤ b.length ∧ b.length ≤ 2 ∧ ∀ c ∈ b, c.isDigit = true)
    ∧ (2 ≤ y.length ∧ y.length ≤ 4 ∧ ∀ c ∈ y, c.isDigit = true)
    ∧ isDateSep s1 = true ∧ isDateSep s2 = true

/-- `int(t[:2].replace('-','').replace('/','').replace('.',''))` (python's `int` ignores the blank): the value of the digits
among the first two characters -/
def firstTwo (cs : List Char) : Nat := digitsVal ((cs.take 2).filter Char.isDigit)

theorem mk_amb {amb : Bool} {f y m d : Int} {tm : Option (Int × Int)} {p : Parsed} (h : mk amb f y m d tm = some p) :
    p.ambiguous = amb ∧ p.first = f := by
  unfold mk at h
  cases tm with
  | none => simp at h
  | some hm => simp only [Option.map_some, Option.some.injEq] at h; subst h; exact ⟨rfl, rfl⟩

theorem bind_mk_amb {o : Option Int} {y d : Int} {tm : Option (Int × Int)} {p : Parsed}
    (h : (o.bind fun m => mk false 0 y m d tm) = some p) : p.ambiguous = false := by
  cases o with
  | none => simp at h
  | some m => exact (mk_amb (by simpa using h)).1

theorem parseTokens_numeric (va la vb lb v l : Nat) (s1 s2 : Char) (ts : List Tk) (p : Parsed)
    (h : parseTokens (.num va la :: .sep s1 :: .num vb lb :: .sep s2 :: .num v l :: ts) = some p) (hla : la ≤ 2) :
    p.ambiguous = true ∧ p.first = va := by
  unfold parseTokens at h
  split at h
  · next heq =>
    simp only [List.cons.injEq, Tk.num.injEq, Tk.sep.injEq] at heq
    split at h
    · have := mk_amb h; rw [heq.1.1]; exact this
    · exact absurd h (by simp)
  · next heq => simp only [List.cons.injEq, Tk.num.injEq] at heq; omega
  · next heq => simp at heq
  · next heq => simp at heq
  · next heq => simp at heq
  · next heq => simp at heq
  · exact absurd h (by simp)

theorem parseTokens_amb_shape (tks : List Tk) (p : Parsed) (h : parseTokens tks = some p) (ha : p.ambiguous = true) :
    ∃ a la b lb y rest s1 s2, tks = .num a la :: .sep s1 :: .num b lb :: .sep s2 :: .num y 4 :: rest
      ∧ la ≤ 2 ∧ lb ≤ 2 ∧ isDateSep s1 = true ∧ isDateSep s2 = true ∧ p.first = a := by
  unfold parseTokens at h
  split at h
  · next a la s1 b lb s2 y rest =>
    split at h
    · next hc => exact ⟨a, la, b, lb, y, rest, s1, s2, rfl, hc.1, hc.2.1, hc.2.2.1, hc.2.2.2, (mk_amb h).2⟩
    · exact absurd h (by simp)
  · split at h
    · have := (mk_amb h).1; rw [ha] at this; exact absurd this (by decide)
    · exact absurd h (by simp)
  · have := (mk_amb h).1; rw [ha] at this; exact absurd this (by decide)
  · split at h
    · have := bind_mk_amb h; rw [ha] at this; exact absurd this (by decide)
    · exact absurd h (by simp)
  · split at h
    · have := bind_mk_amb h; rw [ha] at this; exact absurd this (by decide)
    · exact absurd h (by simp)
  · split at h
    · have := bind_mk_amb h; rw [ha] at this; exact absurd this (by decide)
    · exact absurd h (by simp)
  · exact absurd h (by simp)

theorem firstTwo_numeral (a rest : List Char) (s1 : Char) (h1 : 1 ≤ a.length) (h2 : a.length ≤ 2) (hd : ∀ c ∈ a, c.isDigit = true)
    (hs : s1.isDigit = false) : firstTwo (a ++ s1 :: rest) = digitsVal a := by
  unfold firstTwo
  match a, h1, h2, hd with
  | [x], _, _, hd =>
    have hx : x.isDigit = true := hd x (by simp)
    simp [List.take, List.filter, hx, hs]
  | [x, y], _, _, hd =>
    have hx : x.isDigit = true := hd x (by simp)
    have hy : y.isDigit = true := hd y (by simp)
    simp [List.take, List.filter, hx, hy]

end Pyg.DateParse
