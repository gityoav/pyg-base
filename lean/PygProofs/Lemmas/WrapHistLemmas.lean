/-
  Every interpreter of a stack forwards a call as `reach` does, whatever the call; the exclusions K1, K4, K6 matter at one place:
  `reach` of a call that passes them is the call itself, up to the first argument that `loops` makes positional (`Passes.reach_eq`).
  On valid calls a stack with a cache layer refines the plain cache with its `except` path (`runH_refinesH_for`).
  The first half (to `evalChain_transparent`) is about the single-call model of PygModel/Wrap.lean; it stands here because
  `reach` is defined in PygModel/WrapHist.lean.
-/
import PygModel.WrapHist
import PygProofs.Lemmas.WrapLemmas
import PygProofs.Lemmas.CacheLemmas

namespace Pyg

/-- a valid call on which `f` returns `v`: python binds it and the body returns; only declared keywords, none called
`axis` (finding K4), no int ndarray among the arguments (finding K6) -/
structure ValidCall (s : Sig) (body : PDict → Res Val) (c : Call) (v : Val) : Prop where
  declared : ∀ p ∈ c.kw, p.1 ∈ s.params
  noaxis : ∀ p ∈ c.kw, p.1 ≠ "axis"
  noint : c.hasIntArr = false
  ok : applyFn s body c = .ok v

def noCache (ch : List (Cls × PDict)) : Prop := ∀ w ∈ ch, w.1 ≠ Cls.cache

theorem hasCacheLayer_eq_false_iff {ch : Chain} : hasCacheLayer ch = false ↔ noCache ch := by
  simp [hasCacheLayer, noCache]

/-- the exclusions on a call, each asked only when the decorator that causes it is among `K` -/
structure Passes (K : List Cls) (s : Sig) (c : Call) : Prop where
  declared : Cls.kwargsSupport ∈ K → ∀ p ∈ c.kw, p.1 ∈ s.params
  noaxis : Cls.loops ∈ K → ∀ p ∈ c.kw, p.1 ≠ "axis"
  noint : Cls.pd2np ∈ K → c.hasIntArr = false

/-- a valid call on which `f` returns `v`, for stacks whose classes are among `K`: it passes the exclusions and `f` returns -/
structure ValidFor (K : List Cls) (s : Sig) (body : PDict → Res Val) (c : Call) (v : Val) : Prop where
  declared : Cls.kwargsSupport ∈ K → ∀ p ∈ c.kw, p.1 ∈ s.params
  noaxis : Cls.loops ∈ K → ∀ p ∈ c.kw, p.1 ≠ "axis"
  noint : Cls.pd2np ∈ K → c.hasIntArr = false
  ok : applyFn s body c = .ok v

theorem ValidCall.toFor {s body c v} (h : ValidCall s body c v) (K : List Cls) : ValidFor K s body c v :=
  ⟨fun _ => h.declared, fun _ => h.noaxis, fun _ => h.noint, h.ok⟩

def Within (K : List Cls) (ch : Chain) : Prop := ∀ w ∈ ch, w.1 ∈ K

theorem within_classes (ch : Chain) : Within (classes ch) ch :=
  fun w hw => List.mem_map.2 ⟨w, hw, rfl⟩

theorem within_above (above : Chain) (w : Cls × PDict) (below : Chain) :
    Within (classes (above ++ w :: below)) above :=
  fun x hx => within_classes _ x (List.mem_append_left _ hx)

theorem within_below (above : Chain) (w : Cls × PDict) (below : Chain) :
    Within (classes (above ++ w :: below)) below :=
  fun x hx => within_classes _ x (List.mem_append_right _ (List.mem_cons_of_mem _ hx))

theorem reach_cons (s : Sig) (w : Cls × PDict) (rest : Chain) (c : Call) :
    reach s (w :: rest) c = reach s rest (reach s [w] c) := by
  obtain ⟨cls, p⟩ := w
  cases cls <;> rfl

theorem inDomain_cons (s : Sig) (w : Cls × PDict) (rest : Chain) (c : Call) :
    inDomain s (w :: rest) c = ((w.1 != Cls.loops || loopsPasses s w.2 c) && inDomain s rest (reach s [w] c)) := by
  obtain ⟨cls, p⟩ := w
  cases cls <;> rfl

theorem ValidFor.passes {K s body c v} (h : ValidFor K s body c v) : Passes K s c :=
  ⟨h.declared, h.noaxis, h.noint⟩

theorem Within.mem {K : List Cls} {ch : Chain} (h : Within K ch) {cls : Cls} (hm : cls ∈ classes ch) : cls ∈ K := by
  obtain ⟨w, hw, e⟩ := List.mem_map.1 hm
  exact e ▸ h w hw

theorem Passes.loops {K s c} (h : Passes K s c) : Passes K s (loopsCall s c) :=
  ⟨fun hk q hq => h.declared hk q (loopsCall_kw_sub s c q hq), fun hk q hq => h.noaxis hk q (loopsCall_kw_sub s c q hq),
   fun hk => loopsCall_hasIntArr s c (h.noint hk)⟩

theorem Passes.reach_eq {K : List Cls} {s : Sig} : ∀ (ch : Chain) {c : Call}, Within K ch → Passes K s c →
    reach s ch c = if Cls.loops ∈ classes ch then loopsCall s c else c
  | [], _, _, _ => (if_neg List.not_mem_nil).symm
  | (cls, p) :: rest, c, hK, h => by
      obtain ⟨hm, hr⟩ := List.forall_mem_cons.1 hK
      have ih := Passes.reach_eq rest hr h
      have hne : cls ≠ .loops → (Cls.loops ∈ classes ((cls, p) :: rest) ↔ Cls.loops ∈ classes rest) :=
        fun hne => ⟨fun e => (List.mem_cons.1 e).resolve_left fun e' => hne e'.symm, List.mem_cons_of_mem _⟩
      cases cls with
      | loops =>
        have hmem : Cls.loops ∈ classes ((Cls.loops, p) :: rest) := List.mem_cons_self
        rw [reach, Passes.reach_eq rest hr h.loops, if_pos hmem, loopsCall_idem s c (h.noaxis hm)]
        exact ite_self _
      | tryValue | tryBack | cache => simpa only [reach, hne nofun] using ih
      | kwargsSupport => simpa only [reach, kwFilter_eq_self s c (h.declared hm), hne nofun] using ih
      | pd2np => simpa only [reach, pd2npCall_eq_self _ c (h.noint hm), hne nofun] using ih

theorem Passes.of_reach {K s c} (ch : Chain) (hK : Within K ch) (h : Passes K s c) : Passes K s (reach s ch c) := by
  rw [h.reach_eq ch hK]
  split
  · exact h.loops
  · exact h

theorem Passes.applyFn_reach {K s c} (body : PDict → Res Val) (ch : Chain) (hK : Within K ch) (h : Passes K s c) :
    applyFn s body (reach s ch c) = applyFn s body c := by
  rw [h.reach_eq ch hK]
  split
  · next hl => exact applyFn_congr body (loopsCall_bind s c (h.noaxis (hK.mem hl)))
  · rfl

theorem ValidFor.of_reach {K s body} (ch : Chain) {c v} (hK : Within K ch) (h : ValidFor K s body c v) :
    ValidFor K s body (reach s ch c) v :=
  have p := h.passes.of_reach ch hK
  ⟨p.declared, p.noaxis, p.noint, (h.passes.applyFn_reach body ch hK).trans h.ok⟩

theorem reach_junk (s : Sig) (junk : PDict) (hj : ∀ p ∈ junk, p.1 ∉ s.params) :
    ∀ (chain : Chain) (c : Call), Cls.kwargsSupport ∈ classes chain →
      (Cls.loops ∈ classes chain → ∀ p ∈ c.kw ++ junk, p.1 ≠ "axis") →
      (Cls.pd2np ∈ classes chain → ({ c with kw := c.kw ++ junk } : Call).hasIntArr = false) →
      reach s chain { c with kw := c.kw ++ junk } = reach s chain c
  | [], _, hk, _, _ => nomatch hk
  | (cls, p) :: rest, c, hk, hax, hia => by
      have hk' : cls ≠ .kwargsSupport → Cls.kwargsSupport ∈ classes rest :=
        fun hne => (List.mem_cons.1 hk).resolve_left fun e => hne e.symm
      have ih := fun hne c hax hia => reach_junk s junk hj rest c (hk' hne) hax hia
      have hax' := fun hm => hax (List.mem_cons_of_mem _ hm)
      have hia' := fun hm => hia (List.mem_cons_of_mem _ hm)
      cases cls with
      | kwargsSupport => simp only [reach, kwFilter_append_junk s c junk hj]
      | tryValue | tryBack | cache => exact ih nofun c hax' hia'
      | pd2np =>
        have hi := hia List.mem_cons_self
        simp only [reach, pd2npCall_eq_self _ _ hi, pd2npCall_eq_self _ c (hasIntArr_append_left c junk hi)]
        exact ih nofun c hax' hia'
      | loops =>
        have haa := hax List.mem_cons_self
        simp only [reach]
        rw [loopsCall_append s c junk hj haa]
        refine ih nofun (loopsCall s c) (fun _ q hq => ?_) fun hm => ?_
        · rcases List.mem_append.1 hq with hq | hq
          · exact haa q (List.mem_append_left _ (loopsCall_kw_sub s c q hq))
          · exact haa q (List.mem_append_right _ hq)
        · rw [← loopsCall_append s c junk hj haa]
          exact loopsCall_hasIntArr s _ (hia' hm)

theorem evalChain_ok (s : Sig) (body : PDict → Res Val) : ∀ (chain : Chain) (c : Call) (v : Val),
    applyFn s body (reach s chain c) = .ok v → evalChain s body chain c = .ok v
  | [], _, _, h => h
  | (cls, p) :: rest, c, v, h => by
      cases cls <;> simp only [evalChain, evalChain_ok s body rest _ v h]

theorem evalChain_no_try (s : Sig) (body : PDict → Res Val) : ∀ (chain : Chain) (c : Call),
    (∀ w ∈ chain, w.1 ≠ .tryValue ∧ w.1 ≠ .tryBack) → evalChain s body chain c = applyFn s body (reach s chain c)
  | [], _, _ => rfl
  | (cls, p) :: rest, c, h => by
      have ih := fun c => evalChain_no_try s body rest c fun w hw => h w (List.mem_cons_of_mem _ hw)
      cases cls
      · exact absurd rfl (h _ List.mem_cons_self).1
      · exact absurd rfl (h _ List.mem_cons_self).2
      all_goals simp only [evalChain, reach, ih]

theorem evalChain_transparent (s : Sig) (body : PDict → Res Val) (chain : Chain) (c : Call)
    (hd : Cls.kwargsSupport ∈ classes chain → ∀ p ∈ c.kw, p.1 ∈ s.params)
    (hax : Cls.loops ∈ classes chain → ∀ p ∈ c.kw, p.1 ≠ "axis")
    (hia : Cls.pd2np ∈ classes chain → c.hasIntArr = false)
    (ht : (∃ v, applyFn s body c = .ok v) ∨ ∀ w ∈ chain, w.1 ≠ .tryValue ∧ w.1 ≠ .tryBack) :
    evalChain s body chain c = applyFn s body c := by
  have hr := Passes.applyFn_reach body chain (within_classes chain) ⟨hd, hax, hia⟩
  rcases ht with ⟨v, hv⟩ | hn
  · rw [hv, evalChain_ok s body chain c v (hr.trans hv)]
  · rw [evalChain_no_try s body chain c hn, hr]

theorem attempts_ok (run : HSt → HSt × Res Val) (n : Nat) (st st1 : HSt) (v : Val)
    (h : run st = (st1, .ok v)) : attempts run n st = (st1, .ok v) := by
  cases n <;> simp [attempts, h]

theorem evalH_above (s : Sig) (body : PDict → Res Val) (unh : Call → Bool) (lower : Chain) :
    ∀ (above : Chain) (st st1 : HSt) (c : Call) (w : Val), noCache above →
      evalH s body unh lower st (reach s above c) = (st1, .ok w) → evalH s body unh (above ++ lower) st c = (st1, .ok w)
  | [], _, _, _, _, _, h => h
  | (cls, q) :: rest, st, st1, c, w, hn, h => by
      obtain ⟨hne, hr⟩ := List.forall_mem_cons.1 hn
      have ih := fun c h => evalH_above s body unh lower rest st st1 c w hr h
      cases cls with
      | cache => exact absurd rfl hne
      | tryValue =>
        simp only [List.cons_append, evalH]
        rw [attempts_ok _ _ st st1 w (ih c h)]
      | tryBack => simp only [List.cons_append, evalH, ih c h]
      | kwargsSupport | pd2np | loops => exact ih _ h

theorem evalH_below_for (K : List Cls) (s : Sig) (body : PDict → Res Val) (unh : Call → Bool)
    (below : Chain) (st : HSt) (c : Call) (v : Val) (hn : noCache below) (hK : Within K below)
    (h : ValidFor K s body c v) :
    evalH s body unh below st c = ({ st with evals := st.evals ++ [reach s below c] }, .ok v) := by
  obtain ⟨b, hb, hbody⟩ := applyFn_eq_ok_iff.1 (ValidFor.of_reach below hK h).ok
  have := evalH_above s body unh [] below st { st with evals := st.evals ++ [reach s below c] } c v hn
    (by simp only [evalH, hb, hbody])
  rwa [List.append_nil] at this

theorem evalH_below (s : Sig) (body : PDict → Res Val) (unh : Call → Bool)
    (below : Chain) (st : HSt) (c : Call) (v : Val) (hn : noCache below) (h : ValidCall s body c v) :
    evalH s body unh below st c = ({ st with evals := st.evals ++ [reach s below c] }, .ok v) :=
  evalH_below_for (classes below) s body unh below st c v hn (within_classes below) (h.toFor _)

/-- a valid call whose key is unhashable (K5) goes through the `except` path of the cache layer: the plain function is
executed once, the reply is `f`'s, nothing is stored -/
theorem evalH_through_unh_for (K : List Cls) (s : Sig) (body : PDict → Res Val) (unh : Call → Bool) (p : PDict)
    (below : Chain) (hb : noCache below) (hKb : Within K below)
    (above : Chain) (st : HSt) (c : Call) (v : Val) (ha : noCache above) (hKa : Within K above)
    (h : ValidFor K s body c v) (hu : unh (reach s above c) = true) :
    evalH s body unh (above ++ (Cls.cache, p) :: below) st c =
      ({ st with evals := st.evals ++ [reach s below (reach s above c)] }, .ok v) := by
  apply evalH_above s body unh _ above st _ c v ha
  simp only [evalH, hu, if_true]
  exact evalH_below_for K s body unh below st _ v hb hKb (ValidFor.of_reach above hKa h)

/-- the result of `f` as a value (used on valid calls only) -/
def resultOf (s : Sig) (body : PDict → Res Val) (c : Call) : Val :=
  match applyFn s body c with
  | .ok v => v
  | .error _ => .cell .none

theorem ValidFor.resultOf_eq {K s body c v} (h : ValidFor K s body c v) : resultOf s body c = v := by
  simp [resultOf, h.ok]

theorem evalH_refines_cacheCall (K : List Cls) (s : Sig) (body : PDict → Res Val) (unh : Call → Bool) (p : PDict)
    (above below : Chain) (ha : noCache above) (hb : noCache below) (hKa : Within K above) (hKb : Within K below)
    (st : HSt) (cst : CacheSt) (c : Call) (v : Val) (hc : st.cache = cst.cache) (h : ValidFor K s body c v)
    (hu : unh (reach s above c) = false) :
    ∃ st1 cst1 r, evalH s body unh (above ++ (Cls.cache, p) :: below) st c = (st1, r) ∧
      cacheCall (fun c => .ok (resultOf s body c)) cst (reach s above c) = (cst1, r) ∧
      st1.cache = cst1.cache ∧ st1.evals.length + cst.evals.length = st.evals.length + cst1.evals.length := by
  have hres : resultOf s body (reach s above c) = v := (ValidFor.of_reach above hKa h).resultOf_eq
  cases hl : cst.cache.lookup (callKey (reach s above c)) with
  | some w =>
    refine ⟨st, cst, .ok w, evalH_above s body unh _ above st st c w ha ?_, cacheCall_hit _ cst _ w hl, hc, rfl⟩
    simp only [evalH, hu, Bool.false_eq_true, if_false, hc, hl]
  | none =>
    refine ⟨{ cache := st.cache ++ [(callKey (reach s above c), v)], evals := st.evals ++ [reach s below (reach s above c)] },
      _, .ok v, evalH_above s body unh _ above st _ c v ha ?_, hres ▸ cacheCall_miss (resultOf s body) cst _ hl, by rw [hc], ?_⟩
    · simp only [evalH, hu, Bool.false_eq_true, if_false, hc, hl,
        evalH_below_for K s body unh below st _ v hb hKb (ValidFor.of_reach above hKa h)]
    · simp only [List.length_append, List.length_cons, List.length_nil]
      omega

theorem runH_refinesH_for (K : List Cls) (s : Sig) (body : PDict → Res Val) (unh : Call → Bool) (p : PDict)
    (above below : Chain) (ha : noCache above) (hb : noCache below) (hKa : Within K above)
    (hKb : Within K below) :
    ∀ (calls : List Call) (st : HSt) (cst : CacheSt), st.cache = cst.cache →
      (∀ c ∈ calls, ∃ v, ValidFor K s body c v) →
      (runH s body unh (above ++ (Cls.cache, p) :: below) st calls).1.cache =
        (runCacheH unh (fun c => .ok (resultOf s body c)) cst (calls.map (reach s above))).1.cache ∧
      (runH s body unh (above ++ (Cls.cache, p) :: below) st calls).2 =
        (runCacheH unh (fun c => .ok (resultOf s body c)) cst (calls.map (reach s above))).2 ∧
      (runH s body unh (above ++ (Cls.cache, p) :: below) st calls).1.evals.length + cst.evals.length =
        st.evals.length + (runCacheH unh (fun c => .ok (resultOf s body c)) cst (calls.map (reach s above))).1.evals.length
  | [], st, cst, hc, _ => by simp [runH, runCacheH, hc]
  | c :: cs, st, cst, hc, hv => by
      obtain ⟨v, hval⟩ := hv c (by simp)
      have hres : resultOf s body (reach s above c) = v := (ValidFor.of_reach above hKa hval).resultOf_eq
      have ih := fun st1 cst1 h => runH_refinesH_for K s body unh p above below ha hb hKa hKb cs st1 cst1 h
        (fun x hx => hv x (by simp [hx]))
      cases hu : unh (reach s above c) with
      | true =>
        have hstep := evalH_through_unh_for K s body unh p below hb hKb above st c v ha hKa hval hu
        have := ih { st with evals := st.evals ++ [reach s below (reach s above c)] }
          { cst with evals := cst.evals ++ [callKey (reach s above c)] } hc
        simp only [runH, List.map_cons, runCacheH, cacheCallH, hstep, hu, if_true, hres]
        have hlen := this.2.2
        simp only [List.length_append, List.length_cons, List.length_nil] at hlen ⊢
        exact ⟨this.1, by rw [this.2.1], by omega⟩
      | false =>
        obtain ⟨st1, cst1, r, hstep, hcc, hc1, hlen⟩ :=
          evalH_refines_cacheCall K s body unh p above below ha hb hKa hKb st cst c v hc hval hu
        have := ih st1 cst1 hc1
        simp only [runH, List.map_cons, runCacheH, cacheCallH, hu, Bool.false_eq_true, if_false, hstep, hcc]
        exact ⟨this.1, by rw [this.2.1], by omega⟩

theorem runH_refines_for (K : List Cls) (s : Sig) (body : PDict → Res Val) (unh : Call → Bool) (p : PDict)
    (above below : Chain) (ha : noCache above) (hb : noCache below) (hKa : Within K above)
    (hKb : Within K below) :
    ∀ (calls : List Call) (st : HSt) (cst : CacheSt), st.cache = cst.cache →
      (∀ c ∈ calls, (∃ v, ValidFor K s body c v) ∧ unh (reach s above c) = false) →
      (runH s body unh (above ++ (Cls.cache, p) :: below) st calls).1.cache =
        (runCache (fun c => .ok (resultOf s body c)) cst (calls.map (reach s above))).1.cache ∧
      (runH s body unh (above ++ (Cls.cache, p) :: below) st calls).2 =
        (runCache (fun c => .ok (resultOf s body c)) cst (calls.map (reach s above))).2 ∧
      (runH s body unh (above ++ (Cls.cache, p) :: below) st calls).1.evals.length + cst.evals.length =
        st.evals.length + (runCache (fun c => .ok (resultOf s body c)) cst (calls.map (reach s above))).1.evals.length := by
  intro calls st cst hc hv
  have h := runH_refinesH_for K s body unh p above below ha hb hKa hKb calls st cst hc fun c hm => (hv c hm).1
  rwa [runCacheH_eq_runCache _ unh _ cst fun x hx => by
    obtain ⟨c, hm, rfl⟩ := List.mem_map.1 hx
    exact (hv c hm).2] at h

/-- **refinement**: on valid, hashable calls the stack behaves as the plain cache of `f`, run on the calls as the
cache layer receives them — same stored results, same replies, as many executions of the plain function -/
theorem runH_refines (s : Sig) (body : PDict → Res Val) (unh : Call → Bool) (p : PDict)
    (above below : List (Cls × PDict)) (ha : noCache above) (hb : noCache below) :
    ∀ (calls : List Call) (st : HSt) (cst : CacheSt), st.cache = cst.cache →
      (∀ c ∈ calls, (∃ v, ValidCall s body c v) ∧ unh (reach s above c) = false) →
      (runH s body unh (above ++ (Cls.cache, p) :: below) st calls).1.cache =
        (runCache (fun c => .ok (resultOf s body c)) cst (calls.map (reach s above))).1.cache ∧
      (runH s body unh (above ++ (Cls.cache, p) :: below) st calls).2 =
        (runCache (fun c => .ok (resultOf s body c)) cst (calls.map (reach s above))).2 ∧
      (runH s body unh (above ++ (Cls.cache, p) :: below) st calls).1.evals.length + cst.evals.length =
        st.evals.length + (runCache (fun c => .ok (resultOf s body c)) cst (calls.map (reach s above))).1.evals.length :=
  fun calls st cst hc hv =>
  runH_refines_for _ s body unh p above below ha hb (within_above above (.cache, p) below)
    (within_below above (.cache, p) below) calls st cst hc
    fun c hm => ⟨(hv c hm).1.imp fun _ h => h.toFor _, (hv c hm).2⟩

theorem attempts_fresh (run : HSt → HSt × Res Val) (r0 : Res Val)
    (hrun : ∀ st, st.cache = [] → (run st).2 = r0 ∧ (∀ e, (run st).2 = .error e → (run st).1.cache = [])) :
    ∀ (n : Nat) (st : HSt), st.cache = [] →
      (attempts run n st).2 = r0 ∧ (∀ e, (attempts run n st).2 = .error e → (attempts run n st).1.cache = [])
  | 0, st, h => hrun st h
  | n + 1, st, h => by
      obtain ⟨h1, h2⟩ := hrun st h
      simp only [attempts]
      cases hr : run st with
      | mk st1 r =>
        rw [hr] at h1 h2
        cases r with
        | ok v => exact ⟨h1, fun e he => by cases he⟩
        | error e =>
          simp only
          exact attempts_fresh run r0 hrun n st1 (h2 e rfl)

theorem evalH_fresh (s : Sig) (body : PDict → Res Val) (unh : Call → Bool) :
    ∀ (ch : Chain) (st : HSt) (c : Call), st.cache = [] →
      (evalH s body unh ch st c).2 = evalChain s body ch c ∧
      (∀ e, (evalH s body unh ch st c).2 = .error e → (evalH s body unh ch st c).1.cache = [])
  | [], st, c, h => by
      simp only [evalH, evalChain, applyFn]
      cases bindRef s c with
      | error e => exact ⟨rfl, fun _ _ => h⟩
      | ok b => exact ⟨rfl, fun _ _ => h⟩
  | (cls, p) :: rest, st, c, h => by
      cases cls with
      | tryValue =>
        have ha := attempts_fresh (fun st => evalH s body unh rest st c) (evalChain s body rest c)
          (fun st' h' => evalH_fresh s body unh rest st' c h') (repeatOf p) st h
        simp only [evalH, evalChain]
        cases hr : attempts (fun st => evalH s body unh rest st c) (repeatOf p) st with
        | mk st1 r =>
          rw [hr] at ha
          obtain ⟨h1, h2⟩ := ha
          simp only at h1 h2
          rw [← h1]
          cases r with
          | ok v => exact ⟨rfl, fun e he => by cases he⟩
          | error e =>
            simp only
            by_cases hp : returnsValue p = false
            · simp only [hp, if_true]; exact ⟨trivial, fun _ _ => h2 e rfl⟩
            · have hp' : returnsValue p = true := by simpa using hp
              simp only [hp', Bool.true_eq_false, if_false]; exact ⟨trivial, fun e he => by cases he⟩
      | tryBack =>
        have ih := evalH_fresh s body unh rest st c h
        simp only [evalH, evalChain]
        cases hr : evalH s body unh rest st c with
        | mk st1 r =>
          rw [hr] at ih
          obtain ⟨h1, h2⟩ := ih
          simp only at h1 h2
          rw [← h1]
          cases r with
          | ok v => exact ⟨rfl, fun e he => by cases he⟩
          | error e => exact ⟨rfl, fun e he => by cases he⟩
      | kwargsSupport | loops | pd2np => simp only [evalH, evalChain]; exact evalH_fresh s body unh rest st _ h
      | cache =>
        have ih := evalH_fresh s body unh rest st c h
        simp only [evalH, evalChain]
        by_cases hu : unh c = true
        · simp only [hu, if_true]; exact ih
        · simp only [hu, Bool.false_eq_true, if_false, h, List.lookup_nil]
          cases hr : evalH s body unh rest st c with
          | mk st1 r =>
            rw [hr] at ih
            obtain ⟨h1, h2⟩ := ih
            simp only at h1 h2
            cases r with
            | ok v => simp only; exact ⟨h1, fun e he => by cases he⟩
            | error e => simp only; exact evalH_fresh s body unh rest st1 c (h2 e rfl)

theorem split_at_cache : ∀ (ch : Chain), (classes ch).Nodup →
    noCache ch ∨ ∃ above p below, ch = above ++ (Cls.cache, p) :: below ∧ noCache above ∧ noCache below
  | [], _ => Or.inl (by intro w hw; simp at hw)
  | (cls, p) :: rest, h => by
      rw [nodup_classes_cons] at h
      by_cases hc : cls = Cls.cache
      · subst hc
        refine Or.inr ⟨[], p, rest, rfl, by intro w hw; simp at hw, fun w hw e => h.1 ?_⟩
        exact List.mem_map.2 ⟨w, hw, e⟩
      · rcases split_at_cache rest h.2 with hn | ⟨above, q, below, he, ha, hb⟩
        · exact .inl (List.forall_mem_cons.2 ⟨hc, hn⟩)
        · exact .inr ⟨(cls, p) :: above, q, below, by rw [he]; rfl, List.forall_mem_cons.2 ⟨hc, ha⟩, hb⟩

theorem runH_noCache (s : Sig) (body : PDict → Res Val) (unh : Call → Bool) (ch : Chain)
    (hn : noCache ch) : ∀ (calls : List Call) (st : HSt), (∀ c ∈ calls, ∃ v, ValidCall s body c v) →
      (runH s body unh ch st calls).2 = calls.map (applyFn s body) ∧
      (runH s body unh ch st calls).1.evals = st.evals ++ calls.map (reach s ch)
  | [], st, _ => by simp [runH]
  | c :: cs, st, hv => by
      obtain ⟨v, hval⟩ := hv c (by simp)
      have ih := runH_noCache s body unh ch hn cs
        { st with evals := st.evals ++ [reach s ch c] } (fun x hx => hv x (by simp [hx]))
      simp only [runH, evalH_below s body unh ch st c v hn hval, List.map_cons]
      exact ⟨by rw [ih.1, hval.ok], by rw [ih.2]; simp⟩

theorem runH_append (s : Sig) (body : PDict → Res Val) (unh : Call → Bool) (chain : Chain) :
    ∀ (st : HSt) (xs ys : List Call),
      runH s body unh chain st (xs ++ ys) =
        ((runH s body unh chain (runH s body unh chain st xs).1 ys).1,
          (runH s body unh chain st xs).2 ++ (runH s body unh chain (runH s body unh chain st xs).1 ys).2)
  | st, [], ys => by simp [runH]
  | st, x :: xs, ys => by
      simp only [List.cons_append, runH]
      rw [runH_append s body unh chain _ xs ys]

theorem runH_snoc (s : Sig) (body : PDict → Res Val) (unh : Call → Bool) (chain : Chain) (st : HSt)
    (xs : List Call) (c : Call) :
    runH s body unh chain st (xs ++ [c]) =
      ((evalH s body unh chain (runH s body unh chain st xs).1 c).1,
        (runH s body unh chain st xs).2 ++ [(evalH s body unh chain (runH s body unh chain st xs).1 c).2]) := by
  rw [runH_append]
  rfl

end Pyg
