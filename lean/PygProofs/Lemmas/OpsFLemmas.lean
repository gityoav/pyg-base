/-
  C08, DataFrames (PygModel/OpsF.lean, OpsFX.lean).  A frame is reindexed as the Series of its columns (`lookF_eq_lookR`), so
  `_df_column` commutes with alignment (`colArg_alignF`) and the column loop of `presync` is the Series kernel on the `_df_column`
  arguments (`binopFG_cols`, `binopFG_narrow`); `min_ / max_` work on synchronised operands seen as functions of (column, label) (`View`).
-/
import PygModel.OpsFX
import PygProofs.Lemmas.OpsLemmas

namespace Pyg.Ops
open Pyg Pyg.Align
open Pyg.Props.C08 (lookO)

abbrev SortedS (l : List String) : Prop := l.Pairwise (· < ·)

/-- the cell `(t, c)` of `f` as an operator sees it: the reindexed value, or `d` when `f` has no column `c` -/
def cellD (d : Option Rat) (f : RFrame) (m : Option Dir) (c : String) (t : Int) : Option Rat :=
  match colOf f c with
  | some col => lookF f m col t
  | Option.none => d

/-- the columns of the result of two frames with several columns each: the common header in its own order if both
have the same header, else the sorted intersection / union -/
def frameCols (ch : ColHow) (a b : RFrame) : List String :=
  if b.names = a.names then a.names else colsJoin ch a.names [b.names]

/-- the joint header of `df_sync`: of the aggregates and of `min_ / max_` -/
def aggCols (ch : ColHow) (f : RFrame) (fs : List RFrame) : List String := colsJoin ch f.names (fs.map (·.names))

theorem insS_eq (t : String) (l : List String) : insS t l = List.insLt t l := by
  induction l with
  | nil => rfl
  | cons x xs ih => rw [insS, List.insLt, ih]

theorem mem_insS (t s : String) (l : List String) : t ∈ insS s l ↔ t = s ∨ t ∈ l :=
  insS_eq s l ▸ List.mem_insLt t s l

theorem sorted_insS (s : String) (l : List String) (h : SortedS l) : SortedS (insS s l) :=
  insS_eq s l ▸ List.sorted_insLt (fun _ _ _ => String.lt_trans)
    (fun _ _ h1 h2 => Std.lt_of_le_of_ne (String.not_lt.1 h1) (Ne.symm h2)) s l h

theorem mem_sortS (l : List String) (t : String) : t ∈ sortS l ↔ t ∈ l := by
  induction l with
  | nil => simp [sortS]
  | cons x xs ih =>
    have : sortS (x :: xs) = insS x (sortS xs) := rfl
    rw [this, mem_insS, ih]; simp

theorem sorted_sortS (l : List String) : SortedS (sortS l) := by
  induction l with
  | nil => simp [sortS]
  | cons x xs ih => exact sorted_insS x _ ih

theorem insS_length (c : String) (l : List String) (h : c ∉ l) : (insS c l).length = l.length + 1 := by
  induction l with
  | nil => rfl
  | cons x xs ih =>
    simp only [insS]
    split
    · rfl
    · split
      · rename_i _ e; exact absurd (by simp [e]) h
      · simp only [List.length_cons, ih (fun hc => h (by simp [hc]))]

theorem sortS_length (l : List String) (h : l.Nodup) : (sortS l).length = l.length := by
  induction l with
  | nil => rfl
  | cons x xs ih =>
    have hx := List.nodup_cons.mp h
    have : sortS (x :: xs) = insS x (sortS xs) := rfl
    rw [this, insS_length x _ (fun hc => hx.1 ((mem_sortS xs x).mp hc)), ih hx.2, List.length_cons]

theorem mem_colsJoin (ch : ColHow) (c : List String) (cs : List (List String)) (x : String) :
    x ∈ colsJoin ch c cs ↔
      match ch with
      | .ij => ∀ l ∈ c :: cs, x ∈ l
      | .oj => ∃ l ∈ c :: cs, x ∈ l
      | .lj => x ∈ c
      | .rj => x ∈ (c :: cs).getLastD c := by
  cases ch <;> simp [colsJoin, mem_sortS, List.mem_foldl_and mem_interS, List.mem_foldl_or mem_unionS]

theorem names_length (f : RFrame) : f.names.length = f.cols.length := List.length_map _

theorem names_built (ix : List Int) (cols : List String) (v : String → RCol) :
    RFrame.names { idx := ix, cols := cols.map fun c => (c, v c) } = cols := by
  simp only [RFrame.names, List.map_map, Function.comp_def, List.map_id']

theorem reindexF_names (f : RFrame) (ix : List Int) (m : Option Dir) : (reindexF f ix m).names = f.names := by
  simp [reindexF, RFrame.names, List.map_map, Function.comp_def]

theorem reindexF_ncols (f : RFrame) (ix : List Int) (m : Option Dir) : (reindexF f ix m).cols.length = f.cols.length := by
  simp [reindexF]

theorem colOf_reindexF (f : RFrame) (ix : List Int) (m : Option Dir) (c : String) :
    colOf (reindexF f ix m) c = (colOf f c).map fun col => ix.map (lookF f m col) := by
  simp only [colOf, reindexF, List.find?_map, Option.map_map]
  rfl

theorem colOf_some_mem (f : RFrame) (c : String) (col : RCol) (h : colOf f c = some col) : c ∈ f.names := by
  obtain ⟨p, hp, _⟩ := Option.map_eq_some_iff.1 h
  exact List.mem_map.2 ⟨p, List.find?_key_some hp⟩

theorem colOf_none_iff (f : RFrame) (c : String) : colOf f c = Option.none ↔ c ∉ f.names :=
  Option.map_eq_none_iff.trans List.find?_key_eq_none

theorem colOf_some_of_mem (f : RFrame) (c : String) (hc : c ∈ f.names) : ∃ col, colOf f c = some col := by
  cases h : colOf f c with
  | none => exact absurd hc ((colOf_none_iff f c).mp h)
  | some col => exact ⟨col, rfl⟩

theorem frameCols_same (ch : ColHow) {a b : RFrame} (h : b.names = a.names) : frameCols ch a b = a.names := if_pos h

theorem frameCols_of_ne (ch : ColHow) {a b : RFrame} (h : b.names ≠ a.names) : frameCols ch a b = aggCols ch a [b] := if_neg h

theorem mem_frameCols (ch : ColHow) (a b : RFrame) (c : String) :
    c ∈ frameCols ch a b ↔
      match ch with
      | .ij => c ∈ a.names ∧ c ∈ b.names
      | .oj => c ∈ a.names ∨ c ∈ b.names
      | .lj => c ∈ a.names
      | .rj => c ∈ b.names := by
  by_cases h : b.names = a.names
  · rw [frameCols_same ch h, h]
    cases ch <;> simp only [and_self, or_self]
  · rw [frameCols_of_ne ch h, aggCols, mem_colsJoin]
    cases ch <;> simp

theorem colOf_built (ix : List Int) (cols : List String) (v : String → RCol) (c : String) (hc : c ∈ cols) :
    colOf { idx := ix, cols := cols.map fun c => (c, v c) } c = some (v c) := by
  rw [colOf, List.find?_key_map, if_pos hc]
  rfl

theorem cellD_eq_valueAtR (d : Option Rat) (f : RFrame) (c : String) (col : RCol) (t : Int) (h : colOf f c = some col) :
    cellD d f Option.none c t = valueAtR { idx := f.idx, vals := col } t := by
  simp only [cellD, h]
  rfl

theorem at_built (ix : List Int) (cols : List String) (g : String → Int → Option Rat) (c : String) (k : Nat)
    (hc : c ∈ cols) (hk : k < ix.length) :
    ((colOf { idx := ix, cols := cols.map fun c => (c, ix.map (g c)) } c).bind (·[k]?)).join = g c ix[k] := by
  rw [colOf_built ix cols _ c hc]
  simp only [Option.bind_some, List.getElem?_map, List.getElem?_eq_getElem hk, Option.map_some, Option.join_some]

theorem cellD_not_mem (d : Option Rat) (f : RFrame) (m : Option Dir) (c : String) (t : Int) (h : c ∉ f.names) :
    cellD d f m c t = d := by
  unfold cellD
  rw [(colOf_none_iff f c).mpr h]

theorem cellD_default (d d' : Option Rat) (f : RFrame) (m : Option Dir) (c : String) (t : Int) (hc : c ∈ f.names) :
    cellD d f m c t = cellD d' f m c t := by
  obtain ⟨col, h⟩ := colOf_some_of_mem f c hc
  simp only [cellD, h]

theorem cellD_no_row (d : Option Rat) (f : RFrame) (c : String) (t : Int) (hc : c ∈ f.names) (ht : t ∉ f.idx) :
    cellD d f Option.none c t = Option.none := by
  obtain ⟨col, h⟩ := colOf_some_of_mem f c hc
  exact (cellD_eq_valueAtR d f c col t h).trans (valueAtR_not_mem _ t ht)

theorem cell_of_built_all (d : Option Rat) (ix : List Int) (cols : List String) (g : String → Int → Option Rat)
    (c : String) (t : Int) (hc : c ∈ cols) (hg : t ∉ ix → g c t = Option.none) :
    cellD d { idx := ix, cols := cols.map fun c => (c, ix.map (g c)) } Option.none c t = g c t :=
  (cellD_eq_valueAtR d _ c _ t (colOf_built ix cols (fun c => ix.map (g c)) c hc)).trans (valueAtR_map ix (g c) t hg)

theorem appO_outside_frames (op : Op) (how : How) (a b : RFrame) (c : String) (t : Int) (hca : c ∈ a.names) (hcb : c ∈ b.names)
    (h : t ∉ join2 how a.idx b.idx) :
    op.appO (cellD Option.none a Option.none c t) (cellD Option.none b Option.none c t) = Option.none := by
  obtain ⟨ca, ha⟩ := colOf_some_of_mem a c hca
  obtain ⟨cb, hb⟩ := colOf_some_of_mem b c hcb
  rw [cellD_eq_valueAtR _ a c ca t ha, cellD_eq_valueAtR _ b c cb t hb]
  exact appO_outside op how ⟨a.idx, ca⟩ ⟨b.idx, cb⟩ t h

theorem sorted_frameCols (ch : ColHow) {a b : RFrame} (h : b.names ≠ a.names) : SortedS (frameCols ch a b) := by
  rw [frameCols_of_ne ch h]
  exact sorted_sortS _

theorem frameCols_comm (ch : ColHow) (hch : ch = .ij ∨ ch = .oj) (a b : RFrame) : frameCols ch a b = frameCols ch b a := by
  by_cases h : b.names = a.names
  · rw [frameCols_same ch h, frameCols_same ch h.symm, h]
  · refine List.pairwise_ext (fun _ _ => String.lt_asymm) (sorted_frameCols ch h) (sorted_frameCols ch (Ne.symm h)) fun t => ?_
    rw [mem_frameCols, mem_frameCols]
    rcases hch with rfl | rfl
    · exact And.comm
    · exact Or.comm

theorem names_ne_nil (a : RFrame) (ha : a.cols.length > 1) : a.names ≠ [] := by
  intro h
  have := names_length a
  rw [h, List.length_nil] at this
  omega

theorem nona_pairs (idx : List Int) (col : RCol) :
    (idx.zip col).filter (fun p => p.2.isSome) =
      ((List.range idx.length).filter fun i => ((col[i]?).join).isSome).map fun i => (idx.getD i 0, (col[i]?).join) := by
  induction idx generalizing col with
  | nil => rfl
  | cons x xs ih =>
    rw [List.length_cons, List.range_succ_eq_map]
    cases col with
    | nil => simp
    | cons v vs =>
      simp only [List.zip_cons_cons, List.filter_cons, List.filter_map, Function.comp_def, List.getElem?_cons_zero,
        List.getElem?_cons_succ, Option.join_some, ih vs]
      cases v with
      | none =>
        simp only [Option.isSome_none, Bool.false_eq_true, if_false, List.map_map, Function.comp_def, List.getD_cons_succ,
          List.getElem?_cons_succ]
      | some q =>
        simp only [Option.isSome_some, if_true, List.map_cons, List.map_map, Function.comp_def, List.getD_cons_zero,
          List.getD_cons_succ, List.getElem?_cons_zero, List.getElem?_cons_succ, Option.join_some]

theorem lookF_eq_lookR (f : RFrame) (m : Option Dir) (col : RCol) (t : Int) :
    lookF f m col t = lookR { idx := f.idx, vals := col } m t := by
  cases m with
  | none => rfl
  | some d =>
    -- whatever the search `pos` (as-of, next): it finds a position `j` among the kept rows; the frame then reads row `keep[j]`,
    -- the Series the `j`-th kept value
    have gen : ∀ pos : List Int → Int → Option Nat,
        ((pos ((validRows { idx := f.idx, cols := [("", col)] }).map fun i => f.idx.getD i 0) t).bind fun j =>
          (validRows { idx := f.idx, cols := [("", col)] })[j]?).bind (fun i => (col[i]?).join) =
        (pos (nonaR { idx := f.idx, vals := col }).idx t).bind fun i => ((nonaR { idx := f.idx, vals := col }).vals[i]?).join := by
      intro pos
      have hv : validRows { idx := f.idx, cols := [("", col)] } = (List.range f.idx.length).filter fun i => ((col[i]?).join).isSome := by
        simp only [validRows, List.any_cons, List.any_nil, Bool.or_false]
      simp only [nonaR, nona_pairs, hv, List.map_map, Function.comp_def]
      cases pos _ t with
      | none => rfl
      | some j =>
        simp only [Option.bind_some, List.getElem?_map]
        cases ((List.range f.idx.length).filter fun i => ((col[i]?).join).isSome)[j]? <;> rfl
    cases d
    · exact gen posAsOf
    · exact gen posNext

theorem colArg_alignF (d : Option Rat) (c : String) (ix : List Int) (m : Option Dir) (x : FOperand) :
    colArg d c (alignF ix m x) = alignO ix m (colArg d c x) := by
  cases x with
  | num q => rfl
  | ts s => rfl
  | df f =>
    have hl : ∀ col, ix.map (lookF f m col) = ix.map (lookR { idx := f.idx, vals := col } m) := fun col =>
      List.map_congr_left fun t _ => lookF_eq_lookR f m col t
    by_cases h1 : f.cols.length = 1
    · obtain ⟨p, hp⟩ := List.length_eq_one_iff.mp h1
      simp only [alignF, colArg, reindexF, hp, List.map_cons, List.map_nil, List.length_singleton, if_true, List.head?_cons,
        Option.map_some, Option.getD_some, alignO, reindexR_eq, hl]
    · simp only [alignF, colArg, reindexF_ncols, h1, if_false, colOf_reindexF]
      cases colOf f c with
      | none => rfl
      | some col => simp only [Option.map_some, alignO, reindexR_eq, hl, reindexF]

theorem recolumnF_reindexF (cols : List String) (f : RFrame) (ix : List Int) (m : Option Dir) :
    recolumnF cols (reindexF f ix m) = { idx := ix, cols := cols.map fun c => (c, ix.map (cellD Option.none f m c)) } := by
  unfold recolumnF
  congr 1
  apply List.map_congr_left
  intro c _
  rw [colOf_reindexF]
  unfold cellD
  cases colOf f c <;> simp [reindexF]

theorem binopF_eq_binopFG (op : Op) (how : How) (m : Option Dir) (ch : ColHow) (a b : FOperand) :
    binopF op how m ch a b = binopFG (kernelG op.appO) (some op.neutral) how m ch a b := by
  simp only [binopF, binopFG, kernelF, kernel_eq_kernelG]

/-- what an operand shows in cell `(t, c)` to a presync kernel with `default = d`, after alignment with the fill method `m`:
what its `_df_column` argument shows at `t` - a frame of several columns its reindexed cell (`cellOp_df`), `d` without the
column; a one-column frame and a Series their reindexed value in every column; a scalar itself -/
def cellOp (d : Option Rat) (m : Option Dir) (c : String) (t : Int) (x : FOperand) : Option Rat := lookO m t (colArg d c x)

theorem cellOp_df (d : Option Rat) (m : Option Dir) (c : String) (t : Int) (a : RFrame) (ha : a.cols.length > 1) :
    cellOp d m c t (.df a) = cellD d a m c t := by
  have h1 : ¬ a.cols.length = 1 := by omega
  simp only [cellOp, colArg, h1, if_false, cellD]
  cases colOf a c <;> simp only [lookO, lookF_eq_lookR]

theorem bcast_kernelG_alignO (f : PF) (ix : List Int) (m : Option Dir) (A B : Operand) :
    bcast ix (kernelG f (alignO ix m A) (alignO ix m B)) = ix.map fun t => f (lookO m t A) (lookO m t B) := by
  cases A with
  | ts a =>
    rw [kernelG_alignO f ix m (.ts a) B (List.cons_ne_nil _ _)]
    rfl
  | num p =>
    cases B with
    | ts b =>
      rw [kernelG_alignO f ix m (.num p) (.ts b) (List.cons_ne_nil _ _)]
      rfl
    | num q => rfl

theorem kernelFG_some (k : Operand → Operand → Operand) (d : Option Rat) (ch : ColHow) (ix : List Int) (a b : FOperand)
    (cols : List String) (h : resultCols ch (multiNames [a, b]) = some cols) :
    kernelFG k d ch ix a b =
      if cols = [] then .ts { idx := [], vals := [] }
      else .df { idx := ix, cols := cols.map fun c => (c, bcast ix (k (colArg d c a) (colArg d c b))) } := by
  unfold kernelFG
  rw [h]
  cases cols <;> rfl

/-- a Series result packed as a one-column frame (`pd.DataFrame(res)`) -/
def wrap1 (name : String) : Operand → FOperand
  | .ts r => .df { idx := r.idx, cols := [(name, r.vals)] }
  | .num q => .num q

/-- how `presync.wrapped` returns the result of its single call when no operand has several columns: as a one-column frame
(`pd.DataFrame(res)`), named after the operands, as soon as one of them is a frame -/
def wrapAs (a b : FOperand) (r : Operand) : FOperand :=
  if isDf a || isDf b then wrap1 ((resultName a b).getD "0") r else .ofOperand r

theorem kernelFG_none (k : Operand → Operand → Operand) (d : Option Rat) (ch : ColHow) (ix : List Int) (a b : FOperand)
    (h : multiNames [a, b] = []) :
    kernelFG k d ch ix a b = wrapAs a b (k (colArg d "" a) (colArg d "" b)) := by
  unfold kernelFG wrapAs
  rw [h]
  cases k (colArg d "" a) (colArg d "" b) <;> cases isDf a || isDf b <;> rfl

theorem wrapAs_alignF (ix : List Int) (m : Option Dir) (a b : FOperand) : wrapAs (alignF ix m a) (alignF ix m b) = wrapAs a b := by
  have hn : ∀ x, nameOf (alignF ix m x) = nameOf x := fun x => by
    cases x <;> simp only [alignF, nameOf, reindexF, List.head?_map, Option.map_map, Function.comp_def]
  have hd : ∀ x, isDf (alignF ix m x) = isDf x := fun x => by cases x <;> rfl
  funext r
  simp only [wrapAs, resultName, hn, hd]

theorem indexesOfF_ne_nil (xs : List FOperand) (f : RFrame) (h : .df f ∈ xs) : indexesOfF xs ≠ [] :=
  List.ne_nil_of_mem (List.mem_filterMap.mpr ⟨_, h, rfl⟩)

theorem mem_framesOfX (xs : List FOperand) (f : RFrame) : f ∈ framesOfX xs ↔ FOperand.df f ∈ xs := by
  unfold framesOfX
  rw [List.mem_filterMap]
  constructor
  · rintro ⟨x, hx, e⟩
    cases x <;> cases e
    exact hx
  · intro h
    exact ⟨_, h, rfl⟩

theorem framesOfX_map_df (fs : List RFrame) : framesOfX (fs.map FOperand.df) = fs := by
  induction fs with
  | nil => rfl
  | cons f fs ih => exact congrArg (f :: ·) ih

theorem multiNames_alignF (ix : List Int) (m : Option Dir) (xs : List FOperand) :
    multiNames (xs.map (alignF ix m)) = multiNames xs := by
  induction xs with
  | nil => rfl
  | cons x xs ih =>
    cases x with
    | num q => exact ih
    | ts s => exact ih
    | df f =>
      simp only [multiNames, List.map_cons, alignF, List.filterMap_cons, reindexF_ncols, reindexF_names] at ih ⊢
      rw [ih]

theorem multiNames_df (f : RFrame) (hf : f.cols.length > 1) (xs : List FOperand) :
    multiNames (.df f :: xs) = f.names :: multiNames xs := by
  simp only [multiNames, List.filterMap_cons, hf, if_true]

theorem multiNames_frames (xs : List FOperand) (hd : ∀ g, FOperand.df g ∈ xs → g.cols.length > 1) :
    multiNames xs = (framesOfX xs).map (·.names) := by
  induction xs with
  | nil => rfl
  | cons x xs ih =>
    have ih' := ih fun g hg => hd g (List.mem_cons_of_mem _ hg)
    cases x with
    | num q => exact ih'
    | ts s => exact ih'
    | df f =>
      rw [multiNames_df f (hd f List.mem_cons_self), ih']
      rfl

theorem resultCols_two (ch : ColHow) (a b : RFrame) (ha : a.cols.length > 1) (hb : b.cols.length > 1) :
    resultCols ch (multiNames [.df a, .df b]) = some (frameCols ch a b) := by
  rw [multiNames_df a ha, multiNames_df b hb]
  simp only [multiNames, List.filterMap_nil, resultCols, frameCols, List.all_cons, List.all_nil, Bool.and_true, beq_iff_eq]
  split <;> rfl

/-- one frame of several columns beside an operand that has not (`hy` holds by `rfl` for a Series, a scalar, a one-column frame) -/
theorem resultCols_left (ch : ColHow) (a : RFrame) (ha : a.cols.length > 1) (y : FOperand) (hy : multiNames [y] = []) :
    resultCols ch (multiNames [.df a, y]) = some a.names := by
  rw [multiNames_df a ha, hy]
  rfl

theorem resultCols_right (ch : ColHow) (a : RFrame) (ha : a.cols.length > 1) (y : FOperand) (hy : multiNames [y] = []) :
    resultCols ch (multiNames [y, .df a]) = some a.names := by
  rw [show multiNames [y, .df a] = multiNames [y] ++ multiNames [.df a] from List.filterMap_append (l := [y]), hy, multiNames_df a ha]
  rfl

/-- every presync kernel, every operand pair with a frame of several columns (one-column frames give their column to every result column) -/
theorem binopFG_cols (f : PF) (d : Option Rat) (how : How) (m : Option Dir) (ch : ColHow) (a b : FOperand)
    (ix : List Int) (cols : List String)
    (hix : joinIndex how (indexesOfF [a, b]) = some ix) (hcols : resultCols ch (multiNames [a, b]) = some cols) :
    binopFG (kernelG f) d how m ch a b =
      if cols = [] then .ts { idx := [], vals := [] }
      else .df { idx := ix, cols := cols.map fun c => (c, ix.map fun t => f (cellOp d m c t a) (cellOp d m c t b)) } := by
  simp only [binopFG, hix]
  rw [kernelFG_some _ _ _ _ _ _ cols ((multiNames_alignF ix m [a, b]).symm ▸ hcols)]
  simp only [colArg_alignF, bcast_kernelG_alignO, cellOp]

/-- `hm`: no operand has several columns; `hi`: none is a frame without columns, i.e. the column arguments carry the operands'
indices.  Both hold by `rfl` for Series, scalars and one-column frames. -/
theorem binopFG_narrow (f : PF) (d : Option Rat) (how : How) (m : Option Dir) (ch : ColHow) (a b : FOperand)
    (hm : multiNames [a, b] = []) (hi : indexesOf [colArg d "" a, colArg d "" b] = indexesOfF [a, b]) :
    binopFG (kernelG f) d how m ch a b = wrapAs a b (binopG f how m (colArg d "" a) (colArg d "" b)) := by
  rw [binopFG, binopG_eq, hi]
  cases joinIndex how (indexesOfF [a, b]) with
  | none => exact kernelFG_none _ d ch _ a b hm
  | some ix =>
    simp only []
    rw [kernelFG_none _ d ch ix _ _ ((multiNames_alignF ix m [a, b]).trans hm), wrapAs_alignF, colArg_alignF, colArg_alignF]

theorem binopFG_df_df (f : PF) (d : Option Rat) (how : How) (m : Option Dir) (ch : ColHow) (a b : RFrame)
    (ha : a.cols.length > 1) (hb : b.cols.length > 1) :
    binopFG (kernelG f) d how m ch (.df a) (.df b) =
      if frameCols ch a b = [] then .ts { idx := [], vals := [] }
      else .df { idx := join2 how a.idx b.idx, cols := (frameCols ch a b).map fun c =>
                   (c, (join2 how a.idx b.idx).map fun t => f (cellD d a m c t) (cellD d b m c t)) } := by
  rw [binopFG_cols f d how m ch (.df a) (.df b) _ _ (joinIndex_pair how a.idx b.idx) (resultCols_two ch a b ha hb)]
  simp only [cellOp_df _ _ _ _ a ha, cellOp_df _ _ _ _ b hb]

theorem binopFG_df_inv (f : PF) (d : Option Rat) (how : How) (m : Option Dir) (ch : ColHow) (a b r : RFrame)
    (ha : a.cols.length > 1) (hb : b.cols.length > 1) (h : binopFG (kernelG f) d how m ch (.df a) (.df b) = .df r) :
    r = { idx := join2 how a.idx b.idx, cols := (frameCols ch a b).map fun c =>
            (c, (join2 how a.idx b.idx).map fun t => f (cellD d a m c t) (cellD d b m c t)) } := by
  rw [binopFG_df_df f d how m ch a b ha hb] at h
  split at h
  · cases h
  · exact (FOperand.df.inj h).symm

theorem binopFG_df_cell (f : PF) (d : Option Rat) (how : How) (m : Option Dir) (ch : ColHow) (a b r : RFrame)
    (ha : a.cols.length > 1) (hb : b.cols.length > 1) (h : binopFG (kernelG f) d how m ch (.df a) (.df b) = .df r)
    (c : String) (t : Int) (hc : c ∈ r.names) (ht : t ∈ r.idx) :
    cellD Option.none r Option.none c t = f (cellD d a m c t) (cellD d b m c t) := by
  cases binopFG_df_inv f d how m ch a b r ha hb h
  rw [names_built] at hc
  exact cell_of_built_all _ _ _ (fun c t => f (cellD d a m c t) (cellD d b m c t)) c t hc fun h => absurd ht h

theorem binopFG_wide_left (f : PF) (d : Option Rat) (how : How) (m : Option Dir) (ch : ColHow) (a : RFrame) (y : FOperand)
    (ix : List Int) (ha : a.cols.length > 1) (hy : multiNames [y] = []) (hix : joinIndex how (indexesOfF [.df a, y]) = some ix) :
    binopFG (kernelG f) d how m ch (.df a) y =
      .df { idx := ix, cols := a.names.map fun c => (c, ix.map fun t => f (cellD d a m c t) (cellOp d m c t y)) } := by
  rw [binopFG_cols f d how m ch (.df a) y _ _ hix (resultCols_left ch a ha y hy), if_neg (names_ne_nil a ha)]
  simp only [cellOp_df _ _ _ _ a ha]

theorem binopFG_wide_right (f : PF) (d : Option Rat) (how : How) (m : Option Dir) (ch : ColHow) (a : RFrame) (y : FOperand)
    (ix : List Int) (ha : a.cols.length > 1) (hy : multiNames [y] = []) (hix : joinIndex how (indexesOfF [y, .df a]) = some ix) :
    binopFG (kernelG f) d how m ch y (.df a) =
      .df { idx := ix, cols := a.names.map fun c => (c, ix.map fun t => f (cellOp d m c t y) (cellD d a m c t)) } := by
  rw [binopFG_cols f d how m ch y (.df a) _ _ hix (resultCols_right ch a ha y hy), if_neg (names_ne_nil a ha)]
  simp only [cellOp_df _ _ _ _ a ha]

theorem binopF_names (op : Op) (how : How) (m : Option Dir) (ch : ColHow) (a b r : RFrame)
    (ha : a.cols.length > 1) (hb : b.cols.length > 1) (h : binopF op how m ch (.df a) (.df b) = .df r) :
    r.names = frameCols ch a b := by
  rw [binopF_eq_binopFG] at h
  cases binopFG_df_inv _ _ how m ch a b r ha hb h
  exact names_built _ _ _

theorem binopF_missing_right (op : Op) (how : How) (m : Option Dir) (ch : ColHow) (a b r : RFrame)
    (ha : a.cols.length > 1) (hb : b.cols.length > 1) (h : binopF op how m ch (.df a) (.df b) = .df r)
    (c : String) (hc : c ∈ r.names) (hca : c ∈ a.names) (hcb : c ∉ b.names) (t : Int) (ht : t ∈ r.idx) :
    cellD Option.none r Option.none c t = cellD Option.none a m c t := by
  rw [binopF_eq_binopFG] at h
  rw [binopFG_df_cell _ _ how m ch a b r ha hb h c t hc ht, cellD_not_mem _ b m c t hcb, appO_neutral_right]
  exact cellD_default _ _ a m c t hca

theorem binopF_missing_left (op : Op) (how : How) (m : Option Dir) (ch : ColHow) (a b r : RFrame)
    (ha : a.cols.length > 1) (hb : b.cols.length > 1) (h : binopF op how m ch (.df a) (.df b) = .df r)
    (c : String) (hc : c ∈ r.names) (hca : c ∉ a.names) (hcb : c ∈ b.names) (t : Int) (ht : t ∈ r.idx) :
    cellD Option.none r Option.none c t = op.appO (some op.neutral) (cellD Option.none b m c t) := by
  rw [binopF_eq_binopFG] at h
  rw [binopFG_df_cell _ _ how m ch a b r ha hb h c t hc ht, cellD_not_mem _ a m c t hca, cellD_default _ Option.none b m c t hcb]

theorem binopFG_comm (f : PF) (hf : ∀ x y, f x y = f y x) (d : Option Rat) (how : How) (m : Option Dir) (ch : ColHow)
    (a b : FOperand) (ix : List Int) (cols : List String)
    (hix : joinIndex how (indexesOfF [a, b]) = some ix) (hix' : joinIndex how (indexesOfF [b, a]) = some ix)
    (hcols : resultCols ch (multiNames [a, b]) = some cols) (hcols' : resultCols ch (multiNames [b, a]) = some cols) :
    binopFG (kernelG f) d how m ch a b = binopFG (kernelG f) d how m ch b a := by
  rw [binopFG_cols f d how m ch a b ix cols hix hcols, binopFG_cols f d how m ch b a ix cols hix' hcols']
  simp only [hf (cellOp d m _ _ a)]

theorem binopF_comm_frames (op : Op) (hop : ∀ x y, op.appO x y = op.appO y x) (how : How) (hh : how = .inner ∨ how = .outer)
    (m : Option Dir) (ch : ColHow) (hch : ch = .ij ∨ ch = .oj) (a b : RFrame)
    (ha : a.cols.length > 1) (hb : b.cols.length > 1) (sa : SortedL a.idx) (sb : SortedL b.idx) :
    binopF op how m ch (.df a) (.df b) = binopF op how m ch (.df b) (.df a) := by
  rw [binopF_eq_binopFG, binopF_eq_binopFG]
  exact binopFG_comm _ hop _ how m ch (.df a) (.df b) _ _
    (joinIndex_pair how a.idx b.idx) (by rw [join2_comm how hh a.idx b.idx sa sb]; exact joinIndex_pair how b.idx a.idx)
    (resultCols_two ch a b ha hb) (by rw [frameCols_comm ch hch a b]; exact resultCols_two ch b a hb ha)

theorem binopFG_comm_left (f : PF) (hf : ∀ x y, f x y = f y x) (d : Option Rat) (how : How) (hh : how = .inner ∨ how = .outer)
    (m : Option Dir) (ch : ColHow) (a : RFrame) (y : FOperand) (iy : List Int) (ha : a.cols.length > 1) (hy : multiNames [y] = [])
    (hi : indexesOfF [y] = [iy]) (sa : SortedL a.idx) (sy : SortedL iy) :
    binopFG (kernelG f) d how m ch (.df a) y = binopFG (kernelG f) d how m ch y (.df a) := by
  have h1 : indexesOfF [.df a, y] = [a.idx, iy] := congrArg (a.idx :: ·) hi
  have h2 : indexesOfF [y, .df a] = [iy, a.idx] :=
    (List.filterMap_append (l := [y]) (l' := [.df a])).trans (congrArg (· ++ [a.idx]) hi)
  exact binopFG_comm f hf d how m ch (.df a) y _ _ (h1 ▸ joinIndex_pair how a.idx iy)
    (by rw [h2, join2_comm how hh a.idx iy sa sy]; exact joinIndex_pair how iy a.idx)
    (resultCols_left ch a ha y hy) (resultCols_right ch a ha y hy)

theorem binopF_comm_series (op : Op) (hop : ∀ x y, op.appO x y = op.appO y x) (how : How) (hh : how = .inner ∨ how = .outer)
    (m : Option Dir) (ch : ColHow) (a : RFrame) (s : RSeries) (ha : a.cols.length > 1) (sa : SortedL a.idx) (ss : SortedL s.idx) :
    binopF op how m ch (.df a) (.ts s) = binopF op how m ch (.ts s) (.df a) := by
  rw [binopF_eq_binopFG, binopF_eq_binopFG]
  exact binopFG_comm_left _ hop _ how hh m ch a (.ts s) s.idx ha rfl rfl sa ss

theorem binopF_comm_scalar (op : Op) (hop : ∀ x y, op.appO x y = op.appO y x) (how : How) (m : Option Dir) (ch : ColHow)
    (a : RFrame) (q : Option Rat) (ha : a.cols.length > 1) :
    binopF op how m ch (.df a) (.num q) = binopF op how m ch (.num q) (.df a) := by
  rw [binopF_eq_binopFG, binopF_eq_binopFG]
  exact binopFG_comm _ hop _ how m ch (.df a) (.num q) _ _ (joinIndex_single how a.idx) (joinIndex_single how a.idx)
    (resultCols_left ch a ha _ rfl) (resultCols_right ch a ha _ rfl)

theorem cmpop_enc (c : Cmp) (how : How) (m : Option Dir) (a b : Operand) :
    (cmpop c how m a b).enc = .ofOperand (binopG c.cell how m a b) := by
  have hk : ∀ x y : Operand, (cmpKernel c x y).enc = .ofOperand (kernelG c.cell x y) := fun x y => by
    cases x <;> cases y <;> simp only [cmpKernel, kernelG, BOperand.enc, FOperand.ofOperand, List.map_map, Function.comp_def, Cmp.cell]
  rw [cmpop_eq, binopG_eq]
  cases joinIndex how (indexesOf [a, b]) <;> exact hk _ _

/-- a synchronised operand by what it shows: a scalar, a function of the label, a function of column and label -/
inductive View where
  | num (q : Option Rat)
  | ts (h : Int → Option Rat)
  | df (g : String → Int → Option Rat)

namespace View

def cell : View → String → Int → Option Rat
  | .num q, _, _ => q
  | .ts h, _, t => h t
  | .df g, c, t => g c t

def isTs : View → Bool
  | .ts _ => true
  | _ => false

def isDf : View → Bool
  | .df _ => true
  | _ => false

/-- the operand over the index `ix` and the header `cols` -/
def build (ix : List Int) (cols : List String) : View → FOperand
  | .num q => .num q
  | .ts h => .ts { idx := ix, vals := ix.map h }
  | .df g => .df { idx := ix, cols := cols.map fun c => (c, ix.map (g c)) }

/-- `_align_columns` on views: cell by cell, a frame as soon as one side is a frame, else a Series as soon as one side is -/
def op (k : MM) (V W : View) : View :=
  if V.isDf || W.isDf then .df fun c t => k.appO (V.cell c t) (W.cell c t)
  else if V.isTs || W.isTs then .ts fun t => k.appO (V.cell "" t) (W.cell "" t)
  else .num (k.appO (V.cell "" 0) (W.cell "" 0))

theorem cell_op (k : MM) (V W : View) (c : String) (t : Int) : (op k V W).cell c t = k.appO (V.cell c t) (W.cell c t) := by
  cases V <;> cases W <;> rfl

theorem isTs_op (k : MM) (V W : View) (hV : V.isTs = false) (hW : W.isTs = false) : (op k V W).isTs = false := by
  cases V <;> cases W <;> first | rfl | exact Bool.noConfusion hV | exact Bool.noConfusion hW

theorem isDf_op (k : MM) (V W : View) (h : V.isDf = true ∨ W.isDf = true) : (op k V W).isDf = true := by
  cases V <;> cases W <;> first | rfl | (rcases h with h | h <;> cases h)

theorem build_df (ix : List Int) (cols : List String) (V : View) (h : V.isDf = true) :
    V.build ix cols = .df { idx := ix, cols := cols.map fun c => (c, ix.map fun t => V.cell c t) } := by
  cases V with
  | df g => rfl
  | num q => cases h
  | ts g => cases h

end View

/-- Hypothesis: a Series never meets a frame left with exactly ONE column (there the frame becomes a Series, `as_series`) -/
theorem mmKernelF_build (k : MM) (ix : List Int) (cols : List String) (V W : View)
    (hc : cols.length ≠ 1 ∨ (V.isTs = false ∧ W.isTs = false)) :
    mmKernelF k (V.build ix cols) (W.build ix cols) = (View.op k V W).build ix cols := by
  cases V with
  | num p =>
    cases W <;> simp only [View.build, View.op, View.isDf, View.isTs, View.cell, mmKernelF, List.map_map, Function.comp_def,
      Bool.or_self, Bool.or_true, Bool.false_eq_true, if_true, if_false]
  | ts g =>
    have hl : cols.length ≠ 1 := hc.elim id fun h => nomatch h.1
    cases W <;> simp only [View.build, View.op, View.isDf, View.isTs, View.cell, mmKernelF, List.map_map, List.zip_map',
      Function.comp_def, List.length_map, hl, Bool.or_self, Bool.or_true, Bool.or_false, Bool.false_eq_true,
      if_true, if_false]
  | df g =>
    cases W with
    | num q =>
      simp only [View.build, View.op, View.isDf, View.cell, mmKernelF, List.map_map, Function.comp_def, Bool.true_or, if_true]
    | ts h =>
      have hl : cols.length ≠ 1 := hc.elim id fun h => nomatch h.2
      simp only [View.build, View.op, View.isDf, View.cell, mmKernelF, List.map_map, List.zip_map', Function.comp_def,
        List.length_map, hl, Bool.true_or, if_true, if_false]
    | df h =>
      simp only [View.build, View.op, View.isDf, View.cell, mmKernelF, List.map_map, Function.comp_def, Bool.true_or, if_true]
      congr 2
      apply List.map_congr_left
      intro c hc'
      rw [colOf_built ix cols (fun c => ix.map (h c)) c hc']
      simp only [Option.getD_some, List.zip_map', List.map_map, Function.comp_def]

theorem foldl_mmKernelF (k : MM) (ix : List Int) (cols : List String) (Ws : List View) (V : View)
    (hc : cols.length ≠ 1 ∨ (V.isTs = false ∧ ∀ W ∈ Ws, W.isTs = false)) :
    (Ws.map (View.build ix cols)).foldl (mmKernelF k) (V.build ix cols) = (Ws.foldl (View.op k) V).build ix cols := by
  induction Ws generalizing V with
  | nil => rfl
  | cons W Ws ih =>
    rw [List.map_cons, List.foldl_cons, List.foldl_cons,
      mmKernelF_build k ix cols V W (hc.imp_right fun h => ⟨h.1, h.2 W List.mem_cons_self⟩)]
    exact ih _ (hc.imp_right fun h =>
      ⟨View.isTs_op k V W h.1 (h.2 W List.mem_cons_self), fun Z hZ => h.2 Z (List.mem_cons_of_mem _ hZ)⟩)

theorem View.cell_foldl (k : MM) (Ws : List View) (V : View) (c : String) (t : Int) :
    (Ws.foldl (View.op k) V).cell c t = Ws.foldl (fun v W => k.appO v (W.cell c t)) (V.cell c t) := by
  induction Ws generalizing V with
  | nil => rfl
  | cons W Ws ih => rw [List.foldl_cons, List.foldl_cons, ih, View.cell_op]

theorem View.isDf_foldl (k : MM) (Ws : List View) (V : View) (h : V.isDf = true ∨ ∃ W ∈ Ws, W.isDf = true) :
    (Ws.foldl (View.op k) V).isDf = true := by
  induction Ws generalizing V with
  | nil => exact h.elim id fun ⟨_, hW, _⟩ => nomatch hW
  | cons W Ws ih =>
    refine ih _ ?_
    rcases h with h | ⟨Z, hZ, hd⟩
    · exact .inl (View.isDf_op k V W (.inl h))
    · rcases List.mem_cons.mp hZ with rfl | hZ
      · exact .inl (View.isDf_op k V Z (.inr hd))
      · exact .inr ⟨Z, hZ, hd⟩

/-- what an operand shows in cell `(t, c)` after `df_sync`: a frame its (reindexed) cell, NaN without the column; a Series
its (reindexed) value in every column; a scalar itself everywhere -/
def cellM (m : Option Dir) (c : String) (t : Int) : FOperand → Option Rat
  | .df f => cellD Option.none f m c t
  | .ts s => lookR s m t
  | .num q => q

/-- what a synchronised operand shows (`cellM`) -/
def viewOf (m : Option Dir) : FOperand → View
  | .num q => .num q
  | .ts s => .ts (lookR s m)
  | .df f => .df (cellD Option.none f m)

theorem cell_viewOf (m : Option Dir) (x : FOperand) (c : String) (t : Int) : (viewOf m x).cell c t = cellM m c t x := by
  cases x <;> rfl

theorem recolX_alignF (cols : List String) (ix : List Int) (m : Option Dir) (x : FOperand)
    (hx : ∀ f, x = .df f → f.cols.length > 1) :
    recolX cols (alignF ix m x) = (viewOf m x).build ix cols := by
  cases x with
  | num q => rfl
  | ts s => simp only [alignF, recolX, viewOf, View.build, reindexR_eq]
  | df f =>
    have h1 : (reindexF f ix m).cols.length > 1 := by rw [reindexF_ncols]; exact hx f rfl
    simp only [alignF, recolX, h1, if_true, viewOf, View.build, recolumnF_reindexF]

theorem syncF_build (how : How) (m : Option Dir) (ch : ColHow) (xs : List FOperand) (f : RFrame) (fs : List RFrame) (ix : List Int)
    (hf : framesOfX xs = f :: fs) (hd : ∀ g, FOperand.df g ∈ xs → g.cols.length > 1)
    (hix : joinIndex how (indexesOfF xs) = some ix) :
    syncF how m ch xs = (xs.map (viewOf m)).map (View.build ix (aggCols ch f fs)) := by
  have hm := (multiNames_alignF ix m xs).trans (multiNames_frames xs hd)
  rw [hf] at hm
  simp only [syncF, hix, hm, List.map_cons]
  rw [List.map_map, List.map_map]
  exact List.map_congr_left fun y hy => recolX_alignF _ ix m y fun g e => hd g (e ▸ hy)

end Pyg.Ops
