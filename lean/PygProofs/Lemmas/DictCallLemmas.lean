import PygModel.DictCall
import PygProofs.Lemmas.Basics.Loops
import PygProofs.Lemmas.DALemmas

namespace Pyg.DictCall
open Pyg.DA
variable {V : Type}

theorem apply_eq (res : Env V) (f : Fn V) :
    apply res f = if f.args.all (fun a => (lookup a res).isSome) then .ok (f.fn (f.args.filterMap fun a => lookup a res))
      else .error .type := by
  have h := mapM_lookup (fun _ v => v) .type res f.args
  simp only [Option.map_id'] at h
  refine (congrArg (· >>= fun vs => pure (f.fn vs)) h).trans ?_
  split <;> rfl

theorem apply_error_iff (r : Env V) (f : Fn V) (e : Err) :
    apply r f = .error e ↔ e = .type ∧ ∃ a ∈ f.args, lookup a r = none := by
  rw [apply_eq, Res.ite_eq_error, all_isSome_eq_false]

theorem apply_congr (r r' : Env V) (f : Fn V) (h : ∀ a ∈ f.args, lookup a r = lookup a r') :
    apply r f = apply r' f :=
  congrArg (· >>= fun vs => pure (f.fn vs)) (List.mapM_congr fun a ha => by rw [h a ha])

theorem evalAll_cons (res : Env V) (k : String) (f : Fn V) (cs : List (String × Fn V)) :
    evalAll res ((k, f) :: cs) = (apply res f >>= fun v => evalAll (set k v res) cs) := rfl

theorem evalAll_err (cs : List (String × Fn V)) (res : Env V) (e : Err) (h : evalAll res cs = .error e) :
    e = .type := by
  induction cs generalizing res with
  | nil => cases h
  | cons c cs ih =>
    obtain ⟨k, f⟩ := c
    rw [evalAll_cons] at h
    cases hv : apply res f with
    | error e' => rw [hv] at h; cases h; exact ((apply_error_iff res f _).1 hv).1
    | ok v => rw [hv] at h; exact ih _ h

theorem independent_iff {keys : List String} {c : String × Fn V} :
    independent keys c = true ↔ ∀ a ∈ c.2.args, a ∉ keys := by
  simp only [independent, List.all_eq_true, decide_eq_true_eq]

theorem independent_of_perm {cs cs' : List (String × Fn V)} (h : cs.Perm cs') :
    independent (V := V) (cs.map (·.1)) = independent (cs'.map (·.1)) := by
  funext c
  rw [Bool.eq_iff_iff, independent_iff, independent_iff]
  exact forall₂_congr fun a _ => not_congr (h.map _).mem_iff

theorem length_rest_lt (cs : List (String × Fn V)) (h : cs.filter (independent (cs.map (·.1))) ≠ []) :
    (cs.filter fun c => !independent (cs.map (·.1)) c).length < cs.length := by
  have := (List.filter_append_perm (independent (cs.map (·.1))) cs).length_eq
  rw [List.length_append] at this
  have := List.length_pos_iff.2 h
  omega

/-- every key of `S` is a pending callable that reads another member of `S` (the keys on a
dependency cycle form such a set) -/
def Closed (S : List String) (cs : List (String × Fn V)) : Prop :=
  ∀ k ∈ S, ∃ c ∈ cs, c.1 = k ∧ ∃ a ∈ c.2.args, a ∈ S

theorem loop_short {fuel : Nat} {res : Env V} {cs : List (String × Fn V)} (h1 : cs.length ≤ 1) :
    loop fuel res cs = evalAll res cs := by
  cases fuel with
  | zero => rfl
  | succ fuel => rw [loop, if_pos h1]

theorem loop_stuck {fuel : Nat} {res : Env V} {cs : List (String × Fn V)} (h1 : ¬ cs.length ≤ 1)
    (hE : cs.filter (independent (cs.map (·.1))) = []) : loop (fuel + 1) res cs = .error .value := by
  rw [loop, if_neg h1]
  dsimp only
  rw [hE]
  rfl

theorem loop_round {fuel : Nat} {res : Env V} {cs : List (String × Fn V)} (h1 : ¬ cs.length ≤ 1)
    (hE : cs.filter (independent (cs.map (·.1))) ≠ []) :
    loop (fuel + 1) res cs = evalAll res (cs.filter (independent (cs.map (·.1)))) >>= fun r =>
      loop fuel r (cs.filter fun c => !independent (cs.map (·.1)) c) := by
  rw [loop, if_neg h1]
  dsimp only
  rw [if_neg fun h => hE (List.isEmpty_iff.1 h)]

theorem loop_induction {P : Env V → List (String × Fn V) → Res (Env V) → Prop}
    (short : ∀ res cs, cs.length ≤ 1 → P res cs (evalAll res cs))
    (stuck : ∀ res cs, ¬ cs.length ≤ 1 → cs.filter (independent (cs.map (·.1))) = [] → P res cs (.error .value))
    (raise : ∀ res cs e, ¬ cs.length ≤ 1 → evalAll res (cs.filter (independent (cs.map (·.1)))) = .error e →
      P res cs (.error e))
    (round : ∀ res cs r x, ¬ cs.length ≤ 1 → cs.filter (independent (cs.map (·.1))) ≠ [] →
      evalAll res (cs.filter (independent (cs.map (·.1)))) = .ok r →
      P r (cs.filter fun c => !independent (cs.map (·.1)) c) x → P res cs x) :
    ∀ (fuel : Nat) (res : Env V) (cs : List (String × Fn V)), cs.length ≤ fuel → P res cs (loop fuel res cs)
  | 0, res, cs, hl => short res cs (Nat.le_trans hl (Nat.zero_le 1))
  | fuel + 1, res, cs, hl => by
      by_cases h1 : cs.length ≤ 1
      · rw [loop_short h1]
        exact short res cs h1
      · by_cases hE : cs.filter (independent (cs.map (·.1))) = []
        · rw [loop_stuck h1 hE]
          exact stuck res cs h1 hE
        · rw [loop_round h1 hE]
          cases hr : evalAll res (cs.filter (independent (cs.map (·.1)))) with
          | error e => exact raise res cs e h1 hr
          | ok r =>
            refine round res cs r _ h1 hE hr (loop_induction short stuck raise round fuel r _ ?_)
            have := length_rest_lt cs hE
            omega

theorem Closed.rest {S : List String} {cs : List (String × Fn V)} (hS : Closed S cs) :
    Closed S (cs.filter fun c => !independent (cs.map (·.1)) c) := by
  intro k hk
  obtain ⟨c, hc, hck, x, hx, hxS⟩ := hS k hk
  obtain ⟨c', hc', hk', _⟩ := hS x hxS
  refine ⟨c, List.mem_filter.2 ⟨hc, ?_⟩, hck, x, hx, hxS⟩
  rw [Bool.not_eq_true', ← Bool.not_eq_true, independent_iff]
  exact fun h => h x hx (List.mem_map.2 ⟨c', hc', hk'⟩)

theorem loop_closed_raises (S : List String) (a b : String) (ha : a ∈ S) (hb : b ∈ S) (hab : a ≠ b)
    (fuel : Nat) (res : Env V) (cs : List (String × Fn V)) (hl : cs.length ≤ fuel) (hS : Closed S cs) :
    loop fuel res cs = .error .value ∨ loop fuel res cs = .error .type := by
  refine loop_induction (P := fun _ cs x => Closed S cs → x = .error .value ∨ x = .error .type)
    ?_ ?_ ?_ ?_ fuel res cs hl hS
  · intro res cs h1 hS
    obtain ⟨ca, hca, hka, _⟩ := hS a ha
    obtain ⟨cb, hcb, hkb, _⟩ := hS b hb
    have := List.two_le_length_of_mem cs ca cb hca hcb fun e => hab (by rw [← hka, ← hkb, e])
    omega
  · exact fun _ _ _ _ _ => .inl rfl
  · exact fun res cs e _ he _ => .inr (by rw [evalAll_err _ res e he])
  · exact fun _ _ _ _ _ _ _ ih hS => ih hS.rest

end Pyg.DictCall
