import PygModel.Tree
import PygProofs.Lemmas.DALemmas

namespace Pyg.Tree
open Pyg.DA

/-- Induction over a tree (`P`) and the items of a branch (`Q`) at once.  Everything that is not a dict is a leaf. -/
theorem induction {P : Val → Prop} {Q : List (String × Val) → Prop}
    (leaf : ∀ v, (∀ s, v ≠ .dict s) → P v) (dict : ∀ kvs, Q kvs → P (.dict kvs))
    (nil : Q []) (cons : ∀ k v kvs, P v → Q kvs → Q ((k, v) :: kvs)) : (∀ v, P v) ∧ ∀ kvs, Q kvs :=
  have val : ∀ v, P v := fun v =>
    Val.rec (motive_1 := P) (motive_2 := fun _ => True) (motive_3 := Q) (motive_4 := fun kv => P kv.2)
      (fun _ => leaf _ fun _ e => nomatch e) (fun _ _ => leaf _ fun _ e => nomatch e)
      (fun _ _ => leaf _ fun _ e => nomatch e) dict
      trivial (fun _ _ _ _ => trivial) nil (fun kv kvs h1 h2 => cons kv.1 kv.2 kvs h1 h2) (fun _ _ h => h) v
  ⟨val, fun kvs => List.rec nil (fun kv kvs ih => cons kv.1 kv.2 kvs (val kv.2) ih) kvs⟩

theorem induction_mem {P : Val → Prop} (leaf : ∀ v, (∀ s, v ≠ .dict s) → P v)
    (dict : ∀ kvs, (∀ kv ∈ kvs, P kv.2) → P (.dict kvs)) : ∀ v, P v :=
  (induction (Q := fun kvs => ∀ kv ∈ kvs, P kv.2) leaf dict (fun _ h => nomatch h) fun _ _ _ h1 h2 _ hm =>
    (List.mem_cons.1 hm).elim (fun e => e ▸ h1) (h2 _)).1

theorem items_dict (kvs : List (String × Val)) : items (.dict kvs) = itemsKVs kvs := rfl

theorem items_leaf (v : Val) (hv : ∀ s, v ≠ .dict s) : items v = [([], v)] := items.eq_2 v hv

theorem itemsKVs_nil : itemsKVs [] = [] := rfl

theorem itemsKVs_cons (k : String) (v : Val) (kvs : List (String × Val)) :
    itemsKVs ((k, v) :: kvs) = (items v).map (fun pv => (k :: pv.1, pv.2)) ++ itemsKVs kvs := rfl

theorem itemsKVs_eq_flatMap : ∀ (kvs : List (String × Val)),
    itemsKVs kvs = kvs.flatMap fun kv => (items kv.2).map fun pv => (kv.1 :: pv.1, pv.2)
  | [] => rfl
  | (k, v) :: kvs => by rw [itemsKVs_cons, List.flatMap_cons, itemsKVs_eq_flatMap kvs]

theorem mem_itemsKVs {pv : Path × Val} {kvs : List (String × Val)} :
    pv ∈ itemsKVs kvs ↔ ∃ kv ∈ kvs, ∃ q ∈ items kv.2, pv = (kv.1 :: q.1, q.2) := by
  rw [itemsKVs_eq_flatMap, List.mem_flatMap]
  exact exists_congr fun kv => and_congr_right fun _ =>
    List.mem_map.trans (exists_congr fun q => and_congr_right fun _ => eq_comm)

theorem keys_keysKVs_eq :
    (∀ t : Val, keys t = (items t).map (·.1)) ∧ ∀ kvs : List (String × Val), keysKVs kvs = (itemsKVs kvs).map (·.1) := by
  refine induction (fun v hv => ?_) (fun kvs ih => ih) rfl (fun k v kvs h1 h2 => ?_)
  · rw [keys.eq_2 v hv, items_leaf v hv]
    rfl
  · rw [itemsKVs_cons, List.map_append, List.map_map, ← h2]
    exact congrArg (· ++ keysKVs kvs) ((congrArg (List.map (k :: ·)) h1).trans (List.map_map ..))

theorem keys_eq (t : Val) : keys t = (items t).map (·.1) := keys_keysKVs_eq.1 t

theorem keysKVs_eq : ∀ kvs : List (String × Val), keysKVs kvs = (itemsKVs kvs).map (·.1) := keys_keysKVs_eq.2

theorem values_valuesKVs_eq :
    (∀ t : Val, values t = (items t).map (·.2)) ∧ ∀ kvs : List (String × Val), valuesKVs kvs = (itemsKVs kvs).map (·.2) := by
  refine induction (fun v hv => ?_) (fun kvs ih => ih) rfl (fun k v kvs h1 h2 => ?_)
  · rw [values.eq_2 v hv, items_leaf v hv]
    rfl
  · rw [itemsKVs_cons, List.map_append, List.map_map, ← h2]
    exact congrArg (· ++ valuesKVs kvs) h1

theorem values_eq (t : Val) : values t = (items t).map (·.2) := values_valuesKVs_eq.1 t

theorem valuesKVs_eq : ∀ kvs : List (String × Val), valuesKVs kvs = (itemsKVs kvs).map (·.2) := values_valuesKVs_eq.2

theorem wf_dict (kvs : List (String × Val)) : wf (.dict kvs) = true ↔ (kvs.map (·.1)).Nodup ∧ wfKVs kvs = true := by
  rw [show wf (.dict kvs) = (decide (kvs.map (·.1)).Nodup && wfKVs kvs) from rfl, Bool.and_eq_true, decide_eq_true_eq]

theorem wfKVs_cons (k : String) (v : Val) (kvs : List (String × Val)) :
    wfKVs ((k, v) :: kvs) = true ↔ wf v = true ∧ wfKVs kvs = true := by
  rw [show wfKVs ((k, v) :: kvs) = (wf v && wfKVs kvs) from rfl, Bool.and_eq_true]

theorem wf_of_mem : ∀ (kvs : List (String × Val)), wfKVs kvs = true → ∀ kv ∈ kvs, wf kv.2 = true
  | [], _, _, h => nomatch h
  | (k, v) :: kvs, hw, kv, h => by
      rw [wfKVs_cons] at hw
      rcases List.mem_cons.1 h with rfl | h
      · exact hw.1
      · exact wf_of_mem kvs hw.2 kv h

theorem noEmptyKVs_cons (k : String) (v : Val) (kvs : List (String × Val)) :
    noEmptyKVs ((k, v) :: kvs) = true ↔ v ≠ .dict [] ∧ noEmpty v = true ∧ noEmptyKVs kvs = true := by
  rw [show noEmptyKVs ((k, v) :: kvs) = ((match v with | .dict [] => false | _ => noEmpty v) && noEmptyKVs kvs)
    from rfl, Bool.and_eq_true, ← and_assoc]
  refine and_congr_left' ?_
  split
  · exact ⟨fun h => (nomatch h), fun h => absurd rfl h.1⟩
  · next hne => exact ⟨fun h => ⟨fun e => hne (e ▸ rfl), h⟩, fun h => h.2⟩

theorem noEmpty_of_mem : ∀ (kvs : List (String × Val)), noEmptyKVs kvs = true → ∀ kv ∈ kvs,
    kv.2 ≠ .dict [] ∧ noEmpty kv.2 = true
  | [], _, _, h => nomatch h
  | (k, v) :: kvs, hn, kv, h => by
      rw [noEmptyKVs_cons] at hn
      rcases List.mem_cons.1 h with rfl | h
      · exact ⟨hn.1, hn.2.1⟩
      · exact noEmpty_of_mem kvs hn.2.2 kv h

theorem wf_noEmpty_of_leaves : ∀ (o : List (String × Val)), (∀ kv ∈ o, ∀ s, kv.2 ≠ .dict s) →
    wfKVs o = true ∧ noEmptyKVs o = true
  | [], _ => ⟨rfl, rfl⟩
  | (k, v) :: o, h =>
      have hv := h (k, v) List.mem_cons_self
      have ih := wf_noEmpty_of_leaves o fun kv hm => h kv (List.mem_cons_of_mem _ hm)
      ⟨(wfKVs_cons k v o).2 ⟨wf.eq_2 v hv, ih.1⟩, (noEmptyKVs_cons k v o).2 ⟨hv [], noEmpty.eq_2 v hv, ih.2⟩⟩

theorem itemsKVs_path_ne (kvs : List (String × Val)) (pv : Path × Val) (h : pv ∈ itemsKVs kvs) : pv.1 ≠ [] := by
  obtain ⟨kv, _, q, _, rfl⟩ := mem_itemsKVs.1 h
  exact List.cons_ne_nil _ _

theorem items_snd_leaf : ∀ (v : Val) (pv : Path × Val), pv ∈ items v → ∀ s, pv.2 ≠ .dict s := by
  refine induction_mem (fun v hv pv h => ?_) fun kvs ih pv h => ?_
  · rw [items_leaf v hv, List.mem_singleton] at h
    exact h ▸ hv
  · obtain ⟨kv, hkv, q, hq, rfl⟩ := mem_itemsKVs.1 h
    exact ih kv hkv q hq

theorem mem_paths_of_lookup {k : String} {old : Val} {kvs : List (String × Val)} (h : lookup k kvs = some old)
    {p : Path} (hm : p ∈ (items old).map (·.1)) : k :: p ∈ (itemsKVs kvs).map (·.1) := by
  obtain ⟨pv, hpv, rfl⟩ := List.mem_map.1 hm
  exact List.mem_map.2 ⟨(k :: pv.1, pv.2), mem_itemsKVs.2 ⟨(k, old), mem_of_lookup k old kvs h, pv, hpv, rfl⟩, rfl⟩

theorem items_itemsKVs_ne_nil :
    (∀ v : Val, noEmpty v = true → v ≠ .dict [] → items v ≠ []) ∧
    ∀ s : List (String × Val), noEmptyKVs s = true → s ≠ [] → itemsKVs s ≠ [] := by
  refine induction (fun v hv _ _ => ?_) (fun s ih h hn => ih h fun e => hn (e ▸ rfl)) (fun _ h => absurd rfl h)
    (fun k v s h1 _ h _ => ?_)
  · rw [items_leaf v hv]
    exact List.cons_ne_nil _ _
  · rw [noEmptyKVs_cons] at h
    rw [itemsKVs_cons]
    exact List.append_ne_nil_of_left_ne_nil (fun e => h1 h.2.1 h.1 (List.map_eq_nil_iff.1 e)) _

theorem items_ne_nil : ∀ v : Val, noEmpty v = true → v ≠ .dict [] → items v ≠ [] := items_itemsKVs_ne_nil.1

theorem itemsKVs_ne_nil : ∀ s : List (String × Val), noEmptyKVs s = true → s ≠ [] → itemsKVs s ≠ [] :=
  items_itemsKVs_ne_nil.2

theorem getItem_nil (t : Val) : getItem t [] = .ok t := by cases t <;> rfl

theorem getItem_dict_cons (kvs : List (String × Val)) (k : String) (rest : Path) :
    getItem (.dict kvs) (k :: rest) = match lookup k kvs with
      | some v => getItem v rest
      | none => .error .key := rfl

theorem getItem_cons_ok {t : Val} {k : String} {rest : Path} {v : Val} :
    getItem t (k :: rest) = .ok v ↔ ∃ kvs w, t = .dict kvs ∧ lookup k kvs = some w ∧ getItem w rest = .ok v := by
  cases t with
  | dict kvs =>
    rw [getItem_dict_cons]
    constructor
    · intro h
      cases hl : lookup k kvs with
      | none => rw [hl] at h; cases h
      | some w => rw [hl] at h; exact ⟨kvs, w, rfl, hl, h⟩
    · rintro ⟨_, w, e, hl, h⟩
      cases e
      rw [hl]
      exact h
  | _ => exact ⟨fun h => (nomatch h), fun ⟨_, _, e, _⟩ => (nomatch e)⟩

theorem getItem_items : ∀ (t : Val), wf t = true → ∀ p v, (p, v) ∈ items t → getItem t p = .ok v := by
  refine induction_mem (fun t ht _ p v hm => ?_) fun kvs ih h p v hm => ?_
  · rw [items_leaf t ht, List.mem_singleton] at hm
    cases hm
    exact getItem_nil t
  · obtain ⟨kv, hkv, q, hq, e⟩ := mem_itemsKVs.1 hm
    cases e
    rw [getItem_dict_cons, lookup_of_mem_nodup kv.1 kv.2 kvs ((wf_dict kvs).1 h).1 hkv]
    exact ih kv hkv (wf_of_mem kvs ((wf_dict kvs).1 h).2 kv hkv) q.1 q.2 hq

theorem getItem_itemsKVs : ∀ (kvs : List (String × Val)), wfKVs kvs = true → ∀ p v,
    (p, v) ∈ itemsKVs kvs → ∃ k w rest, (k, w) ∈ kvs ∧ p = k :: rest ∧ getItem w rest = .ok v := by
  intro kvs hw p v hm
  obtain ⟨kv, hkv, q, hq, e⟩ := mem_itemsKVs.1 hm
  cases e
  exact ⟨kv.1, kv.2, q.1, hkv, rfl, getItem_items kv.2 (wf_of_mem kvs hw kv hkv) q.1 q.2 hq⟩

theorem getItemC_nil (b : Bool) (t : Val) : getItemC b t [] = .ok t := by cases t <;> rfl

theorem getItemC_dict_cons (b : Bool) (kvs : List (String × Val)) (k : String) (rest : Path) :
    getItemC b (.dict kvs) (k :: rest) = match lookup k kvs with
      | some v => getItemC b v rest
      | none =>
        if b && k.contains '.' then
          match getDotted (.dict kvs) (splitDots k) with
          | .ok v => getItemC b v rest
          | .error e => throw e
        else throw Err.key := rfl

theorem getItemC_of_lookup (b : Bool) {kvs : List (String × Val)} {k : String} {w : Val} (h : lookup k kvs = some w)
    (rest : Path) : getItemC b (.dict kvs) (k :: rest) = getItemC b w rest := by
  rw [getItemC_dict_cons, h]

theorem treeGet_nil (t d : Val) : treeGet t [] d = t := by cases t <;> rfl

theorem treeGet_dict_cons (kvs : List (String × Val)) (k : String) (rest : Path) (d : Val) :
    treeGet (.dict kvs) (k :: rest) d = match lookup k kvs with
      | some v => treeGet v rest d
      | none => d := rfl

end Pyg.Tree

-- `Branch` is named `TreeTable.Branch` by the statements of Props/C15 that mention it
namespace Pyg.TreeTable
open Pyg.Tree

/-- two paths part at some position (equal before it, different keys at it) -/
def Branch (p q : Path) : Prop :=
  ∃ i, i < p.length ∧ i < q.length ∧ p[i]? ≠ q[i]? ∧ p.take i = q.take i

theorem Branch.symm {p q : Path} (h : Branch p q) : Branch q p := by
  obtain ⟨i, h1, h2, h3, h4⟩ := h
  exact ⟨i, h2, h1, fun e => h3 e.symm, h4.symm⟩

theorem Branch.nil_left {q : Path} : ¬Branch [] q := fun ⟨_, h, _⟩ => Nat.not_lt_zero _ h

theorem Branch.nil_right {p : Path} : ¬Branch p [] := fun h => Branch.nil_left h.symm

theorem Branch_cons {k j : String} {p q : Path} : Branch (k :: p) (j :: q) ↔ k ≠ j ∨ (k = j ∧ Branch p q) := by
  constructor
  · rintro ⟨i, h1, h2, h3, h4⟩
    cases i with
    | zero => exact Or.inl fun e => h3 (congrArg some e)
    | succ i =>
      exact Or.inr ⟨(List.cons.inj h4).1, i, Nat.lt_of_succ_lt_succ h1, Nat.lt_of_succ_lt_succ h2, h3,
        (List.cons.inj h4).2⟩
  · rintro (h | ⟨rfl, i, h1, h2, h3, h4⟩)
    · exact ⟨0, Nat.zero_lt_succ _, Nat.zero_lt_succ _, fun e => h (Option.some.inj e), rfl⟩
    · exact ⟨i + 1, Nat.succ_lt_succ h1, Nat.succ_lt_succ h2, h3, congrArg (k :: ·) h4⟩

theorem branch_of_ne : ∀ (p q : Path), p.length = q.length → p ≠ q → Branch p q
  | [], [], _, h => absurd rfl h
  | [], _ :: _, h, _ => nomatch h
  | _ :: _, [], h, _ => nomatch h
  | a :: p, b :: q, hl, hne =>
    Branch_cons.2 <| (Classical.em (a = b)).symm.imp_right fun e =>
      ⟨e, branch_of_ne p q (Nat.succ.inj hl) fun h => hne (e ▸ h ▸ rfl)⟩

theorem pairwise_branch_of_nodup {ps : List Path} {n : Nat} (hl : ∀ p ∈ ps, p.length = n) (hn : ps.Nodup) :
    ps.Pairwise Branch :=
  hn.imp_of_mem fun hp hq hpq => branch_of_ne _ _ ((hl _ hp).trans (hl _ hq).symm) hpq

end Pyg.TreeTable

namespace Pyg.Tree
open Pyg.DA Pyg.TreeTable

/-- the branch `_tree_setitem` walks into at key `k` (a fresh one if missing or a leaf) -/
def subOf (k : String) (kvs : List (String × Val)) : List (String × Val) :=
  match lookup k kvs with
  | some (.dict s) => s
  | _ => []

theorem subOf_of_lookup {k : String} {kvs s : List (String × Val)} (h : lookup k kvs = some (.dict s)) :
    subOf k kvs = s := by
  rw [subOf, h]

theorem subOf_of_none {k : String} {kvs : List (String × Val)} (h : lookup k kvs = none) : subOf k kvs = [] := by
  rw [subOf, h]

theorem subOf_set (k : String) (s kvs : List (String × Val)) : subOf k (DA.set k (.dict s) kvs) = s :=
  subOf_of_lookup ((lookup_set k k _ kvs).trans (if_pos rfl))

theorem setKVs_single (kvs : List (String × Val)) (k : String) (v : Val) (ig : List Val) :
    setKVs kvs [k] v ig = if (lookup k kvs).isSome && ig.contains v then kvs else DA.set k v kvs := rfl

theorem setKVs_single_nil (kvs : List (String × Val)) (k : String) (v : Val) : setKVs kvs [k] v [] = DA.set k v kvs := by
  rw [setKVs_single, List.contains_nil, Bool.and_false]
  rfl

theorem setKVs_deep (kvs : List (String × Val)) (k k2 : String) (rest : Path) (v : Val) (ig : List Val) :
    setKVs kvs (k :: k2 :: rest) v ig = DA.set k (.dict (setKVs (subOf k kvs) (k2 :: rest) v ig)) kvs := rfl

theorem setKVs_eq_or_set (kvs : List (String × Val)) (p : Path) (v : Val) (ig : List Val) :
    setKVs kvs p v ig = kvs ∨ ∃ k w, p.head? = some k ∧ setKVs kvs p v ig = DA.set k w kvs := by
  match p with
  | [] => exact .inl rfl
  | [k] =>
    rw [setKVs_single]
    split
    · exact .inl rfl
    · exact .inr ⟨k, v, rfl, rfl⟩
  | k :: k2 :: rest => exact .inr ⟨k, _, rfl, setKVs_deep kvs k k2 rest v ig⟩

theorem lookup_setKVs_other (p : Path) (kvs : List (String × Val)) (v : Val) (ig : List Val)
    (j : String) (hj : p.head? ≠ some j) : lookup j (setKVs kvs p v ig) = lookup j kvs := by
  rcases setKVs_eq_or_set kvs p v ig with e | ⟨k, w, hk, e⟩
  · rw [e]
  · rw [e, lookup_set, if_neg fun (ej : j = k) => hj (ej ▸ hk)]

theorem nodup_keys_setKVs (ig : List Val) (a : List (String × Val)) (p : Path) (v : Val) (h : (a.map (·.1)).Nodup) :
    ((setKVs a p v ig).map (·.1)).Nodup := by
  rcases setKVs_eq_or_set a p v ig with e | ⟨k, w, _, e⟩
  · rw [e]
    exact h
  · rw [e]
    exact nodup_keys_set k w a h

theorem getItem_setKVs_branch (v : Val) (ig : List Val) : ∀ (p q : Path) (kvs : List (String × Val)) (w : Val),
    Branch p q → getItem (.dict kvs) q = .ok w → getItem (.dict (setKVs kvs p v ig)) q = .ok w
  | [], _, _, _, h, _ => absurd h Branch.nil_left
  | _ :: _, [], _, _, h, _ => absurd h Branch.nil_right
  | k :: rest, j :: qs, kvs, w, h, hr => by
      obtain ⟨_, old, e, hl, hold⟩ := getItem_cons_ok.1 hr
      cases e
      rcases Branch_cons.1 h with hne | ⟨rfl, hb⟩
      · exact getItem_cons_ok.2 ⟨_, old, rfl,
          (lookup_setKVs_other (k :: rest) kvs v ig j fun e => hne (Option.some.inj e)).trans hl, hold⟩
      · match rest, qs, hb, hold with
        | [], _, hb, _ => exact absurd hb Branch.nil_left
        | _ :: _, [], hb, _ => exact absurd hb Branch.nil_right
        | k2 :: r2, q1 :: qr, hb, hr =>
          -- the read goes on below `k`, so the old value there is a branch: the write walks into it
          obtain ⟨s, _, rfl, _, _⟩ := getItem_cons_ok.1 hr
          refine getItem_cons_ok.2 ⟨_, .dict (setKVs s (k2 :: r2) v ig), rfl, ?_,
            getItem_setKVs_branch v ig (k2 :: r2) (q1 :: qr) s w hb hr⟩
          rw [setKVs_deep, lookup_set, if_pos rfl, subOf_of_lookup hl]

theorem getItem_setKVs : ∀ (p : Path) (kvs : List (String × Val)) (v : Val), p ≠ [] →
    getItem (.dict (setKVs kvs p v [])) p = .ok v
  | [], _, _, h => absurd rfl h
  | [k], kvs, v, _ => by
      rw [setKVs_single_nil, getItem_dict_cons, lookup_set, if_pos rfl]
      exact getItem_nil v
  | k :: k2 :: rest, kvs, v, _ => by
      rw [setKVs_deep, getItem_dict_cons, lookup_set, if_pos rfl]
      exact getItem_setKVs (k2 :: rest) _ v (List.cons_ne_nil _ _)

/-- the dotted walk returns a value only through mappings: with a part still to read at any other value it fails (python
evaluates `dict(leaf)[part]` there; which error that gives depends on the leaf) -/
theorem getDotted_leaf (t : Val) (k : String) (rest : List String) (h : ∀ kvs, t ≠ .dict kvs) (v : Val) :
    getDotted t (k :: rest) ≠ .ok v := by
  unfold getDotted
  split
  case h_1 hp => cases hp
  case h_2 kvs _ _ _ => exact absurd rfl (h kvs)
  case h_3 => split <;> exact fun e => nomatch e
  all_goals exact fun e => nomatch e

end Pyg.Tree
