/-! A heap of handles is a list of objects; a handle is an index.  One operation of such a heap allocates one object at the
end, rewrites its target in place, or leaves the heap alone (`HeapStep`): then it never changes another handle (`frame`), loses
no handle (`length_le`) and keeps every property of objects that allocation and writing keep (`forall_mem`). -/

namespace Pyg

/-- `New d`: the object `d` may be allocated; `Wr d d'`: a target holding `d` may be left holding `d'`; `tgt`: the handle the
operation writes in place, if any (binding a destination that is not live yet allocates) -/
inductive HeapStep {α : Type} (New : α → Prop) (Wr : α → α → Prop) (heap : List α) (tgt : Option Nat) : List α → Prop
  | alloc (d : α) : New d → HeapStep New Wr heap tgt (heap ++ [d])
  | write (t : Nat) (d d' : α) : tgt = some t → heap[t]? = some d → Wr d d' → HeapStep New Wr heap tgt (heap.set t d')
  | same : HeapStep New Wr heap tgt heap

namespace HeapStep
variable {α : Type} {New : α → Prop} {Wr : α → α → Prop} {heap heap' : List α} {tgt : Option Nat}

theorem frame (h : HeapStep New Wr heap tgt heap') {i : Nat} (hi : i < heap.length) (ht : tgt ≠ some i) :
    heap'[i]? = heap[i]? := by
  cases h with
  | alloc => exact List.getElem?_append_left hi
  | write t _ _ htg => exact List.getElem?_set_ne fun (e : t = i) => ht (e ▸ htg)
  | same => rfl

theorem length_le (h : HeapStep New Wr heap tgt heap') : heap.length ≤ heap'.length := by
  cases h with
  | alloc => rw [List.length_append]; exact Nat.le_add_right ..
  | write => exact Nat.le_of_eq List.length_set.symm
  | same => exact Nat.le_refl _

theorem forall_mem {P : α → Prop} (h : HeapStep New Wr heap tgt heap') (inv : ∀ d ∈ heap, P d)
    (hn : ∀ d, New d → P d) (hw : ∀ d d', P d → Wr d d' → P d') : ∀ d ∈ heap', P d := by
  cases h with
  | alloc d hd =>
    intro x hx
    rcases List.mem_append.1 hx with hx | hx
    · exact inv x hx
    · exact List.mem_singleton.1 hx ▸ hn d hd
  | write t d d' _ hd hwr =>
    intro x hx
    rcases List.mem_or_eq_of_mem_set hx with hx | rfl
    · exact inv x hx
    · exact hw d _ (inv d (List.mem_of_getElem? hd)) hwr
  | same => exact inv

theorem set (heap : List α) (t : Nat) (x : α) (hw : ∀ d, Wr d x) : HeapStep New Wr heap (some t) (heap.set t x) := by
  cases h : heap[t]? with
  | none => rw [List.set_eq_of_length_le (List.getElem?_eq_none_iff.1 h)]; exact .same
  | some d => exact .write t d x rfl h (hw d)

theorem put (heap : List α) (t : Nat) (x : α) (hn : New x) (hw : ∀ d, Wr d x) :
    HeapStep New Wr heap (some t) (if t < heap.length then heap.set t x else heap ++ [x]) := by
  split
  · exact .set heap t x hw
  · exact .alloc x hn

end HeapStep
end Pyg
