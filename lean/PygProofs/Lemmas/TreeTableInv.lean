/-
  For the inverse law of `table_to_tree` / `tree_to_table` (C15): trees of uniform depth (`Uni`), and flattening a tree
  rebuilt by path writes of leaves at pairwise parting paths gives the items written back, up to order.
-/
import PygProofs.Lemmas.Basics.Lists
import PygProofs.Lemmas.TreeTableLemmas

namespace Pyg.TreeTable
open Pyg Pyg.DA Pyg.Tree

/-- every leaf of `t` is at depth exactly `d`, every node above is a branch (a dict) with distinct keys -/
def Uni : Nat → Val → Prop
  | 0, v => ∀ s, v ≠ .dict s
  | d + 1, .dict kvs => (kvs.map (·.1)).Nodup ∧ ∀ kv ∈ kvs, Uni d kv.2
  | _ + 1, _ => False

theorem Uni_zero (v : Val) : Uni 0 v ↔ ∀ s, v ≠ .dict s := by simp [Uni]

theorem Uni_succ_dict (d : Nat) (kvs : List (String × Val)) :
    Uni (d + 1) (.dict kvs) ↔ (kvs.map (·.1)).Nodup ∧ ∀ kv ∈ kvs, Uni d kv.2 := by simp [Uni]

theorem Uni_succ_inv (d : Nat) (t : Val) (h : Uni (d + 1) t) : ∃ kvs, t = .dict kvs := by
  cases t with
  | dict kvs => exact ⟨kvs, rfl⟩
  | _ => simp [Uni] at h

theorem Uni_empty (d : Nat) : Uni (d + 1) (.dict []) := by simp [Uni]

theorem Uni_set (d : Nat) (k : String) (new : Val) (kvs : List (String × Val))
    (h : Uni (d + 1) (.dict kvs)) (hn : Uni d new) : Uni (d + 1) (.dict (DA.set k new kvs)) := by
  rw [Uni_succ_dict] at h ⊢
  refine ⟨nodup_keys_set k new kvs h.1, ?_⟩
  intro kv hm
  rcases mem_set k new kvs kv hm with hm | rfl
  · exact h.2 kv hm
  · exact hn

theorem Uni_wf : ∀ (d : Nat) (t : Val), Uni d t → wf t = true
  | 0, t, h => wf.eq_2 t ((Uni_zero t).1 h)
  | d + 1, t, h => by
      obtain ⟨kvs, rfl⟩ := Uni_succ_inv d t h
      rw [Uni_succ_dict] at h
      have : ∀ (l : List (String × Val)), (∀ kv ∈ l, Uni d kv.2) → wfKVs l = true := by
        intro l
        induction l with
        | nil => exact fun _ => rfl
        | cons kv l ih =>
          intro hl
          exact (wfKVs_cons kv.1 kv.2 l).2
            ⟨Uni_wf d kv.2 (hl kv List.mem_cons_self), ih fun x hx => hl x (List.mem_cons_of_mem _ hx)⟩
      exact (wf_dict kvs).2 ⟨h.1, this kvs h.2⟩

theorem Uni_lookup {d : Nat} {k : String} {old : Val} {kvs : List (String × Val)} (hU : Uni (d + 1) (.dict kvs))
    (h : lookup k kvs = some old) : Uni d old :=
  ((Uni_succ_dict d kvs).1 hU).2 (k, old) (mem_of_lookup k old kvs h)

theorem Uni_items_length : ∀ (d : Nat) (t : Val), Uni d t → ∀ pv ∈ items t, pv.1.length = d ∧ ∀ s, pv.2 ≠ .dict s
  | 0, t, h, pv, hm => by
      rw [items_leaf t h] at hm
      simp only [List.mem_singleton] at hm
      subst hm
      exact ⟨rfl, h⟩
  | d + 1, t, h, pv, hm => by
      obtain ⟨kvs, rfl⟩ := Uni_succ_inv d t h
      rw [Uni_succ_dict] at h
      obtain ⟨kv, hkv, q, hq, rfl⟩ := mem_itemsKVs.1 hm
      have := Uni_items_length d kv.2 (h.2 kv hkv) q hq
      exact ⟨by simp [this.1], this.2⟩

theorem itemsKVs_append : ∀ (a b : List (String × Val)), itemsKVs (a ++ b) = itemsKVs a ++ itemsKVs b
  | [], _ => rfl
  | (k, v) :: a, b => by
      rw [List.cons_append, itemsKVs_cons, itemsKVs_cons, itemsKVs_append a b, List.append_assoc]

theorem itemsKVs_set_perm (k : String) (new : Val) (extra : List (Path × Val)) :
    ∀ (kvs : List (String × Val)),
    (items new).Perm ((lookup k kvs).elim [] items ++ extra) →
    (itemsKVs (DA.set k new kvs)).Perm (itemsKVs kvs ++ extra.map fun pv => (k :: pv.1, pv.2))
  | [], h => by
      rw [set_nil, itemsKVs_cons, itemsKVs_nil, List.append_nil, List.nil_append]
      exact h.map _
  | (l, w) :: kvs, h => by
      rw [lookup_cons] at h
      rw [set_cons, itemsKVs_cons]
      by_cases e : k = l
      · subst e
        rw [if_pos rfl] at h ⊢
        rw [itemsKVs_cons, List.append_assoc]
        -- the new items of `k` stand where the old ones stood; `extra` moves behind the items of the other keys
        exact ((h.map fun pv : Path × Val => (k :: pv.1, pv.2)).append_right _).trans
          (by rw [List.map_append, List.append_assoc]; exact List.Perm.append_left _ List.perm_append_comm)
      · rw [if_neg e] at h ⊢
        rw [itemsKVs_cons, List.append_assoc]
        exact List.Perm.append_left _ (itemsKVs_set_perm k new extra kvs h)

/-- What a write at `k :: rest` that parts from every listed path finds below `k`: a branch or nothing (a leaf at `k` would
list the path `[k]`, from which `k :: rest` does not part). -/
theorem itemsKVs_subOf_of_branch {k : String} {rest : Path} {kvs : List (String × Val)}
    (hb : ∀ q ∈ (itemsKVs kvs).map (·.1), Branch (k :: rest) q) :
    (lookup k kvs).elim [] items = itemsKVs (subOf k kvs) ∧
      ∀ q ∈ (itemsKVs (subOf k kvs)).map (·.1), Branch rest q := by
  cases hl : lookup k kvs with
  | none =>
    rw [subOf_of_none hl]
    exact ⟨rfl, fun _ h => (nomatch h)⟩
  | some old =>
    have hbo : ∀ q ∈ (items old).map (·.1), Branch rest q := fun q hq =>
      ((Branch_cons.1 (hb _ (mem_paths_of_lookup hl hq))).resolve_left fun h => h rfl).2
    cases old with
    | dict s =>
      rw [subOf_of_lookup hl]
      exact ⟨rfl, hbo⟩
    | _ => exact absurd (hbo [] List.mem_cons_self) Branch.nil_right

theorem items_setKVs_branch (v : Val) (hv : ∀ s, v ≠ .dict s) : ∀ (p : Path) (kvs : List (String × Val)),
    p ≠ [] → (∀ q ∈ (itemsKVs kvs).map (·.1), Branch p q) →
    (itemsKVs (setKVs kvs p v [])).Perm (itemsKVs kvs ++ [(p, v)])
  | [], _, h, _ => absurd rfl h
  | [k], kvs, _, hb => by
      obtain ⟨he, hs⟩ := itemsKVs_subOf_of_branch hb
      rw [setKVs_single_nil]
      refine itemsKVs_set_perm k v [([], v)] kvs ?_
      -- nothing parts from the empty path: what `k` held (an empty branch at most) has no item
      rw [items_leaf v hv, he,
        List.eq_nil_iff_forall_not_mem.2 fun pv hm => Branch.nil_left (hs _ (List.mem_map_of_mem hm))]
      exact .refl _
  | k :: k2 :: rest, kvs, _, hb => by
      obtain ⟨he, hs⟩ := itemsKVs_subOf_of_branch hb
      rw [setKVs_deep]
      exact itemsKVs_set_perm k _ [(k2 :: rest, v)] kvs
        (he ▸ items_setKVs_branch v hv (k2 :: rest) _ (List.cons_ne_nil _ _) hs)

theorem items_buildOn_branch : ∀ (its : List (Path × Val)) (base : List (String × Val)),
    (∀ pv ∈ its, pv.1 ≠ [] ∧ ∀ s, pv.2 ≠ .dict s) → (its.map (·.1)).Pairwise Branch →
    (∀ pv ∈ its, ∀ q ∈ (itemsKVs base).map (·.1), Branch pv.1 q) →
    (itemsKVs (buildOn base its)).Perm (itemsKVs base ++ its)
  | [], base, _, _, _ => by
      rw [List.append_nil]
      exact .refl _
  | pv :: its, base, hl, hp, hb => by
      rw [List.map_cons, List.pairwise_cons] at hp
      have step := items_setKVs_branch pv.2 (hl pv List.mem_cons_self).2 pv.1 base (hl pv List.mem_cons_self).1
        (hb pv List.mem_cons_self)
      refine (items_buildOn_branch its _ (fun x hx => hl x (List.mem_cons_of_mem _ hx)) hp.2 fun x hx q hq => ?_).trans
        ((step.append_right its).trans (by rw [List.append_assoc]; rfl))
      -- a path of the tree after the first write is one of the base or the path just written
      rcases List.mem_append.1 (List.map_append ▸ (step.map (fun x : Path × Val => x.1)).mem_iff.1 hq) with h | h
      · exact hb x (List.mem_cons_of_mem _ hx) q h
      · cases List.mem_singleton.1 h
        exact (hp.1 _ (List.mem_map_of_mem hx)).symm

theorem Uni_setKVs (v : Val) (hv : ∀ s, v ≠ .dict s) : ∀ (p : Path) (kvs : List (String × Val)),
    p ≠ [] → Uni p.length (.dict kvs) → Uni p.length (.dict (setKVs kvs p v []))
  | [], _, h, _ => absurd rfl h
  | [k], kvs, _, hU => by
      rw [setKVs_single_nil]
      exact Uni_set 0 k v kvs hU ((Uni_zero v).2 hv)
  | k :: k2 :: rest, kvs, _, hU => by
      rw [setKVs_deep]
      refine Uni_set _ k _ kvs hU (Uni_setKVs v hv (k2 :: rest) _ (List.cons_ne_nil _ _) ?_)
      cases hl : lookup k kvs with
      | none =>
        rw [subOf_of_none hl]
        exact Uni_empty _
      | some old =>
        obtain ⟨s, rfl⟩ := Uni_succ_inv _ old (Uni_lookup hU hl)
        rw [subOf_of_lookup hl]
        exact Uni_lookup hU hl

theorem Uni_buildOn (d : Nat) (its : List (Path × Val)) (base : List (String × Val)) (hU : Uni (d + 1) (.dict base))
    (hl : ∀ pv ∈ its, pv.1.length = d + 1 ∧ ∀ s, pv.2 ≠ .dict s) : Uni (d + 1) (.dict (buildOn base its)) :=
  List.foldl_preserves (P := fun b => Uni (d + 1) (.dict b)) (fun b pv hm hb => by
    have h := hl pv hm
    rw [← h.1] at hb ⊢
    exact Uni_setKVs pv.2 h.2 pv.1 b (fun e => by rw [e] at h; exact nomatch h.1) hb) hU

/-- the uniform-depth instance of `items_buildOn_branch` with `Uni_buildOn` (paths of one length that differ part) -/
theorem items_buildOn (d : Nat) : ∀ (its : List (Path × Val)) (base : List (String × Val)),
    Uni (d + 1) (.dict base) → (∀ pv ∈ its, pv.1.length = d + 1 ∧ ∀ s, pv.2 ≠ .dict s) →
    ((itemsKVs base).map (·.1) ++ its.map (·.1)).Nodup →
    (itemsKVs (buildOn base its)).Perm (itemsKVs base ++ its) ∧ Uni (d + 1) (.dict (buildOn base its)) := by
  intro its base hU hl hnd
  have hb := List.pairwise_append.1 <| pairwise_branch_of_nodup (n := d + 1) (fun p hp => by
    rcases List.mem_append.1 hp with h | h
    · obtain ⟨y, hy, rfl⟩ := List.mem_map.1 h
      exact (Uni_items_length _ _ hU y hy).1
    · obtain ⟨x, hx, rfl⟩ := List.mem_map.1 h
      exact (hl x hx).1) hnd
  exact ⟨items_buildOn_branch its base (fun pv h => ⟨fun e => (nomatch e ▸ (hl pv h).1), (hl pv h).2⟩) hb.2.1
    fun pv hpv q hq => (hb.2.2 q hq _ (List.mem_map_of_mem hpv)).symm, Uni_buildOn d its base hU hl⟩

/-- distinct keys in every branch, no empty branch below the root, every listed path of length `d`: the tree has uniform
depth `d` (for `d = 0` the tree must not be the empty dict, which has no items at all) -/
theorem Uni_of_items : ∀ (d : Nat) (t : Val), wf t = true → noEmpty t = true → (∀ pv ∈ items t, pv.1.length = d) →
    (d = 0 → t ≠ .dict []) → Uni d t
  | 0, t, _, hn, hl, h0 => by
      rw [Uni_zero]
      intro s e
      subst e
      -- a non-empty dict without empty branches lists an item, and the path of an item of a dict is not empty
      obtain ⟨pv, hpv⟩ := List.exists_mem_of_ne_nil _ (itemsKVs_ne_nil s hn fun e => h0 rfl (by rw [e]))
      exact itemsKVs_path_ne s pv hpv (List.eq_nil_of_length_eq_zero (hl pv hpv))
  | d + 1, t, hw, hn, hl, _ => by
      cases t with
      | dict kvs =>
        rw [Uni_succ_dict]
        rw [wf_dict] at hw
        refine ⟨hw.1, ?_⟩
        intro kv hkv
        have hne := noEmpty_of_mem kvs hn kv hkv
        refine Uni_of_items d kv.2 (wf_of_mem kvs hw.2 kv hkv) hne.2 ?_ (fun _ => hne.1)
        intro pv hpv
        have := hl _ (mem_itemsKVs.2 ⟨kv, hkv, pv, hpv, rfl⟩)
        simpa using this
      | _ => exact nomatch hl _ (List.mem_singleton.2 rfl : ([], _) ∈ [([], _)])

end Pyg.TreeTable
