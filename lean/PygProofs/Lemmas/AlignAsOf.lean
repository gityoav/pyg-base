/-
  C03: the per-column as-of join of the model (`obs` + `posAsOf` / `posNext`) against independent references - one scan over
  (label, cell), no NaN removal, no positions - and those references by positions.  `lastObs` / `firstObs` give the value,
  `lastObsAt` / `firstObsAt` the label as well; both are the scans `lastObsG` / `firstObsG` over cells of any type.
-/
import PygProofs.Lemmas.AlignLemmas

namespace Pyg.Align
open Pyg Pyg.Fill

/-- reference for `ffill`: the cell at the RIGHT-MOST position whose label is `≤ t` and whose cell is not NaN -/
def lastObs : List Int → Col → Int → Option Int
  | x :: xs, v :: vs, t =>
    match lastObs xs vs t with
    | some w => some w
    | Option.none => if x ≤ t then v else Option.none
  | _, _, _ => Option.none

/-- reference for `bfill`: the cell at the LEFT-MOST position whose label is `≥ t` and whose cell is not NaN -/
def firstObs : List Int → Col → Int → Option Int
  | x :: xs, v :: vs, t => if t ≤ x ∧ v.isSome = true then v else firstObs xs vs t
  | _, _, _ => Option.none

def lastObsG {α : Type} : List Int → List (Option α) → Int → Option α
  | x :: xs, v :: vs, t =>
    match lastObsG xs vs t with
    | some w => some w
    | Option.none => if x ≤ t then v else Option.none
  | _, _, _ => Option.none

def firstObsG {α : Type} : List Int → List (Option α) → Int → Option α
  | x :: xs, v :: vs, t => if t ≤ x ∧ v.isSome = true then v else firstObsG xs vs t
  | _, _, _ => Option.none

theorem lastObs_eq_lastObsG (ix : List Int) (c : Col) (t : Int) : lastObs ix c t = lastObsG ix c t := by
  induction ix generalizing c with
  | nil => rfl
  | cons x xs ih =>
    cases c with
    | nil => rfl
    | cons v vs => simp only [lastObs, lastObsG, ih vs]; cases lastObsG xs vs t <;> rfl

theorem firstObs_eq_firstObsG (ix : List Int) (c : Col) (t : Int) : firstObs ix c t = firstObsG ix c t := by
  induction ix generalizing c with
  | nil => rfl
  | cons x xs ih =>
    cases c with
    | nil => rfl
    | cons v vs => simp only [firstObs, firstObsG, ih vs]

/-- position `i` (label `s`) holds the observation `v` a scan picks: the label is on the side `R` of the requested one, the cell is
`v`, and no position the scan prefers (`L i j`) qualifies -/
def Picks {α : Type} (R : Int → Prop) (L : Nat → Nat → Prop) (ix : List Int) (c : List (Option α)) (v : α) (i : Nat) (s : Int) : Prop :=
  ix[i]? = some s ∧ R s ∧ c[i]? = some (some v) ∧
    ∀ (j : Nat) (s' : Int) (w : α), L i j → ix[j]? = some s' → R s' → c[j]? ≠ some (some w)

/-- what a scan result `r` has to be: nothing when no position qualifies, else a picked observation -/
def Scans {α : Type} (R : Int → Prop) (L : Nat → Nat → Prop) (ix : List Int) (c : List (Option α)) (r : Option α) : Prop :=
  match r with
  | Option.none => ∀ (j : Nat) (s : Int) (w : α), ix[j]? = some s → R s → c[j]? ≠ some (some w)
  | some v => ∃ i s, Picks R L ix c v i s

/-- such a result is `v` exactly when `v` is picked: of two different positions one is preferred, so two picks coincide -/
theorem Scans.iff {α : Type} {R : Int → Prop} {L : Nat → Nat → Prop} (tri : ∀ i j, L i j ∨ i = j ∨ L j i)
    {ix : List Int} {c : List (Option α)} {r : Option α} (h : Scans R L ix c r) (v : α) :
    r = some v ↔ ∃ i s, Picks R L ix c v i s := by
  refine ⟨fun e => by subst e; exact h, fun ⟨i, s, h1, h2, h3, h4⟩ => ?_⟩
  cases r with
  | none => exact (h i s v h1 h2 h3).elim
  | some w =>
    obtain ⟨i', s', g1, g2, g3, g4⟩ := h
    rcases tri i i' with h | rfl | h
    · exact (h4 i' s' w h g1 g2 g3).elim
    · exact congrArg some (Option.some.inj (Option.some.inj (g3.symm.trans h3)))
    · exact (g4 i s v h h1 h2 h3).elim

theorem lastObsG_scans {α : Type} (ix : List Int) (c : List (Option α)) (t : Int) :
    Scans (· ≤ t) (· < ·) ix c (lastObsG ix c t) := by
  induction ix generalizing c with
  | nil => exact fun _ _ _ hj => nomatch hj
  | cons x xs ih =>
    cases c with
    | nil => exact fun _ _ _ _ _ hc => nomatch hc
    | cons u us =>
      have := ih us
      simp only [lastObsG]
      cases hl : lastObsG xs us t with
      | some w =>
        rw [hl] at this
        obtain ⟨i, s, g1, g2, g3, g4⟩ := this
        exact ⟨i + 1, s, g1, g2, g3, fun j s' w' hj => by
          cases j with
          | zero => exact absurd hj (Nat.not_lt_zero _)
          | succ j => exact g4 j s' w' (Nat.lt_of_succ_lt_succ hj)⟩
      | none =>
        rw [hl] at this
        -- nothing behind the head qualifies: the head is the answer iff it qualifies
        have tail : ∀ (j : Nat) (s : Int) (w : α), (x :: xs)[j]? = some s → s ≤ t → (u :: us)[j]? = some (some w) → j = 0 :=
          fun j s w hj hle hc => by
            cases j with
            | zero => rfl
            | succ j => exact (this j s w hj hle hc).elim
        by_cases hle : x ≤ t
        · rw [if_pos hle]
          cases u with
          | none => exact fun j s w hj hle' hc => by cases tail j s w hj hle' hc; cases hc
          | some w => exact ⟨0, x, rfl, hle, rfl, fun j s' w' hj hjs hle' hc => by cases tail j s' w' hjs hle' hc; exact Nat.lt_irrefl 0 hj⟩
        · rw [if_neg hle]
          exact fun j s w hj hle' hc => by cases tail j s w hj hle' hc; cases Option.some.inj hj; exact hle hle'

theorem firstObsG_scans {α : Type} (ix : List Int) (c : List (Option α)) (t : Int) :
    Scans (t ≤ ·) (fun i j => j < i) ix c (firstObsG ix c t) := by
  induction ix generalizing c with
  | nil => exact fun _ _ _ hj => nomatch hj
  | cons x xs ih =>
    cases c with
    | nil => exact fun _ _ _ _ _ hc => nomatch hc
    | cons u us =>
      simp only [firstObsG]
      split
      · rename_i hq
        obtain ⟨w, rfl⟩ := Option.isSome_iff_exists.mp hq.2
        exact ⟨0, x, rfl, hq.1, rfl, fun j _ _ hj => absurd hj (Nat.not_lt_zero j)⟩
      · rename_i hq
        -- the head does not qualify: positions shift by one
        have head : ∀ (s : Int) (w : α), (x :: xs)[0]? = some s → t ≤ s → (u :: us)[0]? ≠ some (some w) :=
          fun s w hj hle hc => by cases Option.some.inj hj; cases Option.some.inj hc; exact hq ⟨hle, rfl⟩
        have := ih us
        cases hr : firstObsG xs us t with
        | none =>
          rw [hr] at this
          exact fun j s w hj hle hc => by
            cases j with
            | zero => exact head s w hj hle hc
            | succ j => exact this j s w hj hle hc
        | some v =>
          rw [hr] at this
          obtain ⟨i, s, g1, g2, g3, g4⟩ := this
          exact ⟨i + 1, s, g1, g2, g3, fun j s' w hj hjs hle hc => by
            cases j with
            | zero => exact head s' w hjs hle hc
            | succ j => exact g4 j s' w (Nat.lt_of_succ_lt_succ hj) hjs hle hc⟩

theorem lastObsG_iff {α : Type} (ix : List Int) (c : List (Option α)) (t : Int) (v : α) :
    lastObsG ix c t = some v ↔
      ∃ (i : Nat) (s : Int), ix[i]? = some s ∧ s ≤ t ∧ c[i]? = some (some v) ∧
        ∀ (j : Nat) (s' : Int) (w : α), i < j → ix[j]? = some s' → s' ≤ t → c[j]? ≠ some (some w) :=
  (lastObsG_scans ix c t).iff Nat.lt_trichotomy v

theorem firstObsG_iff {α : Type} (ix : List Int) (c : List (Option α)) (t : Int) (v : α) :
    firstObsG ix c t = some v ↔
      ∃ (i : Nat) (s : Int), ix[i]? = some s ∧ t ≤ s ∧ c[i]? = some (some v) ∧
        ∀ (j : Nat) (s' : Int) (w : α), j < i → ix[j]? = some s' → t ≤ s' → c[j]? ≠ some (some w) :=
  (firstObsG_scans ix c t).iff (fun i j => (Nat.lt_trichotomy j i).imp_right (Or.imp_left Eq.symm)) v

theorem lastObsG_none_of_gt {α : Type} (xs : List Int) (vs : List (Option α)) (t : Int) (h : ∀ s ∈ xs, t < s) :
    lastObsG xs vs t = Option.none := by
  have := lastObsG_scans xs vs t
  cases hr : lastObsG xs vs t with
  | none => rfl
  | some v =>
    rw [hr] at this
    obtain ⟨i, s, h1, h2, _⟩ := this
    exact absurd (h s (List.mem_of_getElem? h1)) (Int.not_lt.mpr h2)

/-- every cell paired with its label -/
def pairCol : List Int → Col → List (Option (Int × Int))
  | x :: xs, v :: vs => v.map (fun w => (x, w)) :: pairCol xs vs
  | _, _ => []

/-- the last non-NaN observation at or before `t`: (label, value) -/
def lastObsAt (ix : List Int) (c : Col) (t : Int) : Option (Int × Int) := lastObsG ix (pairCol ix c) t
/-- the next non-NaN observation at or after `t`: (label, value) -/
def firstObsAt (ix : List Int) (c : Col) (t : Int) : Option (Int × Int) := firstObsG ix (pairCol ix c) t

theorem pairCol_get (ix : List Int) (c : Col) (i : Nat) (s v : Int) :
    (pairCol ix c)[i]? = some (some (s, v)) ↔ ix[i]? = some s ∧ c[i]? = some (some v) := by
  induction ix generalizing c i with
  | nil => exact ⟨fun h => (nomatch h), fun ⟨h, _⟩ => nomatch h⟩
  | cons x xs ih =>
    cases c with
    | nil => exact ⟨fun h => (nomatch h), fun ⟨_, h⟩ => nomatch h⟩
    | cons u us =>
      cases i with
      | succ i => exact ih us i
      | zero =>
        cases u with
        | none => exact ⟨fun h => (nomatch h), fun ⟨_, h⟩ => nomatch h⟩
        | some w =>
          constructor
          · intro h; cases h; exact ⟨rfl, rfl⟩
          · rintro ⟨h1, h2⟩; cases h1; cases h2; rfl

theorem pairCol_positions (R : Int → Prop) (L : Nat → Nat → Prop) (ix : List Int) (c : Col) (s v : Int) :
    (∃ i s0, Picks R L ix (pairCol ix c) (s, v) i s0) ↔ ∃ i, Picks R L ix c v i s := by
  constructor
  · rintro ⟨i, s0, h1, h2, h3, h4⟩
    obtain ⟨g1, g2⟩ := (pairCol_get ix c i s v).mp h3
    cases Option.some.inj (h1.symm.trans g1)
    exact ⟨i, h1, h2, g2, fun j s' w hj hjs hr hc => h4 j s' (s', w) hj hjs hr ((pairCol_get ix c j s' w).mpr ⟨hjs, hc⟩)⟩
  · rintro ⟨i, h1, h2, h3, h4⟩
    refine ⟨i, s, h1, h2, (pairCol_get ix c i s v).mpr ⟨h1, h3⟩, fun j s' w hj hjs hr hc => ?_⟩
    exact h4 j s' w.2 hj hjs hr ((pairCol_get ix c j w.1 w.2).mp hc).2

theorem lastObsAt_iff (ix : List Int) (c : Col) (t s v : Int) :
    lastObsAt ix c t = some (s, v) ↔
      ∃ i, ix[i]? = some s ∧ s ≤ t ∧ c[i]? = some (some v) ∧
        ∀ (j : Nat) (s' w : Int), i < j → ix[j]? = some s' → s' ≤ t → c[j]? ≠ some (some w) :=
  (lastObsG_iff ix (pairCol ix c) t (s, v)).trans (pairCol_positions (· ≤ t) (· < ·) ix c s v)

theorem firstObsAt_iff (ix : List Int) (c : Col) (t s v : Int) :
    firstObsAt ix c t = some (s, v) ↔
      ∃ i, ix[i]? = some s ∧ t ≤ s ∧ c[i]? = some (some v) ∧
        ∀ (j : Nat) (s' w : Int), j < i → ix[j]? = some s' → t ≤ s' → c[j]? ≠ some (some w) :=
  (firstObsG_iff ix (pairCol ix c) t (s, v)).trans (pairCol_positions (t ≤ ·) (fun i j => j < i) ix c s v)

theorem lastObsAt_self {ix : List Int} {c : Col} (hs : SortedL ix) {i : Nat} {t v : Int} (hi : ix[i]? = some t)
    (hv : c[i]? = some (some v)) : lastObsAt ix c t = some (t, v) :=
  (lastObsAt_iff ix c t t v).mpr ⟨i, hi, Int.le_refl t, hv, fun _ _ _ hj hjs hle =>
    absurd (sorted_getElem?_lt hs hj hi hjs) (Int.not_lt.mpr hle)⟩

theorem firstObsAt_self {ix : List Int} {c : Col} (hs : SortedL ix) {i : Nat} {t v : Int} (hi : ix[i]? = some t)
    (hv : c[i]? = some (some v)) : firstObsAt ix c t = some (t, v) :=
  (firstObsAt_iff ix c t t v).mpr ⟨i, hi, Int.le_refl t, hv, fun _ _ _ hj hjs hle =>
    absurd (sorted_getElem?_lt hs hj hjs hi) (Int.not_lt.mpr hle)⟩

theorem lastObsAt_snd (ix : List Int) (c : Col) (t : Int) : (lastObsAt ix c t).map Prod.snd = lastObs ix c t :=
  Option.map_snd_of_iff (lastObsAt_iff ix c t) fun v => by rw [lastObs_eq_lastObsG]; exact lastObsG_iff ix c t v

theorem firstObsAt_snd (ix : List Int) (c : Col) (t : Int) : (firstObsAt ix c t).map Prod.snd = firstObs ix c t :=
  Option.map_snd_of_iff (firstObsAt_iff ix c t) fun v => by rw [firstObs_eq_firstObsG]; exact firstObsG_iff ix c t v

theorem asofObs_ffill_cons (x v : Int) (o : List (Int × Int)) (t : Int) :
    asofObs .ffill ((x, v) :: o) t = if x ≤ t then (asofObs .ffill o t).or (some (x, v)) else Option.none := by
  unfold asofObs asofPos
  simp only [List.map_cons, posAsOf]
  split
  · cases hp : posAsOf (o.map Prod.fst) t with
    | none => rfl
    | some p =>
      have hlt : p < o.length := by simpa using posAsOf_lt _ _ _ hp
      simp [List.getElem?_eq_getElem hlt]
  · rfl

theorem asofObs_bfill_cons (x v : Int) (o : List (Int × Int)) (t : Int) :
    asofObs .bfill ((x, v) :: o) t = if t ≤ x then some (x, v) else asofObs .bfill o t := by
  unfold asofObs asofPos
  simp only [List.map_cons, posNext]
  split
  · rfl
  · cases posNext (o.map Prod.fst) t <;> rfl

theorem asofObs_ffill (ix : List Int) (c : Col) (t : Int) (hs : SortedL ix) :
    asofObs .ffill (obs ix c) t = lastObsAt ix c t := by
  unfold lastObsAt
  induction ix generalizing c with
  | nil => cases c <;> rfl
  | cons x xs ih =>
    have hx := List.pairwise_cons.mp hs
    cases c with
    | nil => rfl
    | cons v vs =>
      cases v with
      | none =>
        simp only [obs, pairCol, lastObsG, Option.map_none, ih vs hx.2]
        cases lastObsG xs (pairCol xs vs) t <;> simp
      | some v =>
        simp only [obs, pairCol, lastObsG, Option.map_some, asofObs_ffill_cons, ih vs hx.2]
        by_cases hxt : x ≤ t
        · simp only [hxt, if_true]
          cases lastObsG xs (pairCol xs vs) t <;> rfl
        · simp only [hxt, if_false]
          -- every later label is above `x`, hence above `t`
          rw [lastObsG_none_of_gt xs _ t fun s hs' => Int.lt_trans (Int.not_le.mp hxt) (hx.1 s hs')]

theorem asofObs_bfill (ix : List Int) (c : Col) (t : Int) : asofObs .bfill (obs ix c) t = firstObsAt ix c t := by
  unfold firstObsAt
  induction ix generalizing c with
  | nil => cases c <;> rfl
  | cons x xs ih =>
    cases c with
    | nil => rfl
    | cons v vs =>
      cases v with
      | none => simp only [obs, pairCol, firstObsG, Option.map_none, ih vs]; simp
      | some v => simp only [obs, pairCol, firstObsG, Option.map_some, asofObs_bfill_cons, ih vs]; simp

/-- what the model computes for one label from a list of observations -/
def asofAt (d : Dir) (o : List (Int × Int)) (t : Int) : Option Int :=
  (asofPos d (o.map Prod.fst) t).bind fun (i : Nat) => (o[i]?).map Prod.snd

theorem asofCol_eq (d : Dir) (ix : List Int) (c : Col) (idx : List Int) :
    asofCol d ix c idx = idx.map (asofAt d (obs ix c)) := rfl

theorem asofAt_eq (d : Dir) (o : List (Int × Int)) (t : Int) : asofAt d o t = (asofObs d o t).map Prod.snd := by
  unfold asofAt asofObs
  cases asofPos d (o.map Prod.fst) t <;> rfl

theorem asofCol_ffill (ix : List Int) (c : Col) (idx : List Int) (hs : SortedL ix) :
    asofCol .ffill ix c idx = idx.map (lastObs ix c) :=
  List.map_congr_left fun t _ => by rw [← asofAt, asofAt_eq, asofObs_ffill ix c t hs, lastObsAt_snd]

theorem asofCol_bfill (ix : List Int) (c : Col) (idx : List Int) : asofCol .bfill ix c idx = idx.map (firstObs ix c) :=
  List.map_congr_left fun t _ => by rw [← asofAt, asofAt_eq, asofObs_bfill, firstObsAt_snd]

theorem lastObs_cons_of_lt (x : Int) (xs : List Int) (v : Option Int) (vs : Col) (t : Int) (h : x < t) :
    lastObs (x :: xs) (v :: vs) t = (lastObs xs vs t).or v := by
  simp only [lastObs]
  cases lastObs xs vs t <;> simp [Int.le_of_lt h]

theorem ffillAux_none_cons (last : Option Int) (k : Nat) (v : Option Int) (vs : Col) :
    ffillAux Option.none last k (v :: vs) = v.or last :: ffillAux Option.none (v.or last) (if v.isSome then 0 else k + 1) vs := by
  cases v <;> rfl

/-- `last` stands in for what came before the column -/
theorem ffillAux_eq_lastObs (ix : List Int) (c : Col) (last : Option Int) (k : Nat) (hs : SortedL ix) (hl : c.length = ix.length) :
    ffillAux Option.none last k c = ix.map fun t => (lastObs ix c t).or last := by
  induction ix generalizing c last k with
  | nil => cases c <;> simp_all [ffillAux]
  | cons x xs ih =>
    cases c with
    | nil => simp at hl
    | cons v vs =>
      have hx := List.pairwise_cons.mp hs
      have h0 : lastObs xs vs x = Option.none := by
        rw [lastObs_eq_lastObsG]; exact lastObsG_none_of_gt xs vs x hx.1
      rw [ffillAux_none_cons, ih vs _ _ hx.2 (by simpa using hl), List.map_cons]
      congr 1
      · simp [lastObs, h0]
      · exact List.map_congr_left fun t ht => by rw [lastObs_cons_of_lt x xs _ vs t (hx.1 t ht), Option.or_assoc]

theorem ffill_eq_lastObs (ix : List Int) (c : Col) (hs : SortedL ix) (hl : c.length = ix.length) :
    ix.map (lastObs ix c) = ffill Option.none c := by
  unfold ffill
  rw [ffillAux_eq_lastObs ix c Option.none 0 hs hl]
  apply List.map_congr_left; intro t _; simp

theorem lastObs_append (a : List Int) (b : Col) (x : Int) (v : Option Int) (t : Int) (hl : b.length = a.length) :
    lastObs (a ++ [x]) (b ++ [v]) t = if x ≤ t ∧ v.isSome = true then v else lastObs a b t := by
  induction a generalizing b with
  | nil =>
    cases b with
    | nil => cases v <;> simp [lastObs]
    | cons _ _ => simp at hl
  | cons y a ih =>
    cases b with
    | nil => simp at hl
    | cons w b =>
      have hl' : b.length = a.length := by simpa using hl
      simp only [List.cons_append, lastObs, ih b hl']
      by_cases hc : x ≤ t ∧ v.isSome = true
      · rw [if_pos hc, if_pos hc]
        obtain ⟨u, rfl⟩ := Option.isSome_iff_exists.mp hc.2
        rfl
      · rw [if_neg hc, if_neg hc]

/-- the backward scan is the forward scan of the reversed column under negated labels (as C12's `bfill` is `ffill` of the
reversed column) -/
theorem firstObs_eq_lastObs_rev (ix : List Int) (c : Col) (t : Int) (hl : c.length = ix.length) :
    firstObs ix c t = lastObs (ix.reverse.map fun s => -s) c.reverse (-t) := by
  induction ix generalizing c with
  | nil => cases c <;> simp [firstObs, lastObs]
  | cons x xs ih =>
    cases c with
    | nil => simp at hl
    | cons v vs =>
      have hl' : vs.length = xs.length := by simpa using hl
      simp only [List.reverse_cons, List.map_append, List.map_cons, List.map_nil]
      rw [lastObs_append _ _ _ _ _ (by simp [hl']), ← ih vs hl']
      simp only [firstObs]
      simp only [Int.neg_le_neg_iff]

theorem bfill_eq_firstObs (ix : List Int) (c : Col) (hs : SortedL ix) (hl : c.length = ix.length) :
    ix.map (firstObs ix c) = bfill Option.none c := by
  have hs' : SortedL (ix.reverse.map fun s => -s) := by
    unfold SortedL at *
    rw [List.pairwise_map, List.pairwise_reverse]
    exact hs.imp Int.neg_lt_neg
  unfold bfill
  rw [← ffill_eq_lastObs (ix.reverse.map fun s => -s) c.reverse hs' (by simp [hl])]
  rw [← List.map_reverse, ← List.map_reverse, List.reverse_reverse, List.map_map]
  apply List.map_congr_left
  intro t _
  simp [firstObs_eq_lastObs_rev ix c t hl]

end Pyg.Align
