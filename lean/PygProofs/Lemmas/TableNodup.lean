/-
  Column names stay distinct under every operation of the dictable model (python dict keys are unique;
  the model's `Table` is a plain association list, so this is an invariant to prove).
-/
import PygProofs.Lemmas.TableCons

namespace Pyg
namespace Table

theorem finish_cols {t t' : Table} (h : t.finish = .ok t') : t'.cols = t.cols := by
  obtain ⟨n, _, rfl⟩ := finish_ok h
  exact cols_map_snd t _

theorem updateWith_nodup (t u : Table) (h : t.cols.Nodup) : (t.updateWith u).cols.Nodup :=
  foldl_set_nodup u t h

theorem restrict_nodup {columns : Option (List String)} {kw : Table} (h : kw.cols.Nodup) :
    (restrict columns kw).cols.Nodup := by
  unfold restrict
  split
  · exact h
  · split <;> exact ofPairs_nodup _

theorem construct_nodup {data : Data} {columns : Option (List String)} {kwargs : List (String × ColVal)}
    {t : Table} (h : construct data columns kwargs = some (.ok t)) : t.cols.Nodup := by
  obtain ⟨dk, _, hf⟩ := construct_ok h
  rw [finish_cols hf]
  exact restrict_nodup (updateWith_nodup _ _ (ofPairs_nodup _))

theorem setitem_nodup {t t' : Table} {k : String} {v : ColVal} (h : t.cols.Nodup)
    (hs : t.setitem k v = .ok t') : t'.cols.Nodup := by
  obtain ⟨v', rfl⟩ := setitem_ok_set hs
  exact set_nodup _ _ h

theorem cols_erase (t : Table) (k : String) : (t.erase k).cols = t.cols.filter (· != k) := by
  unfold erase cols
  rw [List.filter_map]
  rfl

theorem erase_nodup {t : Table} (k : String) (h : t.cols.Nodup) : (t.erase k).cols.Nodup := by
  rw [cols_erase]
  exact h.sublist List.filter_sublist

theorem getSlice_cols {t t' : Table} {a b s : Option Int} (hs : t.getSlice a b s = .ok t') :
    t'.cols = t.cols :=
  getSlice_ok hs ▸ cols_map_snd t _

theorem getProj_nodup {t t' : Table} {ks : List String} (h : t.cols.Nodup)
    (hs : t.getProj ks = .ok t') : t'.cols.Nodup := by
  rcases getProj_ok hs with rfl | rfl
  · rw [cols_emptyLike]
    exact h
  · exact ofPairs_nodup _

theorem concat_nodup (ts : List Table) : (Table.concat ts).cols.Nodup := by
  rw [cols_concat]
  exact nodup_dedupKeys _

theorem closed_nodup : Closed fun t => t.cols.Nodup where
  nil := List.nodup_nil
  construct := construct_nodup
  setitem := setitem_nodup
  erase := erase_nodup
  getSlice := fun h hs => by rw [getSlice_cols hs]; exact h
  gatherRows := fun idx h => by rw [cols_gatherRows]; exact h
  getProj := getProj_nodup
  relabel := fun _ _ => ofPairs_nodup _
  concat := fun _ => concat_nodup _

end Table

def HeapNodup (s : Heap) : Prop := ∀ t ∈ s, t.cols.Nodup

theorem HeapNodup.nil : HeapNodup [] := by intro t ht; cases ht

end Pyg
