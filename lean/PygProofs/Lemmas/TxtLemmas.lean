/-
  PygModel.Txt: `split` at a character gives the ONLY words without it that join back to the text; `replace` is `new.join(text.split(old))`.
-/
import PygModel.Txt

namespace Pyg

theorem splitAux_cons_sep (sep : Char) (cs : List Char) :
    splitAux sep (sep :: cs) = ([], (splitAux sep cs).1 :: (splitAux sep cs).2) := by
  rw [splitAux, if_pos rfl]

theorem splitAux_cons_ne {c sep : Char} (h : c ≠ sep) (cs : List Char) :
    splitAux sep (c :: cs) = (c :: (splitAux sep cs).1, (splitAux sep cs).2) := by
  rw [splitAux, if_neg h]

theorem replaceChars_cons (old : Char) (new : List Char) (c : Char) (cs : List Char) :
    replaceChars old new (c :: cs) = (if c = old then new else [c]) ++ replaceChars old new cs := rfl

theorem replaceChars_eq_join_split (old : Char) (new : List Char) : ∀ cs,
    replaceChars old new cs = joinStr new (splitAux old cs).1 (splitAux old cs).2
  | [] => rfl
  | c :: cs => by
      rw [replaceChars_cons, replaceChars_eq_join_split old new cs]
      by_cases h : c = old
      · rw [h, if_pos rfl, splitAux_cons_sep]
        simp only [joinStr, List.flatMap_cons, List.nil_append, List.append_assoc]
      · rw [if_neg h, splitAux_cons_ne h]; rfl

theorem replaceChars_self (old : Char) : ∀ cs, replaceChars old [old] cs = cs
  | [] => rfl
  | c :: cs => by
      rw [replaceChars_cons, replaceChars_self old cs]
      by_cases h : c = old
      · rw [if_pos h, h]; rfl
      · rw [if_neg h]; rfl

/-- `joinStr [sep] w ws` is `joinChars sep w ws` by unfolding `[sep] ++ x`, which is why the two sides meet -/
theorem splitAux_join (sep : Char) (cs : List Char) : joinChars sep (splitAux sep cs).1 (splitAux sep cs).2 = cs :=
  (replaceChars_eq_join_split sep [sep] cs).symm.trans (replaceChars_self sep cs)

theorem splitAux_no_sep (sep : Char) : ∀ cs, sep ∉ (splitAux sep cs).1 ∧ ∀ x ∈ (splitAux sep cs).2, sep ∉ x
  | [] => ⟨List.not_mem_nil, fun _ h => nomatch h⟩
  | c :: cs => by
      obtain ⟨h1, h2⟩ := splitAux_no_sep sep cs
      by_cases h : c = sep
      · rw [h, splitAux_cons_sep]
        exact ⟨List.not_mem_nil, List.forall_mem_cons.2 ⟨h1, h2⟩⟩
      · rw [splitAux_cons_ne h]
        exact ⟨fun hm => (List.mem_cons.1 hm).elim (fun e => h e.symm) h1, h2⟩

theorem splitAux_unique (sep : Char) : ∀ (cs w : List Char) (ws : List (List Char)), sep ∉ w → (∀ x ∈ ws, sep ∉ x) →
    joinChars sep w ws = cs → splitAux sep cs = (w, ws)
  | [], w, ws, _, _, h => by
      simp only [joinChars, List.append_eq_nil_iff] at h
      obtain ⟨rfl, h2⟩ := h
      cases ws with
      | nil => rfl
      | cons x ws => simp at h2
  | c :: cs, w, ws, hw, hws, h => by
      cases w with
      | nil =>
        cases ws with
        | nil => simp [joinChars] at h
        | cons x ws' =>
          simp only [joinChars, List.nil_append, List.flatMap_cons, List.cons_append, List.cons.injEq] at h
          obtain ⟨rfl, h2⟩ := h
          have ih := splitAux_unique sep cs x ws' (hws x (by simp)) (fun y hy => hws y (by simp [hy])) (by simpa [joinChars] using h2)
          simp [splitAux, ih]
      | cons a w' =>
        simp only [joinChars, List.cons_append, List.cons.injEq] at h
        obtain ⟨rfl, h2⟩ := h
        have hne : a ≠ sep := by
          intro e; apply hw; simp [e]
        have ih := splitAux_unique sep cs w' ws (by intro hm; apply hw; simp [hm]) hws (by simpa [joinChars] using h2)
        simp [splitAux, hne, ih]

theorem splitAux_length (sep : Char) : ∀ cs, (splitAux sep cs).2.length = cs.count sep
  | [] => rfl
  | c :: cs => by
      by_cases h : c = sep
      · rw [h, splitAux_cons_sep, List.count_cons_self, ← splitAux_length sep cs]; rfl
      · rw [splitAux_cons_ne h, List.count_cons_of_ne h, ← splitAux_length sep cs]

theorem splitLeaf_str (c : Char) (d : Bool) (t : String) :
    splitLeaf (.cell (.str t)) [] [("sep", .cell (.str (String.singleton c))), ("dedup", .cell (.bool d))] =
      .ok (.list ((if d then (splitChars c t.toList).filter (fun w => !w.isEmpty) else splitChars c t.toList).map
        fun w => .cell (.str (String.ofList w)))) := by
  simp only [splitLeaf, String.toList_singleton]

theorem replaceLeaf_str (c : Char) (n t : String) :
    replaceLeaf (.cell (.str t)) [] [("old", .cell (.str (String.singleton c))), ("new", .cell (.str n))] =
      if n.toList.contains c then .error .value
      else .ok (.cell (.str (String.ofList (replaceChars c n.toList t.toList)))) := by
  simp only [replaceLeaf, String.toList_singleton]

theorem replaceLeaf_none (c : Char) (t : String) :
    replaceLeaf (.cell (.str t)) [] [("old", .cell (.str (String.singleton c))), ("new", .cell .none)] =
      .ok (.cell (.str (String.ofList (replaceChars c [] t.toList)))) := by
  simp only [replaceLeaf, String.toList_singleton, List.contains_nil, Bool.false_eq_true, if_false]

theorem dropWhile_eq_stripChars_append (cs : List Char) :
    cs.dropWhile isPyWs = stripChars cs ++ (((cs.dropWhile isPyWs).reverse).takeWhile isPyWs).reverse := by
  have h2 := List.takeWhile_append_dropWhile (p := isPyWs) (l := (cs.dropWhile isPyWs).reverse)
  simp only [stripChars]
  rw [← List.reverse_append, h2, List.reverse_reverse]

end Pyg
