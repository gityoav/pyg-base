/-
  `waiter`: the state of the slot machine after a set of completions is `stateOf`, whatever their order; the machine with failing
  awaitables (on results only) and the machine with a log-based gather are simulated by it (`Task.toF`, `TaskL.toTask`).
-/
import PygModel.Waiter
import PygModel.WaiterF
import PygModel.WaiterLog
import PygProofs.Lemmas.Basics.Assoc
import PygProofs.Lemmas.Basics.Lists

namespace Pyg

theorem startList_eq_map : ∀ xs, startList xs = xs.map start
  | [] => by simp [startList]
  | x :: xs => by simp [startList, startList_eq_map xs]

theorem startKVs_eq_map : ∀ kvs, startKVs kvs = kvs.map fun p => start p.2
  | [] => by simp [startKVs]
  | (k, x) :: kvs => by simp [startKVs, startKVs_eq_map kvs]

theorem completeList_eq_map (i : Nat) (v : Val) : ∀ ts, completeList i v ts = ts.map (complete i v)
  | [] => by simp [completeList]
  | t :: ts => by simp [completeList, completeList_eq_map i v ts]

theorem resolveList_eq_map (res : Nat → Val) : ∀ xs, resolveList res xs = xs.map (resolve res)
  | [] => by simp [resolveList]
  | x :: xs => by simp [resolveList, resolveList_eq_map res xs]

theorem resolveKVs_eq_zip (res : Nat → Val) :
    ∀ kvs, resolveKVs res kvs = (kvs.map (·.1)).zip (kvs.map fun p => resolve res p.2)
  | [] => by simp [resolveKVs]
  | (k, x) :: kvs => by simp [resolveKVs, resolveKVs_eq_zip res kvs]

theorem mem_awaitablesList {i : Nat} : ∀ {xs : List W}, i ∈ awaitablesList xs ↔ ∃ x ∈ xs, i ∈ awaitables x
  | [] => by simp [awaitablesList]
  | x :: xs => by simp [awaitablesList, mem_awaitablesList (xs := xs)]

theorem mem_awaitablesKVs {i : Nat} :
    ∀ {kvs : List (String × W)}, i ∈ awaitablesKVs kvs ↔ ∃ p ∈ kvs, i ∈ awaitables p.2
  | [] => by simp [awaitablesKVs]
  | (k, x) :: kvs => by simp [awaitablesKVs, mem_awaitablesKVs (kvs := kvs)]

theorem W.ind {P : W → Prop} (val : ∀ c, P (.val c)) (aw : ∀ i, P (.aw i))
    (list : ∀ xs, (∀ x ∈ xs, P x) → P (.list xs)) (tuple : ∀ xs, (∀ x ∈ xs, P x) → P (.tuple xs))
    (dict : ∀ kvs, (∀ kv ∈ kvs, P kv.2) → P (.dict kvs)) : ∀ w, P w :=
  W.rec (motive_1 := P) (motive_2 := fun xs => ∀ x ∈ xs, P x) (motive_3 := fun kvs => ∀ kv ∈ kvs, P kv.2)
    (motive_4 := fun kv => P kv.2) val aw list tuple dict (fun _ h => nomatch h)
    (fun _ _ h1 h2 _ h => (List.mem_cons.1 h).elim (· ▸ h1) (h2 _))
    (fun _ h => nomatch h) (fun _ _ h1 h2 _ h => (List.mem_cons.1 h).elim (· ▸ h1) (h2 _)) (fun _ _ h => h)

theorem Task.ind {P : Task → Prop} (ret : ∀ v, P (.ret v)) (wait : ∀ i, P (.wait i))
    (gather : ∀ k slots, (∀ t ∈ slots, P t) → P (.gather k slots)) : ∀ t, P t :=
  Task.rec (motive_1 := P) (motive_2 := fun ts => ∀ t ∈ ts, P t) ret wait gather (fun _ h => nomatch h)
    (fun _ _ h1 h2 _ h => (List.mem_cons.1 h).elim (· ▸ h1) (h2 _))

theorem allRet_map_ret {α} (g : α → Val) : ∀ xs : List α, allRet (xs.map fun x => Task.ret (g x)) = some (xs.map g)
  | [] => by simp [allRet]
  | x :: xs => by simp [allRet, allRet_map_ret g xs]

theorem allRet_some_iff : ∀ (ts : List Task) (vs : List Val), allRet ts = some vs ↔ ts = vs.map Task.ret
  | [], vs => by cases vs <;> simp [allRet]
  | .ret v :: ts, vs => by
      cases vs with
      | nil => simp [allRet]
      | cons w ws =>
        simp only [allRet, Option.map_eq_some_iff, List.map_cons, List.cons.injEq, Task.ret.injEq]
        constructor
        · rintro ⟨a, ha, h1, h2⟩
          subst h1 h2
          exact ⟨rfl, (allRet_some_iff ts a).1 ha⟩
        · rintro ⟨h1, h2⟩
          exact ⟨ws, (allRet_some_iff ts ws).2 h2, h1, rfl⟩
  | .wait j :: ts, vs | .gather k s :: ts, vs => by cases vs <;> simp [allRet]

theorem allRet_none_of_mem (ts : List Task) (t : Task) (h : t ∈ ts) (ht : t.result = none) :
    allRet ts = none := by
  cases hr : allRet ts with
  | none => rfl
  | some vs =>
    exfalso
    rw [allRet_some_iff] at hr
    subst hr
    obtain ⟨v, _, rfl⟩ := List.mem_map.1 h
    simp [Task.result] at ht

theorem complete_collapse (i : Nat) (v : Val) (k : Kind) (slots : List Task) :
    complete i v (collapse k slots) = collapse k (slots.map (complete i v)) := by
  unfold collapse
  cases h : allRet slots with
  | some vs =>
    rw [allRet_some_iff] at h
    subst h
    have : (vs.map Task.ret).map (complete i v) = vs.map Task.ret := by
      simp [List.map_map, Function.comp_def, complete]
    rw [this, allRet_map_ret (fun x => x)]
    simp [complete]
  | none =>
    simp only [complete, completeList_eq_map]
    rfl

mutual
  /-- the task tree in which exactly the awaitables in `D` have completed (with results `res`) -/
  def stateOf (D : Nat → Bool) (res : Nat → Val) : W → Task
    | .val c => .ret (.cell c)
    | .aw id => if D id then .ret (res id) else .wait id
    | .list xs => collapse .list (stateOfList D res xs)
    | .tuple xs => collapse .tuple (stateOfList D res xs)
    | .dict kvs => collapse (.dict (kvs.map (·.1))) (stateOfKVs D res kvs)
  def stateOfList (D : Nat → Bool) (res : Nat → Val) : List W → List Task
    | [] => []
    | x :: xs => stateOf D res x :: stateOfList D res xs
  def stateOfKVs (D : Nat → Bool) (res : Nat → Val) : List (String × W) → List Task
    | [] => []
    | (_, x) :: kvs => stateOf D res x :: stateOfKVs D res kvs
end

theorem stateOfList_eq_map (D res) : ∀ xs, stateOfList D res xs = xs.map (stateOf D res)
  | [] => by simp [stateOfList]
  | x :: xs => by simp [stateOfList, stateOfList_eq_map D res xs]

theorem stateOfKVs_eq_map (D res) : ∀ kvs, stateOfKVs D res kvs = kvs.map fun p => stateOf D res p.2
  | [] => by simp [stateOfKVs]
  | (k, x) :: kvs => by simp [stateOfKVs, stateOfKVs_eq_map D res kvs]

theorem start_eq_stateOf (res : Nat → Val) (w : W) : start w = stateOf (fun _ => false) res w := by
  induction w using W.ind with
  | val c | aw id => rfl
  | list xs ih | tuple xs ih => rw [start, stateOf, startList_eq_map, stateOfList_eq_map, List.map_congr_left ih]
  | dict kvs ih => rw [start, stateOf, startKVs_eq_map, stateOfKVs_eq_map, List.map_congr_left ih]

theorem complete_stateOf (res : Nat → Val) (i : Nat) (w : W) : ∀ D : Nat → Bool,
    complete i (res i) (stateOf D res w) = stateOf (fun j => D j || j == i) res w := by
  induction w using W.ind with
  | val c => intro D; rfl
  | aw id =>
    intro D
    simp only [stateOf]
    by_cases hD : D id = true
    · simp [hD, complete]
    · by_cases hi : id = i
      · subst hi; simp [hD, complete]
      · simp [hD, complete, hi]
  | list xs ih | tuple xs ih =>
    intro D
    simp only [stateOf, stateOfList_eq_map, complete_collapse, List.map_map]
    exact congrArg (collapse _) (List.map_congr_left fun x hx => ih x hx D)
  | dict kvs ih =>
    intro D
    simp only [stateOf, stateOfKVs_eq_map, complete_collapse, List.map_map]
    exact congrArg (collapse _) (List.map_congr_left fun p hp => ih p hp D)

theorem stateOf_done (res : Nat → Val) (D : Nat → Bool) (w : W) (hall : ∀ i ∈ awaitables w, D i = true) :
    stateOf D res w = .ret (resolve res w) := by
  induction w using W.ind with
  | val c => rfl
  | aw id => simp [stateOf, resolve, hall id (by simp [awaitables])]
  | list xs ih | tuple xs ih =>
    have hx : xs.map (stateOf D res) = xs.map fun x => Task.ret (resolve res x) :=
      List.map_congr_left fun x hx => ih x hx fun i hi => hall i (mem_awaitablesList.2 ⟨x, hx, hi⟩)
    simp only [stateOf, stateOfList_eq_map, hx, collapse, allRet_map_ret, resolve, resolveList_eq_map,
      Kind.build]
  | dict kvs ih =>
    have hx : (kvs.map fun p => stateOf D res p.2) = kvs.map fun p => Task.ret (resolve res p.2) :=
      List.map_congr_left fun p hp => ih p hp fun i hi => hall i (mem_awaitablesKVs.2 ⟨p, hp, hi⟩)
    simp only [stateOf, stateOfKVs_eq_map, hx, collapse, allRet_map_ret (fun p : String × W => resolve res p.2),
      resolve, resolveKVs_eq_zip, Kind.build]

theorem collapse_result_none (k : Kind) (ts : List Task) (t : Task) (h : t ∈ ts) (ht : t.result = none) :
    (collapse k ts).result = none := by
  rw [collapse, allRet_none_of_mem ts t h ht]
  rfl

theorem stateOf_pending (res : Nat → Val) (D : Nat → Bool) (w : W) (hex : ∃ i ∈ awaitables w, D i = false) :
    (stateOf D res w).result = none := by
  obtain ⟨i, hi, hD⟩ := hex
  induction w using W.ind with
  | val c => simp [awaitables] at hi
  | aw id =>
    simp [awaitables] at hi; subst hi
    simp [stateOf, hD, Task.result]
  | list xs ih | tuple xs ih =>
    obtain ⟨x, hx, hix⟩ := mem_awaitablesList.1 hi
    rw [stateOf, stateOfList_eq_map]
    exact collapse_result_none _ _ _ (List.mem_map_of_mem hx) (ih x hx hix)
  | dict kvs ih =>
    obtain ⟨p, hp, hip⟩ := mem_awaitablesKVs.1 hi
    rw [stateOf, stateOfKVs_eq_map]
    exact collapse_result_none _ _ _ (List.mem_map_of_mem (f := fun p => stateOf D res p.2) hp) (ih p hp hip)

theorem foldl_complete (res : Nat → Val) (w : W) : ∀ (σ : List Nat) (D : Nat → Bool),
    (σ.map fun i => (i, res i)).foldl (fun t e => complete e.1 e.2 t) (stateOf D res w) =
      stateOf (fun j => D j || σ.contains j) res w
  | [], D => by simp
  | i :: σ, D => by
      simp only [List.map_cons, List.foldl_cons]
      rw [complete_stateOf res i w D, foldl_complete res w σ]
      congr 1
      funext j
      by_cases hσ : j ∈ σ <;> by_cases hji : j = i <;> cases D j <;> simp [hσ, hji]

theorem runEvents_eq (res : Nat → Val) (w : W) (σ : List Nat) :
    runEvents w (σ.map fun i => (i, res i)) = stateOf (fun j => σ.contains j) res w := by
  unfold runEvents
  rw [start_eq_stateOf res w, foldl_complete]
  simp

/-! PygModel.WaiterF: while nothing has failed the tree is `clean`; the failure of an awaitable that a task `waits` on fails every gather above it -/

theorem startFList_eq_map : ∀ xs, startFList xs = xs.map startF
  | [] => rfl
  | x :: xs => by simp [startFList, startFList_eq_map xs]

theorem startFKVs_eq_map : ∀ kvs, startFKVs kvs = kvs.map fun p => startF p.2
  | [] => rfl
  | (k, x) :: kvs => by simp [startFKVs, startFKVs_eq_map kvs]

theorem completeFList_eq_map (i : Nat) (o : Outcome) : ∀ ts, completeFList i o ts = ts.map (completeF i o)
  | [] => rfl
  | t :: ts => by simp [completeFList, completeFList_eq_map i o ts]

theorem Task.toFList_eq_map : ∀ ts, Task.toFList ts = ts.map Task.toF
  | [] => rfl
  | t :: ts => by simp [Task.toFList, Task.toFList_eq_map ts]

theorem TaskF.cleanList_iff : ∀ {ts : List TaskF}, TaskF.cleanList ts = true ↔ ∀ t ∈ ts, t.clean = true
  | [] => by simp [TaskF.cleanList]
  | t :: ts => by simp [TaskF.cleanList, TaskF.cleanList_iff (ts := ts)]

theorem TaskF.waitsList_iff {id : Nat} : ∀ {ts : List TaskF}, TaskF.waitsList id ts = true ↔ ∃ t ∈ ts, t.waits id = true
  | [] => by simp [TaskF.waitsList]
  | t :: ts => by simp [TaskF.waitsList, TaskF.waitsList_iff (ts := ts)]

theorem TaskF.ind {P : TaskF → Prop} (ret : ∀ v, P (.ret v)) (fail : ∀ e, P (.fail e)) (wait : ∀ i, P (.wait i))
    (gather : ∀ k slots, (∀ t ∈ slots, P t) → P (.gather k slots)) : ∀ t, P t :=
  TaskF.rec (motive_1 := P) (motive_2 := fun ts => ∀ t ∈ ts, P t) ret fail wait gather (fun _ h => nomatch h)
    (fun _ _ h1 h2 _ h => (List.mem_cons.1 h).elim (· ▸ h1) (h2 _))

theorem fail_absorbing (e : Nat) (evs : List (Nat × Outcome)) :
    evs.foldl (fun t ev => completeF ev.1 ev.2 t) (.fail e) = .fail e :=
  List.foldl_preserves (P := fun t => t = TaskF.fail e) (fun t ev _ h => by rw [h, completeF]) rfl

theorem mem_of_slotsF_failed {e : Nat} : ∀ {ts : List TaskF}, slotsF ts = .failed e → .fail e ∈ ts
  | [], h => nomatch h
  | t :: ts, h => by
      cases t with
      | fail e' =>
        cases h
        exact List.mem_cons_self
      | ret v | wait j | gather k s =>
        refine List.mem_cons_of_mem _ (mem_of_slotsF_failed ?_)
        simp only [slotsF] at h
        split at h <;> simp_all

theorem slotsF_failed_of_mem {e : Nat} : ∀ {ts : List TaskF}, .fail e ∈ ts → (∀ e', .fail e' ∈ ts → e' = e) →
    slotsF ts = .failed e
  | t :: ts, hm, hu => by
      cases t with
      | fail e' => rw [slotsF, hu e' List.mem_cons_self]
      | ret v | wait j | gather k s =>
        have ih := slotsF_failed_of_mem ((List.mem_cons.1 hm).resolve_left (by simp))
          fun e' h => hu e' (List.mem_cons_of_mem _ h)
        simp [slotsF, ih]

theorem slotsF_clean_not_failed (ts : List TaskF) (h : TaskF.cleanList ts = true) (e : Nat) : slotsF ts ≠ .failed e :=
  fun hf => nomatch TaskF.cleanList_iff.1 h _ (mem_of_slotsF_failed hf)

theorem slotsF_waits_pending (id : Nat) : ∀ ts, TaskF.cleanList ts = true → TaskF.waitsList id ts = true →
    slotsF ts = .pending
  | [], _, h => by simp [TaskF.waitsList] at h
  | t :: ts, hc, hw => by
      simp only [TaskF.cleanList, Bool.and_eq_true] at hc
      simp only [TaskF.waitsList, Bool.or_eq_true] at hw
      have nf := slotsF_clean_not_failed ts hc.2
      cases t with
      | fail e' => simp [TaskF.clean] at hc
      | ret v =>
        have := slotsF_waits_pending id ts hc.2 (by simpa [TaskF.waits] using hw)
        simp [slotsF, this]
      | wait j | gather k s => simp only [slotsF] <;> (try split) <;> simp_all

theorem collapseF_clean (k : Kind) (ts : List TaskF) (h : TaskF.cleanList ts = true) : (collapseF k ts).clean = true := by
  have nf := slotsF_clean_not_failed ts h
  simp only [collapseF]
  split
  · rename_i e he; exact absurd he (nf e)
  · rfl
  · simpa [TaskF.clean] using h

theorem collapseF_waits (id : Nat) (k : Kind) (ts : List TaskF) (hc : TaskF.cleanList ts = true)
    (hw : TaskF.waitsList id ts = true) : (collapseF k ts).waits id = true := by
  simp [collapseF, slotsF_waits_pending id ts hc hw, TaskF.waits, hw]

theorem completeF_error_eq_fail (id e : Nat) (t : TaskF) : ∀ e', t.clean = true →
    completeF id (.error e) t = .fail e' → e' = e := by
  induction t using TaskF.ind with
  | ret v => intro e' _ h; simp [completeF] at h
  | fail e0 => intro e' hc; simp [TaskF.clean] at hc
  | wait j =>
    intro e' _ h
    simp only [completeF] at h
    split at h
    · cases h
      rfl
    · cases h
  | gather k slots ih =>
    intro e' hc h
    rw [completeF, completeFList_eq_map, collapseF] at h
    split at h
    · rename_i e'' he
      cases h
      obtain ⟨t, ht, hte⟩ := List.mem_map.1 (mem_of_slotsF_failed he)
      exact ih t ht e' (TaskF.cleanList_iff.1 hc t ht) hte
    · cases h
    · cases h

theorem step_fail_kind_list (id e : Nat) : ∀ (ts : List TaskF) (e' : Nat), TaskF.cleanList ts = true →
    slotsF (completeFList id (.error e) ts) = .failed e' → e' = e := by
  intro ts e' hc h
  rw [completeFList_eq_map] at h
  obtain ⟨t, ht, hte⟩ := List.mem_map.1 (mem_of_slotsF_failed h)
  exact completeF_error_eq_fail id e t e' (TaskF.cleanList_iff.1 hc t ht) hte

theorem slotsF_completeFList_error {id e : Nat} {ts : List TaskF} (hc : TaskF.cleanList ts = true) {t : TaskF} (ht : t ∈ ts)
    (h : completeF id (.error e) t = .fail e) : slotsF (completeFList id (.error e) ts) = .failed e := by
  rw [completeFList_eq_map]
  refine slotsF_failed_of_mem (h ▸ List.mem_map_of_mem ht) fun e' he => ?_
  obtain ⟨t0, h0, h0e⟩ := List.mem_map.1 he
  exact completeF_error_eq_fail id e t0 e' (TaskF.cleanList_iff.1 hc t0 h0) h0e

theorem completeF_fail (id e : Nat) (t : TaskF) : t.clean = true → t.waits id = true →
    completeF id (.error e) t = .fail e := by
  induction t using TaskF.ind with
  | ret v => intro _ h; simp [TaskF.waits] at h
  | fail e0 => intro h; simp [TaskF.clean] at h
  | wait j =>
    intro _ h
    have : j = id := by simpa [TaskF.waits] using h
    simp [completeF, this]
  | gather k slots ih =>
    intro hc hw
    have hc' : TaskF.cleanList slots = true := by simpa [TaskF.clean] using hc
    obtain ⟨t, ht, htw⟩ := TaskF.waitsList_iff.1 (by simpa [TaskF.waits] using hw)
    rw [completeF, collapseF, slotsF_completeFList_error hc' ht (ih t ht (TaskF.cleanList_iff.1 hc' t ht) htw)]

theorem completeFList_fail (id e : Nat) : ∀ ts : List TaskF, TaskF.cleanList ts = true →
    TaskF.waitsList id ts = true → slotsF (completeFList id (.error e) ts) = .failed e := by
  intro ts hc hw
  obtain ⟨t, ht, htw⟩ := TaskF.waitsList_iff.1 hw
  exact slotsF_completeFList_error hc ht (completeF_fail id e t (TaskF.cleanList_iff.1 hc t ht) htw)

theorem completeF_ok_clean (j : Nat) (v : Val) (t : TaskF) : t.clean = true → (completeF j (.ok v) t).clean = true := by
  induction t using TaskF.ind with
  | ret x => intro _; simp [completeF, TaskF.clean]
  | fail e => intro h; simp [TaskF.clean] at h
  | wait i =>
    intro _
    simp only [completeF]
    split <;> simp [TaskF.clean]
  | gather k slots ih =>
    intro h
    rw [completeF, completeFList_eq_map]
    exact collapseF_clean k _ (TaskF.cleanList_iff.2 (List.forall_mem_map.2 fun t ht =>
      ih t ht (TaskF.cleanList_iff.1 (by simpa [TaskF.clean] using h) t ht)))

theorem completeFList_ok_clean (j : Nat) (v : Val) (ts : List TaskF) (h : TaskF.cleanList ts = true) :
    TaskF.cleanList (completeFList j (.ok v) ts) = true := by
  rw [completeFList_eq_map]
  exact TaskF.cleanList_iff.2 (List.forall_mem_map.2 fun t ht => completeF_ok_clean j v t (TaskF.cleanList_iff.1 h t ht))

theorem completeF_ok_waits (id j : Nat) (v : Val) (hne : j ≠ id) (t : TaskF) : t.clean = true → t.waits id = true →
    (completeF j (.ok v) t).waits id = true := by
  induction t using TaskF.ind with
  | ret x => intro _ h; simp [TaskF.waits] at h
  | fail e => intro h; simp [TaskF.clean] at h
  | wait i =>
    intro _ h
    have : i = id := by simpa [TaskF.waits] using h
    subst this
    have : ¬ i = j := fun e => hne e.symm
    simp [completeF, this, TaskF.waits]
  | gather k slots ih =>
    intro hc hw
    have hc' : TaskF.cleanList slots = true := by simpa [TaskF.clean] using hc
    obtain ⟨t, ht, htw⟩ := TaskF.waitsList_iff.1 (by simpa [TaskF.waits] using hw)
    rw [completeF]
    refine collapseF_waits id k _ (completeFList_ok_clean j v slots hc') ?_
    rw [completeFList_eq_map]
    exact TaskF.waitsList_iff.2 ⟨_, List.mem_map_of_mem ht, ih t ht (TaskF.cleanList_iff.1 hc' t ht) htw⟩

theorem completeFList_ok_waits (id j : Nat) (v : Val) (hne : j ≠ id) : ∀ ts : List TaskF, TaskF.cleanList ts = true →
    TaskF.waitsList id ts = true → TaskF.waitsList id (completeFList j (.ok v) ts) = true := by
  intro ts hc hw
  obtain ⟨t, ht, htw⟩ := TaskF.waitsList_iff.1 hw
  rw [completeFList_eq_map]
  exact TaskF.waitsList_iff.2
    ⟨_, List.mem_map_of_mem ht, completeF_ok_waits id j v hne t (TaskF.cleanList_iff.1 hc t ht) htw⟩

theorem startF_clean (w : W) : (startF w).clean = true := by
  induction w using W.ind with
  | val c | aw id => simp [startF, TaskF.clean]
  | list xs ih | tuple xs ih =>
    rw [startF, startFList_eq_map]
    exact collapseF_clean _ _ (TaskF.cleanList_iff.2 (List.forall_mem_map.2 ih))
  | dict kvs ih =>
    rw [startF, startFKVs_eq_map]
    exact collapseF_clean _ _ (TaskF.cleanList_iff.2 (List.forall_mem_map.2 ih))

theorem startF_waits (id : Nat) (w : W) : id ∈ awaitables w → (startF w).waits id = true := by
  induction w using W.ind with
  | val c => intro h; simp [awaitables] at h
  | aw j =>
    intro h
    have : id = j := by simpa [awaitables] using h
    simp [startF, TaskF.waits, this]
  | list xs ih | tuple xs ih =>
    intro h
    obtain ⟨x, hx, hi⟩ := mem_awaitablesList.1 (by simpa [awaitables] using h)
    rw [startF, startFList_eq_map]
    exact collapseF_waits id _ _ (TaskF.cleanList_iff.2 (List.forall_mem_map.2 fun x _ => startF_clean x))
      (TaskF.waitsList_iff.2 ⟨_, List.mem_map_of_mem hx, ih x hx hi⟩)
  | dict kvs ih =>
    intro h
    obtain ⟨p, hp, hi⟩ := mem_awaitablesKVs.1 (by simpa [awaitables] using h)
    rw [startF, startFKVs_eq_map]
    exact collapseF_waits id _ _ (TaskF.cleanList_iff.2 (List.forall_mem_map.2 fun p _ => startF_clean p.2))
      (TaskF.waitsList_iff.2 ⟨_, List.mem_map_of_mem (f := fun p => startF p.2) hp, ih p hp hi⟩)

theorem startFKVs_waits (id : Nat) : ∀ kvs : List (String × W), id ∈ awaitablesKVs kvs →
    TaskF.waitsList id (startFKVs kvs) = true := by
  intro kvs h
  obtain ⟨p, hp, hi⟩ := mem_awaitablesKVs.1 h
  rw [startFKVs_eq_map]
  exact TaskF.waitsList_iff.2 ⟨_, List.mem_map_of_mem (f := fun p => startF p.2) hp, startF_waits id p.2 hi⟩

theorem run_ok_invariant (id : Nat) (pre : List (Nat × Outcome)) (t : TaskF) (hc : t.clean = true) (hw : t.waits id = true)
    (h : ∀ ev ∈ pre, ev.1 ≠ id ∧ ∃ v, ev.2 = .ok v) :
    (pre.foldl (fun t ev => completeF ev.1 ev.2 t) t).clean = true ∧
    (pre.foldl (fun t ev => completeF ev.1 ev.2 t) t).waits id = true := by
  refine List.foldl_preserves (P := fun t : TaskF => t.clean = true ∧ t.waits id = true) (fun t ev hev ht => ?_) ⟨hc, hw⟩
  obtain ⟨hne, v, hv⟩ := h ev hev
  rw [hv]
  exact ⟨completeF_ok_clean ev.1 v t ht.1, completeF_ok_waits id ev.1 v hne t ht.1 ht.2⟩

theorem slotsF_toF : ∀ ts : List Task,
    slotsF (Task.toFList ts) = (match allRet ts with | some vs => SlotsF.done vs | Option.none => SlotsF.pending)
  | [] => by simp [Task.toFList, slotsF, allRet]
  | t :: ts => by
      have ih := slotsF_toF ts
      cases t with
      | ret v | wait j | gather k s =>
        simp only [Task.toFList, Task.toF, slotsF, allRet, ih]
        cases allRet ts <;> simp

theorem collapseF_toF (k : Kind) (ts : List Task) : collapseF k (Task.toFList ts) = (collapse k ts).toF := by
  simp only [collapseF, collapse, slotsF_toF]
  cases allRet ts <;> simp [Task.toF]

mutual
  theorem startF_toF : ∀ w : W, startF w = (start w).toF
    | .val c | .aw id => by simp [startF, start, Task.toF]
    | .list xs | .tuple xs => by simp only [startF, start, startFList_toF xs, collapseF_toF]
    | .dict kvs => by simp only [startF, start, startFKVs_toF kvs, collapseF_toF]
  theorem startFList_toF : ∀ xs : List W, startFList xs = Task.toFList (startList xs)
    | [] => by simp [startFList, startList, Task.toFList]
    | x :: xs => by simp [startFList, startList, Task.toFList, startF_toF x, startFList_toF xs]
  theorem startFKVs_toF : ∀ kvs : List (String × W), startFKVs kvs = Task.toFList (startKVs kvs)
    | [] => by simp [startFKVs, startKVs, Task.toFList]
    | (_, x) :: kvs => by simp [startFKVs, startKVs, Task.toFList, startF_toF x, startFKVs_toF kvs]
end

mutual
  theorem completeF_toF (id : Nat) (v : Val) : ∀ t : Task, completeF id (.ok v) t.toF = (complete id v t).toF
    | .ret x => by simp [completeF, complete, Task.toF]
    | .wait j => by
        by_cases h : j = id <;> simp [completeF, complete, Task.toF, h]
    | .gather k slots => by
        simp only [Task.toF, completeF, complete, completeFList_toF id v slots, collapseF_toF]
  theorem completeFList_toF (id : Nat) (v : Val) : ∀ ts : List Task,
      completeFList id (.ok v) (Task.toFList ts) = Task.toFList (completeList id v ts)
    | [] => by simp [completeFList, completeList, Task.toFList]
    | t :: ts => by
        simp [completeFList, completeList, Task.toFList, completeF_toF id v t, completeFList_toF id v ts]
end

theorem foldF_toF : ∀ (evs : List (Nat × Val)) (t : Task),
    (evs.map fun e => (e.1, (Except.ok e.2 : Outcome))).foldl (fun t e => completeF e.1 e.2 t) t.toF
      = (evs.foldl (fun t e => complete e.1 e.2 t) t).toF
  | [], t => rfl
  | e :: evs, t => by
      simp only [List.map, List.foldl, completeF_toF]
      exact foldF_toF evs _

/-! PygModel.WaiterLog: the log of a gather node is a permutation of its children's completion records (`TaskL.ok`), so the results read
off it are positional and forgetting the logs gives the slot machine -/

theorem toTask_result (t : TaskL) : t.toTask.result = t.result := by
  cases t <;> simp [TaskL.toTask, Task.result, TaskL.result]

theorem eq_map_ret_of_allRet : ∀ {ts : List TaskL} {vs : List Val}, allRet (TaskL.toTaskList ts) = some vs →
    ts = vs.map TaskL.ret
  | [], vs, h => by
      cases h
      rfl
  | t :: ts, vs, h => by
      cases t with
      | ret x =>
        simp only [TaskL.toTaskList, TaskL.toTask, allRet, Option.map_eq_some_iff] at h
        obtain ⟨vs', h', rfl⟩ := h
        rw [List.map_cons, ← eq_map_ret_of_allRet h']
      | wait id | gather k c l => simp [TaskL.toTaskList, TaskL.toTask, allRet] at h

theorem doneLog_map_ret : ∀ (vs : List Val) (i : Nat),
    doneLog i (vs.map TaskL.ret) = (vs.zipIdx i).map fun p => (p.2, p.1)
  | [], _ => rfl
  | v :: vs, i => by simp [doneLog, doneLog_map_ret vs (i + 1)]

theorem doneLog_length_le : ∀ (i : Nat) (ts : List TaskL), (doneLog i ts).length ≤ ts.length
  | _, [] => by simp [doneLog]
  | i, t :: ts => by
      have ih := doneLog_length_le (i + 1) ts
      cases t <;> simp [doneLog] <;> omega

theorem doneLog_length_lt : ∀ (i : Nat) (ts : List TaskL), allRet (TaskL.toTaskList ts) = none →
    (doneLog i ts).length < ts.length
  | _, [], h => by simp [TaskL.toTaskList, allRet] at h
  | i, t :: ts, h => by
      have hle := doneLog_length_le (i + 1) ts
      cases t with
      | ret x =>
        simp only [TaskL.toTaskList, TaskL.toTask, allRet, Option.map_eq_none_iff] at h
        have := doneLog_length_lt (i + 1) ts h
        simp [doneLog]; omega
      | wait id | gather k c l => simp [doneLog]; omega

/-- the child indices in the log are distinct, so `lookup j` finds the record of child `j` -/
theorem logResults_positional (ts : List TaskL) (vs : List Val) (log : List (Nat × Val))
    (hall : allRet (TaskL.toTaskList ts) = some vs) (hp : log.Perm (doneLog 0 ts)) :
    log.length = ts.length ∧ logResults ts.length log = vs := by
  rw [eq_map_ret_of_allRet hall, doneLog_map_ret] at hp
  rw [eq_map_ret_of_allRet hall, List.length_map]
  refine ⟨by rw [hp.length_eq, List.length_map, List.length_zipIdx], ?_⟩
  have hnd : (log.map (·.1)).Nodup := by
    refine (hp.map (·.1)).nodup_iff.2 ?_
    rw [List.map_map, show ((·.1) ∘ fun p : Val × Nat => (p.2, p.1)) = Prod.snd from rfl, List.zipIdx_map_snd]
    exact List.nodup_range'
  apply List.ext_getElem
  · simp [logResults]
  · intro j h1 h2
    have hm : (j, vs[j]) ∈ log :=
      hp.mem_iff.2 (List.mem_map.2 ⟨(vs[j], j), List.mk_mem_zipIdx_iff_getElem?.2 (List.getElem?_eq_getElem h2), rfl⟩)
    simp [logResults, List.lookup_of_mem_nodup hnd hm]

theorem collapseL_toTask (k : Kind) (ts : List TaskL) (log : List (Nat × Val)) (hp : log.Perm (doneLog 0 ts)) :
    (collapseL k ts log).toTask = collapse k (TaskL.toTaskList ts) := by
  cases hall : allRet (TaskL.toTaskList ts) with
  | some vs =>
    obtain ⟨hl, hr⟩ := logResults_positional ts vs log hall hp
    simp [collapseL, collapse, hall, hl, hr, TaskL.toTask]
  | none =>
    have := doneLog_length_lt 0 ts hall
    have hne : log.length ≠ ts.length := by rw [hp.length_eq]; omega
    simp [collapseL, collapse, hall, hne, TaskL.toTask]

theorem collapseL_ok (k : Kind) (ts : List TaskL) (log : List (Nat × Val)) (hok : TaskL.okList ts)
    (hp : log.Perm (doneLog 0 ts)) : (collapseL k ts log).ok := by
  unfold collapseL
  split
  · simp [TaskL.ok]
  · exact ⟨hok, hp⟩

theorem doneLog_step (f : TaskL → TaskL) (hf : ∀ x, f (.ret x) = .ret x) : ∀ (i : Nat) (ts : List TaskL),
    (doneLog i ts ++ newlyDone i ts (ts.map f)).Perm (doneLog i (ts.map f))
  | _, [] => by simp [doneLog, newlyDone]
  | i, t :: ts => by
      have ih := doneLog_step f hf (i + 1) ts
      cases t with
      | ret x =>
        simp only [List.map_cons, hf, doneLog, newlyDone, List.cons_append]
        exact ih.cons _
      | wait id =>
        cases hft : f (.wait id) with
        | ret v => simp only [List.map_cons, doneLog, newlyDone, hft]; exact List.perm_middle.trans (ih.cons _)
        | wait j | gather k c l => simp only [List.map_cons, doneLog, newlyDone, hft]; exact ih
      | gather k0 c0 l0 =>
        cases hft : f (.gather k0 c0 l0) with
        | ret v => simp only [List.map_cons, doneLog, newlyDone, hft]; exact List.perm_middle.trans (ih.cons _)
        | wait j | gather k c l => simp only [List.map_cons, doneLog, newlyDone, hft]; exact ih

theorem completeLList_eq_map (id : Nat) (v : Val) : ∀ ts, completeLList id v ts = ts.map (completeL id v)
  | [] => rfl
  | t :: ts => by simp [completeLList, completeLList_eq_map id v ts]

mutual
  theorem completeL_refines (id : Nat) (v : Val) : ∀ t : TaskL, t.ok →
      (completeL id v t).toTask = complete id v t.toTask ∧ (completeL id v t).ok
    | .ret x, _ => by simp [completeL, complete, TaskL.toTask, TaskL.ok]
    | .wait j, _ => by by_cases h : j = id <;> simp [completeL, complete, TaskL.toTask, TaskL.ok, h]
    | .gather k ch log, hok => by
        obtain ⟨hch, hp⟩ := hok
        obtain ⟨h1, h2⟩ := completeLList_refines id v ch hch
        have hp' : (log ++ newlyDone 0 ch (completeLList id v ch)).Perm (doneLog 0 (completeLList id v ch)) := by
          rw [completeLList_eq_map]
          exact (hp.append_right _).trans (doneLog_step (completeL id v) (fun x => by simp [completeL]) 0 ch)
        refine ⟨?_, collapseL_ok k _ _ h2 hp'⟩
        simp only [completeL, TaskL.toTask, complete]
        rw [collapseL_toTask k _ _ hp', h1]
  theorem completeLList_refines (id : Nat) (v : Val) : ∀ ts : List TaskL, TaskL.okList ts →
      TaskL.toTaskList (completeLList id v ts) = completeList id v (TaskL.toTaskList ts) ∧
      TaskL.okList (completeLList id v ts)
    | [], _ => by simp [completeLList, completeList, TaskL.toTaskList, TaskL.okList]
    | t :: ts, hok => by
        obtain ⟨a1, a2⟩ := completeL_refines id v t hok.1
        obtain ⟨b1, b2⟩ := completeLList_refines id v ts hok.2
        exact ⟨by simp [completeLList, completeList, TaskL.toTaskList, a1, b1], ⟨a2, b2⟩⟩
end

mutual
  theorem startL_refines : ∀ w : W, (startL w).toTask = start w ∧ (startL w).ok
    | .val c | .aw id => by simp [startL, start, TaskL.toTask, TaskL.ok]
    | .list xs | .tuple xs => by
        obtain ⟨h1, h2⟩ := startLList_refines xs
        exact ⟨by simp only [startL, start]; rw [collapseL_toTask _ _ _ (List.Perm.refl _), h1],
          collapseL_ok _ _ _ h2 (List.Perm.refl _)⟩
    | .dict kvs => by
        obtain ⟨h1, h2⟩ := startLKVs_refines kvs
        exact ⟨by simp only [startL, start]; rw [collapseL_toTask _ _ _ (List.Perm.refl _), h1],
          collapseL_ok _ _ _ h2 (List.Perm.refl _)⟩
  theorem startLList_refines : ∀ xs : List W,
      TaskL.toTaskList (startLList xs) = startList xs ∧ TaskL.okList (startLList xs)
    | [] => by simp [startLList, startList, TaskL.toTaskList, TaskL.okList]
    | x :: xs => by
        obtain ⟨a1, a2⟩ := startL_refines x
        obtain ⟨b1, b2⟩ := startLList_refines xs
        exact ⟨by simp [startLList, startList, TaskL.toTaskList, a1, b1], ⟨a2, b2⟩⟩
  theorem startLKVs_refines : ∀ kvs : List (String × W),
      TaskL.toTaskList (startLKVs kvs) = startKVs kvs ∧ TaskL.okList (startLKVs kvs)
    | [] => by simp [startLKVs, startKVs, TaskL.toTaskList, TaskL.okList]
    | (_, x) :: kvs => by
        obtain ⟨a1, a2⟩ := startL_refines x
        obtain ⟨b1, b2⟩ := startLKVs_refines kvs
        exact ⟨by simp [startLKVs, startKVs, TaskL.toTaskList, a1, b1], ⟨a2, b2⟩⟩
end

theorem foldL_refines : ∀ (evs : List (Nat × Val)) (t : TaskL), t.ok →
    (evs.foldl (fun t e => completeL e.1 e.2 t) t).toTask = evs.foldl (fun t e => complete e.1 e.2 t) t.toTask ∧
    (evs.foldl (fun t e => completeL e.1 e.2 t) t).ok
  | [], t, h => ⟨rfl, h⟩
  | e :: evs, t, h => by
      obtain ⟨a1, a2⟩ := completeL_refines e.1 e.2 t h
      simp only [List.foldl]
      rw [← a1]
      exact foldL_refines evs _ a2

end Pyg
