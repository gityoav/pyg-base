/-
  Argument binding (PygModel.Bind): python dicts are read through `lookup`; `getcallargs` and `call_with_callargs` each in one
  piece (`getcallargs_eq`, `recall_eq_ok`).
-/
import PygModel.Bind
import PygProofs.Lemmas.Basics.Assoc
import PygProofs.Lemmas.Basics.Lists

namespace Pyg

theorem PDict.set_eq (d : PDict) (k : String) (v : Val) : d.set k v = List.setFirst k v d := by
  induction d with
  | nil => rfl
  | cons p d ih =>
    obtain ⟨k0, v0⟩ := p
    rw [PDict.set, List.setFirst, ih]
    by_cases h : k0 = k
    · rw [if_pos h, if_pos h.symm]
    · rw [if_neg h, if_neg (Ne.symm h)]

theorem PDict.lookup_set (d : PDict) (k : String) (v : Val) (k' : String) :
    (d.set k v).lookup k' = if k' = k then some v else d.lookup k' := by
  rw [PDict.set_eq, List.lookup_setFirst]

theorem PDict.mem_erase {d : PDict} {k : String} {p : String × Val} : p ∈ d.erase k ↔ p ∈ d ∧ p.1 ≠ k := by
  rw [PDict.erase, List.mem_filter, bne_iff_ne]

theorem PDict.lookup_erase (d : PDict) (k k' : String) :
    (d.erase k).lookup k' = if k' = k then none else d.lookup k' := by
  rw [PDict.erase, List.lookup_filter_key d (· != k)]
  by_cases h : k' = k <;> simp [h]

theorem PDict.lookup_update (d u : PDict) (k : String) : (d.update u).lookup k = (u.reverse.lookup k).or (d.lookup k) :=
  List.lookup_foldl_set (set := PDict.set) (fun l k v k' => PDict.lookup_set l k v k') k u d

theorem PDict.lookup_update_nodup (d u : PDict) (hn : (u.map (·.1)).Nodup) (k : String) :
    (d.update u).lookup k = (u.lookup k).or (d.lookup k) := by
  rw [PDict.lookup_update, List.lookup_perm hn (List.reverse_perm u).symm]

theorem update_update_eqv (p kw : PDict) : PDict.Eqv ((p.update kw).update kw) (p.update kw) := by
  intro k
  rw [PDict.lookup_update, PDict.lookup_update]
  cases kw.reverse.lookup k <;> rfl

theorem update_self_eqv (kw : PDict) (hn : (kw.map (·.1)).Nodup) : PDict.Eqv (kw.update kw) kw := by
  intro k
  rw [PDict.lookup_update_nodup _ _ hn]
  cases kw.lookup k <;> rfl

theorem idxOf_take_drop (xs : List String) (n : String) (m : Nat) :
    xs.idxOf n = if n ∈ xs.take m then (xs.take m).idxOf n else (xs.drop m).idxOf n + (xs.take m).length := by
  conv => lhs; rw [← List.take_append_drop m xs]
  rw [List.idxOf_append]

theorem idxOf_lt_of_mem_take {xs : List String} {n : String} {m : Nat} (ht : n ∈ xs.take m) : xs.idxOf n < m := by
  rw [idxOf_take_drop xs n m, if_pos ht]
  exact Nat.lt_of_lt_of_le (List.idxOf_lt_length_of_mem ht) (List.length_take_le m xs)

theorem mem_take_of_idxOf_lt {xs : List String} {n : String} {m : Nat} (hn : n ∈ xs) (hi : xs.idxOf n < m) :
    n ∈ xs.take m := by
  apply Decidable.by_contra
  intro ht
  have hlt := List.idxOf_lt_length_of_mem hn
  rw [idxOf_take_drop xs n m, if_neg ht, List.length_take] at hi hlt
  omega

theorem idxOf_drop (xs : List String) (n : String) (m : Nat) (hm : m ≤ xs.idxOf n) :
    (xs.drop m).idxOf n = xs.idxOf n - m := by
  have ht : n ∉ xs.take m := fun ht => Nat.not_lt.2 hm (idxOf_lt_of_mem_take ht)
  rw [idxOf_take_drop xs n m, if_neg ht, List.length_take_of_le (Nat.le_trans hm List.idxOf_le_length),
    Nat.add_sub_cancel]

theorem zip_fst_mem_take (xs : List String) (ys : List Val) (p : String × Val) (h : p ∈ xs.zip ys) :
    p.1 ∈ xs.take ys.length := by
  induction xs generalizing ys with
  | nil => simp at h
  | cons x xs ih =>
    cases ys with
    | nil => simp at h
    | cons y ys =>
      simp only [List.zip_cons_cons, List.mem_cons] at h
      simp only [List.length_cons, List.take_succ_cons, List.mem_cons]
      rcases h with rfl | h
      · exact Or.inl rfl
      · exact Or.inr (ih ys h)

theorem argspecDefaults_lookup (s : Sig) (hs : s.WF) (k : String) (hk : k ∈ s.params) :
    (argspecDefaults s).lookup k = s.defaultOf (s.params.idxOf k) := by
  unfold argspecDefaults Sig.defaultOf
  rw [List.lookup_zip]
  by_cases hi : s.params.idxOf k < s.nreq
  · have ht := mem_take_of_idxOf_lt hk hi
    have hd : k ∉ s.params.drop s.nreq := fun hd =>
      (List.nodup_append.1 ((List.take_append_drop s.nreq s.params).symm ▸ hs.1)).2.2 k ht k hd rfl
    rw [if_neg hd, if_pos hi]
  · have ht : k ∉ s.params.take s.nreq := fun ht => hi (idxOf_lt_of_mem_take ht)
    have hd : k ∈ s.params.drop s.nreq := (List.mem_append.1 ((List.take_append_drop s.nreq s.params).symm ▸ hk)).resolve_left ht
    rw [if_pos hd, if_neg hi, idxOf_drop s.params k s.nreq (by omega)]

theorem argspecDefaults_keys (s : Sig) (p : String × Val) (h : p ∈ argspecDefaults s) : p.1 ∈ s.params := by
  unfold argspecDefaults at h
  have := (List.of_mem_zip h).1
  exact List.mem_of_mem_drop this

theorem param_lookup (s : Sig) (hs : s.WF) (c : Call)
    (hB : (c.kw.any fun p => (s.params.take c.args.length).contains p.1) = false)
    (k : String) (hk : k ∈ s.params) :
    ((c.kw.filter fun p => s.params.contains p.1).lookup k).or
      (((argspecDefaults s).update (s.params.zip c.args)).lookup k) = pyValue s c k := by
  rw [List.lookup_filter_key c.kw (fun n => s.params.contains n) k,
    PDict.lookup_update_nodup _ _ (List.nodup_zip_keys _ _ hs.1), List.lookup_zip, argspecDefaults_lookup s hs k hk]
  have hc : s.params.contains k = true := by simpa using hk
  simp only [hc, ↓reduceIte, hk]
  unfold pyValue
  by_cases hi : s.params.idxOf k < c.args.length
  · have hnone : c.kw.lookup k = none := by
      rw [List.lookup_eq_none_iff]
      intro p hp
      rw [List.any_eq_false] at hB
      have h1 := hB p hp
      have h2 := mem_take_of_idxOf_lt hk hi
      simp only [bne_iff_ne]
      intro e
      apply h1
      simpa [← e] using h2
    have hsome : ∃ a, c.args[s.params.idxOf k]? = some a := ⟨c.args[s.params.idxOf k], by simp [hi]⟩
    obtain ⟨a, ha⟩ := hsome
    simp [hi, hnone]
  · have hn : c.args[s.params.idxOf k]? = none := by simp; omega
    simp only [hi, ↓reduceIte, hn, Option.none_or]
    cases c.kw.lookup k <;> simp

theorem bindRef_ok (s : Sig) (c : Call) (b : PDict) (h : bindRef s c = .ok b) :
    ¬(c.args.length > s.params.length ∧ s.varargs = none) ∧
    (c.kw.any fun p => (s.params.take c.args.length).contains p.1) = false ∧
    ¬(s.varkw = none ∧ extraKw s c.kw ≠ []) ∧
    (s.params.all fun n => (pyValue s c n).isSome) = true ∧
    b = s.params.map (fun n => (n, (pyValue s c n).getD (.cell .none))) ++ starEntries s c := by
  unfold bindRef at h
  by_cases h1 : c.args.length > s.params.length ∧ s.varargs = none
  · rw [if_pos h1] at h; cases h
  by_cases h2 : (c.kw.any fun p => (s.params.take c.args.length).contains p.1) = true
  · rw [if_neg h1, if_pos h2] at h; cases h
  by_cases h3 : s.varkw = none ∧ extraKw s c.kw ≠ []
  · rw [if_neg h1, if_neg h2, if_pos h3] at h; cases h
  by_cases h4 : (s.params.all fun n => (pyValue s c n).isSome) = true
  · rw [if_neg h1, if_neg h2, if_neg h3, if_pos h4] at h
    cases h
    exact ⟨h1, Bool.eq_false_iff.2 h2, h3, h4, rfl⟩
  · rw [if_neg h1, if_neg h2, if_neg h3, if_neg h4] at h; cases h

theorem bindRef_congr (s : Sig) (c c' : Call)
    (hA : c.args.length > s.params.length ∧ s.varargs = none ↔ c'.args.length > s.params.length ∧ s.varargs = none)
    (hB : (c.kw.any fun p => (s.params.take c.args.length).contains p.1) =
      c'.kw.any fun p => (s.params.take c'.args.length).contains p.1)
    (hC : extraKw s c.kw = extraKw s c'.kw)
    (hV : ∀ n ∈ s.params, pyValue s c n = pyValue s c' n)
    (hS : starEntries s c = starEntries s c') : bindRef s c = bindRef s c' := by
  have hall : (s.params.all fun n => (pyValue s c n).isSome) = s.params.all fun n => (pyValue s c' n).isSome := by
    rw [Bool.eq_iff_iff]
    simp only [List.all_eq_true]
    exact forall₂_congr fun n hn => by rw [hV n hn]
  have hmap : s.params.map (fun n => (n, (pyValue s c n).getD (.cell .none))) =
      s.params.map fun n => (n, (pyValue s c' n).getD (.cell .none)) :=
    List.map_congr_left fun n hn => by rw [hV n hn]
  unfold bindRef
  simp only [hA, hB, hC, hall, hmap, hS]

theorem applyFn_congr {s : Sig} (body : PDict → Res Val) {c c' : Call} (h : bindRef s c = bindRef s c') :
    applyFn s body c = applyFn s body c' := by
  rw [applyFn, applyFn, h]

theorem applyFn_eq_ok_iff {s : Sig} {body : PDict → Res Val} {c : Call} {v : Val} :
    applyFn s body c = .ok v ↔ ∃ b, bindRef s c = .ok b ∧ body b = .ok v := by
  rw [applyFn]
  cases bindRef s c with
  | error e => exact ⟨nofun, fun ⟨_, h, _⟩ => nomatch h⟩
  | ok b => exact ⟨fun h => ⟨b, rfl, h⟩, fun ⟨_, h, hb⟩ => Except.ok.inj h ▸ hb⟩

theorem bindRef_declared (s : Sig) (hv : s.varkw = none) (c : Call) (b : PDict) (h : bindRef s c = .ok b) :
    ∀ p ∈ c.kw, p.1 ∈ s.params := by
  obtain ⟨_, _, hC, _, _⟩ := bindRef_ok s c b h
  have hex : extraKw s c.kw = [] := Decidable.of_not_not fun he => hC ⟨hv, he⟩
  intro p hp
  simpa using List.filter_eq_nil_iff.1 hex p hp

theorem lookup_defaults_update_of_not_param (s : Sig) (c : Call) (k : String) (hk : k ∉ s.params) :
    ((argspecDefaults s).update (s.params.zip c.args)).lookup k = none := by
  rw [PDict.lookup_update, List.lookup_eq_none_iff_keys.2, List.lookup_eq_none_iff_keys.2, Option.none_or]
  · exact fun h => by
      obtain ⟨p, hp, e⟩ := List.mem_map.1 h
      exact hk (e ▸ argspecDefaults_keys s p hp)
  · exact fun h => by
      obtain ⟨p, hp, e⟩ := List.mem_map.1 h
      exact hk (e ▸ (List.of_mem_zip (a := p.1) (b := p.2) (List.mem_reverse.1 hp)).1)

/-- `d[n] = v` for the `*args` / `**kwargs` name of a signature that has one -/
def PDict.setOpt (d : PDict) (o : Option String) (v : Val) : PDict :=
  match o with
  | some n => d.set n v
  | none => d

theorem lookup_setOpt (d : PDict) (o : Option String) (v : Val) (k : String) :
    (d.setOpt o v).lookup k = if o = some k then some v else d.lookup k := by
  cases o with
  | none => simp only [PDict.setOpt, reduceCtorEq, ↓reduceIte]
  | some n =>
    simp only [PDict.setOpt, PDict.lookup_set, Option.some.injEq, eq_comm (a := k)]

theorem starEntries_lookup (s : Sig) (c : Call) (k : String) :
    (starEntries s c).lookup k =
      if s.varargs = some k then some (.tuple (c.args.drop s.params.length))
      else if s.varkw = some k then some (.dict (extraKw s c.kw)) else none := by
  have e : starEntries s c = PDict.setOpt [] s.varargs (.tuple (c.args.drop s.params.length)) ++
      PDict.setOpt [] s.varkw (.dict (extraKw s c.kw)) := by
    unfold starEntries
    cases s.varargs <;> cases s.varkw <;> rfl
  rw [e, List.lookup_append, lookup_setOpt, lookup_setOpt]
  split <;> simp only [List.lookup_nil, Option.some_or, Option.none_or]

theorem getcallargs_eq (s : Sig) (c : Call) :
    getcallargs s c =
      if ((s.params.zip c.args).any fun p => c.kw.has p.1) = true then .error .value
      else if s.varargs = none ∧ c.args.length > s.params.length then .error .value
      else .ok (((((argspecDefaults s).update (s.params.zip c.args)).setOpt s.varargs
          (.tuple (c.args.drop s.params.length))).setOpt s.varkw (.dict (extraKw s c.kw))).update
          (if s.varkw = none then c.kw else c.kw.filter fun p => s.params.contains p.1)) := by
  unfold getcallargs
  dsimp only
  split
  · rfl
  · cases s.varargs with
    | none =>
      by_cases hl : c.args.length > s.params.length
      · have : (c.args.drop s.params.length).length > 0 := by simp only [List.length_drop]; omega
        simp only [this, hl, ↓reduceIte, true_and]
      · have : ¬ (c.args.drop s.params.length).length > 0 := by simp only [List.length_drop]; omega
        simp only [this, hl, ↓reduceIte, and_false]
        cases s.varkw <;> rfl
    | some n => cases s.varkw <;> simp only [reduceCtorEq, false_and, ↓reduceIte] <;> rfl

theorem PDict.keys_set (d : PDict) (k : String) (v : Val) :
    (d.set k v).map (·.1) = if k ∈ d.map (·.1) then d.map (·.1) else d.map (·.1) ++ [k] := by
  rw [PDict.set_eq, List.keys_setFirst]

theorem PDict.nodup_set (d : PDict) (k : String) (v : Val) (h : (d.map (·.1)).Nodup) :
    ((d.set k v).map (·.1)).Nodup :=
  PDict.set_eq d k v ▸ List.nodup_keys_setFirst h k v

theorem PDict.nodup_update (d u : PDict) (h : (d.map (·.1)).Nodup) : ((d.update u).map (·.1)).Nodup :=
  List.foldl_preserves (P := fun d : PDict => (d.map (·.1)).Nodup) (fun d p _ hd => PDict.nodup_set d p.1 p.2 hd) h

theorem PDict.nodup_erase (d : PDict) (k : String) (h : (d.map (·.1)).Nodup) : ((d.erase k).map (·.1)).Nodup :=
  List.nodup_keys_filter _ h

theorem nodup_argspecDefaults (s : Sig) (hs : s.WF) : ((argspecDefaults s).map (·.1)).Nodup :=
  List.nodup_zip_keys _ _ (List.Nodup.sublist (List.drop_sublist _ _) hs.1)

theorem nodup_setOpt (d : PDict) (o : Option String) (v : Val) (h : (d.map (·.1)).Nodup) :
    ((d.setOpt o v).map (·.1)).Nodup := by
  cases o with
  | none => exact h
  | some n => exact PDict.nodup_set d n v h

theorem nodup_getcallargs (s : Sig) (hs : s.WF) (c : Call) (b : PDict) (h : getcallargs s c = .ok b) :
    (b.map (·.1)).Nodup := by
  rw [getcallargs_eq] at h
  split at h
  · cases h
  · split at h
    · cases h
    · cases h
      exact PDict.nodup_update _ _ (nodup_setOpt _ _ _ (nodup_setOpt _ _ _ (PDict.nodup_update _ _ (nodup_argspecDefaults s hs))))

/-- `d.pop(n)`'s remaining dict for the `*args` / `**kwargs` name of a signature that has one -/
def PDict.eraseOpt (d : PDict) (o : Option String) : PDict :=
  match o with
  | some n => d.erase n
  | none => d

theorem lookup_eraseOpt (d : PDict) (o : Option String) (k : String) :
    (d.eraseOpt o).lookup k = if o = some k then none else d.lookup k := by
  cases o with
  | none => simp only [PDict.eraseOpt, reduceCtorEq, ↓reduceIte]
  | some n => simp only [PDict.eraseOpt, PDict.lookup_erase, Option.some.injEq, eq_comm (a := k)]

theorem nodup_eraseOpt (d : PDict) (o : Option String) (h : (d.map (·.1)).Nodup) : ((d.eraseOpt o).map (·.1)).Nodup := by
  cases o with
  | none => exact h
  | some n => exact PDict.nodup_erase d n h

theorem filterMap_eq_map {α β} (xs : List α) (f : α → Option β) (g : α → β)
    (h : ∀ a ∈ xs, f a = some (g a)) : xs.filterMap f = xs.map g := by
  induction xs with
  | nil => rfl
  | cons x xs ih =>
    simp only [List.filterMap_cons, h x (by simp), List.map_cons]
    rw [ih fun a ha => h a (by simp [ha])]

/-- the positional arguments `call_with_callargs` passes for the parameters -/
def boundValues (s : Sig) (c : Call) : List Val := s.params.map fun n => (pyValue s c n).getD (.cell .none)

/-- the call `call_with_callargs` makes after `getcallargs` on a valid call: all parameters positionally, then
the extra positionals, and the extra keywords -/
def recalled (s : Sig) (c : Call) : Call :=
  { args := boundValues s c ++ (match s.varargs with
      | some _ => c.args.drop s.params.length
      | none => []),
    kw := match s.varkw with
      | some _ => extraKw s c.kw
      | none => [] }

theorem recall_eq_ok (s : Sig) (b : PDict) (va vk : Val) (ha : ∀ n, s.varargs = some n → b.lookup n = some va)
    (hk : ∀ m, s.varkw = some m → (b.eraseOpt s.varargs).lookup m = some vk) :
    recall s b = .ok
      { args := (s.params.filterMap fun a =>
            ((argspecDefaults s).update ((b.eraseOpt s.varargs).eraseOpt s.varkw)).lookup a) ++
          (match s.varargs with
            | some _ => tupleItems va
            | none => []),
        kw := match s.varkw with
          | some _ => dictItems vk
          | none => [] } := by
  unfold recall
  cases hvar : s.varargs with
  | none =>
    rw [hvar] at hk
    cases hkw : s.varkw with
    | none => rfl
    | some m => simp only [PDict.eraseOpt, show b.lookup m = some vk from hk m hkw]
  | some n =>
    rw [hvar] at hk
    cases hkw : s.varkw with
    | none => simp only [PDict.eraseOpt, ha n hvar]
    | some m => simp only [PDict.eraseOpt, ha n hvar, show (b.erase n).lookup m = some vk from hk m hkw]

theorem recall_of_eqv (s : Sig) (hs : s.WF) (c : Call) (b' : PDict) (hn : (b'.map (·.1)).Nodup)
    (he : PDict.Eqv b' (s.params.map (fun n => (n, (pyValue s c n).getD (.cell .none))) ++ starEntries s c)) :
    recall s b' = .ok (recalled s c) := by
  obtain ⟨hnd, hlen, hva, hvk, hvv⟩ := hs
  have hb : ∀ k, b'.lookup k =
      if k ∈ s.params then some ((pyValue s c k).getD (.cell .none)) else (starEntries s c).lookup k := by
    intro k
    rw [he k, List.lookup_append, List.lookup_map_key]
    by_cases hk : k ∈ s.params <;> simp [hk]
  rw [recall_eq_ok s b' (.tuple (c.args.drop s.params.length)) (.dict (extraKw s c.kw))
    (fun n hvar => by rw [hb n, if_neg (hva n hvar), starEntries_lookup, if_pos hvar])
    (fun m hkw => by
      rw [lookup_eraseOpt, if_neg fun e => hvv m m e hkw rfl, hb m, if_neg (hvk m hkw), starEntries_lookup,
        if_neg fun e => hvv m m e hkw rfl, if_pos hkw])]
  -- the parameters are read back from `params.update(c)` whatever was popped
  have hargs : (s.params.filterMap fun a =>
      ((argspecDefaults s).update ((b'.eraseOpt s.varargs).eraseOpt s.varkw)).lookup a) = boundValues s c := by
    apply filterMap_eq_map
    intro a ha
    rw [PDict.lookup_update_nodup _ _ (nodup_eraseOpt _ _ (nodup_eraseOpt _ _ hn)), lookup_eraseOpt,
      if_neg fun e => hvk a e ha, lookup_eraseOpt, if_neg fun e => hva a e ha, hb a]
    simp [ha]
  rw [hargs]
  rfl

theorem boundValues_length (s : Sig) (c : Call) : (boundValues s c).length = s.params.length := by
  simp [boundValues]

theorem pyValue_recalled (s : Sig) (c : Call) (n : String) (hn : n ∈ s.params) :
    pyValue s (recalled s c) n = some ((pyValue s c n).getD (.cell .none)) := by
  have hi : s.params.idxOf n < s.params.length := List.idxOf_lt_length_of_mem hn
  have hlen : s.params.idxOf n < (recalled s c).args.length := by
    simp only [recalled, List.length_append, boundValues_length]; omega
  unfold pyValue
  simp only [hlen, ↓reduceIte]
  have hi' : s.params.idxOf n < (boundValues s c).length := by rw [boundValues_length]; exact hi
  simp only [recalled]
  rw [List.getElem?_append_left hi']
  simp only [boundValues, List.getElem?_map]
  have : s.params[s.params.idxOf n]? = some n := by
    rw [List.getElem?_eq_getElem hi]
    simp
  simp only [this, Option.map_some]
  rfl

theorem extraKw_idem (s : Sig) (kw : PDict) : extraKw s (extraKw s kw) = extraKw s kw := by
  simp [extraKw, List.filter_filter]

theorem bindRef_recalled (s : Sig) (c : Call) (b : PDict) (h : bindRef s c = .ok b) :
    bindRef s (recalled s c) = .ok b := by
  obtain ⟨hA, hB, hC, hD, _⟩ := bindRef_ok s c b h
  have hlen : (recalled s c).args.length = s.params.length + (match s.varargs with
      | some _ => (c.args.drop s.params.length).length | none => 0) := by
    simp only [recalled, List.length_append, boundValues_length]
    cases s.varargs <;> simp
  -- without `**kw` a call that binds has no extra keywords
  have hkw : (recalled s c).kw = extraKw s c.kw := by
    simp only [recalled]
    cases hv : s.varkw with
    | none => exact (Decidable.of_not_not fun he => hC ⟨hv, he⟩).symm
    | some m => rfl
  rw [← h]
  apply bindRef_congr
  · refine iff_of_false ?_ hA
    rintro ⟨h1, h2⟩
    rw [hlen, h2] at h1
    simp at h1
  · rw [hB, List.any_eq_false, hkw]
    intro p hp hc
    simp only [extraKw, List.mem_filter, Bool.not_eq_true', List.contains_eq_mem, decide_eq_false_iff_not] at hp
    exact hp.2 (List.mem_of_mem_take (by simpa using hc : p.1 ∈ s.params.take (recalled s c).args.length))
  · rw [hkw, extraKw_idem]
  · intro n hn
    rw [pyValue_recalled s c n hn]
    have hsome := List.all_eq_true.1 hD n hn
    cases hp : pyValue s c n with
    | none => rw [hp] at hsome; cases hsome
    | some v => rfl
  · simp only [starEntries, hkw, extraKw_idem]
    congr 1
    cases hv : s.varargs with
    | none => rfl
    | some n => simp only [recalled, hv, List.drop_left' (boundValues_length s c)]

end Pyg
