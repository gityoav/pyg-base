/-
  The fuelled loops of the drange model over an abstract step (C10): fuel is irrelevant once it covers the span, the list is the
  iterates `iter step i t0` inside the interval, the backward loops are the forward ones under a reflection `t ↦ c - t`; then one
  equation per branch of `loopBranch`, `loopBranchC` and `drange`, and striding and reversal of the daily grid.
-/
import PygModel.DRange

namespace Pyg.DRange
open Pyg

theorem iterUp_past (step : Int → Int) (t1 : Int) : ∀ (f : Nat) (t : Int), t1 < t → iterUp step t1 f t = []
  | 0, _, _ => rfl
  | f + 1, t, h => by
    unfold iterUp
    rw [if_neg (by omega)]

theorem iterUp_fuel (step : Int → Int) (hinc : ∀ t, t < step t) (t1 : Int) :
    ∀ (f1 f2 : Nat) (t : Int), (t1 + 1 - t).toNat ≤ f1 → (t1 + 1 - t).toNat ≤ f2 →
      iterUp step t1 f1 t = iterUp step t1 f2 t
  | 0, f2, t, h, _ => by
    rw [iterUp_past step t1 0 t (by omega), iterUp_past step t1 f2 t (by omega)]
  | f1 + 1, 0, t, _, h => by
    rw [iterUp_past step t1 0 t (by omega), iterUp_past step t1 (f1 + 1) t (by omega)]
  | f1 + 1, f2 + 1, t, h1, h2 => by
    unfold iterUp
    split
    · have := hinc t
      rw [iterUp_fuel step hinc t1 f1 f2 (step t) (by omega) (by omega)]
    · rfl

theorem upTo_unfold (step : Int → Int) (hinc : ∀ t, t < step t) (t t1 : Int) :
    upTo step t t1 = if t ≤ t1 then t :: upTo step (step t) t1 else [] := by
  unfold upTo
  conv => lhs; unfold iterUp
  split
  · have := hinc t
    rw [iterUp_fuel step hinc t1 (t1 - t).toNat ((t1 - step t).toNat + 1) (step t) (by omega) (by omega)]
  · rfl

theorem upTo_induction (step : Int → Int) (hinc : ∀ t, t < step t) (t1 : Int) (P : Int → List Int → Prop)
    (base : ∀ t, t1 < t → P t [])
    (cons : ∀ t, t ≤ t1 → P (step t) (upTo step (step t) t1) → P t (t :: upTo step (step t) t1)) :
    ∀ t, P t (upTo step t t1) := by
  have main : ∀ (n : Nat) (t : Int), (t1 + 1 - t).toNat ≤ n → P t (upTo step t t1) := by
    intro n
    induction n with
    | zero =>
      intro t h
      rw [upTo_unfold step hinc, if_neg (by omega)]
      exact base t (by omega)
    | succ n ih =>
      intro t h
      rw [upTo_unfold step hinc]
      by_cases hle : t ≤ t1
      · rw [if_pos hle]
        have := hinc t
        exact cons t hle (ih (step t) (by omega))
      · rw [if_neg hle]
        exact base t (by omega)
  exact fun t => main _ t (Nat.le_refl _)

theorem iter_zero (f : Int → Int) (a : Int) : iter f 0 a = a := rfl

theorem iter_succ (f : Int → Int) (n : Nat) (a : Int) : iter f (n + 1) a = iter f n (f a) := rfl

theorem iter_succ_outer (f : Int → Int) : ∀ (i : Nat) (t : Int), iter f (i + 1) t = f (iter f i t)
  | 0, _ => rfl
  | i + 1, t => by
    rw [iter_succ, iter_succ_outer f i (f t)]; rfl

theorem iter_mem_of_closed (f : Int → Int) (S : List Int) (hcl : ∀ x ∈ S, f x ∈ S) :
    ∀ (i : Nat) (t : Int), t ∈ S → iter f i t ∈ S
  | 0, _, h => h
  | i + 1, t, h => iter_mem_of_closed f S hcl i (f t) (hcl t h)

theorem le_iter_of_inc (step : Int → Int) (hinc : ∀ t, t < step t) : ∀ (n : Nat) (t : Int), t ≤ iter step n t
  | 0, t => Int.le_refl _
  | n + 1, t => by
    rw [iter_succ]
    have := le_iter_of_inc step hinc n (step t)
    have := hinc t
    omega

theorem lt_iter (step : Int → Int) (hinc : ∀ t, t < step t) (n : Nat) (hn : 1 ≤ n) (t : Int) : t < iter step n t := by
  obtain ⟨n, rfl⟩ : ∃ j, n = j + 1 := ⟨n - 1, by omega⟩
  have := le_iter_of_inc step hinc n (step t)
  have := hinc t
  rw [iter_succ]
  omega

theorem iterUp_congr (s1 s2 : Int → Int) (P : Int → Prop) (hP : ∀ t, P t → s1 t = s2 t ∧ P (s2 t)) (t1 : Int) :
    ∀ (f : Nat) (t : Int), P t → iterUp s1 t1 f t = iterUp s2 t1 f t
  | 0, _, _ => rfl
  | f + 1, t, h => by
    unfold iterUp
    split
    · rw [(hP t h).1, iterUp_congr s1 s2 P hP t1 f (s2 t) (hP t h).2]
    · rfl

theorem upTo_congr (s1 s2 : Int → Int) (P : Int → Prop) (hP : ∀ t, P t → s1 t = s2 t ∧ P (s2 t)) (t0 t1 : Int) (h0 : P t0) :
    upTo s1 t0 t1 = upTo s2 t0 t1 :=
  iterUp_congr s1 s2 P hP t1 _ t0 h0

theorem iter_congr (s1 s2 : Int → Int) (P : Int → Prop) (hP : ∀ t, P t → s1 t = s2 t ∧ P (s2 t)) :
    ∀ (i : Nat) (t : Int), P t → iter s1 i t = iter s2 i t
  | 0, _, _ => rfl
  | i + 1, t, h => by
    rw [iter_succ, iter_succ, (hP t h).1]
    exact iter_congr s1 s2 P hP i (s2 t) (hP t h).2

theorem iterates_get {step : Int → Int} {t0 : Int} {l : List Int}
    (hit : ∀ i, i < l.length → l[i]? = some (iter step i t0)) {i : Nat} {x : Int} (hx : l[i]? = some x) :
    i < l.length ∧ x = iter step i t0 := by
  rcases Nat.lt_or_ge i l.length with hlt | hge
  · have a := hit i hlt
    rw [hx] at a
    cases a
    exact ⟨hlt, rfl⟩
  · rw [List.getElem?_eq_none hge] at hx
    cases hx

theorem iterates_succ {step : Int → Int} {t0 : Int} {l : List Int}
    (hit : ∀ i, i < l.length → l[i]? = some (iter step i t0)) {i : Nat} {x : Int} (hx : l[i]? = some x) :
    l[i + 1]? = some (step x) ∨ (i + 1 = l.length ∧ step x = iter step l.length t0) := by
  obtain ⟨hi, rfl⟩ := iterates_get hit hx
  by_cases hl : i + 1 < l.length
  · exact Or.inl (by rw [hit (i + 1) hl, iter_succ_outer])
  · have e : i + 1 = l.length := by omega
    exact Or.inr ⟨e, by rw [← e, iter_succ_outer]⟩

/-- a partial step `g` that refines `step` on the elements of a list of iterates: a value it returns is the next element or,
from the last element, the first iterate past the list -/
theorem iterates_refined {step : Int → Int} {g : Int → Res Int} {t0 : Int} {l : List Int}
    (hit : ∀ i, i < l.length → l[i]? = some (iter step i t0))
    (href : ∀ x ∈ l, ∀ y, g x = .ok y → y = step x) {i : Nat} {x y : Int} (hx : l[i]? = some x) (hy : g x = .ok y) :
    l[i + 1]? = some y ∨ (i + 1 = l.length ∧ y = iter step l.length t0) := by
  rw [href x (List.mem_of_getElem? hx) y hy]
  exact iterates_succ hit hx

theorem iterates_next {step : Int → Int} {t0 : Int} {l : List Int}
    (hit : ∀ i, i < l.length → l[i]? = some (iter step i t0)) {i : Nat} {x y : Int}
    (hx : l[i]? = some x) (hy : l[i + 1]? = some y) : y = step x := by
  rcases iterates_succ hit hx with a | ⟨e, _⟩
  · rw [hy] at a
    cases a
    rfl
  · rw [List.getElem?_eq_none (by omega)] at hy
    cases hy

theorem iterates_last {step : Int → Int} {t0 : Int} {l : List Int}
    (hit : ∀ i, i < l.length → l[i]? = some (iter step i t0)) {x : Int} (hx : l.getLast? = some x) :
    step x = iter step l.length t0 := by
  rw [List.getLast?_eq_getElem?] at hx
  rcases iterates_succ hit hx with a | ⟨_, e⟩
  · rw [List.getElem?_eq_none (by omega)] at a
    cases a
  · exact e

/-- the same as a chain: every value `g` returns is the successor in the list, a value it returns from the last element is the
first iterate past the list -/
theorem iterates_refined_chain {step : Int → Int} {g : Int → Res Int} {t0 : Int} {l : List Int}
    (hit : ∀ i, i < l.length → l[i]? = some (iter step i t0))
    (href : ∀ x ∈ l, ∀ y, g x = .ok y → y = step x) :
    (∀ i x y, l[i]? = some x → l[i + 1]? = some y → ∀ y', g x = .ok y' → y' = y) ∧
    (∀ x, l.getLast? = some x → ∀ y', g x = .ok y' → y' = iter step l.length t0) := by
  refine ⟨fun i x y hx hy y' hy' => ?_, fun x hx y' hy' => ?_⟩
  · rw [href x (List.mem_of_getElem? hx) y' hy', iterates_next hit hx hy]
  · rw [href x (List.mem_of_getLast? hx) y' hy', iterates_last hit hx]

theorem iter_add (us : Int) : ∀ (i : Nat) (t : Int), iter (· + us) i t = t + us * i
  | 0, t => by simp [iter_zero]
  | i + 1, t => by
    rw [iter_succ, iter_add us i (t + us)]
    rw [Int.natCast_succ, Int.mul_add, Int.mul_one]; omega

/-- `l[i] = iter step i t0` at every index, every element is `≤ t1` and the next iterate is `> t1` -/
def IsRangeUp (step : Int → Int) (t0 t1 : Int) (l : List Int) : Prop :=
  (∀ i, i < l.length → l[i]? = some (iter step i t0) ∧ iter step i t0 ≤ t1) ∧ t1 < iter step l.length t0

/-- the mirror image: every element is `≥ t1` and the next iterate is `< t1` -/
def IsRangeDown (step : Int → Int) (t0 t1 : Int) (l : List Int) : Prop :=
  (∀ i, i < l.length → l[i]? = some (iter step i t0) ∧ t1 ≤ iter step i t0) ∧ iter step l.length t0 < t1

theorem IsRangeUp.get {step : Int → Int} {t0 t1 : Int} {l : List Int} (h : IsRangeUp step t0 t1 l) (i : Nat)
    (hi : i < l.length) : l[i]? = some (iter step i t0) :=
  (h.1 i hi).1

theorem IsRangeDown.get {step : Int → Int} {t0 t1 : Int} {l : List Int} (h : IsRangeDown step t0 t1 l) (i : Nat)
    (hi : i < l.length) : l[i]? = some (iter step i t0) :=
  (h.1 i hi).1

theorem head?_of_iterates {step : Int → Int} {t0 : Int} {l : List Int}
    (hit : ∀ i, i < l.length → l[i]? = some (iter step i t0)) (hne : l ≠ []) : l.head? = some t0 := by
  obtain ⟨x, xs, rfl⟩ := List.exists_cons_of_ne_nil hne
  have := hit 0 (by simp)
  rw [iter_zero] at this
  exact this

theorem IsRangeUp.head {step : Int → Int} {t0 t1 : Int} {l : List Int} (h : IsRangeUp step t0 t1 l) (hle : t0 ≤ t1) :
    l.head? = some t0 := by
  refine head?_of_iterates h.get ?_
  rintro rfl
  have := h.2
  rw [List.length_nil, iter_zero] at this
  omega

theorem IsRangeDown.head {step : Int → Int} {t0 t1 : Int} {l : List Int} (h : IsRangeDown step t0 t1 l) (hle : t1 ≤ t0) :
    l.head? = some t0 := by
  refine head?_of_iterates h.get ?_
  rintro rfl
  have := h.2
  rw [List.length_nil, iter_zero] at this
  omega

/-- a range of a constant step: non-empty, the last element within one step of `t1` -/
theorem IsRangeUp.span_add {us t0 t1 : Int} {l : List Int} (h : IsRangeUp (· + us) t0 t1 l) (hle : t0 ≤ t1) :
    0 < l.length ∧ t0 + us * ((l.length : Int) - 1) ≤ t1 ∧ t1 < t0 + us * (l.length : Int) := by
  have hlen := h.2
  rw [iter_add] at hlen
  have hpos : 0 < l.length := by
    rcases Nat.eq_zero_or_pos l.length with e | e
    · rw [e, Int.natCast_zero, Int.mul_zero] at hlen
      omega
    · exact e
  have hlast := (h.1 (l.length - 1) (by omega)).2
  rw [iter_add, show ((l.length - 1 : Nat) : Int) = (l.length : Int) - 1 by omega] at hlast
  exact ⟨hpos, hlast, hlen⟩

theorem IsRangeDown.span_add {us t0 t1 : Int} {l : List Int} (h : IsRangeDown (· + us) t0 t1 l) (hle : t1 ≤ t0) :
    0 < l.length ∧ t1 ≤ t0 + us * ((l.length : Int) - 1) ∧ t0 + us * (l.length : Int) < t1 := by
  have hlen := h.2
  rw [iter_add] at hlen
  have hpos : 0 < l.length := by
    rcases Nat.eq_zero_or_pos l.length with e | e
    · rw [e, Int.natCast_zero, Int.mul_zero] at hlen
      omega
    · exact e
  have hlast := (h.1 (l.length - 1) (by omega)).2
  rw [iter_add, show ((l.length - 1 : Nat) : Int) = (l.length : Int) - 1 by omega] at hlast
  exact ⟨hpos, hlast, hlen⟩

theorem iterUpC_eq (step : Int → Int) (hinc : ∀ t, t < step t) (t1 : Int) :
    ∀ (f : Nat) (t : Int), iterUpC step t1 f t = .ok (iterUp step t1 f t)
  | 0, _ => rfl
  | f + 1, t => by
    unfold iterUpC iterUp
    have hs : ¬ step t ≤ t := by have := hinc t; omega
    by_cases hle : t ≤ t1
    · rw [if_pos hle, if_pos hle, if_neg hs, iterUpC_eq step hinc t1 f (step t)]; rfl
    · rw [if_neg hle, if_neg hle]

/-- what the checked forward loop returns for any step: either the exact range (elements `step^i t`, all `≤ t1`, the
next one beyond, strictly increasing), or `ValueError` because some iterate inside the range failed to move forward -/
theorem iterUpC_spec (step : Int → Int) (t1 : Int) : ∀ (f : Nat) (t : Int), (t1 + 1 - t).toNat ≤ f →
    (∃ l, iterUpC step t1 f t = .ok l ∧ IsRangeUp step t t1 l ∧ l.Pairwise (· < ·) ∧ ∀ x ∈ l, t ≤ x ∧ x ≤ t1) ∨
    (iterUpC step t1 f t = .error .value ∧
      ∃ i, (∀ j, j ≤ i → iter step j t ≤ t1) ∧ step (iter step i t) ≤ iter step i t)
  | 0, t, h => by
    refine Or.inl ⟨[], rfl, ⟨fun i hi => by simp at hi, ?_⟩, List.Pairwise.nil, fun x hx => by cases hx⟩
    show t1 < t; omega
  | f + 1, t, h => by
    unfold iterUpC
    by_cases hle : t ≤ t1
    · simp only [hle, if_true]
      by_cases hs : step t ≤ t
      · simp only [hs, if_true]
        refine Or.inr ⟨trivial, 0, fun j hj => ?_, hs⟩
        have : j = 0 := by omega
        subst this; exact hle
      · simp only [hs, if_false]
        rcases iterUpC_spec step t1 f (step t) (by omega) with ⟨l, e, hr, hp, hm⟩ | ⟨e, i, hi1, hi2⟩
        · refine Or.inl ⟨t :: l, by rw [e]; rfl, ⟨fun i hi => ?_, ?_⟩, ?_, ?_⟩
          · cases i with
            | zero => exact ⟨rfl, hle⟩
            | succ i => have := hr.1 i (by simpa using hi); simpa [iter_succ] using this
          · simpa [iter_succ] using hr.2
          · exact List.pairwise_cons.2 ⟨fun x hx => by have := hm x hx; omega, hp⟩
          · intro x hx
            rcases List.mem_cons.1 hx with rfl | hx
            · omega
            · have := hm x hx; omega
        · refine Or.inr ⟨by rw [e]; rfl, i + 1, fun j hj => ?_, by simpa [iter_succ] using hi2⟩
          cases j with
          | zero => exact hle
          | succ j => rw [iter_succ]; exact hi1 j (by omega)
    · simp only [hle, if_false]
      refine Or.inl ⟨[], rfl, ⟨fun i hi => by simp at hi, ?_⟩, List.Pairwise.nil, fun x hx => by cases hx⟩
      show t1 < t; omega

theorem upTo_range (step : Int → Int) (hinc : ∀ t, t < step t) (t0 t1 : Int) :
    IsRangeUp step t0 t1 (upTo step t0 t1) ∧ (upTo step t0 t1).Pairwise (· < ·) ∧
      ∀ x ∈ upTo step t0 t1, t0 ≤ x ∧ x ≤ t1 := by
  rcases iterUpC_spec step t1 ((t1 - t0).toNat + 1) t0 (by omega) with ⟨l, e, h⟩ | ⟨_, i, _, hi⟩
  · rw [iterUpC_eq step hinc] at e
    cases e
    exact h
  · have := hinc (iter step i t0)
    omega

/-- the step seen under `t ↦ -t` (`downTo_mirror`) -/
def mirror (step : Int → Int) : Int → Int := fun u => -step (-u)

theorem mirror_neg (step : Int → Int) (t : Int) : mirror step (-t) = -step t := by
  unfold mirror
  rw [Int.neg_neg]

theorem mirror_inc {step : Int → Int} (hdec : ∀ t, step t < t) (u : Int) : u < mirror step u := by
  have := hdec (-u)
  unfold mirror
  omega

theorem iter_mirror (step : Int → Int) : ∀ (i : Nat) (t : Int), iter (mirror step) i (-t) = -iter step i t
  | 0, _ => rfl
  | i + 1, t => by rw [iter_succ, iter_succ, mirror_neg, iter_mirror step i (step t)]

theorem iterDown_reflect (c : Int) (step : Int → Int) (t1 : Int) : ∀ (f : Nat) (t : Int),
    iterDown step t1 f t = (iterUp (fun u => c - step (c - u)) (c - t1) f (c - t)).map (c - ·)
  | 0, _ => rfl
  | f + 1, t => by
    unfold iterDown iterUp
    by_cases h : t ≥ t1
    · rw [if_pos h, if_pos (show c - t ≤ c - t1 by omega), iterDown_reflect c step t1 f (step t), List.map_cons,
        show c - (c - t) = t by omega]
    · rw [if_neg h, if_neg (show ¬ c - t ≤ c - t1 by omega)]
      rfl

theorem downTo_reflect (c : Int) (step : Int → Int) (t0 t1 : Int) :
    downTo step t0 t1 = (upTo (fun u => c - step (c - u)) (c - t0) (c - t1)).map (c - ·) := by
  unfold downTo upTo
  rw [iterDown_reflect c, show c - t1 - (c - t0) = t0 - t1 by omega]

theorem iterDown_mirror (step : Int → Int) (t1 : Int) (f : Nat) (t : Int) :
    iterDown step t1 f t = (iterUp (mirror step) (-t1) f (-t)).map (- ·) := by
  have := iterDown_reflect 0 step t1 f t
  simp only [Int.zero_sub] at this
  exact this

theorem downTo_mirror (step : Int → Int) (t0 t1 : Int) :
    downTo step t0 t1 = (upTo (mirror step) (-t0) (-t1)).map (- ·) := by
  have := downTo_reflect 0 step t0 t1
  simp only [Int.zero_sub] at this
  exact this

theorem iterDownC_mirror (step : Int → Int) (t1 : Int) : ∀ (f : Nat) (t : Int),
    iterDownC step t1 f t = (iterUpC (mirror step) (-t1) f (-t)).map (List.map (- ·))
  | 0, _ => rfl
  | f + 1, t => by
    unfold iterDownC iterUpC
    by_cases h : t ≥ t1
    · rw [if_pos h, if_pos (show -t ≤ -t1 by omega), mirror_neg]
      by_cases hs : step t ≥ t
      · rw [if_pos hs, if_pos (show -step t ≤ -t by omega)]
        rfl
      · rw [if_neg hs, if_neg (show ¬ -step t ≤ -t by omega), iterDownC_mirror step t1 f (step t)]
        cases iterUpC (mirror step) (-t1) f (-step t) with
        | error e => rfl
        | ok l => simp only [Except.map, Except.bind, List.map_cons, Int.neg_neg]
    · rw [if_neg h, if_neg (show ¬ -t ≤ -t1 by omega)]
      rfl

theorem IsRangeUp.mirror {step : Int → Int} {t0 t1 : Int} {l : List Int}
    (h : IsRangeUp (mirror step) (-t0) (-t1) l) : IsRangeDown step t0 t1 (l.map (- ·)) := by
  unfold IsRangeDown
  rw [List.length_map]
  refine ⟨fun i hi => ?_, by have := h.2; rw [iter_mirror] at this; omega⟩
  have := h.1 i hi
  rw [iter_mirror] at this
  rw [List.getElem?_map, this.1]
  exact ⟨by simp only [Option.map_some, Int.neg_neg], by omega⟩

theorem downTo_unfold (step : Int → Int) (hdec : ∀ t, step t < t) (t t1 : Int) :
    downTo step t t1 = if t ≥ t1 then t :: downTo step (step t) t1 else [] := by
  rw [downTo_mirror, downTo_mirror, upTo_unfold (mirror step) (mirror_inc hdec), mirror_neg]
  by_cases h : t ≥ t1
  · rw [if_pos h, if_pos (show -t ≤ -t1 by omega), List.map_cons, Int.neg_neg]
  · rw [if_neg h, if_neg (show ¬ -t ≤ -t1 by omega)]
    rfl

theorem downTo_induction (step : Int → Int) (hdec : ∀ t, step t < t) (t1 : Int) (P : Int → List Int → Prop)
    (base : ∀ t, t < t1 → P t [])
    (cons : ∀ t, t ≥ t1 → P (step t) (downTo step (step t) t1) → P t (t :: downTo step (step t) t1)) :
    ∀ t, P t (downTo step t t1) := by
  intro t
  have := upTo_induction (mirror step) (mirror_inc hdec) (-t1) (fun u l => P (-u) (l.map (- ·)))
    (fun u h => base (-u) (by omega))
    (fun u h ih => by
      have := cons (-u) (by omega)
      rw [downTo_mirror] at this
      rw [show -mirror step u = step (-u) from Int.neg_neg _] at ih
      exact this ih) (-t)
  rw [Int.neg_neg] at this
  rw [downTo_mirror]
  exact this

theorem iter_le_of_dec (step : Int → Int) (hdec : ∀ t, step t < t) (n : Nat) (t : Int) : iter step n t ≤ t := by
  have := le_iter_of_inc (mirror step) (mirror_inc hdec) n (-t)
  rw [iter_mirror] at this
  omega

theorem iterDownC_eq (step : Int → Int) (hdec : ∀ t, step t < t) (t1 : Int) (f : Nat) (t : Int) :
    iterDownC step t1 f t = .ok (iterDown step t1 f t) := by
  rw [iterDownC_mirror, iterUpC_eq _ (mirror_inc hdec), iterDown_mirror]
  rfl

theorem iterDownC_spec (step : Int → Int) (t1 : Int) (f : Nat) (t : Int) (hf : (t + 1 - t1).toNat ≤ f) :
    (∃ l, iterDownC step t1 f t = .ok l ∧ IsRangeDown step t t1 l ∧ l.Pairwise (· > ·) ∧ ∀ x ∈ l, t1 ≤ x ∧ x ≤ t) ∨
    (iterDownC step t1 f t = .error .value ∧
      ∃ i, (∀ j, j ≤ i → t1 ≤ iter step j t) ∧ iter step i t ≤ step (iter step i t)) := by
  rw [iterDownC_mirror]
  rcases iterUpC_spec (mirror step) (-t1) f (-t) (by omega) with ⟨l, e, hr, hp, hm⟩ | ⟨e, i, hi1, hi2⟩
  · refine Or.inl ⟨l.map (- ·), by rw [e]; rfl, hr.mirror, ?_, fun x hx => ?_⟩
    · rw [List.pairwise_map]
      exact hp.imp (fun h => by omega)
    · obtain ⟨y, hy, rfl⟩ := List.mem_map.1 hx
      have := hm y hy
      omega
  · refine Or.inr ⟨by rw [e]; rfl, i, fun j hj => ?_, ?_⟩
    · have := hi1 j hj
      rw [iter_mirror] at this
      omega
    · rw [iter_mirror, mirror_neg] at hi2
      omega

theorem downTo_range (step : Int → Int) (hdec : ∀ t, step t < t) (t0 t1 : Int) :
    IsRangeDown step t0 t1 (downTo step t0 t1) ∧ (downTo step t0 t1).Pairwise (· > ·) ∧
      ∀ x ∈ downTo step t0 t1, t1 ≤ x ∧ x ≤ t0 := by
  rcases iterDownC_spec step t1 ((t0 - t1).toNat + 1) t0 (by omega) with ⟨l, e, h⟩ | ⟨_, i, _, hi⟩
  · rw [iterDownC_eq step hdec] at e
    cases e
    exact h
  · have := hdec (iter step i t0)
    omega

theorem loopBranch_self (step : Int → Int) (t : Int) : loopBranch step t t = .ok [t] := by
  unfold loopBranch
  rw [if_neg (Int.lt_irrefl t), if_neg (Int.lt_irrefl t)]

theorem loopBranch_up {step : Int → Int} {t0 t1 : Int} (h : t0 < t1) (hs : t0 < step t0) :
    loopBranch step t0 t1 = .ok (upTo step t0 t1) := by
  unfold loopBranch
  rw [if_pos h, if_neg (by omega)]

theorem loopBranch_down {step : Int → Int} {t0 t1 : Int} (h : t1 < t0) (hs : step t0 < t0) :
    loopBranch step t0 t1 = .ok (downTo step t0 t1) := by
  unfold loopBranch
  rw [if_neg (by omega), if_pos h, if_neg (by omega)]

theorem loopBranch_away (step : Int → Int) (t0 t1 : Int)
    (h : (t0 < t1 ∧ step t0 ≤ t0) ∨ (t1 < t0 ∧ t0 ≤ step t0)) : loopBranch step t0 t1 = .error .value := by
  unfold loopBranch
  rcases h with ⟨h1, h2⟩ | ⟨h1, h2⟩
  · rw [if_pos h1, if_pos h2]
  · rw [if_neg (by omega), if_pos h1, if_pos h2]

theorem loopBranchC_self (step : Int → Int) (t : Int) : loopBranchC step t t = .ok [t] := by
  unfold loopBranchC
  rw [if_neg (Int.lt_irrefl t), if_neg (Int.lt_irrefl t)]

theorem loopBranchC_up {step : Int → Int} {t0 t1 : Int} (h : t0 < t1) :
    loopBranchC step t0 t1 = iterUpC step t1 ((t1 - t0).toNat + 1) t0 := by
  unfold loopBranchC
  rw [if_pos h]

theorem loopBranchC_down {step : Int → Int} {t0 t1 : Int} (h : t1 < t0) :
    loopBranchC step t0 t1 = iterDownC step t1 ((t0 - t1).toNat + 1) t0 := by
  unfold loopBranchC
  rw [if_neg (by omega), if_pos h]

theorem loopBranchC_away (step : Int → Int) (t0 t1 : Int)
    (h : (t0 < t1 ∧ step t0 ≤ t0) ∨ (t1 < t0 ∧ t0 ≤ step t0)) : loopBranchC step t0 t1 = .error .value := by
  rcases h with ⟨h1, h2⟩ | ⟨h1, h2⟩
  · rw [loopBranchC_up h1]
    unfold iterUpC
    rw [if_pos (by omega), if_pos h2]
  · rw [loopBranchC_down h1]
    unfold iterDownC
    rw [if_pos (by omega), if_pos h2]

/-- for a step that always moves one way the per-step check never fires: the checked loop is the plain one -/
theorem loopBranchC_eq (step : Int → Int) (h : (∀ t, t < step t) ∨ (∀ t, step t < t)) (t0 t1 : Int) :
    loopBranchC step t0 t1 = loopBranch step t0 t1 := by
  rcases Int.lt_trichotomy t0 t1 with hlt | rfl | hgt
  · rcases h with hinc | hdec
    · rw [loopBranchC_up hlt, loopBranch_up hlt (hinc t0), iterUpC_eq step hinc]
      rfl
    · have := hdec t0
      rw [loopBranchC_away step t0 t1 (Or.inl ⟨hlt, by omega⟩), loopBranch_away step t0 t1 (Or.inl ⟨hlt, by omega⟩)]
  · rw [loopBranchC_self, loopBranch_self]
  · rcases h with hinc | hdec
    · have := hinc t0
      rw [loopBranchC_away step t0 t1 (Or.inr ⟨hgt, by omega⟩), loopBranch_away step t0 t1 (Or.inr ⟨hgt, by omega⟩)]
    · rw [loopBranchC_down hgt, loopBranch_down hgt (hdec t0), iterDownC_eq step hdec]
      rfl

theorem lt_add_DAY (t : Int) : t < t + DAY := by
  unfold DAY
  omega

theorem sub_DAY_lt (t : Int) : t - DAY < t := by
  unfold DAY
  omega

theorem daily_unfold (s t1 : Int) : daily s t1 = if s ≤ t1 then s :: daily (s + DAY) t1 else [] :=
  upTo_unfold _ lt_add_DAY s t1

theorem pairwise_daily (lo hi : Int) : (daily lo hi).Pairwise (· < ·) :=
  (upTo_range _ lt_add_DAY lo hi).2.1

theorem strideGo_nil {α} (k j : Nat) : strideGo k ([] : List α) j = [] := by cases j <;> rfl

theorem strideGo_iter (s : Int → Int) (hinc : ∀ t, t < s t) (k : Nat) (hk : 1 ≤ k) (hi : Int) :
    ∀ t, ∀ j : Nat, strideGo k (upTo s t hi) j = upTo (iter s k) (iter s j t) hi := by
  have hinck := lt_iter s hinc k hk
  apply upTo_induction s hinc hi (fun t l => ∀ j : Nat, strideGo k l j = upTo (iter s k) (iter s j t) hi)
  · intro t h j
    have := le_iter_of_inc s hinc j t
    rw [strideGo_nil, upTo_unfold _ hinck, if_neg (by omega)]
  · intro t hle ih j
    cases j with
    | zero =>
      show t :: strideGo k _ (k - 1) = _
      rw [ih (k - 1), ← iter_succ, Nat.sub_add_cancel hk]
      exact ((upTo_unfold _ hinck t hi).trans (if_pos hle)).symm
    | succ j => exact ih j

theorem strideGo_upTo (k : Nat) (hk : 1 ≤ k) (hi : Int) :
    ∀ t, ∀ j : Nat, strideGo k (upTo (· + DAY) t hi) j = upTo (· + DAY * (k : Int)) (t + DAY * (j : Int)) hi := by
  intro t j
  rw [strideGo_iter _ (fun t => by unfold DAY; omega) k hk, iter_add,
    show iter (· + DAY) k = (· + DAY * (k : Int)) from funext (iter_add DAY k)]

theorem strideGo_map {α β} (g : α → β) (k : Nat) : ∀ (l : List α) (j : Nat),
    strideGo k (l.map g) j = (strideGo k l j).map g
  | [], j => by rw [List.map_nil, strideGo_nil, strideGo_nil, List.map_nil]
  | x :: xs, 0 => by
    show g x :: strideGo k (xs.map g) (k - 1) = g x :: (strideGo k xs (k - 1)).map g
    rw [strideGo_map g k xs]
  | _ :: xs, j + 1 => strideGo_map g k xs j

theorem strideGo_downTo (k : Nat) (hk : 1 ≤ k) (lo t : Int) (j : Nat) :
    strideGo k (downTo (· - DAY) t lo) j = downTo (· - DAY * (k : Int)) (t - DAY * (j : Int)) lo := by
  have e1 : mirror (· - DAY) = (· + DAY) := by funext u; show -(-u - DAY) = u + DAY; omega
  have ek : mirror (· - DAY * (k : Int)) = (· + DAY * (k : Int)) := by
    funext u
    show -(-u - DAY * (k : Int)) = u + DAY * (k : Int)
    omega
  rw [downTo_mirror, downTo_mirror, e1, ek, strideGo_map, strideGo_upTo k hk,
    show -(t - DAY * (j : Int)) = -t + DAY * (j : Int) by unfold DAY; omega]

theorem downTo_snoc (lo : Int) : ∀ s, (s - lo) % DAY = 0 → lo ≤ s →
    downTo (· - DAY) s lo = downTo (· - DAY) s (lo + DAY) ++ [lo] := by
  apply downTo_induction (· - DAY) sub_DAY_lt lo
    (fun s l => (s - lo) % DAY = 0 → lo ≤ s → l = downTo (· - DAY) s (lo + DAY) ++ [lo])
  · intro s h _ h2; omega
  · intro s hge ih hal hle
    by_cases hs : s = lo
    · subst hs
      rw [downTo_unfold _ sub_DAY_lt (s - DAY) s, downTo_unfold _ sub_DAY_lt s (s + DAY)]
      have h1 : ¬ (s - DAY ≥ s) := by unfold DAY; omega
      have h2 : ¬ (s ≥ s + DAY) := by unfold DAY; omega
      simp [h1, h2]
    · have hge' : s ≥ lo + DAY := by unfold DAY at *; omega
      rw [ih (by unfold DAY at *; omega) (by unfold DAY at *; omega), downTo_unfold _ sub_DAY_lt s (lo + DAY)]
      simp [hge']

theorem reverse_daily (lo hi : Int) (hal : (hi - lo) % DAY = 0) :
    (daily lo hi).reverse = downTo (· - DAY) hi lo := by
  unfold daily
  revert hal
  apply upTo_induction (· + DAY) lt_add_DAY hi (fun t l => (hi - t) % DAY = 0 → l.reverse = downTo (· - DAY) hi t)
  · intro t h _
    rw [downTo_unfold _ sub_DAY_lt]
    have : ¬ (hi ≥ t) := by omega
    simp [this]
  · intro t hle ih hal
    rw [List.reverse_cons, ih (by unfold DAY at *; omega)]
    exact (downTo_snoc t hi hal hle).symm

theorem stride_one {α} : ∀ l : List α, strideGo 1 l 0 = l
  | [] => rfl
  | x :: xs => by show x :: strideGo 1 xs (1 - 1) = x :: xs; rw [stride_one xs]

/-- `res[::m] if m > 1 else res` (as in `orient`) is `res[::m]` for every `m ≥ 1` -/
theorem stride_if_eq {α} (m : Nat) (hm : 1 ≤ m) (l : List α) :
    (if m > 1 then stride m l else l) = strideGo m l 0 := by
  by_cases hgt : m > 1
  · rw [if_pos hgt]; rfl
  · have e1 : m = 1 := by omega
    rw [if_neg hgt, e1, stride_one]

theorem orient_eq (k : Int) (hk : k ≠ 0) (l : List Int) :
    orient k l = strideGo k.natAbs (if k < 0 then l.reverse else l) 0 := by
  unfold orient
  exact stride_if_eq k.natAbs (by omega) _

theorem orient_pos (n : Int) (hn : 0 < n) (lo hi : Int) :
    orient n (daily lo hi) = upTo (· + DAY * n) lo hi := by
  rw [orient_eq n (by omega), if_neg (by omega)]
  have e := strideGo_upTo n.natAbs (by omega) hi lo 0
  rwa [show ((n.natAbs : Nat) : Int) = n by omega, show lo + DAY * ((0 : Nat) : Int) = lo by simp] at e

theorem orient_neg (n : Int) (hn : n < 0) (lo hi : Int) (hal : (hi - lo) % DAY = 0) :
    orient n (daily lo hi) = downTo (· + DAY * n) hi lo := by
  rw [orient_eq n (by omega), if_pos hn, reverse_daily lo hi hal]
  have e := strideGo_downTo n.natAbs (by omega) lo hi 0
  rw [show ((n.natAbs : Nat) : Int) = -n by omega, show hi - DAY * ((0 : Nat) : Int) = hi by simp] at e
  rw [e]
  congr 1
  funext t
  rw [Int.mul_neg]
  omega

theorem mem_daily (lo hi : Int) : ∀ x, x ∈ daily lo hi ↔ lo ≤ x ∧ x ≤ hi ∧ (x - lo) % DAY = 0 := by
  unfold daily
  apply upTo_induction (· + DAY) lt_add_DAY hi (fun t l => ∀ x, x ∈ l ↔ t ≤ x ∧ x ≤ hi ∧ (x - t) % DAY = 0)
  · intro t h x; simp; omega
  · intro t hle ih x
    rw [List.mem_cons, ih x]
    unfold DAY at *
    omega

theorem weekdays_spec (lo hi : Int) :
    ((daily lo hi).filter fun t => wdT t < 5).Pairwise (· < ·) ∧
    ∀ x, x ∈ (daily lo hi).filter (fun t => wdT t < 5) ↔ lo ≤ x ∧ x ≤ hi ∧ (x - lo) % DAY = 0 ∧ wdT x < 5 := by
  refine ⟨(pairwise_daily lo hi).filter _, fun x => ?_⟩
  rw [List.mem_filter, mem_daily, decide_eq_true_eq]
  omega

theorem weekdays_reverse_spec (lo hi : Int) :
    ((daily lo hi).filter fun t => wdT t < 5).reverse.Pairwise (· > ·) ∧
    ∀ x, x ∈ ((daily lo hi).filter fun t => wdT t < 5).reverse ↔ lo ≤ x ∧ x ≤ hi ∧ (x - lo) % DAY = 0 ∧ wdT x < 5 :=
  ⟨List.pairwise_reverse.2 (weekdays_spec lo hi).1, fun x => List.mem_reverse.trans ((weekdays_spec lo hi).2 x)⟩

theorem stride_getElem? {α} (k : Nat) (hk : 1 ≤ k) (l : List α) (i : Nat) : (stride k l)[i]? = l[k * i]? := by
  have go : ∀ (l : List α) (j i : Nat), (strideGo k l j)[i]? = l[j + k * i]? := by
    intro l
    induction l with
    | nil => intro j i; simp [strideGo_nil]
    | cons x xs ih =>
      intro j i
      cases j with
      | zero =>
        cases i with
        | zero => simp [strideGo]
        | succ i =>
          simp only [strideGo, List.getElem?_cons_succ, ih]
          have : 0 + k * (i + 1) = (k - 1 + k * i) + 1 := by rw [Nat.mul_succ]; omega
          rw [this, List.getElem?_cons_succ]
      | succ j =>
        simp only [strideGo, ih]
        have : j + 1 + k * i = (j + k * i) + 1 := by omega
        rw [this, List.getElem?_cons_succ]
  have := go l 0 i
  simpa [stride] using this

theorem tdDays_pos (x : Int) (hx : 0 < x) (hal : x % DAY = 0) : 0 < tdDays x := by
  unfold tdDays; unfold DAY at *; omega

theorem tdDays_neg (x : Int) (hx : x < 0) : tdDays x < 0 := by
  unfold tdDays; unfold DAY at *; omega

theorem tdDays_nonneg (x : Int) (hx : 0 ≤ x) : 0 ≤ tdDays x := by
  unfold tdDays; unfold DAY at *; omega

theorem drange_self (t : Int) (b : Bump) : drange t t b = .ok [t] := by
  unfold drange
  rw [if_pos rfl]

theorem drange_td {t0 t1 : Int} (hne : t0 ≠ t1) (us : Int) : drange t0 t1 (.td us) = loopBranch (· + us) t0 t1 := by
  simp only [drange, hne, if_false]

theorem drange_int {t0 t1 : Int} (hne : t0 ≠ t1) (n : Int) : drange t0 t1 (.int n) = drangeInt t0 t1 n := by
  simp only [drange, hne, if_false]

theorem drange_none {t0 t1 : Int} (hne : t0 ≠ t1) :
    drange t0 t1 .none = drangeInt t0 t1 (if t0 < t1 then 1 else -1) := by
  simp only [drange, hne, if_false]

theorem drange_compound {t0 t1 : Int} (hne : t0 ≠ t1) (p q : Int × Per) (rest : List (Int × Per)) :
    drange t0 t1 (.period (p :: q :: rest)) = loopBranchC (dtBump (p :: q :: rest)) t0 t1 := by
  simp only [drange, hne, if_false]

theorem drange_single_dtBump {t0 t1 : Int} (hne : t0 ≠ t1) {n : Int} {u : Per} (hu : u ≠ .b) (hn : n ≤ 0) :
    drange t0 t1 (.period [(n, u)]) = loopBranchC (dtBump [(n, u)]) t0 t1 := by
  have hn' : ¬ n > 0 := by omega
  simp only [drange, hne, if_false, hu, false_or, hn']

theorem drange_single_rrule (n : Int) (u : Per) (hu : u ≠ .b) (hn : 0 < n) (t0 t1 : Int) (h : t0 < t1) :
    drange t0 t1 (.period [(n, u)]) = .ok (upTo (rruleStep n u) t0 t1) := by
  have hne : t0 ≠ t1 := by omega
  have hn' : n > 0 := hn
  have hd := tdDays_nonneg (t1 - t0) (by omega)
  have hi : 0 < n * (if u = Per.q then 3 else 1) := by split <;> omega
  have : ¬ tdDays (t1 - t0) * (n * (if u = Per.q then 3 else 1)) < 0 := by
    have := Int.mul_nonneg hd (Int.le_of_lt hi); omega
  have hz : ¬ (n * (if u = Per.q then 3 else 1) = 0) := by omega
  simp only [drange, hne, if_false, hu, false_or, hn', if_true, this, hz, or_self]

theorem drange_single_b (k t0 t1 : Int) (hne : t0 ≠ t1) :
    drange t0 t1 (.period [(k, .b)]) =
      if tdDays (t1 - t0) * k < 0 ∨ k = 0 then .error .value
      else .ok (orient k ((daily (min t0 t1) (max t0 t1)).filter fun t => wdT t < 5)) := by
  have hq : ¬ (Per.b = Per.q) := by decide
  simp only [drange, hne, if_false, true_or, if_true, hq, Int.mul_one]

end Pyg.DRange
