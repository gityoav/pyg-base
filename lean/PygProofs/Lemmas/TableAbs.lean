/-
  Every operation of the dictable model (PygModel/Table.lean), seen through `Table.abs`, is the list-of-records
  operation of PygModel/TableSpec.lean.
-/
import PygProofs.Lemmas.TableNodup
import PygProofs.Lemmas.SliceLemmas
import PygModel.TableSpec

namespace Pyg

theorem Recs.setitem_eq {r : Recs} (hc : r.cols.isEmpty = false) (k : String) (v : ColVal) :
    r.setitem k v = if v.value.length = r.rows.length ∨ v.value.length = 1
      then .ok (r.setCol k (bcast r.rows.length v.value)) else .error .value := by
  unfold Recs.setitem
  rw [hc]
  simp only [Bool.or_false, beq_iff_eq]
  by_cases h1 : v.value.length = r.rows.length
  · rw [if_pos h1, if_pos (Or.inl h1), bcast_self h1]
  · by_cases h2 : v.value.length = 1
    · rw [if_neg h1, if_pos h2, if_pos (Or.inr h2)]
    · rw [if_neg h1, if_neg h2, if_neg (fun h => h.elim h1 h2)]

/-- the records at the positions `idx`: what `gatherRows idx` is on the list-of-records side -/
def Recs.gather (r : Recs) (idx : List Nat) : Recs := ⟨r.cols, idx.map fun j => r.rows.getD j []⟩

theorem Recs.getMask_eq (r : Recs) (m : List Bool) : r.getMask m = (Table.maskIdx r.rows.length m).map r.gather := by
  unfold Recs.getMask Table.maskIdx
  conv => lhs; rw [← List.map_getD_range r.rows [], zipper2_map]
  cases zipper2 (List.range r.rows.length) m with
  | error e => rfl
  | ok ps =>
    simp only [Except.map, Recs.gather, List.filter_map, List.map_map]
    rfl

theorem Recs.take_eq (r : Recs) (is : List Int) :
    r.take is = if is.all (fun i => (pyIdx r.rows.length i).isSome) then
      .ok (r.gather (is.filterMap (pyIdx r.rows.length))) else .error .index := by
  unfold Recs.take Recs.gather
  rw [List.map_filterMap]

theorem Recs.zip_keys_map {β} (keys : List String) (F : String → β) :
    keys.zip (keys.map F) = keys.map fun k' => (k', F k') := by
  rw [List.zip_map_right, List.zip_eq_zipWith, List.zipWith_self, List.map_map]
  rfl

theorem Recs.lookupLast_map_keys (keys : List String) (F : String → Cell) (k : String) (hk : k ∈ keys) :
    Recs.lookupLast keys (keys.map F) k = F k := by
  rw [Recs.lookupLast, Recs.zip_keys_map, ← List.map_reverse, List.find?_key_map, if_pos (List.mem_reverse.2 hk)]
  rfl

namespace Recs

theorem lookup_map_keys (keys : List String) (F : String → Cell) (k : String) :
    Recs.lookup keys (keys.map F) k = if k ∈ keys then F k else .none := by
  unfold Recs.lookup
  rw [zip_keys_map, List.find?_key_map]
  split <;> rfl

theorem lookup_absent (cols : List String) (row : List Cell) (k : String) (hk : k ∉ cols) :
    Recs.lookup cols row k = .none := by
  unfold Recs.lookup
  have : (cols.zip row).find? (·.1 == k) = Option.none := by
    apply List.find?_eq_none.2
    intro p hp hpk
    have : p.1 = k := by simpa using hpk
    exact hk (this ▸ (List.of_mem_zip hp).1)
  rw [this]; rfl

theorem lookup_through (K K' cols : List String) (row : List Cell) (hsub : ∀ k ∈ cols, k ∈ K') :
    K.map (fun k => Recs.lookup K' (K'.map fun k' => Recs.lookup cols row k') k)
      = K.map fun k => Recs.lookup cols row k := by
  apply List.map_congr_left
  intro k _
  rw [lookup_map_keys]
  split
  · rfl
  · rename_i hk
    exact (lookup_absent cols row k (fun h => hk (hsub k h))).symm

theorem concat_flatten (xs ys zs : List Recs) :
    Recs.concat (xs ++ Recs.concat ys :: zs) = Recs.concat (xs ++ ys ++ zs) := by
  have hdef : ∀ rs, Recs.concat rs = Recs.concatWith (dedupKeys (rs.flatMap Recs.cols)) rs := fun _ => rfl
  have hK : dedupKeys ((xs ++ Recs.concat ys :: zs).flatMap Recs.cols) =
      dedupKeys ((xs ++ ys ++ zs).flatMap Recs.cols) := by
    simp only [List.flatMap_append, List.flatMap_cons]
    rw [show (Recs.concat ys).cols = dedupKeys (ys.flatMap Recs.cols) from rfl, ← List.append_assoc,
      ← dedupKeys_dedup_left, dedupKeys_dedup_right, dedupKeys_dedup_left]
  rw [hdef (xs ++ Recs.concat ys :: zs), hdef (xs ++ ys ++ zs), hK]
  generalize dedupKeys ((xs ++ ys ++ zs).flatMap Recs.cols) = K
  simp only [Recs.concatWith, Recs.mk.injEq, true_and, List.flatMap_append, List.flatMap_cons, List.append_assoc]
  congr 2
  rw [hdef ys]
  simp only [Recs.concatWith, List.map_flatMap, List.map_map]
  rw [List.flatMap_def, List.flatMap_def (l := ys)]
  congr 1
  apply List.map_congr_left
  intro r hr
  apply List.map_congr_left
  intro row _
  exact lookup_through K _ r.cols row fun k hk =>
    mem_dedupKeys.2 (List.mem_flatMap.2 ⟨r, hr, hk⟩)

end Recs

namespace Table

theorem abs_nil : abs ([] : Table) = ⟨[], []⟩ := rfl

theorem abs_cols (t : Table) : (abs t).cols = t.cols := rfl

theorem abs_rows_length (t : Table) : (abs t).rows.length = t.nrows := by simp [abs, rows]

theorem abs_of_rect {t : Table} {n : Nat} (hr : t.Rect n) (hne : t ≠ []) :
    abs t = ⟨t.cols, (List.range n).map t.row⟩ := by
  rw [abs, rows_of_rect hr hne]

theorem abs_rows {t : Table} {n : Nat} (hr : t.Rect n) (hne : t ≠ []) :
    (abs t).rows = (List.range n).map t.row :=
  congrArg Recs.rows (abs_of_rect hr hne)

theorem cols_isEmpty (t : Table) : t.cols.isEmpty = t.isEmpty := by cases t <;> rfl

theorem cols_ne_nil {t : Table} (hne : t ≠ []) : t.cols ≠ [] := by
  cases t with
  | nil => exact absurd rfl hne
  | cons c t => simp [cols]

theorem get?_row (t : Table) (i : Nat) : Recs.get? t.cols (t.row i) = t.cellAt i := by
  funext k
  unfold Recs.get? cellAt col?
  rw [find?_zip_cols_row]
  cases t.find? (fun c => c.1 == k) <;> rfl

theorem len_abs {t : Table} {n : Nat} (hr : t.Rect n) : t.len = .ok (abs t).rows.length := by
  rw [len_eq_nrows hr, abs_rows_length]

/-- refinement passes through sequencing: a step that refines, followed by a continuation that refines on
every table the step can return.  Both sides are written as the `match` (not generalizing) that the model's
definitions unfold to, so that `exact map_abs_bind ..` applies to them without rewriting. -/
theorem map_abs_bind {r : Except Err Table} {r' : Except Err Recs} (h : r.map abs = r')
    {f : Table → Except Err Table} {g : Recs → Except Err Recs}
    (hf : ∀ t', r = .ok t' → (f t').map abs = g (abs t')) :
    Except.map abs (match (generalizing := false) r with | .error e => .error e | .ok t' => f t') =
      match (generalizing := false) r' with | .error e => .error e | .ok x => g x := by
  subst h
  cases r with
  | error e => rfl
  | ok t' => exact hf t' rfl

theorem row_set (t : Table) (k : String) (v : List Cell) (i : Nat) :
    (t.set k v).row i = Recs.setField t.cols (t.row i) k (v.getD i .none) := by
  unfold Recs.setField
  rw [contains_cols]
  cases h : t.has k with
  | true =>
    rw [if_pos rfl, zip_cols_row]
    unfold Table.set row
    rw [if_pos h, List.map_map, List.map_map]
    apply List.map_congr_left
    intro c _
    simp only [Function.comp]
    split <;> rfl
  | false => simp [Table.set, h, row]

theorem zipWith_map_range {α β} (f : α → Cell → β) (g : Nat → α) (v : List Cell) :
    List.zipWith f ((List.range v.length).map g) v
      = (List.range v.length).map fun i => f (g i) (v.getD i .none) := by
  apply List.ext_getElem
  · simp
  · intro i h1 h2
    have hi : i < v.length := by simpa using h2
    simp [List.getD_eq_getElem?_getD, hi]

theorem abs_set {t : Table} {n : Nat} (hr : t.Rect n) (hne : t ≠ []) (k : String) {v : List Cell}
    (hv : v.length = n) : abs (t.set k v) = (abs t).setCol k v := by
  have he : (abs t).cols.isEmpty = false := by rw [abs_cols, cols_isEmpty, isEmpty_false hne]
  subst hv
  rw [abs_of_rect (set_rect hr rfl) (set_ne_nil t k v), Recs.setCol, he, abs_rows hr hne, abs_cols, zipWith_map_range,
    cols_set]
  simp only [Bool.false_eq_true, if_false, List.contains_iff_mem]
  exact congrArg _ (List.map_congr_left fun i _ => row_set t k v i)

theorem abs_set_nil (k : String) (v : List Cell) : abs (Table.set [] k v) = (abs []).setCol k v := by
  simp only [Table.set, has_nil, Bool.false_eq_true, if_false, List.nil_append, abs_nil, Recs.setCol,
    List.isEmpty_nil, if_true]
  simp only [abs, cols, rows, nrows, List.map_cons, List.map_nil, Recs.mk.injEq, true_and]
  apply List.ext_getElem
  · simp
  · intro i h1 h2
    have hi : i < v.length := by simpa using h1
    simp [row, List.getD_eq_getElem?_getD, hi]

theorem abs_setitem {t : Table} {n : Nat} (hr : t.Rect n) (k : String) (v : ColVal) :
    (t.setitem k v).map abs = (abs t).setitem k v := by
  by_cases hne : t = []
  · subst hne
    rw [setitem_nil]
    exact (congrArg Except.ok (abs_set_nil k v.value)).trans (by simp [Recs.setitem, abs_nil])
  · rw [setitem_eq hr hne, Recs.setitem_eq (by rw [abs_cols, cols_isEmpty, isEmpty_false hne]), abs_rows_length,
      nrows_of_rect hr hne]
    split
    · exact congrArg Except.ok (abs_set hr hne k (bcast_length ‹_›))
    · rfl

theorem row_erase (t : Table) (k : String) (i : Nat) :
    (t.erase k).row i = Recs.delField t.cols (t.row i) k := by
  unfold Recs.delField
  rw [zip_cols_row, List.filter_map, List.map_map]
  rfl

theorem abs_erase {t : Table} {n : Nat} (hr : t.Rect n) (k : String) :
    abs (t.erase k) =
      Recs.norm ⟨(abs t).cols.filter (· != k), (abs t).rows.map fun row => Recs.delField (abs t).cols row k⟩ := by
  unfold Recs.norm
  simp only [abs_cols, ← cols_erase, cols_isEmpty]
  by_cases he : t.erase k = []
  · rw [he]; rfl
  · have hne : t ≠ [] := by intro h; subst h; exact he rfl
    rw [isEmpty_false he, abs_of_rect (erase_rect k hr) he, abs_rows hr hne]
    simp only [Bool.false_eq_true, if_false, List.map_map, Recs.mk.injEq, true_and]
    apply List.map_congr_left
    intro i _
    exact row_erase t k i

theorem abs_delitem {t : Table} {n : Nat} (hr : t.Rect n) (k : String) :
    (t.delitem k).map abs = (abs t).delitem k := by
  unfold delitem Recs.delitem
  rw [abs_cols, contains_cols]
  split
  · exact congrArg Except.ok (abs_erase hr k)
  · rfl

theorem abs_update {t : Table} {n : Nat} (hr : t.Rect n) (kvs : List (String × ColVal)) :
    (abs t).update kvs = (abs (t.update kvs).1, (t.update kvs).2) := by
  induction kvs generalizing t n with
  | nil => rfl
  | cons kv kvs ih =>
    obtain ⟨k, v⟩ := kv
    have h := abs_setitem hr k v
    simp only [update, Recs.update]
    cases hs : t.setitem k v with
    | error e =>
      rw [hs] at h
      rw [← h]
      rfl
    | ok t' =>
      rw [hs] at h
      rw [← h]
      obtain ⟨n', hn'⟩ := setitem_rect hr hs
      exact ih hn'

theorem abs_updateE {t : Table} {n : Nat} (hr : t.Rect n) (kvs : List (String × ColVal)) :
    (t.updateE kvs).map abs = (abs t).updateE kvs := by
  unfold updateE Recs.updateE
  rw [abs_update hr]
  cases hu : t.update kvs with
  | mk t' oe => cases oe <;> rfl

theorem getRow_eq {t : Table} {n : Nat} (hr : t.Rect n) (hne : t ≠ []) (i : Int) :
    t.getRow i = match pyIdx n i with
      | some j => .ok (t.cols.zip (t.row j))
      | Option.none => .error .index := by
  cases hp : pyIdx n i with
  | none =>
    cases t with
    | nil => exact absurd rfl hne
    | cons c t =>
      simp only [getRow, mapE]
      rw [hr c List.mem_cons_self, hp]
  | some j =>
    show _ = Except.ok (t.cols.zip (t.row j))
    rw [zip_cols_row]
    exact mapE_of_ok fun c hc => by rw [hr c hc, hp]

theorem abs_getRow {t : Table} {n : Nat} (hr : t.Rect n) (i : Int) : t.getRow i = (abs t).getRow i := by
  unfold Recs.getRow
  rw [abs_cols, cols_isEmpty]
  by_cases hne : t = []
  · subst hne; rfl
  · rw [isEmpty_false hne, abs_rows_length, nrows_of_rect hr hne, getRow_eq hr hne]
    simp only [Bool.false_eq_true, if_false]
    cases hp : pyIdx n i with
    | none => rfl
    | some j =>
      simp only
      rw [show (abs t).rows = t.rows from rfl, rows_getD t n hr hne j (pyIdx_lt hp)]

theorem getCol_eq_rows {t : Table} {n : Nat} (hr : t.Rect n) (hne : t ≠ []) (k : String) :
    t.getCol k = (abs t).rows.map fun row => Recs.lookup (abs t).cols row k := by
  rw [abs_rows hr hne, List.map_map]
  have hl : (t.getCol k).length = n := by rw [getCol_length k hr, nrows_of_rect hr hne]
  apply List.ext_getElem
  · simp [hl]
  · intro i h1 h2
    simp only [List.getElem_map, List.getElem_range, Function.comp, abs_cols, lookup_row]
    simp [List.getD_eq_getElem?_getD, h1]

theorem abs_getColE {t : Table} {n : Nat} (hr : t.Rect n) (k : String) : t.getColE k = (abs t).getCol k := by
  unfold getColE Recs.getCol
  rw [abs_cols, contains_cols, has_eq_isSome_col?]
  cases hc : t.col? k with
  | none => rfl
  | some c =>
    simp only [Option.isSome_some, if_true]
    have := getCol_eq_rows hr (ne_nil_of_col? hc) k
    rw [abs_cols] at this
    rw [← this, getCol_of_col? hc]

theorem abs_iter (t : Table) : t.iter = (abs t).iter := rfl

theorem abs_applyFn (t : Table) (f : Fn) : t.applyFn f = (abs t).applyFn f := by
  unfold applyFn Recs.applyFn
  simp only [abs, rows, mapE_map, get?_row]

theorem abs_applyFnK (t : Table) (key : String) (f : Fn) : t.applyFnK key f = (abs t).applyFnK key f := by
  unfold applyFnK Recs.applyFnK
  simp only [abs, rows, mapE_map, get?_row]

theorem abs_getTuple {t : Table} {n : Nat} (hr : t.Rect n) (ks : List String) :
    t.getTuple ks = (abs t).getTuple ks := by
  unfold getTuple Recs.getTuple
  rw [abs_cols, mapE_congr (g := fun k => (t.getColE k).map fun c => c) (fun k _ => by cases t.getColE k <;> rfl),
    mapE_getColE]
  by_cases hall : ks.all t.cols.contains = true
  · rw [if_pos hall, if_pos hall]
    simp only
    cases ks with
    | nil => rfl
    | cons k ks =>
      have hk : t.has k = true := by
        have := List.all_eq_true.1 hall k List.mem_cons_self
        rwa [contains_cols] at this
      have hne : t ≠ [] := ne_nil_of_has hk
      have hlen : ∀ k', (t.getCol k').length = n := fun k' => by
        rw [getCol_length k' hr, nrows_of_rect hr hne]
      have hmin : (((k :: ks).map t.getCol).map (·.length)).foldl min (((k :: ks).map t.getCol).headD []).length = n := by
        simp only [List.map_cons, List.headD_cons, hlen]
        apply List.foldl_min_const
        intro l hl
        simp only [List.mem_cons, List.mem_map] at hl
        rcases hl with rfl | ⟨c, ⟨k', _, rfl⟩, rfl⟩
        · rfl
        · exact hlen k'
      rw [hmin, abs_rows hr hne]
      simp only [List.isEmpty_cons, Bool.false_eq_true, if_false, List.map_map, Function.comp_def, lookup_row]
  · rw [if_neg hall, if_neg hall]

theorem abs_gather {t : Table} {idx : List Nat} (h : ∀ i ∈ idx, i < t.nrows) :
    abs (t.gatherRows idx) = (abs t).gather idx := by
  by_cases hne : t = []
  · subst hne
    cases idx with
    | nil => rfl
    | cons i _ => exact absurd (h i List.mem_cons_self) (Nat.not_lt_zero _)
  · rw [abs, cols_gatherRows, rows_gatherRows hne]
    refine congrArg (Recs.mk t.cols) (List.map_congr_left fun j hj => ?_)
    simp [abs, rows, List.getD_eq_getElem?_getD, h j hj]

theorem abs_emptyLike (t : Table) : abs t.emptyLike = ⟨t.cols, []⟩ :=
  abs_gather (idx := []) fun _ h => nomatch h

theorem abs_getSlice {t : Table} {n : Nat} (hr : t.Rect n) (a b s : Option Int) :
    (t.getSlice a b s).map abs = (abs t).getSlice a b s := by
  unfold Recs.getSlice
  rw [abs_cols, cols_isEmpty]
  by_cases hne : t = []
  · subst hne
    simp only [getSlice, List.isEmpty_nil, Bool.not_true, Bool.and_false, Bool.false_eq_true, if_false, if_true]
    rfl
  · rw [isEmpty_false hne]
    by_cases hs : s = some 0
    · subst hs
      simp [getSlice, isEmpty_false hne]
      rfl
    · have hs0 : s.getD 1 ≠ 0 := by
        cases s with
        | none => decide
        | some x => exact fun hx => hs (congrArg some hx)
      rw [getSlice_eq_gather hr a b s hs, beq_false_of_ne hs]
      refine congrArg Except.ok ((abs_gather fun j hj => ?_).trans ?_)
      · rw [nrows_of_rect hr hne]
        exact sliceIdx_lt n a b _ hs0 j hj
      · rw [Recs.slice, abs_rows_length, nrows_of_rect hr hne]
        rfl

theorem abs_getMask {t : Table} (m : List Bool) : (t.getMask m).map abs = (abs t).getMask m := by
  rw [getMask_eq, Recs.getMask_eq, abs_rows_length]
  cases h : maskIdx t.nrows m with
  | error e => rfl
  | ok idx => exact congrArg Except.ok (abs_gather (maskIdx_lt h))

theorem abs_getTake (t : Table) (is : List Int) : (t.getTake is).map abs = (abs t).take is := by
  rw [getTake_eq, Recs.take_eq, abs_rows_length]
  split
  · refine congrArg Except.ok (abs_gather fun j hj => ?_)
    obtain ⟨i, _, hi⟩ := List.mem_filterMap.1 hj
    exact pyIdx_lt hi
  · rfl

theorem row_of_nodup {t : Table} (hn : t.cols.Nodup) (i : Nat) :
    t.row i = t.cols.map fun k => ((t.col? k).getD []).getD i .none := by
  unfold row cols
  rw [List.map_map]
  apply List.map_congr_left
  intro e he
  simp [Function.comp, col?_of_mem_nodup hn he]

/-- a dict built from pairs, read as records: record `i` holds entry `i` of every value, a repeated key its last one -/
theorem abs_ofPairs {kvs : List (String × List Cell)} {n : Nat} (h : ∀ kv ∈ kvs, kv.2.length = n)
    (hne : kvs ≠ []) :
    abs (ofPairs kvs) = ⟨dedupKeys (kvs.map (·.1)), (List.range n).map fun i =>
      (dedupKeys (kvs.map (·.1))).map fun k =>
        Recs.lookupLast (kvs.map (·.1)) (kvs.map fun kv => kv.2.getD i .none) k⟩ := by
  rw [abs_of_rect (ofPairs_rect h) (ofPairs_ne_nil hne), cols_ofPairs]
  congr 1
  apply List.map_congr_left
  intro i _
  rw [row_of_nodup (ofPairs_nodup kvs), cols_ofPairs]
  apply List.map_congr_left
  intro k _
  rw [col?_ofPairs, Recs.lookupLast, List.zip_map', ← List.map_reverse, List.find?_map,
    show ((fun x : String × Cell => x.1 == k) ∘ fun kv : String × List Cell => (kv.1, kv.2.getD i Cell.none)) =
      fun x => x.1 == k from rfl]
  cases kvs.reverse.find? (fun x => x.1 == k) <;> rfl

theorem abs_getProj {t : Table} {n : Nat} (hr : t.Rect n) (ks : List String) :
    (t.getProj ks).map abs = (abs t).getProj ks := by
  rw [getProj_eq, Recs.getProj, abs_cols]
  cases hks : ks.isEmpty with
  | true => exact congrArg Except.ok (abs_emptyLike t)
  | false =>
    simp only [Bool.false_eq_true, if_false]
    by_cases hall : ks.all t.cols.contains = true
    · rw [if_pos hall, if_pos hall]
      apply congrArg Except.ok
      obtain ⟨k0, ks', rfl⟩ := List.exists_cons_of_ne_nil (List.isEmpty_eq_false_iff.1 hks)
      have hne : t ≠ [] := ne_nil_of_has (contains_cols t k0 ▸ List.all_eq_true.1 hall k0 List.mem_cons_self)
      have hlen : ∀ kv ∈ (k0 :: ks').map (fun k => (k, t.getCol k)), kv.2.length = n := by
        intro kv hkv
        obtain ⟨k, _, rfl⟩ := List.mem_map.1 hkv
        rw [getCol_length k hr, nrows_of_rect hr hne]
      rw [abs_ofPairs hlen (by simp), abs_rows hr hne]
      simp only [List.map_map, Function.comp_def, List.map_id', ← lookup_row]
      refine congrArg _ (List.map_congr_left fun i _ => List.map_congr_left fun k hk => ?_)
      exact Recs.lookupLast_map_keys _ _ k (mem_dedupKeys.1 hk)
    · rw [if_neg hall, if_neg hall]
      rfl

theorem abs_relabel_any {t : Table} {n : Nat} (hr : t.Rect n) (r : Relabel) :
    abs (t.relabel r) = (abs t).relabel r.key := by
  by_cases hne : t = []
  · subst hne; rfl
  · have hlen : ∀ kv ∈ t.map (fun c => (r.key c.1, c.2)), kv.2.length = n := by
      intro kv hkv
      obtain ⟨c, hc, rfl⟩ := List.mem_map.1 hkv
      exact hr c hc
    rw [relabel, Recs.relabel, abs_ofPairs hlen (by simpa using hne), abs_rows hr hne, abs_cols,
      show (t.map fun c => (r.key c.1, c.2)).map (·.1) = t.cols.map r.key from cols_map_key t r.key]
    simp only [List.map_map, Function.comp_def]
    rfl

theorem abs_setFn {t : Table} {n : Nat} (hr : t.Rect n) (kf : String × Fn) :
    (t.setFn kf).map abs = (abs t).setFn kf := by
  unfold setFn Recs.setFn
  rw [abs_applyFnK t]
  cases (abs t).applyFnK kf.1 kf.2 with
  | error e => rfl
  | ok vs => exact abs_setitem hr kf.1 (.many vs)

theorem abs_setFns {t : Table} {n : Nat} (hr : t.Rect n) (fns : List (String × Fn)) :
    (t.setFns fns).map abs = (abs t).setFns fns := by
  induction fns generalizing t n with
  | nil => rfl
  | cons kf fns ih =>
    exact map_abs_bind (abs_setFn hr kf) (f := fun t' => t'.setFns fns) (g := fun r => r.setFns fns) fun t' hs => by
      obtain ⟨n', hn'⟩ := setFn_rect hr hs
      exact ih hn'

theorem abs_callLoop {t : Table} {n : Nat} (hr : t.Rect n) (fuel : Nat) (fns : List (String × Fn)) :
    (t.callLoop fuel fns).map abs = (abs t).callLoop fuel fns := by
  induction fuel generalizing t n fns with
  | zero => exact abs_setFns hr fns
  | succ fuel ih =>
    simp only [callLoop, Recs.callLoop]
    split
    · split
      · rfl
      · refine map_abs_bind (abs_setFns hr _) (f := fun t' => t'.callLoop fuel _) (g := fun r => r.callLoop fuel _) fun t' hs => ?_
        obtain ⟨n', hn'⟩ := setFns_rect _ hr hs
        exact ih hn' _
    · exact abs_setFns hr fns

theorem abs_call {t : Table} {n : Nat} (hr : t.Rect n) (consts : List (String × ColVal))
    (fns : List (String × Fn)) : (t.call consts fns).map abs = (abs t).call consts fns :=
  map_abs_bind (abs_updateE hr consts) (f := fun t' => t'.callLoop fns.length fns)
    (g := fun r => r.callLoop fns.length fns) fun t' hu => by
    obtain ⟨n', hn'⟩ := updateE_rect hr hu
    exact abs_callLoop hn' _ _

theorem abs_doKey {t : Table} {n : Nat} (hr : t.Rect n) (f : DoFn) (k : String) :
    (t.doKey f k).map abs = (abs t).doKey f k := by
  unfold doKey Recs.doKey
  rw [mapE_congr (xs := List.range t.nrows) (g := fun i => Recs.doCell f k (t.cellAt i))
    (fun i _ => by unfold Recs.doCell; cases t.cellAt i k <;> rfl)]
  rw [show (abs t).rows = (List.range t.nrows).map t.row from rfl, mapE_map]
  simp only [abs_cols, get?_row]
  cases mapE (fun i => Recs.doCell f k (t.cellAt i)) (List.range t.nrows) with
  | error e => rfl
  | ok vs => exact abs_setitem hr k (.many vs)

theorem abs_doKeys {t : Table} {n : Nat} (hr : t.Rect n) (f : DoFn) (ks : List String) :
    (t.doKeys f ks).map abs = (abs t).doKeys f ks := by
  induction ks generalizing t n with
  | nil => rfl
  | cons k ks ih =>
    exact map_abs_bind (abs_doKey hr f k) (f := fun t' => t'.doKeys f ks) (g := fun r => r.doKeys f ks) fun t' hs => by
      obtain ⟨n', hn'⟩ := doKey_rect hr hs
      exact ih hn'

theorem abs_doCols {t : Table} {n : Nat} (hr : t.Rect n) (f : DoFn) (keys : Option (List String)) :
    (t.doCols f keys).map abs = (abs t).doCols f keys := abs_doKeys hr f _

theorem abs_finish (kw : Table) : kw.finish.map abs = Recs.ofCols kw := by
  rw [finish_eq, Recs.ofCols]
  cases hl : kw.len with
  | error e => rw [show lens _ = kw.len from rfl, hl]; rfl
  | ok n =>
    rw [show lens _ = kw.len from rfl, hl]
    by_cases hne : kw = []
    · subst hne
      cases hl
      rfl
    · apply congrArg Except.ok
      rw [abs_of_rect (rect_map_bcast hl) (by simpa using hne)]
      simp [cols, row, List.map_map, Function.comp_def]

theorem abs_construct (data : Data) (columns : Option (List String)) (kwargs : List (String × ColVal)) :
    (construct data columns kwargs).map (Except.map abs) = Recs.construct data columns kwargs := by
  unfold construct Recs.construct
  cases dataCols data columns with
  | none => rfl
  | some r =>
    cases r with
    | error e => rfl
    | ok dk => exact congrArg some (abs_finish _)

theorem abs_concat (ts : List Table) (hr : ∀ t ∈ ts, ∃ n, t.Rect n) :
    abs (concat ts) = Recs.concat (ts.map abs) := by
  rw [abs, rows_concat ts hr, cols_concat, Recs.concat]
  simp only [List.flatMap_map, abs, rows, List.map_map, Function.comp_def, lookup_row]

end Table
end Pyg
