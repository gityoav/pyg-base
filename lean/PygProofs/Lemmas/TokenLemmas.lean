/-
  The tokenizer of dt_bump (`period` regex applied repeatedly) on well-formed tenor text.
  A token is `[sign] digits unit`; its text is fed to the model's char-level scanner.
  `NonDigitHead` / `spanDigits_prefix` (a run of digits in front of a non-digit) are shared with the C04 scanner lemmas.
-/
import PygModel.Bump

namespace Pyg.Bump
open Pyg Pyg.Gen

inductive Sign where
  | none | plus | minus
  deriving Repr, DecidableEq

/-- one period token as written: optional sign, a non-empty run of ASCII digits, a unit letter -/
structure Tok where
  sign : Sign
  digits : List Char
  unit : Char

def Tok.text (k : Tok) : List Char :=
  (match k.sign with | .none => [] | .plus => ['+'] | .minus => ['-']) ++ k.digits ++ [k.unit]

/-- `int(bmp[:-1])` -/
def Tok.value (k : Tok) : Int :=
  match k.sign with
  | .minus => - (digitsVal k.digits : Int)
  | _ => (digitsVal k.digits : Int)

def Tok.WF (k : Tok) : Prop := k.digits ≠ [] ∧ (∀ c ∈ k.digits, c.isDigit = true) ∧ k.unit ∈ Gen.periodUnits

instance (k : Tok) : Decidable k.WF := by unfold Tok.WF; infer_instance

theorem Tok.text_length_pos (k : Tok) : 0 < k.text.length := by
  simp only [Tok.text, List.length_append, List.length_cons, List.length_nil]; omega

theorem length_le_text : ∀ ks : List Tok, ks.length ≤ (ks.flatMap Tok.text).length
  | [] => Nat.le_refl _
  | k :: ks => by
    have := length_le_text ks
    have := k.text_length_pos
    rw [List.flatMap_cons, List.length_append, List.length_cons]
    omega

/-- `WF` of a token given by its fields.  Written `⟨h1, h2, h3⟩` at a use, the elaborator has to compute the `digits` field of a token
such as `plusTok n u`, which unfolds `Nat.repr` and is slow to check -/
theorem Tok.wf_mk (s : Sign) (ds : List Char) (u : Char) (h1 : ds ≠ []) (h2 : ∀ c ∈ ds, c.isDigit = true)
    (h3 : u ∈ Gen.periodUnits) : (Tok.mk s ds u).WF := ⟨h1, h2, h3⟩

theorem unit_not_digit : ∀ u ∈ Gen.periodUnits, u.isDigit = false := by decide

def NonDigitHead (rest : List Char) : Prop := rest = [] ∨ ∃ u r, rest = u :: r ∧ u.isDigit = false

theorem ndh_cons (u : Char) (r : List Char) (h : u.isDigit = false) : NonDigitHead (u :: r) := Or.inr ⟨u, r, rfl, h⟩

theorem ndh_nil : NonDigitHead [] := Or.inl rfl

theorem spanDigits_eq (cs : List Char) : spanDigits cs = (cs.takeWhile Char.isDigit, cs.dropWhile Char.isDigit) := by
  induction cs with
  | nil => rfl
  | cons c cs ih =>
    unfold spanDigits
    rw [ih, List.takeWhile_cons, List.dropWhile_cons]
    cases c.isDigit <;> rfl

theorem spanDigits_prefix (ds rest : List Char) (hd : ∀ c ∈ ds, c.isDigit = true) (hr : NonDigitHead rest) :
    spanDigits (ds ++ rest) = (ds, rest) := by
  rw [spanDigits_eq, List.takeWhile_append_of_pos hd, List.dropWhile_append_of_pos hd]
  rcases hr with rfl | ⟨u, r, rfl, hu⟩
  · simp
  · simp [hu]

theorem spanDigits_spec (cs : List Char) :
    cs = (spanDigits cs).1 ++ (spanDigits cs).2 ∧ (∀ c ∈ (spanDigits cs).1, c.isDigit = true) ∧ NonDigitHead (spanDigits cs).2 := by
  rw [spanDigits_eq]
  refine ⟨List.takeWhile_append_dropWhile.symm, List.all_eq_true.1 List.all_takeWhile, ?_⟩
  have := List.head?_dropWhile_not Char.isDigit cs
  cases h : cs.dropWhile Char.isDigit with
  | nil => exact ndh_nil
  | cons u r => rw [h] at this; exact ndh_cons u r this

theorem signSplit_digit (c : Char) (r : List Char) (h : c.isDigit = true) : signSplit (c :: r) = (false, c :: r) := by
  have hc : c ≠ '-' ∧ c ≠ '+' := by constructor <;> (intro e; subst e; revert h; decide)
  unfold signSplit
  split
  · rename_i heq; simp only [List.cons.injEq] at heq; exact absurd heq.1 hc.1
  · rename_i heq; simp only [List.cons.injEq] at heq; exact absurd heq.1 hc.2
  · rfl

theorem signSplit_append (cs : List Char) : ∃ s, cs = s ++ (signSplit cs).2 := by
  unfold signSplit
  split
  · exact ⟨['-'], rfl⟩
  · exact ⟨['+'], rfl⟩
  · exact ⟨[], rfl⟩

theorem nextToken_text (k : Tok) (wf : k.WF) (rest : List Char) :
    nextToken (k.text ++ rest) = some (k.value, k.unit, rest) := by
  obtain ⟨hne, hd, hu⟩ := wf
  have hnd := unit_not_digit k.unit hu
  have hspan := spanDigits_prefix k.digits (k.unit :: rest) hd (ndh_cons _ _ hnd)
  obtain ⟨d0, ds, hds⟩ := List.exists_cons_of_ne_nil hne
  have hd0 : d0.isDigit = true := hd d0 (by simp [hds])
  unfold nextToken Tok.text Tok.value
  cases hs : k.sign
  · simp only [List.nil_append, List.append_assoc, List.cons_append]
    rw [hds] at hspan ⊢
    simp only [List.cons_append] at hspan ⊢
    simp only [signSplit_digit d0 _ hd0, hspan, hu, if_true, Bool.false_eq_true, if_false]
  · simp only [List.cons_append, List.nil_append, List.append_assoc, signSplit]
    simp only [hspan, hu, if_true, Bool.false_eq_true, if_false]
  · simp only [List.cons_append, List.nil_append, List.append_assoc, signSplit]
    simp only [hspan, hu, if_true]

theorem nextToken_some (cs : List Char) (n : Int) (c : Char) (rest : List Char)
    (h : nextToken cs = some (n, c, rest)) : c ∈ Gen.periodUnits ∧ ∃ pre, cs = pre ++ c :: rest := by
  obtain ⟨s, hs⟩ := signSplit_append cs
  have ha := (spanDigits_spec (signSplit cs).2).1
  unfold nextToken at h
  simp only [] at h
  split at h
  · cases h
  · cases h
  · rename_i ds u r _ hsp
    split at h
    · rename_i hu
      simp only [Option.some.injEq, Prod.mk.injEq] at h
      obtain ⟨_, rfl, rfl⟩ := h
      rw [hsp] at ha
      exact ⟨hu, s ++ ds, by rw [List.append_assoc, ← ha]; exact hs⟩
    · cases h

/-- a token consumes text, so `cs.length + 1` is enough fuel for `loop` -/
theorem nextToken_shorter (cs : List Char) (n : Int) (c : Char) (rest : List Char)
    (h : nextToken cs = some (n, c, rest)) : rest.length < cs.length := by
  obtain ⟨_, pre, e⟩ := nextToken_some cs n c rest h
  rw [e, List.length_append, List.length_cons]; omega

/-- one token as `Bump.loop` applies it; a letter without a branch leaves `t` unchanged (dead: `Props.C09.no_token_ignored`) -/
def applyTok (t : Int) (k : Tok) : Res Int :=
  match Gen.bumpUnit k.unit k.value with
  | some st => applyStep t st
  | none => .ok t

/-- the parts of a compound tenor, applied left to right -/
def runToks (t : Int) : List Tok → Res Int
  | [] => .ok t
  | k :: ks => (applyTok t k).bind fun t' => runToks t' ks

theorem runToks_single (t : Int) (k : Tok) : runToks t [k] = applyTok t k := by
  unfold runToks runToks; cases applyTok t k <;> rfl

theorem loop_some (f : Nat) (cs : List Char) (t n : Int) (c : Char) (rest : List Char) (h : nextToken cs = some (n, c, rest)) :
    loop (f + 1) cs t = (match Gen.bumpUnit c n with | some st => applyStep t st | none => .ok t).bind (loop f rest) := by
  rw [loop, h]
  simp only []
  cases Gen.bumpUnit c n <;> rfl

theorem loop_none (f : Nat) (cs : List Char) (t : Int) (h : nextToken cs = none) :
    loop (f + 1) cs t = if cs.isEmpty then .ok t else .error .value := by
  rw [loop, h]

theorem loop_fuel (f₁ f₂ : Nat) (cs : List Char) (t : Int) (h₁ : cs.length < f₁) (h₂ : cs.length < f₂) :
    loop f₁ cs t = loop f₂ cs t := by
  induction f₁ generalizing f₂ cs t with
  | zero => omega
  | succ f₁ ih =>
    cases f₂ with
    | zero => omega
    | succ f₂ =>
      cases hn : nextToken cs with
      | none => rw [loop_none _ _ _ hn, loop_none _ _ _ hn]
      | some p =>
        obtain ⟨n, c, rest⟩ := p
        have hs := nextToken_shorter cs n c rest hn
        rw [loop_some _ _ _ _ _ _ hn, loop_some _ _ _ _ _ _ hn]
        congr 1; funext t'
        exact ih f₂ rest t' (by omega) (by omega)

theorem loop_bumpCs (f : Nat) (cs : List Char) (t : Int) (h : cs.length < f) : loop f cs t = bumpCs cs t :=
  loop_fuel f (cs.length + 1) cs t h (Nat.lt_succ_self _)

theorem bumpCs_none (cs : List Char) (t : Int) (h : nextToken cs = none) :
    bumpCs cs t = if cs.isEmpty then .ok t else .error .value := by
  exact loop_none _ cs t h

theorem bumpCs_text (k : Tok) (wf : k.WF) (rest : List Char) (t : Int) :
    bumpCs (k.text ++ rest) t = (applyTok t k).bind (bumpCs rest) := by
  have hlen : rest.length < (k.text ++ rest).length := by
    have := k.text_length_pos
    rw [List.length_append]; omega
  unfold bumpCs applyTok
  rw [loop_some _ _ _ _ _ _ (nextToken_text k wf rest)]
  congr 1; funext t'
  exact loop_bumpCs _ rest t' hlen

end Pyg.Bump
