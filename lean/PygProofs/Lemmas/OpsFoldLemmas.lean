/-
  C08, lists: one operator step read at EVERY label (NaN outside its index) composes, which gives the left folds by value;
  `XVal` is the float division WITH infinities that the masking of `_div_` is measured against.
-/
import PygProofs.Lemmas.OpsLemmas

namespace Pyg.Ops
open Pyg Pyg.Align
open Pyg.Props.C08 (lookO)

/-- a float: a finite number, NaN, +inf, -inf (no rounding, no overflow: finite arithmetic is exact) -/
inductive XVal where
  | fin (q : Rat) | nan | pinf | ninf
  deriving Repr, DecidableEq, Inhabited

/-- numpy's `x / y` on floats: `x / 0` for a finite `x` is `+inf`, `-inf` or (for `0 / 0`) NaN -/
def XVal.div : XVal → XVal → XVal
  | .fin x, .fin y => if y = 0 then (if 0 < x then .pinf else if x < 0 then .ninf else .nan) else .fin (x / y)
  | .fin _, .pinf => .fin 0
  | .fin _, .ninf => .fin 0
  | .fin _, .nan => .nan
  | .nan, _ => .nan
  | .pinf, .fin y => if 0 ≤ y then .pinf else .ninf
  | .pinf, _ => .nan          -- inf / inf, inf / nan
  | .ninf, .fin y => if 0 ≤ y then .ninf else .pinf
  | .ninf, _ => .nan

/-- `x * nan` -/
def XVal.mulNan : XVal → XVal := fun _ => .nan

/-- `denom = b.copy(); denom[denom == 0] = np.nan`, one cell -/
def XVal.maskZero : XVal → XVal
  | .fin y => if y = 0 then .nan else .fin y
  | v => v

/-- the cell of `_div_(a, b)` for a timeseries `b`, lines 1078-1080: `a / denom` -/
def XVal.divMasked (x y : XVal) : XVal := x.div y.maskZero

/-- the cell of `_div_(a, b)` for a number `b`, line 1076 (finding F10): `a * nan if b == 0 else a / b` -/
def XVal.divScalar (x y : XVal) : XVal := if y = .fin 0 then x.mulNan else x.div y

/-- the model's values (exact rationals, `none` = NaN) as floats: never an infinity -/
def XVal.ofO : Option Rat → XVal
  | some q => .fin q
  | Option.none => .nan

def XVal.isInf : XVal → Bool
  | .pinf => true | .ninf => true | _ => false

theorem XVal.isInf_ofO (x : Option Rat) : (XVal.ofO x).isInf = false := by
  cases x <;> rfl

/-- what an operand shows at label `t`: a Series its value there (NaN without a row), a scalar itself -/
def Operand.valAt : Operand → Int → Option Rat
  | .ts s, t => valueAtR s t
  | .num q, _ => q

def Operand.idx? : Operand → Option (List Int)
  | .ts s => some s.idx
  | .num _ => Option.none

/-- the joint index so far: scalars do not count -/
def joinO (how : How) : Option (List Int) → Option (List Int) → Option (List Int)
  | Option.none, j => j
  | some i, Option.none => some i
  | some i, some j => some (join2 how i j)

/-- a Series whose values are its own readings label by label (every result of a kernel is) -/
def Operand.normal : Operand → Prop
  | .ts s => s.vals = s.idx.map (valueAtR s)
  | .num _ => True

theorem appO_sub_add (a y z : Option Rat) : Op.sub.appO a (Op.add.appO y z) = Op.sub.appO (Op.sub.appO a y) z := by
  cases a with
  | none => simp only [appO_none_left]
  | some a =>
  cases y with
  | none => simp only [appO_none_left, appO_none_right]
  | some y =>
  cases z with
  | none => simp only [appO_none_right]
  | some z =>
    show some (a - (y + z)) = some (a - y - z)
    rw [Rat.sub_eq_add_neg, Rat.sub_eq_add_neg, Rat.sub_eq_add_neg, Rat.neg_add, Rat.add_assoc]

theorem appO_div_mul (a y z : Option Rat) : Op.div.appO a (Op.mul.appO y z) = Op.div.appO (Op.div.appO a y) z := by
  cases a with
  | none => simp only [appO_none_left]
  | some a =>
  cases y with
  | none => simp only [appO_none_left, appO_none_right]
  | some y =>
  cases z with
  | none => simp only [appO_none_right]
  | some z =>
    show (if y * z = 0 then Option.none else some (a / (y * z))) = Op.appO .div (if y = 0 then Option.none else some (a / y)) (some z)
    by_cases hy : y = 0
    · rw [if_pos hy, if_pos (Rat.mul_eq_zero.mpr (.inl hy))]
      rfl
    · rw [if_neg hy]
      show _ = if z = 0 then Option.none else some (a / y / z)
      by_cases hz : z = 0
      · rw [if_pos hz, if_pos (Rat.mul_eq_zero.mpr (.inr hz))]
      · rw [if_neg hz, if_neg fun h => (Rat.mul_eq_zero.mp h).elim hy hz, ← Lean.Grind.Field.div_div_left]

/-- why a list on the right of `sub_` / `div_`, reduced with `add_` / `mul_` first (the `if`), gives the left fold of `op` (C08-A3) -/
theorem foldl_pre_right {α : Type} (op : Op) (hop : op = .sub ∨ op = .div) (val : α → Option Rat) (ys : List α) (a y : Option Rat) :
    op.appO a (ys.foldl (fun v s => (if op = .sub then Op.add else Op.mul).appO v (val s)) y) =
      ys.foldl (fun v s => op.appO v (val s)) (op.appO a y) := by
  have step : ∀ a y z, op.appO a ((if op = .sub then Op.add else Op.mul).appO y z) = op.appO (op.appO a y) z := by
    rcases hop with rfl | rfl
    · exact appO_sub_add
    · exact appO_div_mul
  induction ys generalizing a y with
  | nil => rfl
  | cons z zs ih => simp only [List.foldl_cons]; rw [ih, step]

theorem ts_of_normal (r : Operand) (jx : List Int) (hi : r.idx? = some jx) (hn : r.normal) :
    r = .ts { idx := jx, vals := jx.map r.valAt } := by
  cases r with
  | num q => cases hi
  | ts s =>
    cases s with
    | mk si sv =>
      cases hi
      exact congrArg (fun v => Operand.ts { idx := si, vals := v }) hn

theorem normal_built (ix : List Int) (g : Int → Option Rat) : (Operand.ts { idx := ix, vals := ix.map g }).normal :=
  List.map_congr_left fun t ht => (valueAtR_built ix g t ht).symm

/-- one operator step on ANY two operands, read at every label: every shape gives a Series over some index `ix` by a function
of the label that is NaN outside `ix` (an operand without a row there is NaN, NaN absorbs), or a scalar -/
theorem binop_step_mixed (op : Op) (how : How) (a b : Operand) :
    (binop op how Option.none a b).idx? = joinO how a.idx? b.idx? ∧ (binop op how Option.none a b).normal ∧
      ∀ t, (binop op how Option.none a b).valAt t = op.appO (a.valAt t) (b.valAt t) := by
  rw [binop_eq]
  cases a with
  | ts a =>
    cases b with
    | ts b =>
      rw [binopG_ts_ts]
      exact ⟨rfl, normal_built _ _, fun t => valueAtR_map _ _ t (appO_outside op how a b t)⟩
    | num q =>
      rw [binopG_ts_num]
      exact ⟨rfl, normal_built _ _, fun t => valueAtR_map _ _ t fun h => by
        rw [lookR_none, valueAtR_not_mem a t h, appO_none_left]⟩
  | num p =>
    cases b with
    | ts b =>
      rw [binopG_num_ts]
      exact ⟨rfl, normal_built _ _, fun t => valueAtR_map _ _ t fun h => by
        rw [lookR_none, valueAtR_not_mem b t h, appO_none_right]⟩
    | num q =>
      rw [binopG_num_num]
      exact ⟨rfl, trivial, fun _ => rfl⟩

theorem foldl_binop_mixed (op : Op) (how : How) (a : Operand) (xs : List Operand) :
    (xs.foldl (binop op how Option.none) a).idx? = xs.foldl (fun o x => joinO how o x.idx?) a.idx? ∧
      (xs ≠ [] → (xs.foldl (binop op how Option.none) a).normal) ∧
      ∀ t, (xs.foldl (binop op how Option.none) a).valAt t = xs.foldl (fun v s => op.appO v (s.valAt t)) (a.valAt t) := by
  induction xs generalizing a with
  | nil => exact ⟨rfl, fun h => absurd rfl h, fun _ => rfl⟩
  | cons b xs ih =>
    obtain ⟨h1, h2, h3⟩ := binop_step_mixed op how a b
    obtain ⟨g1, g2, g3⟩ := ih (binop op how Option.none a b)
    refine ⟨?_, ?_, ?_⟩
    · simp only [List.foldl_cons, g1, h1]
    · intro _
      cases xs with
      | nil => exact h2
      | cons c cs => exact g2 (by simp)
    · intro t
      simp only [List.foldl_cons, g3 t, h3 t]

theorem foldl_joinO_some (how : How) (i : List Int) (L : List (List Int)) :
    L.foldl (fun o j => joinO how o (some j)) (some i) = some (L.foldl (join2 how) i) := by
  induction L generalizing i with
  | nil => rfl
  | cons j L ih => rw [List.foldl_cons, List.foldl_cons]; exact ih _

theorem foldl_joinO_indexes (how : How) (o : Option (List Int)) (xs : List Operand) :
    xs.foldl (fun o x => joinO how o x.idx?) o = (indexesOf xs).foldl (fun o j => joinO how o (some j)) o := by
  induction xs generalizing o with
  | nil => rfl
  | cons x xs ih =>
    cases x with
    | ts s => exact ih _
    | num q =>
      rw [List.foldl_cons, indexesOf_num, show joinO how o (Operand.num q).idx? = o by cases o <;> rfl]
      exact ih _

theorem joinO_all (how : How) (xs : List Operand) :
    xs.foldl (fun o x => joinO how o x.idx?) Option.none = joinIndex how (indexesOf xs) := by
  rw [foldl_joinO_indexes]
  cases h : indexesOf xs with
  | nil => rfl
  | cons i L => rw [joinIndex_fold, List.foldl_cons]; exact foldl_joinO_some how i L

theorem foldl_binop (op : Op) (how : How) (a : RSeries) (xs : List RSeries) :
    ∃ r, (xs.map Operand.ts).foldl (binop op how Option.none) (.ts a) = .ts r ∧
      r.idx = (xs.map (·.idx)).foldl (join2 how) a.idx ∧
      ∀ t, valueAtR r t = xs.foldl (fun v s => op.appO v (valueAtR s t)) (valueAtR a t) := by
  obtain ⟨h1, _, h3⟩ := foldl_binop_mixed op how (.ts a) (xs.map .ts)
  have hi : (xs.map Operand.ts).foldl (fun o x => joinO how o x.idx?) (some a.idx) =
      some ((xs.map (·.idx)).foldl (join2 how) a.idx) := by
    rw [← foldl_joinO_some, List.foldl_map, List.foldl_map]
    rfl
  cases hr : (xs.map Operand.ts).foldl (binop op how Option.none) (.ts a) with
  | num q =>
    rw [hr] at h1
    cases h1.trans hi
  | ts r =>
    rw [hr] at h1 h3
    exact ⟨r, rfl, Option.some.inj (h1.trans hi), fun t => (h3 t).trans List.foldl_map⟩

theorem rat_add_right_comm (v a b : Rat) : v + a + b = v + b + a := by
  rw [Rat.add_assoc, Rat.add_comm a b, ← Rat.add_assoc]
theorem rat_mul_right_comm (v a b : Rat) : v * a * b = v * b * a := by
  rw [Rat.mul_assoc, Rat.mul_comm a b, ← Rat.mul_assoc]

theorem appO_right_comm (op : Op) (hop : op = .add ∨ op = .mul) (v a b : Option Rat) :
    op.appO (op.appO v a) b = op.appO (op.appO v b) a := by
  rcases hop with rfl | rfl <;> cases v <;> cases a <;> cases b <;>
    simp [Op.appO, Op.app, rat_add_right_comm, rat_mul_right_comm]

end Pyg.Ops
