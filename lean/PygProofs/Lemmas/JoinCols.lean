/-
  Key columns given by NAME: what the statements of C02 / C11 / C20 that speak of cells and column names rest on;
  result tables as `Table`s (`VTable.cells`); the two tests behind every `mode` spelling (`Mode.ofPy_val`).
-/
import PygModel.Join
import PygProofs.Lemmas.JoinLemmas
import PygProofs.Lemmas.KeyEq
import PygProofs.Lemmas.TableRows

namespace Pyg

theorem col?_none_of_not_mem {t : Table} {c : String} (h : c ∉ t.cols) : t.col? c = none :=
  Option.eq_none_iff_forall_ne_some.2 fun _ hx => h (Table.mem_cols_of_col? hx)

theorem jcellAt_of_col? {t : Table} {k : String} {xs : List Cell} (h : t.col? k = some xs) (i : Nat) :
    t.jcellAt k i = xs.getD i .none := by
  rw [Table.jcellAt, h]
  rfl

theorem jcellAt_congr {t t' : Table} {k k' : String} (h : t.col? k = t'.col? k') (i : Nat) :
    t.jcellAt k i = t'.jcellAt k' i := by
  rw [Table.jcellAt, Table.jcellAt, h]

theorem jcellAt_of_col?_none {t : Table} {k : String} (h : t.col? k = none) (i : Nat) :
    t.jcellAt k i = .none := by
  rw [Table.jcellAt, h]
  rfl

theorem jcellAt_not_mem {t : Table} {c : String} (h : c ∉ t.cols) (i : Nat) :
    t.jcellAt c i = .none :=
  jcellAt_of_col?_none (col?_none_of_not_mem h) i

/-- the key cells of row `i` read from the named columns -/
def Table.keyCells (t : Table) (names : List String) (i : Nat) : List Cell :=
  names.map fun k => t.jcellAt k i

/-- the per-row keys `dictable[names]` builds from named columns: one tuple of cells per row -/
def Table.rowKeys (t : Table) (names : List String) : List Val :=
  (List.range t.nrows).map fun i => .tuple ((t.keyCells names i).map .cell)

theorem mapM_keyCol_named {t : Table} (names : List String) (h : ∀ k ∈ names, k ∈ t.cols) :
    (names.map KeySpec.col).mapM t.keyCol = .ok (names.map fun k => ((t.col? k).getD []).map .cell) := by
  rw [List.mapM_map]
  refine List.mapM_ok_of_forall fun k hk => ?_
  obtain ⟨xs, hxs⟩ := Table.col?_of_mem (h k hk)
  show t.keyCol (.col k) = _
  rw [Table.keyCol, hxs]
  rfl

theorem keysOf_named {t : Table} {names : List String} (h : ∀ k ∈ names, k ∈ t.cols) :
    t.keysOf (names.map .col) = .ok (t.rowKeys names) := by
  simp only [keysOf_of_mapM (mapM_keyCol_named names h), Table.rowKeys, zipCols, Table.keyCells, List.map_map,
    Function.comp_def, getD_map_cell, Table.jcellAt]

theorem joinColNames_named : ∀ (ln rn : List String), ln.length = rn.length →
    joinColNames (ln.map .col) (rn.map .col) = .ok ln
  | [], [], _ => rfl
  | [], _ :: _, h | _ :: _, [], h => by simp at h
  | l :: ls, r :: rs, h => by
    simp only [List.map_cons, joinColNames, joinColNames_named ls rs (by simpa using h), bind,
      Except.bind, pure, Except.pure]

theorem joinColNames_fn_fn (f g : RowDict → Res Val) : ∀ (ln rn : List String), ln.length = rn.length →
    joinColNames (ln.map .col ++ [.fn f]) (rn.map .col ++ [.fn g]) = .error .value
  | [], [], _ => rfl
  | [], _ :: _, h | _ :: _, [], h => by simp at h
  | l :: ls, r :: rs, h => by
    simp only [List.map_cons, List.cons_append, joinColNames,
      joinColNames_fn_fn f g ls rs (by simpa using h), bind, Except.bind]

theorem mapM_keyCol_missing {t : Table} {k : String} (hk : k ∉ t.cols) (names : List String) (h : k ∈ names) :
    (names.map KeySpec.col).mapM t.keyCol = .error .key := by
  rw [List.mapM_map]
  refine List.mapM_eq_error_of_mem ⟨k, h, .key, ?_⟩ fun a _ e' he => ?_
  · show t.keyCol (.col k) = _
    rw [Table.keyCol, col?_none_of_not_mem hk]
  · cases hc : t.col? a <;> simp only [Function.comp, Table.keyCol, hc] at he <;> cases he
    rfl

theorem keysOf_cols_ok_iff {t : Table} {names : List String} {keys : List Val} :
    t.keysOf (names.map .col) = .ok keys ↔ (∀ k ∈ names, k ∈ t.cols) ∧ keys = t.rowKeys names := by
  constructor
  · intro h
    have hall : ∀ k ∈ names, k ∈ t.cols := fun k hk => Classical.byContradiction fun hn => by
      rw [keysOf_error (mapM_keyCol_missing hn names hk)] at h
      cases h
    exact ⟨hall, Except.ok.inj (h.symm.trans (keysOf_named hall))⟩
  · rintro ⟨h, rfl⟩
    exact keysOf_named h

theorem rowKeys_length (t : Table) (on : List String) : (t.rowKeys on).length = t.nrows := by
  simp [Table.rowKeys]

theorem keyAt_rowKeys {t : Table} {names : List String} {i : Nat} (h : i < t.nrows) :
    keyAt (t.rowKeys names) i = .tuple ((t.keyCells names i).map .cell) := by
  rw [Table.rowKeys, keyAt_map _ _ (by rwa [List.length_range]), List.getElem_range]

theorem cmp_rowKeys_eq {x y : Table} {ln rn : List String} {i j : Nat} (hi : i < x.nrows)
    (hj : j < y.nrows) :
    (cmp (keyAt (x.rowKeys ln) i) (keyAt (y.rowKeys rn) j) == .eq) =
      keysEqB (x.keyCells ln i) (y.keyCells rn j) := by
  rw [keyAt_rowKeys hi, keyAt_rowKeys hj, Bool.eq_iff_iff, beq_iff_eq, cmp_tuple_eq_iffB]

theorem filter_all_congr {n m : Nat} {f g : Nat → Nat → Bool} (h : ∀ i < n, ∀ j < m, f i j = g i j) :
    ((List.range n).filter fun i => (List.range m).all (f i)) =
      (List.range n).filter fun i => (List.range m).all (g i) := by
  refine List.filter_congr fun i hi => ?_
  rw [Bool.eq_iff_iff, List.all_eq_true, List.all_eq_true]
  exact forall₂_congr fun j hj => by rw [h i (List.mem_range.1 hi) j (List.mem_range.1 hj)]

/-- look a column of a result table up by name (the first one, as `dict` access) -/
def vcol? (t : VTable) (k : String) : Option (List Val) := (t.find? (·.1 == k)).map (·.2)

theorem find?_keycols_none {β} (g : String × Nat → β) (k : String) (cols : List String) (n : Nat)
    (h : k ∉ cols) : ((cols.zipIdx n).map fun p => (p.1, g p)).find? (·.1 == k) = none :=
  List.find?_key_eq_none.2 (by rwa [Pyg.zipIdx_map_fst])

theorem joinTableOf_rect (x y : Table) (cols : List String) (mode : Mode) (kp : List (Val × Nat × Nat)) :
    ∀ c ∈ joinTableOf x y cols mode kp, c.2.length = kp.length := by
  intro c hc
  simp only [joinTableOf, List.mem_append, List.mem_map] at hc
  rcases hc with ((⟨a, _, rfl⟩ | ⟨a, _, rfl⟩) | ⟨a, _, rfl⟩) | ⟨a, _, rfl⟩ <;> simp

theorem joinTableOf_col_key (x y : Table) {cols : List String} (mode : Mode) (kp : List (Val × Nat × Nat))
    (hnd : cols.Nodup) {j : Nat} (hj : j < cols.length) :
    vcol? (joinTableOf x y cols mode kp) cols[j] = some (kp.map fun p => tupleGet j p.1) := by
  have hm : (cols[j], kp.map fun p => tupleGet j p.1) ∈
      (cols.zipIdx.map fun (c, n) => (c, kp.map fun p => tupleGet n p.1)) := by
    refine List.mem_map.2 ⟨(cols[j], j), ?_, rfl⟩
    simp [List.mem_zipIdx_iff_getElem?, hj]
  have := List.find?_key_of_nodup (by simpa [List.map_map, Function.comp_def] using hnd) hm
  simp only [vcol?, joinTableOf, List.find?_append, this, Option.some_or, Option.map_some]

theorem vcol_of_not_key (x y : Table) (cols : List String) (mode : Mode) (kp : List (Val × Nat × Nat)) {k : String}
    (hc : k ∉ cols) :
    vcol? (joinTableOf x y cols mode kp) k =
      if k ∈ x.cols then
        if k ∈ y.cols then some (kp.map fun p => mode.apply (x.jcellAt k p.2.1) (y.jcellAt k p.2.2))
        else some (kp.map fun p => .cell (x.jcellAt k p.2.1))
      else if k ∈ y.cols then some (kp.map fun p => .cell (y.jcellAt k p.2.2)) else none := by
  simp only [vcol?, joinTableOf, List.find?_append, find?_keycols_none _ k cols 0 hc, List.find?_key_map,
    mem_lminus_iff, mem_linter_iff, hc, not_false_eq_true, and_true, Option.none_or]
  by_cases hx : k ∈ x.cols <;> by_cases hy : k ∈ y.cols <;> simp [hx, hy]

def cellD : Val → Cell
  | .cell c => c
  | _ => .none

/-- a result table of `join` all of whose cells are cells, as a `Table` -/
def VTable.cells (v : VTable) : Table := v.map fun c => (c.1, c.2.map cellD)

theorem cells_col? (v : VTable) (k : String) : v.cells.col? k = (vcol? v k).map (·.map cellD) := by
  simp [Table.col?, vcol?, VTable.cells, List.find?_map, Function.comp_def]

theorem cells_jcellAt {v : VTable} {k : String} {col : List Val} (h : vcol? v k = some col) (p : Nat)
    (hp : p < col.length) : v.cells.jcellAt k p = cellD col[p] := by
  rw [jcellAt_of_col? (xs := col.map cellD) (by rw [cells_col?, h]; rfl), List.getD_eq_getElem?_getD,
    List.getElem?_map, List.getElem?_eq_getElem hp]
  rfl

theorem jcellAt_cells_joinTableOf_key (x y : Table) {cols : List String} (mode : Mode)
    (kp : List (Val × Nat × Nat)) (hnd : cols.Nodup) {j : Nat} (hj : j < cols.length) {p : Nat}
    (hp : p < kp.length) :
    (joinTableOf x y cols mode kp).cells.jcellAt cols[j] p = cellD (tupleGet j kp[p].1) := by
  rw [cells_jcellAt (joinTableOf_col_key x y mode kp hnd hj) p (by rwa [List.length_map]),
    List.getElem_map]

theorem jcellAt_cells_joinTableOf_left (x y : Table) (cols : List String) (mode : Mode)
    (kp : List (Val × Nat × Nat)) {k : String} (hx : k ∈ x.cols) (hy : k ∉ y.cols) (hc : k ∉ cols)
    {p : Nat} (hp : p < kp.length) :
    (joinTableOf x y cols mode kp).cells.jcellAt k p = x.jcellAt k kp[p].2.1 := by
  have hcol := vcol_of_not_key x y cols mode kp hc
  rw [if_pos hx, if_neg hy] at hcol
  rw [cells_jcellAt hcol p (by rwa [List.length_map]), List.getElem_map]
  rfl

theorem jcellAt_cells_joinTableOf_right (x y : Table) (cols : List String) (mode : Mode)
    (kp : List (Val × Nat × Nat)) {k : String} (hx : k ∉ x.cols) (hy : k ∈ y.cols) (hc : k ∉ cols)
    {p : Nat} (hp : p < kp.length) :
    (joinTableOf x y cols mode kp).cells.jcellAt k p = y.jcellAt k kp[p].2.2 := by
  have hcol := vcol_of_not_key x y cols mode kp hc
  rw [if_neg hx, if_pos hy] at hcol
  rw [cells_jcellAt hcol p (by rwa [List.length_map]), List.getElem_map]
  rfl

theorem modeStarts_eq_none {ch : Char} {c : Cell} : modeStarts ch c = none ↔ c = .str "" := by
  cases c with
  | str s => cases h : s.toList <;> simp [modeStarts, h, String.ext_iff]
  | _ => simp [modeStarts]

theorem Mode.ofPy_fn (f : Cell → Cell → Val) : Mode.ofPy (.fn f) = some (.fn f) := rfl

theorem Mode.xorOfPy_fn (f : Cell → Cell → Val) : Mode.xorOfPy (.fn f) = some 0 := rfl

/-- `join` and `xor` read a scalar `mode` (the empty string apart, on which `mode[0]` raises) through the same two tests -/
theorem Mode.ofPy_val {c : Cell} (hc : c ≠ .str "") :
    ∃ l r : Bool, (l = true ↔ modeStarts 'l' c = some true ∨ c.pyEq (.int 0) = true) ∧
      (r = true ↔ modeStarts 'r' c = some true ∨ c.pyEq (.int 1) = true) ∧
      Mode.ofPy (.val c) = some (if l then .left else if r then .right else .pair) ∧
      Mode.xorOfPy (.val c) = some (if r then 1 else 0) := by
  cases hl : modeStarts 'l' c with
  | none => exact absurd (modeStarts_eq_none.1 hl) hc
  | some l =>
    cases hr : modeStarts 'r' c with
    | none => exact absurd (modeStarts_eq_none.1 hr) hc
    | some r =>
      refine ⟨l || c.pyEq (.int 0), r || c.pyEq (.int 1), by simp, by simp, ?_, ?_⟩
      · simp only [Mode.ofPy, hl, hr, Option.bind_eq_bind, Option.bind_some]
        cases l || c.pyEq (.int 0) <;> cases r || c.pyEq (.int 1) <;> rfl
      · simp only [Mode.xorOfPy, hr, Option.bind_eq_bind, Option.bind_some]

end Pyg
