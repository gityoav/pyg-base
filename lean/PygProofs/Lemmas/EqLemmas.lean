import PygModel.Eq
import PygProofs.Lemmas.PyEqLemmas

/-!
  The scalar comparison of `eq` is equality of a key (`ckey`), and `eqN` is equality of the form of a value in which every scalar
  and axis label is replaced by its key (`EVal.canon`): hence an equivalence.
-/
namespace Pyg
open EqM

namespace EqM

theorem cellEq_iff (a b : Cell) : cellEq a b = true ↔ ckey a = ckey b := by
  unfold cellEq
  split
  · next h => rw [h, decide_eq_true_iff, ← ckey_nan b]; exact eq_comm
  · next h => rw [pyEq_iff]; exact and_iff_left h

theorem cellEq_eq_pyEq (a b : Cell) (ha : a ≠ .nan) : cellEq a b = Cell.pyEq a b := by
  rw [Bool.eq_iff_iff, cellEq_iff, pyEq_iff]; simp [ha]

theorem all2_iff_get {α β} (f : α → β → Bool) : ∀ (xs : List α) (ys : List β),
    all2 f xs ys = true ↔ xs.length = ys.length ∧ ∀ k (h1 : k < xs.length) (h2 : k < ys.length), f xs[k] ys[k] = true
  | [], [] | [], _ :: _ | _ :: _, [] => by simp [all2]
  | x :: xs, y :: ys => by
    simp only [all2, Bool.and_eq_true, all2_iff_get f xs ys, List.length_cons, Nat.add_right_cancel_iff]
    constructor
    · rintro ⟨h0, hl, hk⟩
      refine ⟨hl, fun k h1 h2 => ?_⟩
      cases k with
      | zero => simpa using h0
      | succ k => simpa using hk k (by omega) (by omega)
    · rintro ⟨hl, hk⟩
      refine ⟨by simpa using hk 0 (by omega) (by omega), hl, fun k h1 h2 => ?_⟩
      have := hk (k + 1) (by omega) (by omega)
      simpa only [List.getElem_cons_succ] using this

theorem all2_length {α β} (f : α → β → Bool) (xs : List α) (ys : List β) (h : all2 f xs ys = true) : xs.length = ys.length :=
  ((all2_iff_get f xs ys).1 h).1

theorem all2_mono {α β} (f g : α → β → Bool) :
    ∀ xs ys, (∀ x ∈ xs, ∀ y ∈ ys, f x y = g x y) → all2 f xs ys = all2 g xs ys
  | [], [], _ | [], _ :: _, _ | _ :: _, [], _ => rfl
  | x :: xs, y :: ys, h => by
      rw [all2, all2, h x (.head _) y (.head _), all2_mono f g xs ys fun a ha b hb => h a (.tail _ ha) b (.tail _ hb)]

theorem all2_map {α β γ δ} (f : γ → δ → Bool) (g : α → γ) (h : β → δ) :
    ∀ xs ys, all2 f (xs.map g) (ys.map h) = all2 (fun x y => f (g x) (h y)) xs ys
  | [], [] | [], _ :: _ | _ :: _, [] => rfl
  | x :: xs, y :: ys => congrArg (f (g x) (h y) && ·) (all2_map f g h xs ys)

theorem all2_iff_map_eq {α β} (f : α → α → Bool) (g : α → β) : ∀ xs ys : List α,
    (∀ x ∈ xs, ∀ y ∈ ys, (f x y = true ↔ g x = g y)) → (all2 f xs ys = true ↔ xs.map g = ys.map g)
  | [], [], _ => ⟨fun _ => rfl, fun _ => rfl⟩
  | [], _ :: _, _ | _ :: _, [], _ => ⟨nofun, nofun⟩
  | x :: xs, y :: ys, h => by
      simp only [all2, Bool.and_eq_true, List.map_cons, List.cons.injEq, h x (.head _) y (.head _),
        all2_iff_map_eq f g xs ys fun a ha b hb => h a (.tail _ ha) b (.tail _ hb)]

theorem all2_eq_zip {α β} (f : α → β → Bool) : ∀ (xs : List α) (ys : List β),
    all2 f xs ys = (xs.length == ys.length && (List.zipWith f xs ys).all id)
  | [], [] | [], _ :: _ | _ :: _, [] => rfl
  | x :: xs, y :: ys => by
      rw [all2, all2_eq_zip f xs ys, Bool.and_left_comm]
      simp

theorem idxEq_iff_map (i j : List Cell) : idxEq i j = true ↔ i.map ckey = j.map ckey :=
  all2_iff_map_eq cellEq ckey i j fun x _ y _ => cellEq_iff x y

theorem insertK_perm {α} (kv : String × α) : ∀ l, (insertK kv l).Perm (kv :: l)
  | [] => List.Perm.refl _
  | h :: t => by
      simp only [insertK]
      split
      · exact List.Perm.refl _
      · exact ((insertK_perm kv t).cons h).trans (List.Perm.swap kv h t)

theorem sortK_perm {α} : ∀ l : List (String × α), (sortK l).Perm l
  | [] => List.Perm.refl _
  | h :: t => (insertK_perm h (sortK t)).trans ((sortK_perm t).cons h)

theorem mem_sortK {α} (x : String × α) : ∀ l, x ∈ sortK l ↔ x ∈ l :=
  fun l => (sortK_perm l).mem_iff

theorem length_sortK {α} (l : List (String × α)) : (sortK l).length = l.length :=
  (sortK_perm l).length_eq

theorem insertK_map {α β} (g : α → β) (kv : String × α) : ∀ l : List (String × α),
    insertK (kv.1, g kv.2) (l.map fun p => (p.1, g p.2)) = (insertK kv l).map fun p => (p.1, g p.2)
  | [] => rfl
  | h :: t => by
      simp only [insertK, List.map_cons]
      split
      · rfl
      · exact congrArg (_ :: ·) (insertK_map g kv t)

theorem sortK_map {α β} (g : α → β) : ∀ l : List (String × α),
    sortK (l.map fun p => (p.1, g p.2)) = (sortK l).map fun p => (p.1, g p.2)
  | [] => rfl
  | h :: t => by rw [List.map_cons, sortK, sortK_map g t, insertK_map, sortK]

end EqM

theorem eqKeys_eq_all2 : ∀ xs ys,
    eqKeys xs ys = all2 (fun (a b : String) => a == b) (xs.map (·.1)) (ys.map (·.1))
  | [], [] | [], _ :: _ | _ :: _, [] => rfl
  | x :: xs, y :: ys => congrArg (x.1 == y.1 && ·) (eqKeys_eq_all2 xs ys)

theorem eqKeys_eq_beq (xs ys : List (String × EVal)) : eqKeys xs ys = (xs.map (·.1) == ys.map (·.1)) := by
  have := all2_iff_map_eq (fun a b : String => a == b) id (xs.map (·.1)) (ys.map (·.1)) fun _ _ _ _ => beq_iff_eq
  rw [← eqKeys_eq_all2, List.map_id, List.map_id] at this
  exact Bool.eq_iff_iff.2 (this.trans beq_iff_eq.symm)

theorem eqKeys_length {a b : List (String × EVal)} (h : eqKeys a b = true) : a.length = b.length := by
  have := congrArg List.length (beq_iff_eq.1 ((eqKeys_eq_beq a b).symm.trans h))
  rwa [List.length_map, List.length_map] at this

theorem eqArr_eq_all2 : ∀ xs ys, eqArr xs ys = all2 eqN xs ys
  | [], [] | [], _ :: _ | _ :: _, [] => rfl
  | x :: xs, y :: ys => congrArg (eqN x y && ·) (eqArr_eq_all2 xs ys)

theorem eqVals_eq_eqArr : ∀ a b, eqVals a b = eqArr (a.map (·.2)) (b.map (·.2))
  | [], [] | [], _ :: _ | _ :: _, [] => rfl
  | x :: a, y :: b => congrArg (eqN x.2 y.2 && ·) (eqVals_eq_eqArr a b)

def itemRel (f : EVal → EVal → Bool) (x y : String × EVal) : Bool := x.1 == y.1 && f x.2 y.2

theorem eqKeys_eqVals_eq_all2 : ∀ X Y : List (String × EVal),
    (eqKeys X Y && eqVals X Y) = all2 (itemRel eqN) X Y
  | [], [] | [], _ :: _ | _ :: _, [] => rfl
  | x :: X, y :: Y => by
      simp only [eqKeys, eqVals, all2, itemRel, ← eqKeys_eqVals_eq_all2 X Y]
      cases x.1 == y.1 <;> cases eqN x.2 y.2 <;> cases eqKeys X Y <;> simp

theorem EVal.normList_eq_map : ∀ xs : List EVal, EVal.normList xs = xs.map EVal.norm
  | [] => rfl
  | _ :: xs => congrArg (_ :: ·) (EVal.normList_eq_map xs)

theorem EVal.normKVs_eq_map : ∀ l : List (String × EVal), EVal.normKVs l = l.map fun p => (p.1, p.2.norm)
  | [] => rfl
  | (_, _) :: l => congrArg (_ :: ·) (EVal.normKVs_eq_map l)

/-- Induction on two values at once.  Where the constructors agree the hypothesis is available for every pair of
components (so that dict items may be paired by key as well as by position; the components of a dict are its values
`kvs.map (·.2)`); all pairs of unlike constructors form the single case `other`. -/
@[elab_as_elim]
theorem EVal.pairInduct {motive : EVal → EVal → Prop}
    (cell : ∀ x y, motive (.cell x) (.cell y))
    (date : ∀ x y, motive (.date x) (.date y))
    (tdelta : ∀ x y, motive (.tdelta x) (.tdelta y))
    (cdelta : ∀ x y, motive (.cdelta x) (.cdelta y))
    (fdt : ∀ x y, motive (.fdt x) (.fdt y))
    (ftd : ∀ x y, motive (.ftd x) (.ftd y))
    (nat : motive .nat .nat)
    (list : ∀ xs ys, (∀ x ∈ xs, ∀ y ∈ ys, motive x y) → motive (.list xs) (.list ys))
    (tuple : ∀ xs ys, (∀ x ∈ xs, ∀ y ∈ ys, motive x y) → motive (.tuple xs) (.tuple ys))
    (sub : ∀ c d xs ys, (∀ x ∈ xs, ∀ y ∈ ys, motive x y) → motive (.sub c xs) (.sub d ys))
    (index : ∀ i j, motive (.index i) (.index j))
    (dict : ∀ c d a b, (∀ x ∈ a.map (·.2), ∀ y ∈ b.map (·.2), motive x y) → motive (.dict c a) (.dict d b))
    (arr : ∀ s t xs ys, (∀ x ∈ xs, ∀ y ∈ ys, motive x y) → motive (.arr s xs) (.arr t ys))
    (series : ∀ i j xs ys, (∀ x ∈ xs, ∀ y ∈ ys, motive x y) → motive (.series i xs) (.series j ys))
    (frame : ∀ i j c d xs ys, (∀ x ∈ xs, ∀ y ∈ ys, motive x y) → motive (.frame i c xs) (.frame j d ys))
    (other : ∀ a b, a.ctorIdx ≠ b.ctorIdx → motive a b) (a b : EVal) : motive a b := by
  induction a using EVal.rec (motive_2 := fun xs => ∀ x ∈ xs, ∀ y, motive x y)
      (motive_3 := fun kvs => ∀ x ∈ kvs, ∀ y, motive x.2 y) (motive_4 := fun p => ∀ y, motive p.2 y) generalizing b
  case nil => exact nomatch ‹_ ∈ []›
  case cons x xs ihx ihxs _ hz _ => exact (List.mem_cons.1 hz).elim (fun e => e ▸ ihx _) (fun h => ihxs _ h _)
  case nil => exact nomatch ‹_ ∈ []›
  case cons x xs ihx ihxs _ hz _ => exact (List.mem_cons.1 hz).elim (fun e => e ▸ ihx _) (fun h => ihxs _ h _)
  case mk ih _ => exact ih _
  all_goals cases b
  case cell.cell x y => exact cell x y
  case date.date x y => exact date x y
  case tdelta.tdelta x y => exact tdelta x y
  case cdelta.cdelta x y => exact cdelta x y
  case fdt.fdt x y => exact fdt x y
  case ftd.ftd x y => exact ftd x y
  case nat.nat => exact nat
  case list.list xs ih ys => exact list xs ys fun x hx y _ => ih x hx y
  case tuple.tuple xs ih ys => exact tuple xs ys fun x hx y _ => ih x hx y
  case sub.sub c xs ih d ys => exact sub c d xs ys fun x hx y _ => ih x hx y
  case index.index i j => exact index i j
  case dict.dict c kvs ih d kvs' =>
    refine dict c d kvs kvs' fun v hv w _ => ?_
    obtain ⟨x, hx, rfl⟩ := List.mem_map.1 hv
    exact ih x hx w
  case arr.arr s xs ih t ys => exact arr s t xs ys fun x hx y _ => ih x hx y
  case series.series i xs ih j ys => exact series i j xs ys fun x hx y _ => ih x hx y
  case frame.frame i c xs ih j d ys => exact frame i j c d xs ys fun x hx y _ => ih x hx y
  all_goals exact other _ _ (Nat.ne_of_beq_eq_false rfl)

theorem ctorIdx_norm (a : EVal) : a.norm.ctorIdx = a.ctorIdx := by
  cases a <;> rfl

theorem eqN_ctorIdx {a b : EVal} : eqN a b = true → a.ctorIdx = b.ctorIdx := by
  fun_cases eqN a b
  -- the last equation of `eqN` (`| _, _ => false`) is the only one whose constructors may differ
  case case16 => exact nofun
  all_goals exact fun _ => rfl

theorem eq_ctorIdx {a b : EVal} (h : eq a b = true) : a.ctorIdx = b.ctorIdx := by
  rw [← ctorIdx_norm a, ← ctorIdx_norm b]; exact eqN_ctorIdx h

mutual
  /-- every scalar and every axis label replaced by its `ckey` -/
  def EVal.canon : EVal → EVal
    | .cell c => .cell (ckey c)
    | .index i => .index (i.map ckey)
    | .list xs => .list (EVal.canonList xs)
    | .tuple xs => .tuple (EVal.canonList xs)
    | .sub c xs => .sub c (EVal.canonList xs)
    | .dict c kvs => .dict c (EVal.canonKVs kvs)
    | .arr s xs => .arr s (EVal.canonList xs)
    | .series i xs => .series (i.map ckey) (EVal.canonList xs)
    | .frame i c xs => .frame (i.map ckey) (c.map ckey) (EVal.canonList xs)
    | a => a
  def EVal.canonList : List EVal → List EVal
    | [] => []
    | x :: xs => x.canon :: EVal.canonList xs
  def EVal.canonKVs : List (String × EVal) → List (String × EVal)
    | [] => []
    | x :: xs => (x.1, x.2.canon) :: EVal.canonKVs xs
end

theorem ctorIdx_canon (a : EVal) : a.canon.ctorIdx = a.ctorIdx := by
  cases a <;> rfl

theorem EVal.canonList_eq_map : ∀ xs, EVal.canonList xs = xs.map EVal.canon
  | [] => rfl
  | _ :: xs => congrArg (_ :: ·) (EVal.canonList_eq_map xs)

theorem EVal.canonKVs_eq_map : ∀ l, EVal.canonKVs l = l.map fun p => (p.1, p.2.canon)
  | [] => rfl
  | _ :: l => congrArg (_ :: ·) (EVal.canonKVs_eq_map l)

theorem eqArr_iff_canonList (xs ys : List EVal) (ih : ∀ x ∈ xs, ∀ y ∈ ys, (eqN x y = true ↔ x.canon = y.canon)) :
    eqArr xs ys = true ↔ EVal.canonList xs = EVal.canonList ys := by
  rw [eqArr_eq_all2, EVal.canonList_eq_map, EVal.canonList_eq_map]
  exact all2_iff_map_eq eqN EVal.canon xs ys ih

theorem eqKeys_eqVals_iff_canonKVs (a b : List (String × EVal))
    (ih : ∀ x ∈ a.map (·.2), ∀ y ∈ b.map (·.2), (eqN x y = true ↔ x.canon = y.canon)) :
    (eqKeys a b && eqVals a b) = true ↔ EVal.canonKVs a = EVal.canonKVs b := by
  rw [eqKeys_eqVals_eq_all2, EVal.canonKVs_eq_map, EVal.canonKVs_eq_map]
  exact all2_iff_map_eq _ _ a b fun x hx y hy => by
    simp only [itemRel, Bool.and_eq_true, beq_iff_eq, Prod.mk.injEq,
      ih x.2 (List.mem_map_of_mem hx) y.2 (List.mem_map_of_mem hy)]

theorem eqN_iff_canon (a b : EVal) : eqN a b = true ↔ a.canon = b.canon := by
  induction a, b using EVal.pairInduct with
  | cell x y => simp only [eqN, EVal.canon, EVal.cell.injEq, cellEq_iff]
  | date x y => simp only [eqN, EVal.canon, EVal.date.injEq, beq_iff_eq]
  | tdelta x y => simp only [eqN, EVal.canon, EVal.tdelta.injEq, beq_iff_eq]
  | cdelta x y => simp only [eqN, EVal.canon, EVal.cdelta.injEq, beq_iff_eq]
  | fdt x y => simp only [eqN, EVal.canon, EVal.fdt.injEq, beq_iff_eq]
  | ftd x y => simp only [eqN, EVal.canon, EVal.ftd.injEq, beq_iff_eq]
  | nat => exact ⟨fun _ => rfl, fun _ => rfl⟩
  | index i j => simp only [eqN, EVal.canon, EVal.index.injEq, idxEq_iff_map]
  | list xs ys ih => simp only [eqN, EVal.canon, EVal.list.injEq, eqArr_iff_canonList xs ys ih]
  | tuple xs ys ih => simp only [eqN, EVal.canon, EVal.tuple.injEq, eqArr_iff_canonList xs ys ih]
  | sub c d xs ys ih =>
    simp only [eqN, EVal.canon, EVal.sub.injEq, Bool.and_eq_true, beq_iff_eq, eqArr_iff_canonList xs ys ih]
  | arr s t xs ys ih =>
    simp only [eqN, EVal.canon, EVal.arr.injEq, Bool.and_eq_true, beq_iff_eq, eqArr_iff_canonList xs ys ih]
  | series i j xs ys ih =>
    simp only [eqN, EVal.canon, EVal.series.injEq, Bool.and_eq_true, idxEq_iff_map, eqArr_iff_canonList xs ys ih]
  | frame i j c d xs ys ih =>
    simp only [eqN, EVal.canon, EVal.frame.injEq, Bool.and_eq_true, idxEq_iff_map, eqArr_iff_canonList xs ys ih, and_assoc]
  | dict c d a b ih =>
    simp only [eqN, EVal.canon, EVal.dict.injEq, Bool.and_assoc, Bool.and_eq_true (c == d), beq_iff_eq, eqKeys_eqVals_iff_canonKVs a b ih]
  | other a b h =>
    exact ⟨fun he => absurd (eqN_ctorIdx he) h, fun he => absurd (ctorIdx_canon a ▸ ctorIdx_canon b ▸ congrArg EVal.ctorIdx he) h⟩

theorem eqN_refl (a : EVal) : eqN a a = true := (eqN_iff_canon a a).2 rfl

theorem eqN_symm (a b : EVal) : eqN a b = eqN b a :=
  Bool.eq_iff_iff.2 <| (eqN_iff_canon a b).trans <| eq_comm.trans (eqN_iff_canon b a).symm

theorem eqN_trans (a b c : EVal) (h1 : eqN a b = true) (h2 : eqN b c = true) : eqN a c = true :=
  (eqN_iff_canon a c).2 (((eqN_iff_canon a b).1 h1).trans ((eqN_iff_canon b c).1 h2))

/-- dates, durations and NaT: the scalars that are not cells, compared by `==` of one type with itself -/
def EVal.rigid : EVal → Bool
  | .date _ | .tdelta _ | .cdelta _ | .fdt _ | .ftd _ | .nat => true
  | _ => false

theorem EVal.canon_norm_of_rigid : ∀ {a : EVal}, a.rigid = true → a.norm.canon = a
  | .date _, _ | .tdelta _, _ | .cdelta _, _ | .fdt _, _ | .ftd _, _ | .nat, _ => rfl

/-- such a value is `eq` to itself only: it is its own canonical form, and no other value has a rigid one -/
theorem eq_rigid {a : EVal} (ha : a.rigid = true) (b : EVal) : eq a b = true ↔ b = a := by
  refine ⟨fun h => ?_, fun e => e ▸ eqN_refl _⟩
  have hc : a = b.norm.canon := (EVal.canon_norm_of_rigid ha).symm.trans ((eqN_iff_canon _ _).1 h)
  have hb : b.rigid = true := by rw [← show b.norm.canon.rigid = b.rigid by cases b <;> rfl, ← hc, ha]
  exact (EVal.canon_norm_of_rigid hb).symm.trans hc.symm

/-- the container type `eq` is strict about: the constructor (all scalars count as one) and, for dicts and list / tuple
subclasses, the exact class -/
def EVal.kind : EVal → Nat × Nat
  | .cell _ => (0, 0)
  | .date _ => (0, 0)
  | .tdelta _ => (0, 0)
  | .cdelta _ => (0, 0)
  | .fdt _ => (0, 0)
  | .ftd _ => (0, 0)
  | .nat => (0, 0)
  | .sub c _ => (7, c)
  | .index _ => (8, 0)
  | .list _ => (1, 0)
  | .tuple _ => (2, 0)
  | .dict c _ => (3, c)
  | .arr _ _ => (4, 0)
  | .series _ _ => (5, 0)
  | .frame _ _ _ => (6, 0)

theorem kind_canon_norm (a : EVal) : a.norm.canon.kind = a.kind := by
  cases a <;> rfl

theorem eq_kind {a b : EVal} (h : eq a b = true) : a.kind = b.kind := by
  have := congrArg EVal.kind ((eqN_iff_canon _ _).1 h)
  rwa [kind_canon_norm, kind_canon_norm] at this

theorem eqArr_normList (xs ys : List EVal) : eqArr (EVal.normList xs) (EVal.normList ys) = all2 eq xs ys := by
  rw [eqArr_eq_all2, EVal.normList_eq_map, EVal.normList_eq_map, all2_map]
  rfl

theorem eq_seq_iff {C : List EVal → EVal} {xs : List EVal} {b : EVal} (hb : eq (C xs) b = true → ∃ ys, b = C ys)
    (hC : ∀ ys, eq (C xs) (C ys) = all2 eq xs ys) :
    eq (C xs) b = true ↔
      ∃ ys, b = C ys ∧ xs.length = ys.length ∧ ∀ k (h1 : k < xs.length) (h2 : k < ys.length), eq xs[k] ys[k] = true := by
  constructor
  · intro h
    obtain ⟨ys, rfl⟩ := hb h
    exact ⟨ys, rfl, (all2_iff_get eq xs ys).1 ((hC ys).symm.trans h)⟩
  · rintro ⟨ys, rfl, h⟩
    exact (hC ys).trans ((all2_iff_get eq xs ys).2 h)

mutual
  def EVal.labelsOk : EVal → Bool
    | .cell _ => true
    | .date _ => true
    | .tdelta _ => true
    | .cdelta _ => true
    | .fdt _ => true
    | .ftd _ => true
    | .nat => true
    | .list xs => EVal.labelsOkList xs
    | .tuple xs => EVal.labelsOkList xs
    | .sub _ xs => EVal.labelsOkList xs
    | .index i => i.all (· != .nan)
    | .dict _ kvs => EVal.labelsOkKVs kvs
    | .arr _ xs => EVal.labelsOkList xs
    | .series i xs => i.all (· != .nan) && EVal.labelsOkList xs
    | .frame i c xs => i.all (· != .nan) && c.all (· != .nan) && EVal.labelsOkList xs
  def EVal.labelsOkList : List EVal → Bool
    | [] => true
    | x :: xs => x.labelsOk && EVal.labelsOkList xs
  def EVal.labelsOkKVs : List (String × EVal) → Bool
    | [] => true
    | x :: xs => x.2.labelsOk && EVal.labelsOkKVs xs
end

theorem labelsOkList_mem : ∀ {xs : List EVal}, EVal.labelsOkList xs = true → ∀ x ∈ xs, x.labelsOk = true
  | _ :: _, h, _, .head _ => (Bool.and_eq_true_iff.1 h).1
  | _ :: _, h, x, .tail _ hx => labelsOkList_mem (Bool.and_eq_true_iff.1 h).2 x hx

theorem labelsOkKVs_iff (xs : List (String × EVal)) :
    EVal.labelsOkKVs xs = true ↔ ∀ x ∈ xs, x.2.labelsOk = true := by
  induction xs with
  | nil => simp [EVal.labelsOkKVs]
  | cons x xs ih => simp [EVal.labelsOkKVs, ih]

theorem labelsOkKVs_mem : ∀ {xs : List (String × EVal)}, EVal.labelsOkKVs xs = true →
    ∀ x ∈ xs, x.2.labelsOk = true :=
  fun h => (labelsOkKVs_iff _).1 h

mutual
  theorem norm_labelsOk : ∀ a : EVal, a.labelsOk = true → a.norm.labelsOk = true
    | .cell _, _ | .date _, _ | .tdelta _, _ | .cdelta _, _ | .fdt _, _ | .ftd _, _ | .nat, _ => rfl
    | .index _, h => h
    | .sub _ xs, h | .list xs, h | .tuple xs, h | .arr _ xs, h => normList_labelsOk xs h
    | .series _ xs, h | .frame _ _ xs, h => by
        simp only [EVal.norm, EVal.labelsOk, Bool.and_eq_true] at h ⊢
        exact ⟨h.1, normList_labelsOk xs h.2⟩
    | .dict c kvs, h => by
        simp only [EVal.norm, EVal.labelsOk] at h ⊢
        have := normKVs_labelsOk kvs h
        rw [labelsOkKVs_iff] at this ⊢
        intro x hx
        exact this x ((mem_sortK x _).1 hx)
  theorem normList_labelsOk : ∀ xs : List EVal, EVal.labelsOkList xs = true →
      EVal.labelsOkList (EVal.normList xs) = true
    | [], _ => rfl
    | x :: xs, h => by
        simp only [EVal.normList, EVal.labelsOkList, Bool.and_eq_true] at h ⊢
        exact ⟨norm_labelsOk x h.1, normList_labelsOk xs h.2⟩
  theorem normKVs_labelsOk : ∀ kvs : List (String × EVal), EVal.labelsOkKVs kvs = true →
      EVal.labelsOkKVs (EVal.normKVs kvs) = true
    | [], _ => rfl
    | (k, v) :: kvs, h => by
        simp only [EVal.normKVs, EVal.labelsOkKVs, Bool.and_eq_true] at h ⊢
        exact ⟨norm_labelsOk v h.1, normKVs_labelsOk kvs h.2⟩
end

end Pyg
