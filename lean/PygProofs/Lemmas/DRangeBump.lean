/-
  The steps of the drange model (C10): `bump1` / `dtBump` / `rruleStep` move in the direction of their sign (month,
  quarter and year bumps by the Gregorian arithmetic of CivilLemmas.lean), and they agree with the C09 model of `dt_bump`
  (`Pyg.Bump`, whose integer kernels are generated from the text of _dates.py and whose calendar is `Pyg.Greg`)
  from every instant `t ≥ 0`: the C09 step of a part returns a value exactly when the DRange step is a representable instant,
  and then that instant.
-/
import PygProofs.Lemmas.DRangeLemmas
import PygProofs.Lemmas.CivilGreg
import PygProofs.Lemmas.MonthLemmas
import PygProofs.Lemmas.TokenLemmas

namespace Pyg.DRange
open Pyg

/-- the unit letter of the `period` regex -/
def Per.letter : Per → Char
  | .d => 'd' | .b => 'b' | .w => 'w' | .m => 'm' | .q => 'q' | .y => 'y' | .h => 'h' | .n => 'n' | .s => 's'

theorem unitOf_letter (u : Per) : unitOf u.letter = some u := by cases u <;> rfl

theorem bOff_eq_gen (w n : Int) : bOff w n = Gen.bOff w n := by
  unfold bOff Gen.bOff
  simp only []
  omega

theorem wdT_eq (t : Int) : wdT t = Bump.wdOf t := by
  unfold wdT Bump.wdOf Bump.wd Bump.ordOf DAY Bump.DAYUS; omega

theorem wdT_range (t : Int) : 0 ≤ wdT t ∧ wdT t < 7 := by unfold wdT; omega

theorem bOff_weekday (w n : Int) (hw : 0 ≤ w ∧ w < 5) : bOff w n = n + 2 * ((w + n) / 5) := by
  rw [bOff_eq_gen]
  exact Bump.bOff_weekday w n hw

theorem bOff_weekend (w n : Int) (hw : 4 < w) : bOff w n = 7 - w + bOff 0 n := by
  rw [bOff_eq_gen, bOff_eq_gen]
  exact Bump.bOff_weekend w n hw

theorem bOff_sign (w n : Int) (hw : 0 ≤ w ∧ w < 7) : (1 ≤ n → 1 ≤ bOff w n) ∧ (n ≤ -1 → bOff w n ≤ -1) := by
  rw [bOff_eq_gen]
  exact Bump.bOff_sign w n hw

/-- `true` for the units that are not month-based: d, w, h, n, s (fixed length) and b; `false` for m, q, y -/
def Per.fixed : Per → Bool
  | .m | .q | .y => false
  | _ => true

theorem Per.ne_b_of_fixed_false {u : Per} (hu : u.fixed = false) : u ≠ .b := by
  rintro rfl
  nomatch hu

theorem yearBump_eq (t k : Int) : yearBump t k = monthBump t (12 * k) := by
  unfold yearBump monthBump Civil.addMonths
  show (Civil.ordYM ((Civil.ymd (dayOf t)).1 + k) (Civil.ymd (dayOf t)).2.1 (Civil.ymd (dayOf t)).2.2 - 1) * DAY = _
  rw [Civil.ordYM_year]

/-- a bump by `k > 0` months is strictly later than `t` (by more than 27
days), a bump by `k < 0` months strictly earlier — every instant `t`, every day of month (an over-long day rolls
into the next month and is still later) -/
theorem month_step_strict (t k : Int) :
    (0 < k → t + 27 * DAY < monthBump t k) ∧ (k < 0 → monthBump t k < t - 27 * DAY) := by
  refine ⟨fun hk => ?_, fun hk => ?_⟩
  · have := (Civil.addMonths_fwd (dayOf t) k (by omega)).1
    unfold monthBump dayOf DAY at *
    omega
  · have := (Civil.addMonths_bwd (dayOf t) k (by omega)).2
    unfold monthBump dayOf DAY at *
    omega

theorem monthBump_midnight (t k : Int) : monthBump t k % DAY = 0 := by
  unfold monthBump; exact Int.mul_emod_left _ _

/-- the number of months a month-based unit stands for -/
def Per.months : Per → Int
  | .m => 1 | .q => 3 | .y => 12 | _ => 0

theorem Per.months_pos (u : Per) (hu : u.fixed = false) : 1 ≤ u.months := by
  cases u
  case m | q | y => decide
  all_goals nomatch hu

theorem bump1_month (t n : Int) (u : Per) (hu : u.fixed = false) : bump1 t n u = monthBump t (u.months * n) := by
  cases u
  case m => exact congrArg (monthBump t) (Int.one_mul n).symm
  case q => rfl
  case y => exact yearBump_eq t n
  all_goals nomatch hu

theorem bump1_midnight (t n : Int) (u : Per) (hu : u.fixed = false) : bump1 t n u % DAY = 0 := by
  rw [bump1_month t n u hu]
  exact monthBump_midnight t _

/-- the rrule step differs from `dt_bump` only in keeping the time of day of a month-based step -/
theorem rruleStep_of_midnight (n : Int) (u : Per) (t : Int) (h : u.fixed = true ∨ t % DAY = 0) :
    rruleStep n u t = bump1 t n u := by
  cases u
  case m | q | y =>
    rcases h with h | h
    · nomatch h
    · show bump1 t n _ + t % DAY = _
      rw [h, Int.add_zero]
  all_goals rfl

theorem bump1_inc (t n : Int) (u : Per) (hn : 1 ≤ n) : t < bump1 t n u := by
  by_cases hu : u.fixed = true
  · have := (bOff_sign (wdT t) n (wdT_range t)).1 hn
    cases u <;> simp [Per.fixed] at hu <;> simp only [bump1, DAY, HOUR, MINUTE, SECOND] at * <;> omega
  · have hu : u.fixed = false := by simpa using hu
    have hm := u.months_pos hu
    have := (month_step_strict t (u.months * n)).1 (Int.mul_pos (by omega) (by omega))
    rw [bump1_month t n u hu]
    unfold DAY at this
    omega

theorem bump1_dec (t n : Int) (u : Per) (hn : n ≤ -1) : bump1 t n u < t := by
  by_cases hu : u.fixed = true
  · have := (bOff_sign (wdT t) n (wdT_range t)).2 hn
    cases u <;> simp [Per.fixed] at hu <;> simp only [bump1, DAY, HOUR, MINUTE, SECOND] at * <;> omega
  · have hu : u.fixed = false := by simpa using hu
    have hm := u.months_pos hu
    have := (month_step_strict t (u.months * n)).2 (Int.mul_neg_of_pos_of_neg (by omega) (by omega))
    rw [bump1_month t n u hu]
    unfold DAY at this
    omega

theorem dtBump_cons (p : Int × Per) (ps : List (Int × Per)) (t : Int) :
    dtBump (p :: ps) t = dtBump ps (bump1 t p.1 p.2) := rfl

theorem dtBump_inc : ∀ (parts : List (Int × Per)) (t : Int), parts ≠ [] →
    (∀ p ∈ parts, 1 ≤ p.1) → t < dtBump parts t
  | [], _, h, _ => absurd rfl h
  | [p], t, _, hp => bump1_inc t p.1 p.2 (hp p (by simp))
  | p :: q :: rest, t, _, hp => by
    have h1 := bump1_inc t p.1 p.2 (hp p (by simp))
    have h2 := dtBump_inc (q :: rest) (bump1 t p.1 p.2) (by simp) (fun x hx => hp x (List.mem_cons_of_mem _ hx))
    rw [dtBump_cons]
    omega

theorem dtBump_dec : ∀ (parts : List (Int × Per)) (t : Int), parts ≠ [] →
    (∀ p ∈ parts, p.1 ≤ -1) → dtBump parts t < t
  | [], _, h, _ => absurd rfl h
  | [p], t, _, hp => bump1_dec t p.1 p.2 (hp p (by simp))
  | p :: q :: rest, t, _, hp => by
    have h1 := bump1_dec t p.1 p.2 (hp p (by simp))
    have h2 := dtBump_dec (q :: rest) (bump1 t p.1 p.2) (by simp) (fun x hx => hp x (List.mem_cons_of_mem _ hx))
    rw [dtBump_cons]
    omega

theorem rruleStep_inc (n : Int) (u : Per) (hn : 1 ≤ n) (t : Int) : t < rruleStep n u t := by
  have h := bump1_inc t n u hn
  have h' : t < bump1 t n u + t % DAY :=
    Int.lt_of_lt_of_le h (Int.le_add_of_nonneg_right (Int.emod_nonneg t (by decide)))
  cases u
  case m | q | y => exact h'
  all_goals exact h

theorem dayOf_monthBump (t k : Int) : dayOf (monthBump t k) = Civil.addMonths (dayOf t) k := by
  unfold monthBump dayOf DAY; omega

theorem monthBump_monthBump (t k j : Int) (hd : Civil.day (dayOf t) ≤ 28) :
    monthBump (monthBump t k) j = monthBump t (k + j) := by
  unfold monthBump
  rw [show (Civil.addMonths (dayOf t) k - 1) * DAY = monthBump t k from rfl, dayOf_monthBump,
    Civil.addMonths_add _ _ _ hd]

theorem monthBump_zero (t : Int) (hm : t % DAY = 0) : monthBump t 0 = t := by
  unfold monthBump; rw [Civil.addMonths_zero]; unfold dayOf DAY at *; omega

/-- `l[i]` of a month range: `i` bumps by `k` months = one bump by `i·k` months (no drift of the day of month) -/
theorem iter_monthBump (k : Int) : ∀ (i : Nat) (t : Int), t % DAY = 0 → Civil.day (dayOf t) ≤ 28 →
    iter (fun t => monthBump t k) i t = monthBump t (i * k)
  | 0, t, hm, _ => by simp [iter_zero, monthBump_zero t hm]
  | i + 1, t, hm, hd => by
    rw [iter_succ, iter_monthBump k i (monthBump t k) (monthBump_midnight t k)
      (by rw [dayOf_monthBump, Civil.day_addMonths _ _ hd]; exact hd), monthBump_monthBump t k _ hd]
    congr 1
    rw [Int.natCast_succ, Int.add_mul, Int.one_mul]; omega

theorem iter_bump1_month (n : Int) (u : Per) (hu : u.fixed = false) (i : Nat) (t : Int) (hm : t % DAY = 0)
    (hd : Civil.day (dayOf t) ≤ 28) : iter (fun t => bump1 t n u) i t = bump1 t (i * n) u := by
  rw [funext fun t => bump1_month t n u hu, iter_monthBump _ i t hm hd, bump1_month t _ u hu, Int.mul_left_comm]

theorem ymdOf_eq_civil (t : Int) (ht : 0 ≤ t) :
    Civil.ymd (dayOf t) = (((Bump.ymdOf t).y : Int), ((Bump.ymdOf t).m : Int), ((Bump.ymdOf t).d : Int)) := by
  have h1 := Bump.ordOf_pos t ht
  have e : dayOf t = ((Bump.ordOf t).toNat : Int) := (Int.toNat_of_nonneg (a := Bump.ordOf t) (by omega)).symm
  rw [e, Civil.ymd_eq_greg _ (by omega)]
  rfl

theorem mkDate_eq_civil (Y M : Int) (d : Nat) (hy : 1 ≤ (Gen.ym Y M).1) :
    Bump.mkDate (Gen.ym Y M).1.toNat (Gen.ym Y M).2.toNat d = (Civil.ordYM Y M (d : Int) - 1) * DAY := by
  have hn := Bump.ym_normal Y M
  have ho := Civil.ord_eq_greg (Gen.ym Y M).1.toNat (Gen.ym Y M).2.toNat d (by omega) (by omega) (by omega)
  rw [Int.toNat_of_nonneg (by omega), Int.toNat_of_nonneg (by omega)] at ho
  show (((Greg.ord _ _ d : Nat) : Int) - 1) * Bump.DAYUS = (Civil.ord (Civil.ymNorm Y M).1 (Civil.ymNorm Y M).2 d - 1) * DAY
  rw [← ho]
  rfl

/-- the month / quarter / year step of the C09 model, `_ymd(t.year + dy, t.month + dm, t.day)`, in terms of `Civil`: ValueError
when the target year leaves 1..9999, otherwise the instant (no range check on that branch: a day of a year in 1..9999, over-long
day of month included, is representable) -/
theorem applyStep_ymdShift_civil (t dy dm : Int) (ht : 0 ≤ t) :
    Bump.applyStep t (.ymdShift dy dm) =
      (if 1 ≤ (Civil.ymNorm ((Civil.ymd (dayOf t)).1 + dy) ((Civil.ymd (dayOf t)).2.1 + dm)).1 ∧
          (Civil.ymNorm ((Civil.ymd (dayOf t)).1 + dy) ((Civil.ymd (dayOf t)).2.1 + dm)).1 ≤ 9999 then
        .ok ((Civil.ordYM ((Civil.ymd (dayOf t)).1 + dy) ((Civil.ymd (dayOf t)).2.1 + dm) (Civil.ymd (dayOf t)).2.2 - 1) * DAY)
      else .error .value) := by
  rw [Bump.applyStep_ymdShift t dy dm ht, ymdOf_eq_civil t ht]
  show (if 1 ≤ (Gen.ym _ _).1 ∧ (Gen.ym _ _).1 ≤ 9999 then _ else _) = if 1 ≤ (Gen.ym _ _).1 ∧ (Gen.ym _ _).1 ≤ 9999 then _ else _
  split
  · rename_i hy
    rw [mkDate_eq_civil _ _ _ hy.1]
  · rfl

/-- a day of the `datetime` range (ordinals 1 .. 3652059 = 9999-12-31) that lies in month `M` (counted from year 0) or within
the 30 days after its first (a day of month ≤ 31 rolls at most that far): the year of `M` is in 1..9999.  The anchors are
`monthStart 11 = -30` (1 December of year 0) and `monthStart 120000 = 3652060` (1 January 10000) -/
theorem year_of_monthStart (M n : Int) (hd : 0 ≤ n ∧ n ≤ 30) (h0 : 1 ≤ Civil.monthStart M + n)
    (h1 : Civil.monthStart M + n ≤ 3652059) : 1 ≤ M / 12 ∧ M / 12 ≤ 9999 := by
  refine ⟨?_, ?_⟩
  · by_cases hc : M ≤ 11
    · have hm := (Civil.monthStart_add M (11 - M) (by omega)).1
      rw [show M + (11 - M) = 11 by omega, show Civil.monthStart 11 = -30 by decide] at hm
      omega
    · omega
  · by_cases hc : 120000 ≤ M
    · have hm := (Civil.monthStart_add 120000 (M - 120000) (by omega)).1
      rw [show 120000 + (M - 120000) = M by omega, show Civil.monthStart 120000 = 3652060 by decide] at hm
      omega
    · omega

/-- the month step returns a value exactly when the `Civil` target is a representable instant (a representable instant has a
representable year: `year_of_monthStart`) -/
theorem applyStep_ymdShift_ok (t dy dm : Int) (ht : 0 ≤ t) (r : Int) :
    Bump.applyStep t (.ymdShift dy dm) = .ok r ↔
      Bump.InRange r ∧ r = (Civil.ordYM ((Civil.ymd (dayOf t)).1 + dy) ((Civil.ymd (dayOf t)).2.1 + dm)
        (Civil.ymd (dayOf t)).2.2 - 1) * DAY := by
  constructor
  · intro h
    refine ⟨Bump.applyStep_inRange _ _ _ h, ?_⟩
    rw [applyStep_ymdShift_civil t dy dm ht] at h
    split at h
    · cases h; rfl
    · cases h
  · intro ⟨⟨h0, h1⟩, e⟩
    rw [e] at h0 h1 ⊢
    rw [applyStep_ymdShift_civil t dy dm ht]
    obtain ⟨⟨_, _, hd1, hd2⟩, _⟩ := Civil.ord_ymd (dayOf t)
    have hdim := Civil.dim_bounds (Civil.ymd (dayOf t)).1 (Civil.ymd (dayOf t)).2.1
    generalize (Civil.ymd (dayOf t)).1 + dy = Y at *
    generalize (Civil.ymd (dayOf t)).2.1 + dm = M at *
    generalize (Civil.ymd (dayOf t)).2.2 = D at *
    have he := Civil.ordYM_eq Y M D
    have hY : (Civil.ymNorm Y M).1 = (12 * Y + M - 1) / 12 := by unfold Civil.ymNorm; simp only []; omega
    rw [hY, if_pos (year_of_monthStart (12 * Y + M - 1) (D - 1) (by omega) (by unfold DAY at h0; omega)
      (by unfold DAY Bump.MAXUS at h1; omega))]

/-- one period part against the C09 step: the letter has a step, and that step returns a value exactly when the DRange step is a
representable instant (for `b`: and the datetimes the block constructs on the way are); the value is the DRange step -/
theorem applyStep_bump1 (t n : Int) (u : Per) (ht : 0 ≤ t) :
    ∃ st, Gen.bumpUnit u.letter n = some st ∧ ∀ r, Bump.applyStep t st = .ok r ↔
      r = bump1 t n u ∧ Bump.InRange r ∧
        (u = Per.b → ∀ k ∈ Gen.bOffPath (Bump.wdOf t) n, Bump.InRange (t + k * Bump.DAYUS)) := by
  cases u
  case b =>
    refine ⟨.bday n, rfl, fun r => ?_⟩
    have e : t + Gen.bOff (Bump.wdOf t) n * Bump.DAYUS = bump1 t n .b := by
      simp only [bump1, bOff_eq_gen, wdT_eq, DAY, Bump.DAYUS]
      omega
    rw [Bump.bday_ok_iff, e]
    constructor
    · rintro ⟨h, rfl⟩
      refine ⟨rfl, ?_, fun _ => h⟩
      rw [← e]
      exact h _ (by rw [Bump.bOffPath_eq]; simp)
    · rintro ⟨rfl, _, h⟩
      exact ⟨h rfl, rfl⟩
  case m =>
    refine ⟨.ymdShift 0 n, rfl, fun r => ?_⟩
    rw [applyStep_ymdShift_ok t 0 n ht]
    simp only [Int.add_zero, bump1, monthBump, Civil.addMonths, reduceCtorEq, false_imp_iff, and_true]
    exact And.comm
  case q =>
    refine ⟨.ymdShift 0 (3 * n), rfl, fun r => ?_⟩
    rw [applyStep_ymdShift_ok t 0 (3 * n) ht]
    simp only [Int.add_zero, bump1, monthBump, Civil.addMonths, reduceCtorEq, false_imp_iff, and_true]
    exact And.comm
  case y =>
    refine ⟨.ymdShift n 0, rfl, fun r => ?_⟩
    rw [applyStep_ymdShift_ok t n 0 ht]
    simp only [Int.add_zero, bump1, yearBump, reduceCtorEq, false_imp_iff, and_true]
    exact And.comm
  all_goals
    refine ⟨_, rfl, fun r => ?_⟩
    simp only [Bump.applyStep, Bump.checkRange_ok, bump1, Bump.InRange, DAY, HOUR, MINUTE, SECOND, Bump.DAYUS,
      reduceCtorEq, false_imp_iff, and_true]
    constructor
    · rintro ⟨h, rfl⟩
      refine ⟨by omega, ?_⟩
      omega
    · rintro ⟨rfl, h⟩
      refine ⟨by omega, by omega⟩

/-- the parts a token list stands for -/
def TokParts : List Bump.Tok → List (Int × Per) → Prop
  | [], [] => True
  | k :: ks, p :: ps => (k.value = p.1 ∧ k.unit = p.2.letter) ∧ TokParts ks ps
  | _, _ => False

/-- every instant on the way of `dtBump parts t` is a representable datetime (for a business-day part: the datetimes the block
constructs on the way too) -/
def PartsOk : Int → List (Int × Per) → Prop
  | _, [] => True
  | t, p :: ps => (Bump.InRange (bump1 t p.1 p.2) ∧
      (p.2 = Per.b → ∀ k ∈ Gen.bOffPath (Bump.wdOf t) p.1, Bump.InRange (t + k * Bump.DAYUS))) ∧ PartsOk (bump1 t p.1 p.2) ps

/-- compound tenors: the C09 model's left-to-right run over the tokens returns a value exactly when every part lands on a
representable instant, and the value is the DRange `dtBump` of the parts -/
theorem runToks_iff : ∀ (ks : List Bump.Tok) (parts : List (Int × Per)), TokParts ks parts →
    ∀ (t r : Int), 0 ≤ t → (Bump.runToks t ks = .ok r ↔ r = dtBump parts t ∧ PartsOk t parts)
  | [], [], _, t, r, _ => by
    simp only [Bump.runToks, Except.ok.injEq, PartsOk, and_true]
    exact eq_comm
  | [], _ :: _, hf, _, _, _ => by simp [TokParts] at hf
  | _ :: _, [], hf, _, _, _ => by simp [TokParts] at hf
  | k :: ks, p :: parts, ⟨hk, hks⟩, t, r, ht => by
    obtain ⟨st, hst, ha⟩ := applyStep_bump1 t p.1 p.2 ht
    simp only [Bump.runToks, Bump.applyTok, hk.1, hk.2, hst, PartsOk]
    show _ ↔ r = dtBump parts (bump1 t p.1 p.2) ∧ _
    cases h1 : Bump.applyStep t st with
    | error e =>
      refine ⟨(fun h => nomatch h), (fun ⟨_, hp, _⟩ => ?_)⟩
      rw [(ha _).2 ⟨rfl, hp⟩] at h1
      cases h1
    | ok t1 =>
      obtain ⟨rfl, hr⟩ := (ha t1).1 h1
      show Bump.runToks _ ks = .ok r ↔ _
      rw [runToks_iff ks parts hks _ r hr.1.1]
      exact ⟨(fun ⟨a, b⟩ => ⟨a, hr, b⟩), (fun ⟨a, _, b⟩ => ⟨a, b⟩)⟩

end Pyg.DRange
