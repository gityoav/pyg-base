/-
  The business-day branch of `drange` — "every k-th weekday of the daily grid"
  (`rrule(DAILY)` filtered by `weekday() < 5`, then `[::k]`) — is, from a weekday `t0`, the iteration of
  `dt_bump(·, 'kb')` (closed-form offset `bOff`).  The bridge is the recurrence of `bOff` along the weekdays:
  the `(m+1)`-th weekday after a weekday is the `m`-th weekday after the next weekday.
-/
import PygProofs.Lemmas.DRangeBump

namespace Pyg.DRange
open Pyg

/-- the weekday test of the `'kb'` branch (`t.weekday() < 5`) -/
def isWd (t : Int) : Bool := decide (wdT t < 5)

theorem wdT_add_days (t o : Int) : wdT (t + DAY * o) = (wdT t + o) % 7 := by
  unfold wdT DAY
  omega

theorem wdT_add_day (t : Int) : wdT (t + DAY) = (wdT t + 1) % 7 := by
  have := wdT_add_days t 1
  rwa [Int.mul_one] at this

theorem wdT_sub_day (t : Int) : wdT (t - DAY) = (wdT t + 6) % 7 := by unfold wdT DAY; omega

theorem bOff_zero (w : Int) (hw : w < 5) : bOff w 0 = 0 := by
  unfold bOff
  simp only []
  omega

theorem bOff_succ (w m : Int) (hw : 0 ≤ w ∧ w < 4) : bOff w (m + 1) = 1 + bOff (w + 1) m := by
  rw [bOff_weekday w (m + 1) (by omega), bOff_weekday (w + 1) m (by omega)]
  omega

theorem bOff_succ_fri (m : Int) : bOff 4 (m + 1) = 3 + bOff 0 m := by
  rw [bOff_weekday 4 (m + 1) (by omega), bOff_weekday 0 m (by omega)]
  omega

theorem bOff_pred (w m : Int) (hw : 1 ≤ w ∧ w < 5) (_hm : m ≤ 0) : bOff w (m - 1) = -1 + bOff (w - 1) m := by
  rw [bOff_weekday w (m - 1) (by omega), bOff_weekday (w - 1) m (by omega)]
  omega

theorem bOff_pred_mon (m : Int) (_hm : m ≤ 0) : bOff 0 (m - 1) = -3 + bOff 4 m := by
  rw [bOff_weekday 0 (m - 1) (by omega), bOff_weekday 4 m (by omega)]
  omega

theorem bOff_nonneg (w m : Int) (hw : 0 ≤ w ∧ w < 5) (hm : 0 ≤ m) : 0 ≤ bOff w m := by
  rw [bOff_weekday w m hw]
  omega

theorem bOff_nonpos (w m : Int) (hw : 0 ≤ w ∧ w < 5) (hm : m ≤ 0) : bOff w m ≤ 0 := by
  rw [bOff_weekday w m hw]
  omega

/-- the step of `dt_bump(·, 'kb')` -/
def bStep (k : Int) (x : Int) : Int := x + DAY * bOff (wdT x) k

theorem dtBump_b (k : Int) : dtBump [(k, Per.b)] = bStep k := by
  funext x; simp [dtBump, bump1, bStep]

theorem bStep_inc (k : Int) (hk : 1 ≤ k) (x : Int) : x < bStep k x :=
  bump1_inc x k .b hk

theorem bStep_dec (k : Int) (hk : k ≤ -1) (x : Int) : bStep k x < x :=
  bump1_dec x k .b hk

/-- the step in the vocabulary of the C09 model -/
theorem bStep_eq (k t : Int) : bStep k t = t + Gen.bOff (Bump.wdOf t) k * Bump.DAYUS := by
  unfold bStep
  rw [bOff_eq_gen, wdT_eq, Int.mul_comm]
  rfl

theorem wdT_bStep (k u : Int) : wdT (bStep k u) < 5 := by
  rw [wdT_eq, bStep_eq]
  exact Bump.wdOf_bday u k

theorem filter_daily_skip (s t1 : Int) (hs : ¬ wdT s < 5) :
    (daily s t1).filter isWd = (daily (s + DAY) t1).filter isWd := by
  rw [daily_unfold s]
  split
  · simp [isWd, hs]
  · rw [daily_unfold (s + DAY), if_neg (by have := lt_add_DAY s; omega)]

theorem filter_daily_keep (s t1 : Int) (hs : wdT s < 5) (hle : s ≤ t1) :
    (daily s t1).filter isWd = s :: (daily (s + DAY) t1).filter isWd := by
  rw [daily_unfold s, if_pos hle]
  simp [isWd, hs]

theorem filter_daily_past (s t1 : Int) (h : t1 < s) : (daily s t1).filter isWd = [] := by
  rw [daily_unfold s, if_neg (by omega)]
  rfl

/-- `Bump.nextWd` on instants: the same time of day on the next weekday -/
def nextWdT (t : Int) : Int := t + DAY * (if wdT t = 4 then 3 else if wdT t = 5 then 2 else 1)

theorem nextWdT_inc (t : Int) : t < nextWdT t := by
  unfold nextWdT DAY
  omega

theorem wdT_nextWdT (t : Int) : wdT (nextWdT t) < 5 := by
  have := wdT_range t
  unfold nextWdT
  rw [wdT_add_days]
  omega

/-- the weekdays of the daily grid from a weekday on are the iteration of "next weekday" -/
theorem filter_daily_wd (hi : Int) : ∀ t, wdT t < 5 → (daily t hi).filter isWd = upTo nextWdT t hi := by
  apply upTo_induction nextWdT nextWdT_inc hi (fun t l => wdT t < 5 → (daily t hi).filter isWd = l)
  · intro t h _
    exact filter_daily_past t hi h
  · intro t hle ih hw
    rw [filter_daily_keep t hi hw hle, ← ih (wdT_nextWdT t)]
    congr 1
    by_cases h4 : wdT t = 4
    · have e5 : wdT (t + DAY) = 5 := by rw [wdT_add_day]; omega
      have e6 : wdT (t + DAY + DAY) = 6 := by rw [wdT_add_day, e5]; rfl
      rw [filter_daily_skip _ hi (by omega), filter_daily_skip _ hi (by omega)]
      congr 2
      unfold nextWdT
      rw [if_pos h4]
      omega
    · congr 2
      unfold nextWdT
      rw [if_neg h4, if_neg (by omega)]
      omega

/-- the recurrence of `bOff` along the weekdays: `k` business days from the next weekday are `k + 1` from here -/
theorem bStep_nextWdT (t : Int) (hw : wdT t < 5) (k : Int) : bStep k (nextWdT t) = bStep (k + 1) t := by
  have hr := wdT_range t
  unfold bStep nextWdT
  rw [wdT_add_days]
  by_cases h4 : wdT t = 4
  · rw [if_pos h4, h4, show ((4 : Int) + 3) % 7 = 0 from rfl, bOff_succ_fri]
    unfold DAY
    omega
  · rw [if_neg h4, if_neg (by omega), show (wdT t + 1) % 7 = wdT t + 1 by omega, bOff_succ (wdT t) k (by omega)]
    unfold DAY
    omega

theorem iter_nextWdT : ∀ (k : Nat) (t : Int), wdT t < 5 → iter nextWdT k t = bStep k t
  | 0, t, hw => by
    show t = t + DAY * bOff (wdT t) 0
    rw [bOff_zero _ hw]
    omega
  | k + 1, t, hw => by
    rw [iter_succ, iter_nextWdT k _ (wdT_nextWdT t), bStep_nextWdT t hw, Int.natCast_succ]

/-- every k-th weekday of the daily grid from a weekday `t`, after skipping `j` of them, is the `dt_bump 'kb'` iteration
started at the `j`-th weekday after `t` -/
theorem strideGo_weekdays (k : Nat) (hk : 1 ≤ k) (t1 : Int) :
    ∀ (n : Nat) (t : Int) (j : Nat), (t1 + 1 - t).toNat ≤ n → wdT t < 5 →
      strideGo k ((daily t t1).filter isWd) j = upTo (bStep k) (t + DAY * bOff (wdT t) j) t1 := by
  intro _ t j _ hw
  rw [filter_daily_wd t1 t hw, strideGo_iter _ nextWdT_inc k hk, iter_nextWdT j t hw]
  exact upTo_congr _ _ (fun u => wdT u < 5) (fun u hu => ⟨iter_nextWdT k u hu, wdT_bStep k u⟩) _ _ (wdT_bStep j t)

/-! ### the mirror image: the daily grid read backwards, by the reflection `t ↦ 5 days - 1 µs - t` (Monday ↔ Friday) -/

/-- the backward daily iteration `t, t - 1 day, …` down to `lo` -/
def dailyDown (t lo : Int) : List Int := downTo (· - DAY) t lo

/-- the reflection of the time axis that maps weekdays to weekdays (Monday ↔ Friday) -/
def weekRefl (t : Int) : Int := 5 * DAY - 1 - t

theorem weekRefl_invol (t : Int) : weekRefl (weekRefl t) = t := by unfold weekRefl; omega

theorem wdT_refl (t : Int) : wdT (weekRefl t) = (4 - wdT t) % 7 := by
  unfold weekRefl wdT DAY; omega

theorem isWd_refl : (fun t => isWd (weekRefl t)) = isWd := by
  funext t
  have := wdT_refl t
  have := wdT_range t
  unfold isWd
  by_cases h : wdT t < 5
  · simp [h]; omega
  · simp [h]; omega

theorem bOff_refl (w n : Int) (hw : 0 ≤ w ∧ w < 5) : bOff (4 - w) n = -bOff w (-n) := by
  rw [bOff_weekday (4 - w) n (by omega), bOff_weekday w (-n) hw]
  omega

theorem iterDown_refl (step : Int → Int) (t1 : Int) (f : Nat) (t : Int) :
    iterDown step t1 f t = (iterUp (fun u => weekRefl (step (weekRefl u))) (weekRefl t1) f (weekRefl t)).map weekRefl :=
  iterDown_reflect (5 * DAY - 1) step t1 f t

theorem downTo_refl (step : Int → Int) (t0 t1 : Int) :
    downTo step t0 t1 = (upTo (fun u => weekRefl (step (weekRefl u))) (weekRefl t0) (weekRefl t1)).map weekRefl :=
  downTo_reflect (5 * DAY - 1) step t0 t1

theorem bStep_refl (k u : Int) (hu : wdT u < 5) : weekRefl (bStep (-k) (weekRefl u)) = bStep k u := by
  have hr := wdT_range u
  have hw : wdT (weekRefl u) = 4 - wdT u := by rw [wdT_refl]; omega
  unfold bStep
  rw [hw, bOff_refl _ _ ⟨hr.1, hu⟩, Int.neg_neg]
  unfold weekRefl DAY
  omega

/-- every k-th weekday of the backward daily grid from a weekday `t`, after skipping `j`, is the `dt_bump '-kb'` iteration
started at the `j`-th weekday before `t` -/
theorem strideGo_weekdays_down (k : Nat) (hk : 1 ≤ k) (lo : Int) :
    ∀ (n : Nat) (t : Int) (j : Nat), (t + 1 - lo).toNat ≤ n → wdT t < 5 →
    strideGo k ((dailyDown t lo).filter isWd) j =
      downTo (bStep (-(k : Int))) (t + DAY * bOff (wdT t) (-(j : Int))) lo := by
  intro n t j hn hw
  have hr := wdT_range t
  have hwr : wdT (weekRefl t) < 5 := by rw [wdT_refl]; omega
  have e1 : (fun u => weekRefl (weekRefl u - DAY)) = (· + DAY) := by funext u; unfold weekRefl; omega
  have ea : weekRefl (t + DAY * bOff (wdT t) (-(j : Int))) = bStep j (weekRefl t) := by
    rw [← bStep_refl j (weekRefl t) hwr, weekRefl_invol]; rfl
  have key := strideGo_weekdays k hk (weekRefl lo) n (weekRefl t) j (by unfold weekRefl; omega) hwr
  unfold dailyDown
  rw [downTo_refl, e1, List.filter_map, show (isWd ∘ weekRefl) = isWd from isWd_refl, strideGo_map, downTo_refl, ea]
  unfold daily at key
  rw [key]
  congr 1
  exact upTo_congr _ _ (fun u => wdT u < 5)
    (fun u hu => ⟨(bStep_refl k u hu).symm, by rw [bStep_refl k u hu]; exact wdT_bStep k u⟩) _ _ (wdT_bStep j (weekRefl t))


end Pyg.DRange
