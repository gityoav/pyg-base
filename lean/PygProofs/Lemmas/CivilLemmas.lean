/-
  The closed-form Gregorian arithmetic of PygModel/Civil.lean, for every integer day number and year (`/`, `%` floor), counted
  from March: `ymd` and `ord` are inverse bijections between day numbers and calendar dates, months are contiguous and 28..31
  days long, and from a day of month ≤ 28 adding months keeps the day and is additive.
-/
import PygModel.Civil
import PygProofs.Lemmas.YearArith

namespace Pyg.Civil
open Pyg

/-- Gregorian leap year, on integers -/
def Leap (y : Int) : Prop := y % 4 = 0 ∧ (y % 100 ≠ 0 ∨ y % 400 = 0)

instance (y : Int) : Decidable (Leap y) := by unfold Leap; infer_instance

/-- length of month `m` (1..12) of year `y` -/
def dim (y m : Int) : Int :=
  if m = 2 then (if Leap y then 29 else 28)
  else if m = 4 ∨ m = 6 ∨ m = 9 ∨ m = 11 then 30 else 31

/-- a calendar date -/
def Valid (y m d : Int) : Prop := 1 ≤ m ∧ m ≤ 12 ∧ 1 ≤ d ∧ d ≤ dim y m

/-- days from 0000-03-01 to March 1st of year `y` -/
def dbY (y : Int) : Int := 365 * y + y / 4 - y / 100 + y / 400

/-- day `doy` of the year that starts on March 1st of `y`; day 365 is February 29th of `y + 1` -/
def DayOfYear (y doy : Int) : Prop := 0 ≤ doy ∧ doy ≤ 365 ∧ (doy = 365 → Leap (y + 1))

theorem dbY_digits (e c q s : Int) (hc : 0 ≤ c ∧ c ≤ 3) (hq : 0 ≤ q ∧ q ≤ 24) (hs : 0 ≤ s ∧ s ≤ 3) :
    dbY (400 * e + 100 * c + 4 * q + s) = 146097 * e + 36524 * c + 1461 * q + 365 * s ∧
    (Leap (400 * e + 100 * c + 4 * q + s + 1) ↔ s = 3 ∧ (q ≠ 24 ∨ c = 3)) :=
  Year.days_digits e c q s hc hq hs

theorem dbY_succ (y : Int) : dbY (y + 1) = dbY y + (if Leap (y + 1) then 366 else 365) :=
  Year.days_succ y

/-- the two century corrections cancel to the century number -/
theorem cent_fact (c doe : Int) (hc : 0 ≤ c ∧ c ≤ 3) (h1 : 36524 * c ≤ doe) (h2 : doe ≤ 36524 * c + 36524)
    (h3 : doe = 36524 * c + 36524 → c = 3) : doe / 36524 - doe / 146096 = c := by
  have hc : c = 0 ∨ c = 1 ∨ c = 2 ∨ c = 3 := by omega
  rcases hc with rfl | rfl | rfl | rfl <;> omega

/-- the heart of the "civil from days" algorithm: day `doy` of the `s`-th year of the `q`-th 4-year group of the
`c`-th century of a 400-year era lies in year-of-era `100c + 4q + s` according to the closed formula -/
theorem yoe_fact (c q s doy doe : Int) (hc : 0 ≤ c ∧ c ≤ 3) (hq : 0 ≤ q ∧ q ≤ 24) (hs : 0 ≤ s ∧ s ≤ 3)
    (hd0 : 0 ≤ doy) (hd1 : doy ≤ 365) (hd2 : doy = 365 → s = 3 ∧ (q ≠ 24 ∨ c = 3))
    (he : doe = 36524 * c + 1461 * q + 365 * s + doy) :
    (doe - doe / 1460 + doe / 36524 - doe / 146096) / 365 = 100 * c + 4 * q + s := by
  -- each `omega` below sees only the facts it needs: with the others in scope its search is many times longer
  have h1 : doe / 36524 - doe / 146096 = c := cent_fact c doe hc (by omega) (by omega) (by omega)
  -- `doe = 1460 (25c + q) + t`, and `t < 2 * 1460` reaches 1460 only on the last day of a 4-year group
  have h2 : doe / 1460 = 25 * c + q + (24 * c + q + 365 * s + doy) / 1460 := by
    clear h1 hd2
    omega
  have h3 : 0 ≤ doy - (24 * c + q + 365 * s + doy) / 1460 ∧ doy - (24 * c + q + 365 * s + doy) / 1460 ≤ 364 := by
    clear h1 h2 he
    omega
  clear hc hq hs hd0 hd1 hd2
  omega

/-- days from March 1st to the first of the `k`-th month after March -/
def off (k : Int) : Int := (153 * k + 2) / 5

/-- month and day from the (March-based) day of the year, and the year correction -/
def tail (y' doy : Int) : Int × Int × Int :=
  let k := (5 * doy + 2) / 153
  let m := if k < 10 then k + 3 else k - 9
  (y' + (if m ≤ 2 then 1 else 0), m, doy - off k + 1)

theorem ymd_of (y doy : Int) (h : DayOfYear y doy) : ymd (dbY y + doy - 305) = tail y doy := by
  obtain ⟨e, c, q, s, hc, hq, hs, rfl⟩ : ∃ e c q s, (0 ≤ c ∧ c ≤ 3) ∧ (0 ≤ q ∧ q ≤ 24) ∧ (0 ≤ s ∧ s ≤ 3) ∧
      y = 400 * e + 100 * c + 4 * q + s :=
    ⟨y / 400, y % 400 / 100, y % 100 / 4, y % 4, by omega, by omega, by omega, by omega⟩
  obtain ⟨hY, hl⟩ := dbY_digits e c q s hc hq hs
  obtain ⟨hd0, hd1, hd2⟩ := h
  rw [hl] at hd2
  generalize hdoe : 36524 * c + 1461 * q + 365 * s + doy = doe
  have e1 : (dbY (400 * e + 100 * c + 4 * q + s) + doy - 305 + 305) / 146097 = e := by omega
  have e2 : (dbY (400 * e + 100 * c + 4 * q + s) + doy - 305 + 305) % 146097 = doe := by omega
  have e3 : doe - (365 * (100 * c + 4 * q + s) + (100 * c + 4 * q + s) / 4 - (100 * c + 4 * q + s) / 100) = doy := by
    clear e1 e2 hl hY hd2
    omega
  have e4 : 100 * c + 4 * q + s + e * 400 = 400 * e + 100 * c + 4 * q + s := by omega
  unfold ymd
  simp only [e1, e2, yoe_fact c q s doy doe hc hq hs hd0 hd1 hd2 hdoe.symm, e3, e4]
  rfl

/-- divide by `B`, but let the fourth digit take the extra unit: the shape of both Gregorian corrections (an era is four
centuries and a day, a 4-year group four years and a day) -/
theorem capped_digit (B r : Int) (h0 : 0 ≤ r) (h1 : r ≤ 4 * B) :
    ∃ c r', (0 ≤ c ∧ c ≤ 3) ∧ (0 ≤ r' ∧ r' ≤ B ∧ (r' = B → c = 3)) ∧ r = B * c + r' := by
  by_cases a : r < B
  · exact ⟨0, r, by omega, by omega, by omega⟩
  · by_cases b : r < 2 * B
    · exact ⟨1, r - B, by omega, by omega, by omega⟩
    · by_cases c : r < 3 * B
      · exact ⟨2, r - 2 * B, by omega, by omega, by omega⟩
      · exact ⟨3, r - 3 * B, by omega, by omega, by omega⟩

theorem exists_year (z : Int) : ∃ y doy, DayOfYear y doy ∧ z = dbY y + doy := by
  obtain ⟨c, r1, hc, hr1, hz⟩ := capped_digit 36524 (z % 146097) (by omega) (by omega)
  obtain ⟨s, doy, hs, hd, hr2⟩ := capped_digit 365 (r1 % 1461) (by omega) (by omega)
  obtain ⟨hY, hl⟩ := dbY_digits (z / 146097) c (r1 / 1461) s hc (by omega) hs
  refine ⟨400 * (z / 146097) + 100 * c + 4 * (r1 / 1461) + s, doy, ⟨hd.1, hd.2.1, ?_⟩, by omega⟩
  rw [hl]
  omega

theorem ord_eq (y m d : Int) :
    ord y m d = dbY (if m ≤ 2 then y - 1 else y) + off (if m > 2 then m - 3 else m + 9) + d - 306 := by
  unfold ord dbY off
  simp only []
  generalize (if m ≤ 2 then y - 1 else y) = y'
  generalize (153 * (if m > 2 then m - 3 else m + 9) + 2) / 5 = o
  omega

theorem month_of_off (k d : Int) (h1 : 1 ≤ d) (h2 : d ≤ off (k + 1) - off k) : (5 * (off k + d - 1) + 2) / 153 = k := by
  unfold off at *
  omega

theorem off_month (doy : Int) : off ((5 * doy + 2) / 153) ≤ doy ∧ doy < off ((5 * doy + 2) / 153 + 1) := by
  unfold off
  omega

/-- the month lengths are the gaps of `off`, but for February, the last month -/
theorem dim_eq_off (y k : Int) (h0 : 0 ≤ k) (h1 : k ≤ 10) :
    dim y (if k < 10 then k + 3 else k - 9) = off (k + 1) - off k := by
  have hk : k = 0 ∨ k = 1 ∨ k = 2 ∨ k = 3 ∨ k = 4 ∨ k = 5 ∨ k = 6 ∨ k = 7 ∨ k = 8 ∨ k = 9 ∨ k = 10 := by omega
  rcases hk with rfl | rfl | rfl | rfl | rfl | rfl | rfl | rfl | rfl | rfl | rfl <;> rfl

/-- a calendar date is day `off k + d - 1` of its March-based year, and `tail` decodes it -/
theorem date_doy (y m d : Int) (v : Valid y m d) :
    ∃ y' doy, DayOfYear y' doy ∧ ord y m d = dbY y' + doy - 305 ∧ tail y' doy = (y, m, d) := by
  obtain ⟨h1, h2, h3, h4⟩ := v
  obtain ⟨k, hk⟩ : ∃ k, k = if m > 2 then m - 3 else m + 9 := ⟨_, rfl⟩
  have hk0 : 0 ≤ k := by omega
  have hm : m = if k < 10 then k + 3 else k - 9 := by omega
  have hy : (if m ≤ 2 then y - 1 else y) + (if m ≤ 2 then 1 else 0) = y := by omega
  have hlen : d ≤ off (k + 1) - off k ∧ DayOfYear (if m ≤ 2 then y - 1 else y) (off k + d - 1) := by
    unfold DayOfYear
    by_cases hk10 : k ≤ 10
    · rw [hm, dim_eq_off y k hk0 hk10] at h4
      -- the `if`s of `hk hm hy` make every `omega` below split cases
      clear hk hm hy h1 h2
      unfold off at *
      exact ⟨h4, by omega, by omega, fun h => absurd h (by omega)⟩
    · obtain rfl : k = 11 := by omega
      obtain rfl : m = 2 := by omega
      have hd : dim y 2 = if Leap y then 29 else 28 := rfl
      have hy' : (if (2 : Int) ≤ 2 then y - 1 else y) + 1 = y := by omega
      rw [show off 11 = 337 from rfl, show off (11 + 1) = 367 from rfl, hy']
      rw [hd] at h4
      clear hk hm hy h1 h2 hy'
      by_cases hl : Leap y
      · rw [if_pos hl] at h4
        exact ⟨by omega, by omega, by omega, fun _ => hl⟩
      · rw [if_neg hl] at h4
        exact ⟨by omega, by omega, by omega, fun h => absurd h (by omega)⟩
  refine ⟨if m ≤ 2 then y - 1 else y, off k + d - 1, hlen.2, by rw [ord_eq, ← hk]; omega, ?_⟩
  unfold tail
  simp only [month_of_off k d h3 hlen.1]
  rw [← hm, hy]
  have : off k + d - 1 - off k + 1 = d := by omega
  rw [this]

/-- conversely `tail` of a day of a March-based year is a calendar date with that day number -/
theorem doy_date (y' doy : Int) (h : DayOfYear y' doy) :
    Valid (tail y' doy).1 (tail y' doy).2.1 (tail y' doy).2.2 ∧
    ord (tail y' doy).1 (tail y' doy).2.1 (tail y' doy).2.2 = dbY y' + doy - 305 := by
  obtain ⟨hd0, hd1, hd2⟩ := h
  obtain ⟨ho1, ho2⟩ := off_month doy
  unfold tail
  simp only []
  generalize (5 * doy + 2) / 153 = k at ho1 ho2 ⊢
  have hk : 0 ≤ k ∧ k ≤ 11 := by
    unfold off at ho1 ho2
    omega
  obtain ⟨m, hm⟩ : ∃ m, m = if k < 10 then k + 3 else k - 9 := ⟨_, rfl⟩
  rw [← hm]
  have hk' : (if m > 2 then m - 3 else m + 9) = k := by omega
  have hy : (if m ≤ 2 then y' + (if m ≤ 2 then 1 else 0) - 1 else y' + (if m ≤ 2 then 1 else 0)) = y' := by omega
  refine ⟨⟨by omega, by omega, by omega, ?_⟩, by rw [ord_eq, hk', hy]; omega⟩
  by_cases hk10 : k ≤ 10
  · rw [hm, dim_eq_off _ k hk.1 hk10]
    omega
  · obtain rfl : k = 11 := by omega
    obtain rfl : m = 2 := by omega
    have o11 : off 11 = 337 := rfl
    have hd : dim (y' + 1) 2 = if Leap (y' + 1) then 29 else 28 := rfl
    rw [o11, if_pos (by omega), hd]
    by_cases hl : Leap (y' + 1)
    · rw [if_pos hl]
      omega
    · rw [if_neg hl]
      have : doy ≠ 365 := fun h => hl (hd2 h)
      omega

/-- date → day number → date, for every calendar date of every integer year -/
theorem ymd_ord (y m d : Int) (v : Valid y m d) : ymd (ord y m d) = (y, m, d) := by
  obtain ⟨y', doy, h, ho, ht⟩ := date_doy y m d v
  rw [ho, ymd_of y' doy h, ht]

/-- day number → date → day number, and the date is a calendar date: every integer day number -/
theorem ord_ymd (n : Int) :
    Valid (ymd n).1 (ymd n).2.1 (ymd n).2.2 ∧ ord (ymd n).1 (ymd n).2.1 (ymd n).2.2 = n := by
  obtain ⟨y', doy, h, hz⟩ := exists_year (n + 305)
  have hn : n = dbY y' + doy - 305 := by omega
  have := doy_date y' doy h
  rw [← ymd_of y' doy h, ← hn] at this
  exact this

/-- `ord` is affine in the day (an over-long day just runs on, as `datetime(y,m,1) + (d-1)*DAY` does) -/
theorem ord_day (y m d : Int) : ord y m d = ord y m 1 + (d - 1) := by
  unfold ord; simp only []; omega

theorem dim_bounds (y m : Int) : 28 ≤ dim y m ∧ dim y m ≤ 31 := by
  unfold dim; repeat' split
  all_goals omega

/-- first day of the month with month count `M = 12*y + (m-1)` -/
def monthStart (M : Int) : Int := ord (M / 12) (1 + M % 12) 1

/-- months counted from March: the first of the `K`-th month after March of the year that starts on March 1st of `Y` -/
theorem monthStart_march (Y K : Int) (hK : 0 ≤ K ∧ K ≤ 11) : monthStart (12 * Y + K + 2) = dbY Y + off K - 305 := by
  have e1 : (if 1 + (12 * Y + K + 2) % 12 ≤ 2 then (12 * Y + K + 2) / 12 - 1 else (12 * Y + K + 2) / 12) = Y := by omega
  have e2 : (if 1 + (12 * Y + K + 2) % 12 > 2 then 1 + (12 * Y + K + 2) % 12 - 3 else 1 + (12 * Y + K + 2) % 12 + 9) = K := by
    omega
  unfold monthStart
  rw [ord_eq, e1, e2]
  omega

theorem monthStart_succ (M : Int) : monthStart (M + 1) = monthStart M + dim (M / 12) (1 + M % 12) := by
  obtain ⟨Y, K, hK, rfl⟩ : ∃ Y K, (0 ≤ K ∧ K ≤ 11) ∧ M = 12 * Y + K + 2 := ⟨(M - 2) / 12, (M - 2) % 12, by omega, by omega⟩
  rw [monthStart_march Y K hK]
  by_cases hk10 : K ≤ 10
  · rw [show 12 * Y + K + 2 + 1 = 12 * Y + (K + 1) + 2 by omega, monthStart_march Y (K + 1) (by omega),
      show 1 + (12 * Y + K + 2) % 12 = if K < 10 then K + 3 else K - 9 by omega, dim_eq_off _ K hK.1 hk10]
    omega
  · obtain rfl : K = 11 := by omega
    rw [show 12 * Y + 11 + 2 + 1 = 12 * (Y + 1) + 0 + 2 by omega, monthStart_march (Y + 1) 0 (by omega),
      show (12 * Y + 11 + 2) / 12 = Y + 1 by omega, show 1 + (12 * Y + 11 + 2) % 12 = 2 by omega, dbY_succ,
      show dim (Y + 1) 2 = if Leap (Y + 1) then 29 else 28 from rfl, show off 0 = 0 from rfl, show off 11 = 337 from rfl]
    split <;> omega

theorem monthStart_add_nat (M : Int) : ∀ k : Nat,
    monthStart M + 28 * (k : Int) ≤ monthStart (M + k) ∧ monthStart (M + k) ≤ monthStart M + 31 * (k : Int)
  | 0 => by simp
  | k + 1 => by
    have ih := monthStart_add_nat M k
    have h := monthStart_succ (M + k)
    have hb := dim_bounds ((M + k) / 12) (1 + (M + k) % 12)
    have e : M + ((k + 1 : Nat) : Int) = M + (k : Int) + 1 := by omega
    rw [e, h]
    omega

theorem monthStart_add (M k : Int) (hk : 0 ≤ k) :
    monthStart M + 28 * k ≤ monthStart (M + k) ∧ monthStart (M + k) ≤ monthStart M + 31 * k := by
  have := monthStart_add_nat M k.toNat
  have e : (k.toNat : Int) = k := by omega
  rw [e] at this; exact this

theorem ordYM_eq (y m d : Int) : ordYM y m d = monthStart (12 * y + m - 1) + (d - 1) := by
  unfold ordYM ymNorm monthStart
  simp only []
  rw [ord_day]
  have e1 : (12 * y + m - 1) / 12 = y + (m - 1) / 12 := by omega
  have e2 : (12 * y + m - 1) % 12 = (m - 1) % 12 := by omega
  rw [e1, e2]

theorem ordYM_of_month (y m d : Int) (h : 1 ≤ m ∧ m ≤ 12) : ordYM y m d = ord y m d := by
  unfold ordYM ymNorm
  simp only []
  rw [show y + (m - 1) / 12 = y by omega, show 1 + (m - 1) % 12 = m by omega]

/-- the month count of the date of day `n` -/
def monthCount (n : Int) : Int := 12 * (ymd n).1 + (ymd n).2.1 - 1

theorem day_split (n : Int) : n = monthStart (monthCount n) + ((ymd n).2.2 - 1) := by
  obtain ⟨v, e⟩ := ord_ymd n
  obtain ⟨h1, h2, _, _⟩ := v
  have := ordYM_eq (ymd n).1 (ymd n).2.1 (ymd n).2.2
  unfold monthCount
  rw [← this, ordYM_of_month _ _ _ ⟨h1, h2⟩, e]

theorem addMonths_eq (n k : Int) : addMonths n k = monthStart (monthCount n + k) + ((ymd n).2.2 - 1) := by
  unfold addMonths monthCount
  show ordYM (ymd n).1 ((ymd n).2.1 + k) (ymd n).2.2 = _
  rw [ordYM_eq]
  have : 12 * (ymd n).1 + ((ymd n).2.1 + k) - 1 = 12 * (ymd n).1 + (ymd n).2.1 - 1 + k := by omega
  rw [this]

theorem addMonths_fwd (n k : Int) (hk : 0 ≤ k) : n + 28 * k ≤ addMonths n k ∧ addMonths n k ≤ n + 31 * k := by
  have h := monthStart_add (monthCount n) k hk
  have h1 := day_split n
  have h2 := addMonths_eq n k
  omega

theorem addMonths_bwd (n k : Int) (hk : k ≤ 0) : n + 31 * k ≤ addMonths n k ∧ addMonths n k ≤ n + 28 * k := by
  have h := monthStart_add (monthCount n + k) (-k) (by omega)
  have e : monthCount n + k + -k = monthCount n := by omega
  rw [e] at h
  have h1 := day_split n
  have h2 := addMonths_eq n k
  omega

theorem ordYM_year (y k m d : Int) : ordYM (y + k) m d = ordYM y (m + 12 * k) d := by
  rw [ordYM_eq, ordYM_eq]
  have : 12 * (y + k) + m - 1 = 12 * y + (m + 12 * k) - 1 := by omega
  rw [this]

theorem ymd_addMonths (n k : Int) (hd : (ymd n).2.2 ≤ 28) :
    ymd (addMonths n k) = ((monthCount n + k) / 12, 1 + (monthCount n + k) % 12, (ymd n).2.2) := by
  obtain ⟨v, _⟩ := ord_ymd n
  rw [addMonths_eq]
  unfold monthStart
  rw [← ord_day]
  apply ymd_ord
  have hb := dim_bounds ((monthCount n + k) / 12) (1 + (monthCount n + k) % 12)
  unfold Valid at *
  omega

theorem day_addMonths (n k : Int) (hd : day n ≤ 28) : day (addMonths n k) = day n := by
  unfold day at *; rw [ymd_addMonths n k hd]

theorem monthCount_addMonths (n k : Int) (hd : (ymd n).2.2 ≤ 28) : monthCount (addMonths n k) = monthCount n + k := by
  show 12 * (ymd (addMonths n k)).1 + (ymd (addMonths n k)).2.1 - 1 = monthCount n + k
  rw [ymd_addMonths n k hd]; simp only []; omega

theorem addMonths_add (n k j : Int) (hd : day n ≤ 28) : addMonths (addMonths n k) j = addMonths n (k + j) := by
  unfold day at hd
  rw [addMonths_eq (addMonths n k) j, monthCount_addMonths n k hd, ymd_addMonths n k hd, addMonths_eq n (k + j)]
  simp only []
  have : monthCount n + k + j = monthCount n + (k + j) := by omega
  rw [this]

theorem addMonths_zero (n : Int) : addMonths n 0 = n := by
  have := day_split n
  rw [addMonths_eq, Int.add_zero]; omega

end Pyg.Civil
