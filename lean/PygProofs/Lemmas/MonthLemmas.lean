/-
  The month / quarter / year units of dt_bump and `_ymd` (C09, C04, C10): what the generated `Gen.ym` / `Gen.ymd`
  compute, and what `datetime(y, m, 1) + (d-1) days` is in calendar terms.
-/
import PygProofs.Lemmas.BumpLemmas
import PygProofs.Lemmas.GregLemmas

namespace Pyg.Bump
open Pyg Pyg.Gen Pyg.Greg

theorem ymd_of_not_swap (y m d : Int) (h : ¬ Gen.ymdSwap y m d) :
    Gen.ymd y m d = ⟨(Gen.ym y m).1, (Gen.ym y m).2, d - 1⟩ := by
  unfold Gen.ymdSwap at h
  unfold Gen.ymd
  simp only [h, if_false]

theorem ymd_small_day (y m d : Int) (hd : d ≤ 1500) :
    Gen.ymd y m d = ⟨(Gen.ym y m).1, (Gen.ym y m).2, d - 1⟩ :=
  ymd_of_not_swap y m d (by unfold Gen.ymdSwap; omega)

theorem ym_congr (Y M Y' M' : Int) (h : 12 * Y + M = 12 * Y' + M') : Gen.ym Y M = Gen.ym Y' M' := by
  unfold Gen.ym; simp only [Prod.mk.injEq]; omega

theorem ym_normal (y m : Int) :
    1 ≤ (Gen.ym y m).2 ∧ (Gen.ym y m).2 ≤ 12 ∧ 12 * (Gen.ym y m).1 + (Gen.ym y m).2 = 12 * y + m := by
  unfold Gen.ym; simp only []; omega

theorem ym_of_normal (Y M y m : Int) (h1 : 1 ≤ m) (h2 : m ≤ 12) (h : 12 * Y + M = 12 * y + m) :
    Gen.ym Y M = (y, m) := by
  unfold Gen.ym; simp only [Prod.mk.injEq]; omega

theorem ymdOf_mkDate (y m d : Nat) (v : Valid y m d) : ymdOf (mkDate y m d) = ⟨y, m, d⟩ := by
  unfold ymdOf mkDate
  rw [ordOf_ofOrd, Int.toNat_natCast]
  exact fromOrd_ord_all y m d v.toU

/-- "day `d` of month `(y, m)`" for any day number up to 31 is a representable instant: past the end of the month it is a day of the
next month, and December has 31 days, so nothing leaves year 9999 -/
theorem inRange_mkDate_31 (y m d : Nat) (hy : 1 ≤ y ∧ y ≤ 9999) (hm : 1 ≤ m ∧ m ≤ 12) (hd : 1 ≤ d ∧ d ≤ 31) :
    InRange (mkDate y m d) := by
  have h1 := ord_le_next_year y m d hy.1 hm hd.2
  have h2 := dby_mono (y + 1) 10000 (by omega) (by omega)
  rw [dby_10000] at h2
  have h3 : d ≤ ord y m d := by unfold ord; omega
  unfold mkDate
  rw [inRange_ofOrd]
  omega

theorem inRange_mkDate (y m d : Nat) (v : Valid y m d) : InRange (mkDate y m d) := by
  have b := v.bounds
  exact inRange_mkDate_31 y m d ⟨b.1, b.2.1⟩ ⟨b.2.2.1, b.2.2.2.1⟩ ⟨b.2.2.2.2.1, b.2.2.2.2.2.1⟩

theorem checkRange_mkDate (y m d : Nat) (v : Valid y m d) : checkRange (mkDate y m d) = .ok (mkDate y m d) :=
  checkRange_of_inRange (inRange_mkDate y m d v)

theorem mkDate_1900 : mkDate 1900 1 1 = 693595 * DAYUS := by decide +kernel
theorem mkDate_2300 : mkDate 2300 1 1 = 839692 * DAYUS := by decide +kernel

/-- the library's range in microseconds lies inside the window of `date_in_window` and inside `InRange` -/
theorem window_of_range (t : Int) (h0 : mkDate 1900 1 1 ≤ t) (h1 : t < mkDate 2300 1 1) :
    (693595 * DAYUS ≤ t ∧ t < 839692 * DAYUS) ∧ (640000 * DAYUS ≤ t ∧ t < 890000 * DAYUS) ∧ InRange t := by
  rw [mkDate_1900] at h0; rw [mkDate_2300] at h1
  unfold InRange DAYUS MAXUS at *
  omega

theorem mkDate_day (y m d : Nat) : mkDate y m d = mkDate y m 1 + ((d : Int) - 1) * DAYUS := by
  unfold mkDate ofOrd ord DAYUS; omega

def nextMonth (y m : Nat) : Nat × Nat := if m < 12 then (y, m + 1) else (y + 1, 1)

theorem month_contig (y m : Nat) (hy : 1 ≤ y) (h1 : 1 ≤ m) (h2 : m ≤ 12) :
    ord y m 1 + dim y m = ord (nextMonth y m).1 (nextMonth y m).2 1 := by
  unfold nextMonth
  split
  · rename_i h; simp only []; unfold ord; rw [dbm_succ y m h1 h]; omega
  · have hm : m = 12 := by omega
    subst hm
    have e1 := dbm_last y; have e2 := dby_succ y hy
    have e3 : dbm (y + 1) 1 = 0 := by simp [dbm, dbmTable]
    simp only []; unfold ord; rw [e3]; omega

theorem mkDate_roll (y m d : Nat) (hy : 1 ≤ y) (hm : 1 ≤ m ∧ m ≤ 12) (h : dim y m ≤ d) :
    mkDate (nextMonth y m).1 (nextMonth y m).2 (d - dim y m) = mkDate y m d := by
  have hc := month_contig y m hy hm.1 hm.2
  unfold mkDate ofOrd DAYUS ord at *
  omega

theorem mkMonthPlus_of_month (y m : Nat) (k : Int) (hy : 1 ≤ y ∧ y ≤ 9999) (hm : 1 ≤ m ∧ m ≤ 12) :
    mkMonthPlus ⟨y, m, k⟩ = checkRange (mkDate y m 1 + k * DAYUS) := by
  have hc : (1 : Int) ≤ (y : Int) ∧ (y : Int) ≤ 9999 ∧ (1 : Int) ≤ (m : Int) ∧ (m : Int) ≤ 12 := by omega
  unfold mkMonthPlus
  simp only [if_pos hc, Int.toNat_natCast]
  rw [ofOrd_add]
  rfl

theorem mkMonthPlus_of_day (y m d : Nat) (hy : 1 ≤ y ∧ y ≤ 9999) (hm : 1 ≤ m ∧ m ≤ 12) :
    mkMonthPlus ⟨y, m, (d : Int) - 1⟩ = checkRange (mkDate y m d) := by
  rw [mkMonthPlus_of_month y m _ hy hm, ← mkDate_day]

theorem inRange_of_mkMonthPlus_ok (p : MonthPlus) (r : Int) (h : mkMonthPlus p = .ok r) : InRange r ∧ todOf r = 0 := by
  unfold mkMonthPlus at h
  split at h
  · have := (checkRange_ok _ _).1 h
    rw [this.2]
    exact ⟨this.1, todOf_ofOrd _⟩
  · cases h

theorem applyStep_inRange (t : Int) (st : Step) (r : Int) (h : applyStep t st = .ok r) : InRange r := by
  cases st with
  | days k => simp only [applyStep, checkRange_ok] at h; rw [h.2]; exact h.1
  | micros k => simp only [applyStep, checkRange_ok] at h; rw [h.2]; exact h.1
  | bday k => have h := bday_ok _ _ _ h; rw [h.2]; exact h.1
  | ymdShift dy dm =>
    simp only [applyStep, ymdDate] at h
    exact (inRange_of_mkMonthPlus_ok _ r h).1

/-- the month / quarter / year step from any instant: `_ymd(t.year + dy, t.month + dm, t.day)` is midnight of day `t.day` of the
normalised month, read as an ordinal (`mkDate_roll`: a day past the end of the month is a day of the next); the only failure is a
target year outside 1..9999 -/
theorem applyStep_ymdShift (t dy dm : Int) (ht : 0 ≤ t) :
    applyStep t (.ymdShift dy dm) =
      if 1 ≤ (Gen.ym ((ymdOf t).y + dy) ((ymdOf t).m + dm)).1 ∧ (Gen.ym ((ymdOf t).y + dy) ((ymdOf t).m + dm)).1 ≤ 9999 then
        .ok (mkDate (Gen.ym ((ymdOf t).y + dy) ((ymdOf t).m + dm)).1.toNat (Gen.ym ((ymdOf t).y + dy) ((ymdOf t).m + dm)).2.toNat
          (ymdOf t).d)
      else .error .value := by
  have hv : ValidU (ymdOf t).y (ymdOf t).m (ymdOf t).d := (good_all (ordOf t).toNat (by have := ordOf_pos t ht; omega)).1
  unfold ValidU at hv
  have hb := dim_bounds (ymdOf t).y (ymdOf t).m hv.2.1 hv.2.2.1
  have hn := ym_normal ((ymdOf t).y + dy) ((ymdOf t).m + dm)
  simp only [applyStep, ymdDate]
  rw [ymd_small_day _ _ _ (by omega)]
  generalize Gen.ym ((ymdOf t).y + dy) ((ymdOf t).m + dm) = q at hn ⊢
  split
  · rename_i hy
    have e : (⟨q.1, q.2, ((ymdOf t).d : Int) - 1⟩ : MonthPlus) = ⟨(q.1.toNat : Nat), (q.2.toNat : Nat), ((ymdOf t).d : Int) - 1⟩ := by
      rw [Int.toNat_of_nonneg (by omega), Int.toNat_of_nonneg (by omega)]
    rw [e, mkMonthPlus_of_day _ _ _ (by omega) (by omega)]
    exact checkRange_of_inRange (inRange_mkDate_31 _ _ _ (by omega) (by omega) (by omega))
  · rename_i hy
    unfold mkMonthPlus
    rw [if_neg (fun h => hy ⟨h.1, h.2.1⟩)]

theorem date_of_instant (t : Int) (h : InRange t) :
    Valid (ymdOf t).y (ymdOf t).m (ymdOf t).d ∧ t - todOf t = mkDate (ymdOf t).y (ymdOf t).m (ymdOf t).d ∧
    (ord (ymdOf t).y (ymdOf t).m (ymdOf t).d : Int) = ordOf t := by
  have ho := (inRange_iff t).1 h
  have hn : ((ordOf t).toNat : Int) = ordOf t := Int.toNat_of_nonneg (by omega)
  obtain ⟨v, e⟩ := ord_fromOrd_all (ordOf t).toNat (by omega) (by omega)
  refine ⟨v, ?_, by unfold ymdOf; rw [e, hn]⟩
  unfold mkDate ymdOf
  rw [e, hn, sub_todOf]

theorem date_in_window (t : Int) (h0 : 640000 * DAYUS ≤ t) (h1 : t < 890000 * DAYUS) :
    InRange t ∧ 1700 ≤ (ymdOf t).y ∧ (ymdOf t).y < 2500 := by
  have ho := And.intro ((days_le_iff 640000 t).1 h0) ((lt_days_iff t 890000).1 h1)
  have ht : InRange t := (inRange_iff t).2 (by omega)
  obtain ⟨v, _, o⟩ := date_of_instant t ht
  exact ⟨ht, year_of_ord _ _ _ 1700 2500 v.toU (by omega)
    (by rw [show dby 1700 = 620547 by decide]; omega) (by rw [show dby 2500 = 912741 by decide]; omega)⟩

end Pyg.Bump
