/-
  C03: the container recursion keeps the structure (`Tree.skel`) and acts position by position (`Pairs`).  One induction principle
  (`mapMS_ok_rec`) for the recursion that may hand a method list out; the plain `@loop` recursion `Tree.mapM` is its bare case.
-/
import PygProofs.Lemmas.AlignLemmas

namespace Pyg.Align
open Pyg Pyg.Fill

/-- two lists related position by position -/
inductive Pairs {α β : Type} (R : α → β → Prop) : List α → List β → Prop
  | nil : Pairs R [] []
  | cons {a b as bs} : R a b → Pairs R as bs → Pairs R (a :: as) (b :: bs)

namespace Pairs
variable {α β γ : Type} {R : α → β → Prop}

theorem append {a1 a2 : List α} {b1 b2 : List β} (h1 : Pairs R a1 b1) (h2 : Pairs R a2 b2) :
    Pairs R (a1 ++ a2) (b1 ++ b2) := by
  induction h1 with
  | nil => exact h2
  | cons h _ ih => exact .cons h ih

theorem length_eq {a : List α} {b : List β} (h : Pairs R a b) : b.length = a.length := by
  induction h with
  | nil => rfl
  | cons _ _ ih => simp [ih]

theorem get {a : List α} {b : List β} (h : Pairs R a b) (k : Nat) (x : α) (hk : a[k]? = some x) :
    ∃ y, b[k]? = some y ∧ R x y := by
  induction h generalizing k with
  | nil => nomatch hk
  | cons h0 _ ih =>
    cases k with
    | zero => cases Option.some.inj hk; exact ⟨_, rfl, h0⟩
    | succ k => exact ih k hk

theorem exists_of_mem_right {a : List α} {b : List β} (h : Pairs R a b) : ∀ y ∈ b, ∃ x ∈ a, R x y := by
  induction h with
  | nil => exact fun _ hy => nomatch hy
  | cons h0 _ ih =>
    intro y hy
    rcases List.mem_cons.mp hy with rfl | hy
    · exact ⟨_, List.mem_cons_self, h0⟩
    · obtain ⟨x, hx, hr⟩ := ih y hy
      exact ⟨x, List.mem_cons_of_mem _ hx, hr⟩

theorem diag {R : α → α → Prop} (a : List α) (h : ∀ x ∈ a, R x x) : Pairs R a a := by
  induction a with
  | nil => exact .nil
  | cons x xs ih => exact .cons (h x (by simp)) (ih fun y hy => h y (by simp [hy]))

theorem comp {S : β → γ → Prop} {a : List α} {b : List β} {c : List γ} (h1 : Pairs R a b) (h2 : Pairs S b c) :
    Pairs (fun x z => ∃ y, R x y ∧ S y z) a c := by
  induction h1 generalizing c with
  | nil => cases h2; exact .nil
  | cons h _ ih => cases h2 with | cons g gs => exact .cons ⟨_, h, g⟩ (ih gs)

theorem mono {R' : α → β → Prop} {a : List α} {b : List β} (h : Pairs R a b) (hr : ∀ x y, R x y → R' x y) :
    Pairs R' a b := by
  induction h with
  | nil => exact .nil
  | cons h _ ih => exact .cons (hr _ _ h) ih

end Pairs

/-- what must not change: the kind of a member, and a non-timeseries member entirely -/
def Leaf.skel : Leaf → Leaf
  | .ts s _ => .ts s default
  | .arr _ => .arr []
  | .other v => .other v

mutual
  /-- the container with every timeseries / array blanked out: tags, keys, order, sizes and all other members remain -/
  def Tree.skel : Tree → Tree
    | .leaf l => .leaf l.skel
    | .node tag kids => .node tag (skelKids kids)
  def skelKids : List (String × Tree) → List (String × Tree)
    | [] => []
    | (k, t) :: r => (k, t.skel) :: skelKids r
end

mutual
  /-- all members, in order (tuples included) -/
  def Tree.leaves : Tree → List Leaf
    | .leaf l => [l]
    | .node _ kids => leavesKids kids
  def leavesKids : List (String × Tree) → List Leaf
    | [] => []
    | (_, t) :: r => t.leaves ++ leavesKids r
end

/-- member `l` of the input and member `l'` of the result at the same position: `l'` is `l` treated with the whole method
list, or - where a list / tuple container has exactly as many members as the list has methods - with ONE method of the list -/
def SplitImage (g : List Method → Leaf → Res Leaf) (ms : List Method) (l l' : Leaf) : Prop :=
  ∃ ms', (ms' = ms ∨ ∃ m ∈ ms, ms' = [m]) ∧ g ms' l = .ok l'

/-- the column pass of `df_sync` on one member (`columns=None`: nothing) -/
def colPass (ch : Option How) (hdrs : List (List String)) (l : Leaf) : Res Leaf :=
  match ch with
  | Option.none => .ok l
  | some c => recolumnLeaf (joinCols c hdrs) l

/-- the column pass on the whole container -/
def colStage (ch : Option How) (hdrs : List (List String)) (t : Tree) : Res Tree :=
  match ch with
  | Option.none => .ok t
  | some c => t.mapM (recolumnLeaf (joinCols c hdrs))

mutual
  /-- no tuple anywhere in the container (the statement speaks of nested lists / dicts) -/
  def Tree.tupleFree : Tree → Bool
    | .leaf _ => true
    | .node .tuple _ => false
    | .node _ kids => kidsTupleFree kids
  def kidsTupleFree : List (String × Tree) → Bool
    | [] => true
    | (_, t) :: r => t.tupleFree && kidsTupleFree r
end

mutual
  theorem mapMS_bare (g : List Method → Leaf → Res Leaf) (ms : List Method) :
      ∀ t : Tree, t.mapMS g true ms = t.mapM (g ms)
    | .leaf l => by simp [Tree.mapMS, Tree.mapM]
    | .node tag kids => by simp [Tree.mapMS, Tree.mapM, mapKidsMS_bare g ms kids]
  theorem mapKidsMS_bare (g : List Method → Leaf → Res Leaf) (ms : List Method) :
      ∀ ks : List (String × Tree), mapKidsMS g true ms ks = mapKidsM (g ms) ks
    | [] => rfl
    | (k, t) :: r => by simp only [mapKidsMS, mapKidsM, mapMS_bare g ms t, mapKidsMS_bare g ms r]
end

/-- the cases of an induction along a successful run of the recursion that may hand the method list out: `P` is about a
container and its image under `(bare, ms)`, `Q` about the children treated alike, `Z` about the children of a container whose
`i`-th child got the `i`-th method alone -/
structure MapMSCases (g : List Method → Leaf → Res Leaf) (P : Bool → List Method → Tree → Tree → Prop)
    (Q : Bool → List Method → List (String × Tree) → List (String × Tree) → Prop)
    (Z : List Method → List (String × Tree) → List (String × Tree) → Prop) : Prop where
  leaf : ∀ bare ms l l', g ms l = .ok l' → P bare ms (.leaf l) (.leaf l')
  split : ∀ bare ms tag ks ks', ms.length = ks.length → Z ms ks ks' → P bare ms (.node tag ks) (.node tag ks')
  node : ∀ bare ms tag ks ks', Q bare ms ks ks' → P bare ms (.node tag ks) (.node tag ks')
  nil : ∀ bare ms, Q bare ms [] []
  cons : ∀ bare ms k t t' r r', P bare ms t t' → Q bare ms r r' → Q bare ms ((k, t) :: r) ((k, t') :: r')
  znil : Z [] [] []
  zcons : ∀ m ms k t t' r r', P true [m] t t' → Z ms r r' → Z (m :: ms) ((k, t) :: r) ((k, t') :: r')

mutual
  theorem mapMS_ok_rec {g : List Method → Leaf → Res Leaf} {P : Bool → List Method → Tree → Tree → Prop}
      {Q : Bool → List Method → List (String × Tree) → List (String × Tree) → Prop}
      {Z : List Method → List (String × Tree) → List (String × Tree) → Prop} (c : MapMSCases g P Q Z) :
      ∀ (bare : Bool) (ms : List Method) (t t' : Tree), t.mapMS g bare ms = .ok t' → P bare ms t t'
    | bare, ms, .leaf l, t', h => by
      simp only [Tree.mapMS] at h
      cases hl : g ms l with
      | error e => rw [hl] at h; cases h
      | ok l' => rw [hl] at h; cases h; exact c.leaf bare ms l l' hl
    | bare, ms, .node tag kids, t', h => by
      simp only [Tree.mapMS] at h
      split at h
      · rename_i hc
        have hlen : ms.length = kids.length := by simp at hc; exact hc.2
        cases hk : zipKidsMS g ms kids with
        | error e => rw [hk] at h; cases h
        | ok ks' =>
          rw [hk] at h; cases h
          exact c.split bare ms tag kids ks' hlen (zipKidsMS_ok_rec c ms kids ks' hlen hk)
      · cases hk : mapKidsMS g bare ms kids with
        | error e => rw [hk] at h; cases h
        | ok ks' =>
          rw [hk] at h; cases h
          exact c.node bare ms tag kids ks' (mapKidsMS_ok_rec c bare ms kids ks' hk)
  theorem mapKidsMS_ok_rec {g : List Method → Leaf → Res Leaf} {P : Bool → List Method → Tree → Tree → Prop}
      {Q : Bool → List Method → List (String × Tree) → List (String × Tree) → Prop}
      {Z : List Method → List (String × Tree) → List (String × Tree) → Prop} (c : MapMSCases g P Q Z) :
      ∀ (bare : Bool) (ms : List Method) (ks ks' : List (String × Tree)), mapKidsMS g bare ms ks = .ok ks' → Q bare ms ks ks'
    | bare, ms, [], ks', h => by cases h; exact c.nil bare ms
    | bare, ms, (k, t) :: r, ks', h => by
      simp only [mapKidsMS] at h
      cases ht : t.mapMS g bare ms with
      | error e => rw [ht] at h; cases h
      | ok t' =>
        rw [ht] at h
        cases hr : mapKidsMS g bare ms r with
        | error e => rw [hr] at h; cases h
        | ok r' =>
          rw [hr] at h; cases h
          exact c.cons bare ms k t t' r r' (mapMS_ok_rec c bare ms t t' ht) (mapKidsMS_ok_rec c bare ms r r' hr)
  theorem zipKidsMS_ok_rec {g : List Method → Leaf → Res Leaf} {P : Bool → List Method → Tree → Tree → Prop}
      {Q : Bool → List Method → List (String × Tree) → List (String × Tree) → Prop}
      {Z : List Method → List (String × Tree) → List (String × Tree) → Prop} (c : MapMSCases g P Q Z) :
      ∀ (ms : List Method) (ks ks' : List (String × Tree)), ms.length = ks.length → zipKidsMS g ms ks = .ok ks' → Z ms ks ks'
    | [], [], ks', _, h => by cases h; exact c.znil
    | [], _ :: _, _, hl, _ => nomatch hl
    | _ :: _, [], _, hl, _ => nomatch hl
    | m :: ms, (k, t) :: r, ks', hl, h => by
      simp only [zipKidsMS] at h
      cases ht : t.mapMS g true [m] with
      | error e => rw [ht] at h; cases h
      | ok t' =>
        rw [ht] at h
        cases hr : zipKidsMS g ms r with
        | error e => rw [hr] at h; cases h
        | ok r' =>
          rw [hr] at h; cases h
          exact c.zcons m ms k t t' r r' (mapMS_ok_rec c true [m] t t' ht) (zipKidsMS_ok_rec c ms r r' (Nat.succ.inj hl) hr)
end

theorem skelCases_mapMS (g : List Method → Leaf → Res Leaf) (hg : ∀ ms l l', g ms l = .ok l' → l'.skel = l.skel) :
    MapMSCases g (fun _ _ t t' => t'.skel = t.skel) (fun _ _ ks ks' => skelKids ks' = skelKids ks)
      (fun _ ks ks' => skelKids ks' = skelKids ks) where
  leaf _ ms l l' h := congrArg Tree.leaf (hg ms l l' h)
  split _ _ tag _ _ _ h := congrArg (Tree.node tag) h
  node _ _ tag _ _ h := congrArg (Tree.node tag) h
  nil _ _ := rfl
  cons _ _ k _ _ _ _ ht hr := by simp only [skelKids, ht, hr]
  znil := rfl
  zcons _ _ k _ _ _ _ ht hr := by simp only [skelKids, ht, hr]

theorem skel_mapMS (g : List Method → Leaf → Res Leaf) (hg : ∀ ms l l', g ms l = .ok l' → l'.skel = l.skel) :
    ∀ (bare : Bool) (ms : List Method) (t t' : Tree), t.mapMS g bare ms = .ok t' → t'.skel = t.skel :=
  mapMS_ok_rec (skelCases_mapMS g hg)

theorem skel_mapKidsMS (g : List Method → Leaf → Res Leaf) (hg : ∀ ms l l', g ms l = .ok l' → l'.skel = l.skel) :
      ∀ (bare : Bool) (ms : List Method) (ks ks' : List (String × Tree)), mapKidsMS g bare ms ks = .ok ks' → skelKids ks' = skelKids ks :=
  mapKidsMS_ok_rec (skelCases_mapMS g hg)

theorem skel_zipKidsMS (g : List Method → Leaf → Res Leaf) (hg : ∀ ms l l', g ms l = .ok l' → l'.skel = l.skel) :
      ∀ (ms : List Method) (ks ks' : List (String × Tree)), ms.length = ks.length → zipKidsMS g ms ks = .ok ks' →
        skelKids ks' = skelKids ks :=
  zipKidsMS_ok_rec (skelCases_mapMS g hg)

theorem SplitImage.single {g : List Method → Leaf → Res Leaf} {m : Method} {ms : List Method} {l l' : Leaf}
    (h : SplitImage g [m] l l') (hm : m ∈ ms) : SplitImage g ms l l' := by
  obtain ⟨ms', h1, h2⟩ := h
  refine ⟨ms', Or.inr ⟨m, hm, ?_⟩, h2⟩
  rcases h1 with h1 | ⟨m', hm', h1⟩
  · exact h1
  · cases List.mem_singleton.mp hm'; exact h1

theorem SplitImage.of_singleton {g : List Method → Leaf → Res Leaf} {m : Method} {l l' : Leaf}
    (h : SplitImage g [m] l l') : g [m] l = .ok l' := by
  obtain ⟨ms', h1 | ⟨m', hm', h1⟩, h2⟩ := h
  · exact h1 ▸ h2
  · cases List.mem_singleton.mp hm'; exact h1 ▸ h2

/-- member by member the result is the `SplitImage` of the input (`Z`: where the list is handed out, every member below child `i`
is treated with method `i` alone) -/
theorem pairs_mapMS (g : List Method → Leaf → Res Leaf) :
    ∀ (bare : Bool) (ms : List Method) (t t' : Tree), t.mapMS g bare ms = .ok t' →
      Pairs (SplitImage g ms) t.leaves t'.leaves :=
  mapMS_ok_rec (Q := fun _ ms ks ks' => Pairs (SplitImage g ms) (leavesKids ks) (leavesKids ks'))
    (Z := fun ms ks ks' => Pairs (fun l l' => ∃ m ∈ ms, g [m] l = .ok l') (leavesKids ks) (leavesKids ks'))
    { leaf := fun _ ms _ _ h => .cons ⟨ms, Or.inl rfl, h⟩ .nil
      split := fun _ _ _ _ _ _ h => h.mono fun _ _ ⟨m, hm, hg⟩ => ⟨[m], Or.inr ⟨m, hm, rfl⟩, hg⟩
      node := fun _ _ _ _ _ h => h
      nil := fun _ _ => .nil
      cons := fun _ _ _ _ _ _ _ ht hr => ht.append hr
      znil := .nil
      zcons := fun m _ _ _ _ _ _ ht hr => (ht.mono fun _ _ h => ⟨m, List.mem_cons_self, h.of_singleton⟩).append
        (hr.mono fun _ _ ⟨m', hm', h⟩ => ⟨m', List.mem_cons_of_mem m hm', h⟩) }

/-- `pairs_mapMS` for a list of children, read as the children of a dict (which is never handed single methods) -/
theorem pairs_mapKidsMS (g : List Method → Leaf → Res Leaf) :
      ∀ (bare : Bool) (ms : List Method) (ks ks' : List (String × Tree)), mapKidsMS g bare ms ks = .ok ks' →
        Pairs (SplitImage g ms) (leavesKids ks) (leavesKids ks') :=
  fun bare ms ks ks' h => pairs_mapMS g bare ms (.node .dict ks) (.node .dict ks') (by simp only [Tree.mapMS, h]; rfl)

theorem mapM_eq_mapMS (g : Leaf → Res Leaf) (t : Tree) : t.mapM g = t.mapMS (fun _ => g) true [] :=
  (mapMS_bare (fun _ => g) [] t).symm

theorem mapKidsM_eq_mapKidsMS (g : Leaf → Res Leaf) (ks : List (String × Tree)) :
    mapKidsM g ks = mapKidsMS (fun _ => g) true [] ks :=
  (mapKidsMS_bare (fun _ => g) [] ks).symm

theorem SplitImage.const {g : Leaf → Res Leaf} {ms : List Method} {l l' : Leaf}
    (h : SplitImage (fun _ => g) ms l l') : g l = .ok l' := by
  obtain ⟨_, _, h2⟩ := h
  exact h2

theorem skel_mapM (g : Leaf → Res Leaf) (hg : ∀ l l', g l = .ok l' → l'.skel = l.skel) (t t' : Tree)
    (h : t.mapM g = .ok t') : t'.skel = t.skel :=
  skel_mapMS _ (fun _ => hg) true [] t t' (mapM_eq_mapMS g t ▸ h)

theorem skel_mapKidsM (g : Leaf → Res Leaf) (hg : ∀ l l', g l = .ok l' → l'.skel = l.skel) :
      ∀ (ks ks' : List (String × Tree)), mapKidsM g ks = .ok ks' → skelKids ks' = skelKids ks :=
  fun ks ks' h => skel_mapKidsMS _ (fun _ => hg) true [] ks ks' (mapKidsM_eq_mapKidsMS g ks ▸ h)

theorem pairs_mapM (g : Leaf → Res Leaf) :
    ∀ (t t' : Tree), t.mapM g = .ok t' → Pairs (fun l l' => g l = .ok l') t.leaves t'.leaves :=
  fun t t' h => (pairs_mapMS _ true [] t t' (mapM_eq_mapMS g t ▸ h)).mono fun _ _ => SplitImage.const

theorem pairs_mapKidsM (g : Leaf → Res Leaf) :
      ∀ (ks ks' : List (String × Tree)), mapKidsM g ks = .ok ks' →
        Pairs (fun l l' => g l = .ok l') (leavesKids ks) (leavesKids ks') :=
  fun ks ks' h => (pairs_mapKidsMS _ true [] ks ks' (mapKidsM_eq_mapKidsMS g ks ▸ h)).mono fun _ _ => SplitImage.const

/-- every member of the result is the image of a member of the input -/
theorem leaves_mapKidsM (g : Leaf → Res Leaf) :
      ∀ (ks ks' : List (String × Tree)), mapKidsM g ks = .ok ks' → ∀ l' ∈ leavesKids ks', ∃ l ∈ leavesKids ks, g l = .ok l' :=
  fun ks ks' h => (pairs_mapKidsM g ks ks' h).exists_of_mem_right

theorem recolumnLeaf_skel (cols : Option (List String)) (l l' : Leaf) (h : recolumnLeaf cols l = .ok l') :
    l'.skel = l.skel := by
  rcases recolumnLeaf_ok cols l l' h with rfl | ⟨f, g, rfl, rfl, _⟩ <;> rfl

theorem pairs_colStage (ch : Option How) (hdrs : List (List String)) (t t' : Tree) (h : colStage ch hdrs t = .ok t') :
    Pairs (fun l l' => colPass ch hdrs l = .ok l') t.leaves t'.leaves := by
  cases ch with
  | none => cases h; exact Pairs.diag _ fun _ _ => rfl
  | some c => exact pairs_mapM _ _ _ h

theorem skel_colStage (ch : Option How) (hdrs : List (List String)) (t t' : Tree) (h : colStage ch hdrs t = .ok t') :
    t'.skel = t.skel := by
  cases ch with
  | none => cases h; rfl
  | some c => exact skel_mapM _ (recolumnLeaf_skel _) _ _ h

theorem colPass_ts (ch : Option How) (hdrs : List (List String)) (l : Leaf) (s : Bool) (f : Frame)
    (h : colPass ch hdrs l = .ok (.ts s f)) : ∃ f0, l = .ts s f0 ∧ f0.idx = f.idx := by
  cases ch with
  | none => cases h; exact ⟨f, rfl, rfl⟩
  | some c =>
    rcases recolumnLeaf_ok _ l _ h with rfl | ⟨f0, g, rfl, e, hg⟩
    · exact ⟨f, rfl, rfl⟩
    · cases e; exact ⟨f0, rfl, hg.symm⟩

theorem colPass_of_not_ts (ch : Option How) (hdrs : List (List String)) (l : Leaf) (h : ∀ s f, l ≠ .ts s f) :
    colPass ch hdrs l = .ok l := by
  cases ch with
  | none => rfl
  | some c =>
    cases l with
    | ts s f => exact absurd rfl (h s f)
    | arr xs => rfl
    | other v => rfl

mutual
  theorem flat_eq_leaves : ∀ (t : Tree), t.tupleFree = true → t.flat = t.leaves
    | .leaf l, _ => rfl
    | .node .tuple kids, h => by simp [Tree.tupleFree] at h
    | .node .list kids, h => by
      simp only [Tree.tupleFree] at h
      simp only [Tree.flat, Tree.leaves]; exact flatKids_eq_leaves kids h
    | .node .dict kids, h => by
      simp only [Tree.tupleFree] at h
      simp only [Tree.flat, Tree.leaves]; exact flatKids_eq_leaves kids h
  theorem flatKids_eq_leaves : ∀ (ks : List (String × Tree)), kidsTupleFree ks = true → flatKids ks = leavesKids ks
    | [], _ => rfl
    | (k, t) :: r, h => by
      simp only [kidsTupleFree, Bool.and_eq_true] at h
      simp only [flatKids, leavesKids, flat_eq_leaves t h.1, flatKids_eq_leaves r h.2]
end

theorem flatKids_rekey (g : String → String) (ks : List (String × Tree)) :
    flatKids (ks.map fun k => (g k.1, k.2)) = flatKids ks := by
  induction ks with
  | nil => rfl
  | cons k r ih => obtain ⟨a, t⟩ := k; simp only [List.map_cons, flatKids, ih]

theorem mem_tsIndexes (ls : List Leaf) (ix : List Int) : ix ∈ tsIndexes ls ↔ ∃ s f, Leaf.ts s f ∈ ls ∧ f.idx = ix := by
  simp only [tsIndexes, List.mem_filterMap]
  constructor
  · rintro ⟨l, hl, e⟩
    cases l with
    | ts s f => exact ⟨s, f, hl, Option.some.inj e⟩
    | arr _ => cases e
    | other _ => cases e
  · rintro ⟨s, f, hl, e⟩; exact ⟨_, hl, congrArg some e⟩

theorem tsIndexes_append (a b : List Leaf) : tsIndexes (a ++ b) = tsIndexes a ++ tsIndexes b := by
  simp [tsIndexes, List.filterMap_append]

theorem tsIndexes_eq_nil (pre : List Leaf) (h : ∀ l ∈ pre, ∀ s f, l ≠ .ts s f) : tsIndexes pre = [] := by
  simp only [tsIndexes, List.filterMap_eq_nil_iff]
  intro l hl
  cases l with
  | ts s f => exact absurd rfl (h _ hl s f)
  | arr _ => rfl
  | other _ => rfl

theorem tsIndexes_cons_sorted (ls : List Leaf) (hne : ∃ s f, Leaf.ts s f ∈ ls)
    (hsorted : ∀ l ∈ ls, ∀ s f, l = .ts s f → f.Sorted) : ∃ i0 is, tsIndexes ls = i0 :: is ∧ SortedL i0 := by
  obtain ⟨s, f, hl⟩ := hne
  cases hixs : tsIndexes ls with
  | nil => exact absurd ((mem_tsIndexes ls f.idx).mpr ⟨s, f, hl, rfl⟩) (hixs ▸ List.not_mem_nil)
  | cons i0 is =>
    obtain ⟨s0, f0, hl0, e⟩ := (mem_tsIndexes ls i0).mp (hixs ▸ List.mem_cons_self)
    exact ⟨i0, is, rfl, e ▸ hsorted _ hl0 s0 f0 rfl⟩

end Pyg.Align
