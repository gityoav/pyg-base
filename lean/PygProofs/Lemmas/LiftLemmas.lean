/-
  PygModel.Lift: each comprehension of `_wrapped` is a `List.mapM`, so one level of the lifted call follows `Val.child`; what the
  companion selection (`itemByI`, `itemByKey`) passes whole and what it searches (finding K3), against the statement's `pickLevel`.
-/
import PygModel.Lift
import PygProofs.Lemmas.Basics

namespace Pyg

theorem itemByIList_eq_map (i n : Nat) : ∀ xs, itemByIList i n xs = xs.map (itemByI i n)
  | [] => by simp [itemByIList]
  | x :: xs => by simp [itemByIList, itemByIList_eq_map i n xs]

theorem itemByKeyKVs_eq_map (key : String) (keys : List String) :
    ∀ kvs, itemByKeyKVs key keys kvs = mapKW (itemByKey key keys) kvs
  | [] => by simp [itemByKeyKVs, mapKW]
  | (k, v) :: kvs => by
      have := itemByKeyKVs_eq_map key keys kvs
      simp [itemByKeyKVs, mapKW] at this ⊢
      exact this

theorem mapKW_mapKW (g h : Val → Val) (kw : KW) : mapKW g (mapKW h kw) = mapKW (g ∘ h) kw := by
  simp [mapKW, List.map_map, Function.comp_def]

theorem mapKW_id (kw : KW) : mapKW (fun c => c) kw = kw := by
  simp [mapKW]

theorem mapKW_append (g : Val → Val) (a b : KW) : mapKW g (a ++ b) = mapKW g a ++ mapKW g b := by
  simp [mapKW]

theorem keysOf_mapKW (g : Val → Val) (kw : KW) : keysOf (mapKW g kw) = keysOf kw := by
  simp [keysOf, mapKW, List.map_map, Function.comp_def]

theorem insertStr_perm (k : String) : ∀ l, (insertStr k l).Perm (k :: l)
  | [] => by simp [insertStr]
  | h :: t => by
      simp only [insertStr]
      split
      · exact List.Perm.refl _
      · exact ((insertStr_perm k t).cons h).trans (List.Perm.swap k h t)

theorem sortStr_perm : ∀ l, (sortStr l).Perm l
  | [] => by simp [sortStr]
  | h :: t => by
      simp only [sortStr]
      exact (insertStr_perm h (sortStr t)).trans ((sortStr_perm t).cons h)

theorem mem_insertStr (k x : String) : ∀ l, x ∈ insertStr k l ↔ x = k ∨ x ∈ l :=
  fun l => (insertStr_perm k l).mem_iff.trans List.mem_cons

theorem mem_sortStr (x : String) : ∀ l, x ∈ sortStr l ↔ x ∈ l :=
  fun l => (sortStr_perm l).mem_iff

/-- the model's test `sortStr (keysOf cs) = keys` succeeds only for the same keys (as a multiset; python keys are distinct: the same SET) -/
theorem perm_of_sortStr_eq (a b : List String) (h : sortStr a = sortStr b) : a.Perm b :=
  (sortStr_perm a).symm.trans (h ▸ sortStr_perm b)

theorem insertStr_pairwise (k : String) : ∀ {l : List String}, l.Pairwise (· ≤ ·) → (insertStr k l).Pairwise (· ≤ ·)
  | [], _ => List.pairwise_singleton _ _
  | h :: t, hp => by
      rw [insertStr]
      split
      · rename_i hk
        exact List.pairwise_cons.2 ⟨fun x hx => (List.mem_cons.1 hx).elim (· ▸ hk)
          fun hx => String.le_trans hk (List.rel_of_pairwise_cons hp hx), hp⟩
      · rename_i hk
        refine List.pairwise_cons.2 ⟨fun x hx => ?_, insertStr_pairwise k (List.pairwise_cons.1 hp).2⟩
        rcases (mem_insertStr k x t).1 hx with rfl | hx
        · exact (String.le_total h x).resolve_right hk
        · exact List.rel_of_pairwise_cons hp hx

theorem sortStr_pairwise : ∀ l, (sortStr l).Pairwise (· ≤ ·)
  | [] => List.Pairwise.nil
  | h :: t => insertStr_pairwise h (sortStr_pairwise t)

theorem sortStr_eq_of_perm {a b : List String} (h : a.Perm b) : sortStr a = sortStr b :=
  List.Perm.eq_of_pairwise (fun _ _ _ _ => String.le_antisymm) (sortStr_pairwise a) (sortStr_pairwise b)
    ((sortStr_perm a).trans (h.trans (sortStr_perm b).symm))

theorem dropAxis_mapKW (g : Val → Val) (kw : KW) : dropAxis (mapKW g kw) = mapKW g (dropAxis kw) := by
  simp [dropAxis, mapKW, List.filter_map, Function.comp_def]

theorem dropAxis_idem (kw : KW) : dropAxis (dropAxis kw) = dropAxis kw := by
  simp [dropAxis, List.filter_filter]

theorem dropAxis_append (a b : KW) : dropAxis (a ++ b) = dropAxis a ++ dropAxis b := by
  simp [dropAxis]

theorem not_mem_keysOf_dropAxis (kw : KW) (k : String) (h : k ∉ keysOf kw) : k ∉ keysOf (dropAxis kw) :=
  fun hk => h ((List.filter_sublist.map _).subset hk)

theorem wrapped_dropAxis (f : LeafFn) (v : Val) (args : List Val) (kw : KW) :
    wrapped f v args (dropAxis kw) = wrapped f v args kw := by
  cases v <;> simp [wrapped, dropAxis_idem]

theorem lookup_mapKW (g : Val → Val) (k : String) (kvs : KW) : (mapKW g kvs).lookup k = (kvs.lookup k).map g :=
  List.lookup_map_val (fun _ => g) k kvs

theorem lookup_isSome_of_mem_keys (k : String) (kvs : KW) (h : k ∈ keysOf kvs) : ∃ y, kvs.lookup k = some y :=
  Option.isSome_iff_exists.1 (List.lookup_isSome_iff_keys.2 h)

theorem mem_keys_of_lookup (k : String) (y : Val) (kvs : KW) (h : kvs.lookup k = some y) : k ∈ keysOf kvs :=
  List.mem_map.2 ⟨(k, y), List.mem_of_lookup_eq_some h, rfl⟩

theorem Val.ind_child {P : Val → Prop} (h : ∀ v, (∀ s c, v.child s = some c → P c) → P v) : ∀ v, P v := by
  intro v
  induction v using Val.ind with
  | cell a => exact h _ fun s c hc => by cases hc
  | list xs ih | tuple xs ih =>
    exact h _ fun s c hc => by
      cases s with
      | key k => cases hc
      | idx i => exact ih c (List.mem_of_getElem? hc)
  | dict kvs ih =>
    exact h _ fun s c hc => by
      cases s with
      | idx i => cases hc
      | key k => exact ih (k, c) (List.mem_of_lookup_eq_some hc)

theorem Val.child_idx_eq_some {v c : Val} {i : Nat} (h : v.child (.idx i) = some c) :
    ∃ xs, (v = .list xs ∨ v = .tuple xs) ∧ xs[i]? = some c := by
  cases v with
  | list xs => exact ⟨xs, Or.inl rfl, h⟩
  | tuple xs => exact ⟨xs, Or.inr rfl, h⟩
  | cell a | dict kvs => cases h

theorem Val.child_key_eq_some {v c : Val} {k : String} (h : v.child (.key k) = some c) :
    ∃ kvs, v = .dict kvs ∧ kvs.lookup k = some c := by
  cases v with
  | dict kvs => exact ⟨kvs, rfl, h⟩
  | cell a => cases h
  | list xs | tuple xs => cases h

theorem Val.at_cons_of_child {v c : Val} {s : Step} (h : v.child s = some c) (p : Path) : v.at (s :: p) = c.at p := by
  rw [Val.at, h]

theorem Val.at_cons_eq_some {v v' : Val} {s : Step} {p : Path} :
    v.at (s :: p) = some v' ↔ ∃ c, v.child s = some c ∧ c.at p = some v' := by
  rw [Val.at]
  cases v.child s with
  | none => exact ⟨fun h => (nomatch h), fun ⟨_, h, _⟩ => (nomatch h)⟩
  | some c => exact ⟨fun h => ⟨c, rfl, h⟩, fun ⟨_, h1, h2⟩ => Option.some.inj h1 ▸ h2⟩

theorem Val.at_cons_isSome {v : Val} {s : Step} {p : Path} (h : (v.at (s :: p)).isSome) :
    ∃ v', v.child s = some v' ∧ (v'.at p).isSome := by
  obtain ⟨x, hx⟩ := Option.isSome_iff_exists.1 h
  obtain ⟨v', hv, hp⟩ := Val.at_cons_eq_some.1 hx
  exact ⟨v', hv, hp ▸ rfl⟩

theorem KeysNodup_child {v v' : Val} {s : Step} (h : v.KeysNodup) (hc : v.child s = some v') :
    v'.KeysNodup := by
  intro p kvs hp
  apply h (s :: p) kvs
  rw [Val.at_cons_of_child hc, hp]

theorem KeysNodup_of_children {v : Val} (h0 : ∀ kvs, v = .dict kvs → (keysOf kvs).Nodup)
    (h : ∀ s c, v.child s = some c → c.KeysNodup) : v.KeysNodup := by
  intro p kvs hp
  cases p with
  | nil => cases hp; exact h0 kvs rfl
  | cons s q =>
    obtain ⟨c, hc, hq⟩ := Val.at_cons_eq_some.1 hp
    exact h s c hc q kvs hq

theorem KeysNodup_cell (a : Cell) : (Val.cell a).KeysNodup :=
  KeysNodup_of_children (fun _ h => nomatch h) fun _ _ h => nomatch h

theorem KeysNodup_list_iff {xs : List Val} : (Val.list xs).KeysNodup ↔ ∀ x ∈ xs, x.KeysNodup :=
  ⟨fun h x hx => (List.getElem?_of_mem hx).elim fun i hi => KeysNodup_child (s := .idx i) h hi,
   fun h => KeysNodup_of_children (fun _ e => nomatch e) fun s c hc => by
    cases s with
    | key k => cases hc
    | idx i => exact h c (List.mem_of_getElem? hc)⟩

theorem KeysNodup_tuple_iff {xs : List Val} : (Val.tuple xs).KeysNodup ↔ ∀ x ∈ xs, x.KeysNodup :=
  ⟨fun h x hx => (List.getElem?_of_mem hx).elim fun i hi => KeysNodup_child (s := .idx i) h hi,
   fun h => KeysNodup_of_children (fun _ e => nomatch e) fun s c hc => by
    cases s with
    | key k => cases hc
    | idx i => exact h c (List.mem_of_getElem? hc)⟩

theorem KeysNodup_dict_iff {kvs : KW} :
    (Val.dict kvs).KeysNodup ↔ (keysOf kvs).Nodup ∧ ∀ kv ∈ kvs, kv.2.KeysNodup :=
  ⟨fun h => ⟨h [] kvs rfl, fun kv hkv =>
      KeysNodup_child (s := .key kv.1) h (List.lookup_of_mem_nodup (h [] kvs rfl) hkv)⟩,
   fun h => KeysNodup_of_children (fun _ e => by cases e; exact h.1) fun s c hc => by
    cases s with
    | idx i => cases hc
    | key k => exact h.2 (k, c) (List.mem_of_lookup_eq_some hc)⟩

theorem getIdx_of_getElem? {cs : List Val} {i : Nat} {x : Val} (h : cs[i]? = some x) : getIdx cs i = x := by
  rw [getIdx, List.getD_eq_getElem?_getD, h]
  rfl

theorem getIdx_of_length_le {cs : List Val} {i : Nat} (h : cs.length ≤ i) : getIdx cs i = .cell .none := by
  rw [getIdx, List.getD_eq_getElem?_getD, List.getElem?_eq_none h]
  rfl

theorem getKey_of_lookup {cs : KW} {k : String} {y : Val} (h : cs.lookup k = some y) : getKey cs k = y := by
  rw [getKey, h]
  rfl

theorem selStep_cell (v : Val) (s : Step) (a : Cell) : selStep v s (.cell a) = .cell a := by
  cases v <;> cases s <;> rfl

theorem select_nil (v : Val) : select v [] = fun c => c := rfl

theorem select_cons {v v' : Val} {s : Step} (h : v.child s = some v') (p : Path) :
    select v (s :: p) = select v' p ∘ selStep v s := by
  funext c
  rw [select, h]
  rfl

theorem wrapped_list (f : LeafFn) (xs args : List Val) (kw : KW) :
    wrapped f (.list xs) args kw = (wrappedSeq f xs.length 0 xs args (dropAxis kw)).map .list := by
  rw [wrapped]
  cases wrappedSeq f xs.length 0 xs args (dropAxis kw) <;> rfl

theorem wrapped_tuple (f : LeafFn) (xs args : List Val) (kw : KW) :
    wrapped f (.tuple xs) args kw = (wrappedSeq f xs.length 0 xs args (dropAxis kw)).map .tuple := by
  rw [wrapped]
  cases wrappedSeq f xs.length 0 xs args (dropAxis kw) <;> rfl

theorem wrapped_dict (f : LeafFn) (kvs : KW) (args : List Val) (kw : KW) :
    wrapped f (.dict kvs) args kw = (wrappedKVs f (sortStr (keysOf kvs)) kvs args (dropAxis kw)).map .dict := by
  rw [wrapped]
  cases wrappedKVs f (sortStr (keysOf kvs)) kvs args (dropAxis kw) <;> rfl

theorem wrappedSeq_eq_mapM (f : LeafFn) (n : Nat) (args : List Val) (kw : KW) : ∀ (xs : List Val) (i : Nat),
    wrappedSeq f n i xs args kw =
      (xs.zipIdx i).mapM fun p => wrapped f p.1 (args.map (itemByI p.2 n)) (mapKW (itemByI p.2 n) kw)
  | [], i => by
      rw [wrappedSeq]
      rfl
  | x :: xs, i => by
      rw [wrappedSeq, List.zipIdx_cons, List.mapM_cons, ← wrappedSeq_eq_mapM f n args kw xs (i + 1)]
      cases wrapped f x (args.map (itemByI i n)) (mapKW (itemByI i n) kw) with
      | error e => rfl
      | ok y => cases wrappedSeq f n (i + 1) xs args kw <;> rfl

theorem wrappedKVs_eq_mapM (f : LeafFn) (keys : List String) (args : List Val) (kw : KW) : ∀ (kvs : KW),
    wrappedKVs f keys kvs args kw =
      kvs.mapM fun p => (wrapped f p.2 (args.map (itemByKey p.1 keys)) (mapKW (itemByKey p.1 keys) kw)).map (p.1, ·)
  | [] => by
      rw [wrappedKVs]
      rfl
  | (k, v) :: kvs => by
      rw [wrappedKVs, List.mapM_cons, ← wrappedKVs_eq_mapM f keys args kw kvs]
      cases wrapped f v (args.map (itemByKey k keys)) (mapKW (itemByKey k keys) kw) with
      | error e => rfl
      | ok y => cases wrappedKVs f keys kvs args kw <;> rfl

theorem wrappedSeq_get {f : LeafFn} {n : Nat} (xs : List Val) (i : Nat) (args : List Val) (kw : KW)
    (ys : List Val) (h : wrappedSeq f n i xs args kw = .ok ys) :
    ys.length = xs.length ∧ ∀ j x, xs[j]? = some x → ∃ y, ys[j]? = some y ∧
      wrapped f x (args.map (itemByI (i + j) n)) (mapKW (itemByI (i + j) n) kw) = .ok y := by
  rw [wrappedSeq_eq_mapM, List.mapM_eq_ok_iff, List.length_zipIdx] at h
  refine ⟨h.1, fun j x hj => ?_⟩
  obtain ⟨y, hy, hj'⟩ := h.2 j (x, i + j) (by rw [List.getElem?_zipIdx, hj]; rfl)
  exact ⟨y, hj', hy⟩

theorem wrappedSeq_error {f : LeafFn} {n : Nat} (xs : List Val) (i : Nat) (args : List Val) (kw : KW)
    (e : Err) (h : wrappedSeq f n i xs args kw = .error e) :
    ∃ j x, xs[j]? = some x ∧
      wrapped f x (args.map (itemByI (i + j) n)) (mapKW (itemByI (i + j) n) kw) = .error e := by
  rw [wrappedSeq_eq_mapM] at h
  obtain ⟨j, ⟨x, k⟩, h1, h2⟩ := List.mapM_eq_error h
  rw [List.getElem?_zipIdx, Option.map_eq_some_iff] at h1
  obtain ⟨_, hx, he⟩ := h1
  cases he
  exact ⟨j, x, hx, h2⟩

theorem wrappedKVs_lookup {f : LeafFn} {keys : List String} (kvs : KW) (args : List Val) (kw : KW)
    (r : KW) (h : wrappedKVs f keys kvs args kw = .ok r) :
    keysOf r = keysOf kvs ∧ ∀ k v, kvs.lookup k = some v → ∃ y, r.lookup k = some y ∧
      wrapped f v (args.map (itemByKey k keys)) (mapKW (itemByKey k keys) kw) = .ok y :=
  List.kvMapM_lookup (f := fun k v => wrapped f v (args.map (itemByKey k keys)) (mapKW (itemByKey k keys) kw)) kvs r
    (wrappedKVs_eq_mapM f keys args kw kvs ▸ h)

theorem wrappedKVs_error {f : LeafFn} {keys : List String} (kvs : KW) (args : List Val) (kw : KW)
    (e : Err) (h : wrappedKVs f keys kvs args kw = .error e) :
    ∃ kv, kv ∈ kvs ∧
      wrapped f kv.2 (args.map (itemByKey kv.1 keys)) (mapKW (itemByKey kv.1 keys) kw) = .error e := by
  rw [wrappedKVs_eq_mapM] at h
  obtain ⟨j, kv, h1, h2⟩ := List.mapM_eq_error h
  exact ⟨kv, List.mem_of_getElem? h1, Res.map_eq_error h2⟩

theorem wrapped_child {f : LeafFn} {v r c : Val} {args : List Val} {kw : KW} {s : Step}
    (h : wrapped f v args kw = .ok r) (hc : v.child s = some c) :
    ∃ y, r.child s = some y ∧ wrapped f c (args.map (selStep v s)) (mapKW (selStep v s) (dropAxis kw)) = .ok y := by
  cases s with
  | idx i =>
    obtain ⟨xs, hx, hi⟩ := Val.child_idx_eq_some hc
    have hseq : ∀ ys, wrappedSeq f xs.length 0 xs args (dropAxis kw) = .ok ys → ∃ y, ys[i]? = some y ∧
        wrapped f c (args.map (itemByI i xs.length)) (mapKW (itemByI i xs.length) (dropAxis kw)) = .ok y := by
      intro ys hys
      have := (wrappedSeq_get xs 0 args (dropAxis kw) ys hys).2 i c hi
      rwa [Nat.zero_add] at this
    rcases hx with rfl | rfl
    · rw [wrapped_list] at h
      obtain ⟨ys, hys, rfl⟩ := Res.map_eq_ok h
      exact hseq ys hys
    · rw [wrapped_tuple] at h
      obtain ⟨ys, hys, rfl⟩ := Res.map_eq_ok h
      exact hseq ys hys
  | key k =>
    obtain ⟨kvs, rfl, hk⟩ := Val.child_key_eq_some hc
    rw [wrapped_dict] at h
    obtain ⟨ys, hys, rfl⟩ := Res.map_eq_ok h
    exact (wrappedKVs_lookup kvs args (dropAxis kw) ys hys).2 k c hk

/-- `hk`: with a repeated key the member that raises need not be the one `child` finds -/
theorem wrapped_error_child {f : LeafFn} {v : Val} {args : List Val} {kw : KW} {e : Err} (hk : v.KeysNodup)
    (h : wrapped f v args kw = .error e) : (∃ a, v = .cell a) ∨
    ∃ s c, v.child s = some c ∧ wrapped f c (args.map (selStep v s)) (mapKW (selStep v s) (dropAxis kw)) = .error e := by
  cases v with
  | cell a => exact Or.inl ⟨a, rfl⟩
  | list xs | tuple xs =>
    simp only [wrapped_list, wrapped_tuple] at h
    obtain ⟨j, x, hj, hx⟩ := wrappedSeq_error xs 0 args (dropAxis kw) e (Res.map_eq_error h)
    rw [Nat.zero_add] at hx
    exact Or.inr ⟨.idx j, x, hj, hx⟩
  | dict kvs =>
    rw [wrapped_dict] at h
    obtain ⟨kv, hmem, hx⟩ := wrappedKVs_error kvs args (dropAxis kw) e (Res.map_eq_error h)
    exact Or.inr ⟨.key kv.1, kv.2, List.lookup_of_mem_nodup (hk [] kvs rfl) hmem, hx⟩

/-- a path of index steps only: it can only run through lists and tuples (what `_item_by_i` descends through) -/
def IdxPath (q : Path) : Prop := ∀ s ∈ q, ∃ i, s = Step.idx i
theorem IdxPath.nil : IdxPath [] := by intro s hs; cases hs
theorem IdxPath.cons (j : Nat) {q : Path} (h : IdxPath q) : IdxPath (.idx j :: q) :=
  List.forall_mem_cons.2 ⟨⟨j, rfl⟩, h⟩
/-- a path of key steps only: it can only run through dict values (what `_item_by_key` descends through) -/
def KeyPath (q : Path) : Prop := ∀ s ∈ q, ∃ k, s = Step.key k
theorem KeyPath.nil : KeyPath [] := by intro s hs; cases hs
theorem KeyPath.cons (k : String) {q : Path} (h : KeyPath q) : KeyPath (.key k :: q) :=
  List.forall_mem_cons.2 ⟨⟨k, rfl⟩, h⟩

theorem itemByI_no_match (i n : Nat) (c : Val)
    (h : ∀ q cs, IdxPath q → (c.at q = some (.list cs) ∨ c.at q = some (.tuple cs)) → cs.length ≠ n) :
    itemByI i n c = c := by
  induction c using Val.ind with
  | cell a | dict kvs => rfl
  | list cs ih | tuple cs ih =>
    rw [itemByI, if_neg (h [] cs IdxPath.nil (by simp [Val.at])), itemByIList_eq_map, List.map_congr_left (g := id),
      List.map_id]
    intro x hx
    obtain ⟨j, hj⟩ := List.getElem?_of_mem hx
    refine ih x hx fun q ds hq hd => h (.idx j :: q) ds (IdxPath.cons j hq) ?_
    simpa [Val.at, Val.child, hj] using hd

theorem itemByKey_no_match (k : String) (keys : List String) (c : Val) (hn : c.KeysNodup)
    (h : ∀ q cs, KeyPath q → c.at q = some (.dict cs) → sortStr (keysOf cs) ≠ keys) :
    itemByKey k keys c = c := by
  induction c using Val.ind with
  | cell a => rfl
  | list cs | tuple cs => rfl
  | dict kvs ih =>
    rw [itemByKey, if_neg (h [] kvs KeyPath.nil rfl), itemByKeyKVs_eq_map, mapKW, List.map_congr_left (g := id),
      List.map_id]
    intro kv hkv
    have hc : (Val.dict kvs).child (.key kv.1) = some kv.2 := List.lookup_of_mem_nodup (hn [] kvs rfl) hkv
    refine congrArg (Prod.mk kv.1) (ih kv hkv (KeysNodup_child hn hc) fun q cs hq hd =>
      h (.key kv.1 :: q) cs (KeyPath.cons kv.1 hq) ?_)
    rwa [Val.at_cons_of_child hc]

/-- "the parameter of `f` that follows `k` positional companions is called `name`": passing one more
positional companion is the same as passing it under that name -/
def BindsNext (f : LeafFn) (k : Nat) (name : String) : Prop :=
  ∀ (x : Val) (as : List Val) (kw : KW) (c : Val), as.length = k → name ∉ keysOf kw →
    f x (as ++ [c]) kw = f x as (kw ++ [(name, c)])

theorem dropAxis_snoc {name : String} (h : name ≠ "axis") (kw : KW) (c : Val) :
    dropAxis (kw ++ [(name, c)]) = dropAxis kw ++ [(name, c)] := by
  rw [dropAxis_append]
  simp [dropAxis, h]

theorem wrapped_pos_kw (f : LeafFn) (k : Nat) (name : String) (hname : name ≠ "axis")
    (hf : BindsNext f k name) (v : Val) : ∀ (args : List Val) (kw : KW) (c : Val), args.length = k →
    name ∉ keysOf kw → wrapped f v (args ++ [c]) kw = wrapped f v args (kw ++ [(name, c)]) := by
  induction v using Val.ind with
  | cell a =>
    intro args kw c hl hk
    rw [wrapped, wrapped, dropAxis_snoc hname]
    exact hf _ _ _ _ hl (not_mem_keysOf_dropAxis kw name hk)
  | list xs ih | tuple xs ih =>
    intro args kw c hl hk
    simp only [wrapped_list, wrapped_tuple]
    rw [dropAxis_snoc hname, wrappedSeq_eq_mapM, wrappedSeq_eq_mapM]
    refine congrArg _ (List.mapM_congr fun p hp => ?_)
    rw [List.map_append, mapKW_append]
    exact ih p.1 (List.fst_mem_of_mem_zipIdx hp) _ _ _ ((List.length_map _).trans hl)
      (by rw [keysOf_mapKW]; exact not_mem_keysOf_dropAxis kw name hk)
  | dict kvs ih =>
    intro args kw c hl hk
    rw [wrapped_dict, wrapped_dict, dropAxis_snoc hname, wrappedKVs_eq_mapM, wrappedKVs_eq_mapM]
    refine congrArg _ (List.mapM_congr fun p hp => ?_)
    rw [List.map_append, mapKW_append]
    exact congrArg _ (ih p hp _ _ _ ((List.length_map _).trans hl)
      (by rw [keysOf_mapKW]; exact not_mem_keysOf_dropAxis kw name hk))

def isSeqOfLen (n : Nat) : Val → Bool
  | .list cs => cs.length == n
  | .tuple cs => cs.length == n
  | _ => false

/-- the property statement's test at ONE level: "a container of the same length / the same keys" -/
def levelMatch : Val → Val → Bool
  | .list xs, c => isSeqOfLen xs.length c
  | .tuple xs, c => isSeqOfLen xs.length c
  | .dict kvs, .dict cs => decide ((keysOf cs).Perm (keysOf kvs))
  | _, _ => false

/-- the property statement's reading of one level of descent into child `s` of `v`: a companion that matches the level gives
its member, everything else is passed on whole -/
def pickLevel (v : Val) (s : Step) (c : Val) : Val := if levelMatch v c then (c.child s).getD c else c

/-- … along a path (the statement-level counterpart of `select`, which follows the code) -/
def pickAlong (v : Val) : Path → Val → Val
  | [], c => c
  | s :: p, c => match v.child s with
    | some v' => pickAlong v' p (pickLevel v s c)
    | Option.none => c

/-- `c` holds, reachable through lists and tuples only, a list / tuple of length `n` -/
def HoldsSeq (n : Nat) (c : Val) : Prop :=
  ∃ q cs, IdxPath q ∧ (c.at q = some (.list cs) ∨ c.at q = some (.tuple cs)) ∧ cs.length = n

/-- `c` holds, reachable through dict values only, a dict with the keys `keys` -/
def HoldsDict (keys : List String) (c : Val) : Prop :=
  ∃ q cs, KeyPath q ∧ c.at q = some (.dict cs) ∧ (keysOf cs).Perm keys

/-- **the class of finding K3, at one level**: the companion does not match the level of `v` being looped (the statement:
pass it whole) but holds a matching container further inside, where the code's search (`_item_by_i` through sequences,
`_item_by_key` through dict values) finds it -/
def SearchedStep (v c : Val) : Prop :=
  levelMatch v c = false ∧
  match v with
  | .list xs => HoldsSeq xs.length c
  | .tuple xs => HoldsSeq xs.length c
  | .dict kvs => HoldsDict (keysOf kvs) c
  | .cell _ => False

/-- no level on the way down `p` is of the K3 class (the companion followed as the STATEMENT selects it) -/
def NotSearched (v : Val) : Path → Val → Prop
  | [], _ => True
  | s :: p, c => ¬ SearchedStep v c ∧
    match v.child s with
    | some v' => NotSearched v' p (pickLevel v s c)
    | Option.none => True

theorem pickAlong_cons {v v' : Val} {s : Step} (h : v.child s = some v') (p : Path) (c : Val) :
    pickAlong v (s :: p) c = pickAlong v' p (pickLevel v s c) := by
  rw [pickAlong, h]

theorem notSearched_cons {v v' : Val} {s : Step} (h : v.child s = some v') (p : Path) (c : Val) :
    NotSearched v (s :: p) c ↔ ¬ SearchedStep v c ∧ NotSearched v' p (pickLevel v s c) := by
  rw [NotSearched, h]

theorem isSeqOfLen_eq_true {n : Nat} {c : Val} (h : isSeqOfLen n c = true) :
    ∃ cs, (c = .list cs ∨ c = .tuple cs) ∧ cs.length = n := by
  cases c with
  | list cs => exact ⟨cs, Or.inl rfl, by simpa [isSeqOfLen] using h⟩
  | tuple cs => exact ⟨cs, Or.inr rfl, by simpa [isSeqOfLen] using h⟩
  | cell a | dict kvs => cases h

theorem selStep_idx {v : Val} {xs : List Val} (hv : v = .list xs ∨ v = .tuple xs) (i : Nat) (c : Val) :
    selStep v (.idx i) c = itemByI i xs.length c := by
  rcases hv with rfl | rfl <;> rfl

theorem levelMatch_seq {v : Val} {xs : List Val} (hv : v = .list xs ∨ v = .tuple xs) (c : Val) :
    levelMatch v c = isSeqOfLen xs.length c := by
  rcases hv with rfl | rfl <;> rfl

theorem searchedStep_seq {v : Val} {xs : List Val} (hv : v = .list xs ∨ v = .tuple xs) (c : Val) :
    SearchedStep v c ↔ isSeqOfLen xs.length c = false ∧ HoldsSeq xs.length c := by
  rcases hv with rfl | rfl <;> exact Iff.rfl

theorem not_holdsSeq_cell (n : Nat) (a : Cell) : ¬ HoldsSeq n (.cell a) := by
  rintro ⟨q, cs, _, hat, _⟩
  cases q <;> rcases hat with hat | hat <;> cases hat

theorem not_holdsSeq_dict (n : Nat) (kvs : KW) : ¬ HoldsSeq n (.dict kvs) := by
  rintro ⟨q, cs, hq, hat, _⟩
  cases q with
  | nil => rcases hat with hat | hat <;> cases hat
  | cons s q =>
    obtain ⟨j, rfl⟩ := hq s List.mem_cons_self
    rcases hat with hat | hat <;> cases hat

theorem holdsSeq_seq_iff {n : Nat} {v : Val} {cs : List Val} (hv : v = .list cs ∨ v = .tuple cs) :
    HoldsSeq n v ↔ cs.length = n ∨ ∃ x ∈ cs, HoldsSeq n x := by
  have hch : ∀ j, v.child (.idx j) = cs[j]? := by rcases hv with rfl | rfl <;> intro j <;> rfl
  constructor
  · rintro ⟨q, ds, hq, hat, hl⟩
    cases q with
    | nil => rcases hv with rfl | rfl <;> rcases hat with hat | hat <;> cases hat <;> exact Or.inl hl
    | cons s q =>
      obtain ⟨j, rfl⟩ := hq s List.mem_cons_self
      cases hx : cs[j]? with
      | none => rw [Val.at, hch, hx] at hat; rcases hat with hat | hat <;> cases hat
      | some x =>
        rw [Val.at_cons_of_child ((hch j).trans hx)] at hat
        exact Or.inr ⟨x, List.mem_of_getElem? hx, q, ds, fun t ht => hq t (List.mem_cons_of_mem _ ht), hat, hl⟩
  · rintro (hl | ⟨x, hx, q, ds, hq, hat, hl⟩)
    · exact ⟨[], cs, IdxPath.nil, hv.imp (congrArg some) (congrArg some), hl⟩
    · obtain ⟨j, hj⟩ := List.getElem?_of_mem hx
      exact ⟨.idx j :: q, ds, IdxPath.cons j hq, by rwa [Val.at_cons_of_child ((hch j).trans hj)], hl⟩

theorem holdsSeq_list_iff {n : Nat} {cs : List Val} :
    HoldsSeq n (.list cs) ↔ cs.length = n ∨ ∃ x ∈ cs, HoldsSeq n x := holdsSeq_seq_iff (Or.inl rfl)

theorem getIdx_ne_seq {v : Val} {cs : List Val} (hv : v = .list cs ∨ v = .tuple cs) (i : Nat) : getIdx cs i ≠ v := by
  by_cases hi : i < cs.length
  · have hlt := List.sizeOf_lt_of_mem (List.getElem_mem hi)
    rw [getIdx_of_getElem? (List.getElem?_eq_getElem hi)]
    intro e
    rw [e] at hlt
    rcases hv with rfl | rfl <;> simp at hlt <;> omega
  · rw [getIdx_of_length_le (Nat.not_lt.1 hi)]
    rcases hv with rfl | rfl <;> exact fun e => nomatch e

theorem itemByI_searched (i n : Nat) (c : Val) (h : HoldsSeq n c) : itemByI i n c ≠ c := by
  induction c using Val.ind with
  | cell a => exact absurd h (not_holdsSeq_cell n a)
  | dict kvs => exact absurd h (not_holdsSeq_dict n kvs)
  | list cs ih | tuple cs ih =>
    by_cases hlen : cs.length = n
    · rw [itemByI, if_pos hlen]
      exact getIdx_ne_seq (by simp) i
    · obtain ⟨x, hx, hh⟩ := ((holdsSeq_seq_iff (cs := cs) (by simp)).1 h).resolve_left hlen
      rw [itemByI, if_neg hlen, itemByIList_eq_map]
      intro e
      injection e with e
      exact ih x hx hh (List.map_inj_left.1 (e.trans (List.map_id cs).symm) x hx)

theorem getKey_ne_dict (cs : KW) (k : String) : getKey cs k ≠ .dict cs := by
  cases h : cs.lookup k with
  | none =>
    rw [getKey, h]
    exact fun e => nomatch e
  | some y =>
    have hlt := List.sizeOf_lt_of_mem (List.mem_of_lookup_eq_some h)
    rw [getKey_of_lookup h]
    intro e
    rw [e] at hlt
    simp at hlt
    omega

theorem itemByKey_searched (k : String) (keys : List String) : ∀ (q : Path) (c : Val) (ds : KW), KeyPath q →
    c.at q = some (.dict ds) → sortStr (keysOf ds) = keys → itemByKey k keys c ≠ c
  | [], c, ds, _, hq, hl => by
      cases hq
      rw [itemByKey, if_pos hl]
      exact getKey_ne_dict ds k
  | s :: q, c, ds, hp, hq, hl => by
      obtain ⟨j, rfl⟩ := hp s List.mem_cons_self
      obtain ⟨x, hc, hx⟩ := Val.at_cons_eq_some.1 hq
      obtain ⟨cs, rfl, hj⟩ := Val.child_key_eq_some hc
      by_cases hk : sortStr (keysOf cs) = keys
      · rw [itemByKey, if_pos hk]
        exact getKey_ne_dict cs k
      · rw [itemByKey, if_neg hk, itemByKeyKVs_eq_map]
        intro e
        injection e with e
        have := congrArg (List.lookup j) e
        rw [lookup_mapKW, hj] at this
        exact itemByKey_searched k keys q x ds (fun t ht => hp t (List.mem_cons_of_mem _ ht)) hx hl (Option.some.inj this)

end Pyg
