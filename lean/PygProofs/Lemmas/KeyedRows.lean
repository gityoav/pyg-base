/-
  C20, table-free: `JStep`, the specification of one `_join_dictable_with_defaults` step on keyed rows (the rows of the result
  are in bijection with the valid origins), and what follows from it alone.
-/
import PygProofs.Lemmas.JoinLemmas

namespace Pyg

abbrev Row := String → Cell

/-- the two rows carry `cmp`-equal keys on the columns `on` -/
def keq (on : List String) (r r' : Row) : Prop := ∀ c ∈ on, cmp (.cell (r c)) (.cell (r' c)) = .eq

theorem keq_refl (on : List String) (r : Row) : keq on r r := fun _ _ => cmp_self _

theorem keq_symm {on : List String} {r r' : Row} (h : keq on r r') : keq on r' r :=
  fun c hc => Std.OrientedCmp.eq_symm (h c hc)

theorem keq_trans {on : List String} {a b c : Row} (h1 : keq on a b) (h2 : keq on b c) : keq on a c :=
  fun x hx => Std.TransCmp.eq_trans (h1 x hx) (h2 x hx)

theorem keq_of_agree {on : List String} {r r' : Row} (h : ∀ c ∈ on, r c = r' c) : keq on r r' :=
  fun c hc => by rw [h c hc]; exact cmp_self _

/-- a table seen as `n` rows, each a function of the column name -/
structure Rows where
  n : Nat
  row : Nat → Row

/-- some row of `t` carries the key of `k` -/
def Rows.hasK (on : List String) (t : Rows) (k : Row) : Prop := ∃ i, i < t.n ∧ keq on (t.row i) k

/-- no two rows of `t` carry the same key -/
def Rows.uniq (on : List String) (t : Rows) : Prop :=
  ∀ i j, i < t.n → j < t.n → keq on (t.row i) (t.row j) → i = j

theorem Rows.hasK_congr {on : List String} {t : Rows} {k k' : Row} (h : keq on k k') :
    t.hasK on k ↔ t.hasK on k' :=
  ⟨fun ⟨i, hi, he⟩ => ⟨i, hi, keq_trans he h⟩, fun ⟨i, hi, he⟩ => ⟨i, hi, keq_trans he (keq_symm h)⟩⟩

theorem Rows.hasK_of_keq {on : List String} {A A' : Rows} (hn : A.n = A'.n)
    (h : ∀ i, i < A.n → keq on (A.row i) (A'.row i)) (k : Row) : A.hasK on k ↔ A'.hasK on k := by
  constructor
  · rintro ⟨i, hi, he⟩
    exact ⟨i, hn ▸ hi, keq_trans (keq_symm (h i hi)) he⟩
  · rintro ⟨i, hi, he⟩
    have hi' : i < A.n := hn ▸ hi
    exact ⟨i, hi', keq_trans (h i hi') he⟩

theorem Rows.uniq_of_keq {on : List String} {A A' : Rows} (hn : A.n = A'.n)
    (h : ∀ i, i < A.n → keq on (A.row i) (A'.row i)) (hu : A'.uniq on) : A.uniq on :=
  fun i j hi hj he => hu i j (hn ▸ hi) (hn ▸ hj)
    (keq_trans (keq_symm (h i hi)) (keq_trans he (h j hj)))

/-- the row after `d(**kvs)`: a later entry for the same name wins -/
def Row.sets (r : Row) (kvs : List (String × Cell)) : Row := fun c =>
  match kvs.reverse.find? (fun kv => kv.1 == c) with
  | some kv => kv.2
  | none => r c

theorem Row.sets_nil (r : Row) : r.sets [] = r := rfl

/-- the last value given to `name` in a `defaults` dict -/
def dfltOf (defaults : List (String × Cell)) (name : String) : Option Cell :=
  (defaults.reverse.find? (fun kv => kv.1 == name)).map (·.2)

theorem dfltOf_isSome {kvs : List (String × Cell)} {c : String} :
    (dfltOf kvs c).isSome = true ↔ ∃ kv ∈ kvs, kv.1 = c := by
  simp only [dfltOf, Option.isSome_map, List.find?_isSome, List.mem_reverse, beq_iff_eq]

theorem dfltOf_eq_none {kvs : List (String × Cell)} {c : String} :
    dfltOf kvs c = none ↔ ∀ kv ∈ kvs, kv.1 ≠ c := by
  rw [← Option.not_isSome_iff_eq_none, dfltOf_isSome]
  exact ⟨fun h kv hkv he => h ⟨kv, hkv, he⟩, fun h ⟨kv, hkv, he⟩ => h kv hkv he⟩

theorem dfltOf_append (a b : List (String × Cell)) (c : String) :
    dfltOf (a ++ b) c = (dfltOf b c).or (dfltOf a c) := by
  simp only [dfltOf, List.reverse_append, List.find?_append]
  cases b.reverse.find? (fun kv => kv.1 == c) <;> rfl

theorem dfltOf_filter (kvs : List (String × Cell)) (p : String × Cell → Bool) (c : String)
    (h : ∀ kv ∈ kvs, kv.1 = c → p kv = true) : dfltOf (kvs.filter p) c = dfltOf kvs c := by
  unfold dfltOf
  rw [← List.filter_reverse, List.find?_key_filter p fun e he => h e (List.mem_reverse.1 he)]

theorem dfltOf_of_nodup {l : List (String × Cell)} (h : (l.map (·.1)).Nodup) {kv : String × Cell}
    (hkv : kv ∈ l) : dfltOf l kv.1 = some kv.2 := by
  unfold dfltOf
  rw [List.find?_key_of_nodup (((List.reverse_perm l).map _).nodup_iff.2 h) (List.mem_reverse.2 hkv)]
  rfl

theorem Row.sets_eq_dfltOf (r : Row) (kvs : List (String × Cell)) (c : String) :
    r.sets kvs c = (dfltOf kvs c).getD (r c) := by
  simp only [Row.sets, dfltOf]
  cases kvs.reverse.find? (fun kv => kv.1 == c) <;> rfl

theorem Row.sets_dfltOf (r : Row) (kvs : List (String × Cell)) (c : String) (v : Cell)
    (h : dfltOf kvs c = some v) : r.sets kvs c = v := by
  rw [Row.sets_eq_dfltOf, h]
  rfl

theorem Row.sets_of_not_mem (r : Row) (kvs : List (String × Cell)) (c : String)
    (h : ∀ kv ∈ kvs, kv.1 ≠ c) : r.sets kvs c = r c := by
  rw [Row.sets_eq_dfltOf, dfltOf_eq_none.2 h]
  rfl

theorem Row.sets_append (r : Row) (l₁ l₂ : List (String × Cell)) :
    r.sets (l₁ ++ l₂) = (r.sets l₁).sets l₂ := by
  funext c
  rw [Row.sets_eq_dfltOf, Row.sets_eq_dfltOf, Row.sets_eq_dfltOf, dfltOf_append]
  cases dfltOf l₂ c <;> rfl

theorem Row.sets_single (r : Row) (kv : String × Cell) (c : String) :
    r.sets [kv] c = if c = kv.1 then kv.2 else r c := by
  by_cases h : c = kv.1
  · subst h
    rw [if_pos rfl]
    exact Row.sets_dfltOf _ _ _ _ (by simp [dfltOf])
  · rw [if_neg h]
    exact Row.sets_of_not_mem _ _ _ fun kv' hkv' he => h (by rw [← he, List.mem_singleton.1 hkv'])

theorem keq_sets {on : List String} (r : Row) (kvs : List (String × Cell))
    (h : ∀ kv ∈ kvs, kv.1 ∉ on) : keq on (r.sets kvs) r := by
  apply keq_of_agree
  intro c hc
  apply Row.sets_of_not_mem
  intro kv hkv he
  exact h kv hkv (he ▸ hc)

abbrev Origin := Option Nat × Option Nat

/-- where row `p` of the result comes from: `(some i, some j)` = rows `i`, `j` joined,
`(none, some j)` = right row `j` alone, `(some i, none)` = left row `i` alone -/
def RowFrom (on ca cb : List String) (A B : Rows) (da db : List (String × Cell)) (r : Row) :
    Origin → Prop
  | (some i, some j) => i < A.n ∧ j < B.n ∧ keq on r (A.row i) ∧ keq on r (B.row j) ∧
      (∀ c ∈ ca, c ∉ on → r c = A.row i c) ∧ (∀ c ∈ cb, c ∉ on → r c = B.row j c)
  | (none, some j) => da ≠ [] ∧ j < B.n ∧ (∀ i, i < A.n → ¬ keq on (B.row j) (A.row i)) ∧
      r = (B.row j).sets da
  | (some i, none) => db ≠ [] ∧ i < A.n ∧ (∀ j, j < B.n → ¬ keq on (A.row i) (B.row j)) ∧
      r = (A.row i).sets db
  | (none, none) => False

/-- the origins a `_join_dictable_with_defaults((A, da), (B, db))` has to produce: every key-equal pair of rows, then — only
with left defaults — the right rows whose key the left side lacks, then — only with right defaults — the left rows whose
key the right side lacks -/
def ValidOrigin (on : List String) (A B : Rows) (da db : List (String × Cell)) : Origin → Prop
  | (some i, some j) => i < A.n ∧ j < B.n ∧ keq on (A.row i) (B.row j)
  | (none, some j) => da ≠ [] ∧ j < B.n ∧ ∀ i, i < A.n → ¬ keq on (B.row j) (A.row i)
  | (some i, none) => db ≠ [] ∧ i < A.n ∧ ∀ j, j < B.n → ¬ keq on (A.row i) (B.row j)
  | (none, none) => False

/-- the rows of `D` come, in row order, from the origins `src`, no origin twice -/
def RowsFrom (on ca cb : List String) (A B : Rows) (da db : List (String × Cell)) (D : Rows)
    (src : List Origin) : Prop :=
  src.Nodup ∧ D.n = src.length ∧
    ∀ p (h : p < src.length), RowFrom on ca cb A B da db (D.row p) src[p]

/-- specification of `_join_dictable_with_defaults((A, da), (B, db)) = D`: the rows of `D` are in bijection with the valid
origins -/
def JStep (on ca cb : List String) (A B : Rows) (da db : List (String × Cell)) (D : Rows) : Prop :=
  ∃ src, RowsFrom on ca cb A B da db D src ∧ ∀ o, ValidOrigin on A B da db o → o ∈ src

theorem getElem?_inj_of_nodup {α} {l : List α} (h : l.Nodup) {i j : Nat} {a : α}
    (hi : l[i]? = some a) (hj : l[j]? = some a) : i = j :=
  (List.getElem?_inj (List.getElem?_eq_some_iff.1 hi).1 h).1 (hi.trans hj.symm)

theorem RowsFrom.extend {on ca cb : List String} {A B : Rows} {da db : List (String × Cell)} {D0 D1 : Rows}
    {src : List Origin} (h : RowsFrom on ca cb A B da db D0 src) (g : Nat → Origin) (ids : List Nat)
    (hg : ∀ j j', g j = g j' → j = j') (hnd : ids.Nodup) (hnew : ∀ j, g j ∉ src)
    (hn : D1.n = D0.n + ids.length) (hold : ∀ p, p < D0.n → D1.row p = D0.row p)
    (hrow : ∀ q (h : q < ids.length), RowFrom on ca cb A B da db (D1.row (D0.n + q)) (g ids[q])) :
    RowsFrom on ca cb A B da db D1 (src ++ ids.map g) := by
  obtain ⟨h1, h2, h3⟩ := h
  refine ⟨List.nodup_append.2 ⟨h1, hnd.map g fun a b hab he => hab (hg a b he), fun a ha b hb he => ?_⟩,
    by rw [hn, h2, List.length_append, List.length_map],
    List.forall_getElem_append (fun p o => RowFrom on ca cb A B da db (D1.row p) o) _ _
      (fun p hp => ?_) (fun q hq => ?_)⟩
  · obtain ⟨j, _, rfl⟩ := List.mem_map.1 hb
    exact hnew j (he ▸ ha)
  · rw [hold p (h2 ▸ hp)]; exact h3 p hp
  · rw [List.length_map] at hq
    rw [List.getElem_map, ← h2]; exact hrow q hq

theorem RowsFrom.inner {on ca cb : List String} {A B D : Rows} (kp : List (Nat × Nat))
    (hnd : kp.Nodup)
    (hm : ∀ i j, (i, j) ∈ kp ↔ i < A.n ∧ j < B.n ∧ keq on (A.row i) (B.row j))
    (hn : D.n = kp.length)
    (hrow : ∀ p (h : p < kp.length), keq on (D.row p) (A.row kp[p].1) ∧
      (∀ c ∈ ca, c ∉ on → D.row p c = A.row kp[p].1 c) ∧
      (∀ c ∈ cb, c ∉ on → D.row p c = B.row kp[p].2 c)) (da db : List (String × Cell)) :
    RowsFrom on ca cb A B da db D (kp.map fun ij => (some ij.1, some ij.2)) := by
  refine ⟨hnd.map _ fun a b hab he => hab (Prod.ext (Option.some.inj (congrArg Prod.fst he))
      (Option.some.inj (congrArg Prod.snd he))), by rw [hn, List.length_map], fun p hp => ?_⟩
  rw [List.length_map] at hp
  rw [List.getElem_map]
  have hm := (hm kp[p].1 kp[p].2).1 (List.getElem_mem hp)
  obtain ⟨k1, k2, k3⟩ := hrow p hp
  exact ⟨hm.1, hm.2.1, k1, keq_trans k1 hm.2.2, k2, k3⟩

/-- the defaults never touch a key column -/
def OffKeys (on : List String) (d : List (String × Cell)) : Prop := ∀ kv ∈ d, kv.1 ∉ on

theorem offKeys_nil (on : List String) : OffKeys on [] := fun _ h => by cases h

theorem RowFrom.swap {on ca cb : List String} {A B : Rows} {da db : List (String × Cell)} {r : Row}
    {o : Origin} (h : RowFrom on ca cb A B da db r o) :
    RowFrom on cb ca B A db da r (o.2, o.1) := by
  obtain ⟨_ | i, _ | j⟩ := o
  · exact h
  · exact h
  · exact h
  · obtain ⟨hi, hj, ka, kb, va, vb⟩ := h
    exact ⟨hj, hi, kb, ka, vb, va⟩

theorem RowFrom.left {on ca cb : List String} {A B : Rows} {da db : List (String × Cell)} {r : Row}
    {o : Origin} (hdb : OffKeys on db) (h : RowFrom on ca cb A B da db r o) {i : Nat}
    (hi : o.1 = some i) : i < A.n ∧ keq on r (A.row i) := by
  obtain ⟨oi, oj⟩ := o
  obtain rfl : oi = some i := hi
  cases oj with
  | some j => exact ⟨h.1, h.2.2.1⟩
  | none => exact ⟨h.2.1, by rw [h.2.2.2]; exact keq_sets _ _ hdb⟩

theorem RowFrom.noleft {on ca cb : List String} {A B : Rows} {da db : List (String × Cell)} {r : Row}
    {o : Origin} (hda : OffKeys on da) (h : RowFrom on ca cb A B da db r o)
    (hn : o.1 = none) : ∀ i, i < A.n → ¬ keq on r (A.row i) := by
  obtain ⟨oi, oj⟩ := o
  obtain rfl : oi = none := hn
  cases oj with
  | none => exact h.elim
  | some j =>
    intro i hi he
    exact h.2.2.1 i hi (keq_trans (keq_symm (by rw [h.2.2.2]; exact keq_sets _ _ hda)) he)

theorem RowsFrom.row_of {on ca cb : List String} {A B : Rows} {da db : List (String × Cell)} {D : Rows}
    {src : List Origin} (h : RowsFrom on ca cb A B da db D src) (hc : ∀ o, ValidOrigin on A B da db o → o ∈ src)
    {o : Origin} (ho : ValidOrigin on A B da db o) : ∃ p, p < D.n ∧ RowFrom on ca cb A B da db (D.row p) o := by
  obtain ⟨p, hp, rfl⟩ := List.getElem_of_mem (hc o ho)
  exact ⟨p, h.2.1 ▸ hp, h.2.2 p hp⟩

theorem JStep.hasK_iff {on ca cb : List String} {A B : Rows} {da db : List (String × Cell)} {D : Rows}
    (h : JStep on ca cb A B da db D) (hda : OffKeys on da) (hdb : OffKeys on db) (k : Row) :
    D.hasK on k ↔ (A.hasK on k ∧ B.hasK on k) ∨ (da ≠ [] ∧ B.hasK on k ∧ ¬ A.hasK on k) ∨
      (db ≠ [] ∧ A.hasK on k ∧ ¬ B.hasK on k) := by
  obtain ⟨src, hP, hc⟩ := h
  constructor
  · rintro ⟨p, hp, he⟩
    have hp' : p < src.length := hP.2.1 ▸ hp
    have hf := hP.2.2 p hp'
    match hpv : src[p] with
    | (some i, some j) =>
      rw [hpv] at hf
      exact .inl ⟨⟨i, hf.1, keq_trans (keq_symm hf.2.2.1) he⟩,
        ⟨j, hf.2.1, keq_trans (keq_symm hf.2.2.2.1) he⟩⟩
    | (none, some j) =>
      rw [hpv] at hf
      obtain ⟨hj, hje⟩ := hf.swap.left hda rfl
      refine .inr (.inl ⟨hf.1, ⟨j, hj, keq_trans (keq_symm hje) he⟩, ?_⟩)
      rintro ⟨i, hi, hie⟩
      exact hf.noleft hda rfl i hi (keq_trans he (keq_symm hie))
    | (some i, none) =>
      rw [hpv] at hf
      obtain ⟨hi, hie⟩ := hf.left hdb rfl
      refine .inr (.inr ⟨hf.1, ⟨i, hi, keq_trans (keq_symm hie) he⟩, ?_⟩)
      rintro ⟨j, hj, hje⟩
      exact hf.swap.noleft hdb rfl j hj (keq_trans he (keq_symm hje))
    | (none, none) => rw [hpv] at hf; exact hf.elim
  · rintro (⟨⟨i, hi, hie⟩, ⟨j, hj, hje⟩⟩ | ⟨hne, ⟨j, hj, hje⟩, hno⟩ | ⟨hne, ⟨i, hi, hie⟩, hno⟩)
    · obtain ⟨p, hp, hf⟩ := RowsFrom.row_of hP hc (o := (some i, some j)) ⟨hi, hj, keq_trans hie (keq_symm hje)⟩
      exact ⟨p, hp, keq_trans hf.2.2.1 hie⟩
    · obtain ⟨p, hp, hf⟩ := RowsFrom.row_of hP hc (o := (none, some j))
        ⟨hne, hj, fun i hi he => hno ⟨i, hi, keq_trans (keq_symm he) hje⟩⟩
      exact ⟨p, hp, by rw [hf.2.2.2]; exact keq_trans (keq_sets _ _ hda) hje⟩
    · obtain ⟨p, hp, hf⟩ := RowsFrom.row_of hP hc (o := (some i, none))
        ⟨hne, hi, fun j hj he => hno ⟨j, hj, keq_trans (keq_symm he) hie⟩⟩
      exact ⟨p, hp, by rw [hf.2.2.2]; exact keq_trans (keq_sets _ _ hdb) hie⟩

/-- the keys of an outer join (`JStep.hasK_iff` with defaults on both sides): those of either side -/
theorem hasK_cases_outer {A B p q : Prop} (hp : p) (hq : q) :
    (A ∧ B) ∨ (p ∧ B ∧ ¬ A) ∨ (q ∧ A ∧ ¬ B) ↔ A ∨ B :=
  ⟨fun h => h.elim (fun h => .inl h.1) fun h => h.elim (fun h => .inr h.2.1) fun h => .inl h.2.1,
    fun h => (Classical.em A).elim
      (fun hA => (Classical.em B).elim (fun hB => .inl ⟨hA, hB⟩) fun hB => .inr (.inr ⟨hq, hA, hB⟩))
      fun hA => .inr (.inl ⟨hp, h.resolve_left hA, hA⟩)⟩

/-- the keys of a left join (defaults on the right side only): those of the left side -/
theorem hasK_cases_left {A B p q : Prop} (hp : ¬ p) (hq : q) :
    (A ∧ B) ∨ (p ∧ B ∧ ¬ A) ∨ (q ∧ A ∧ ¬ B) ↔ A :=
  ⟨fun h => h.elim (fun h => h.1) fun h => h.elim (fun h => absurd h.1 hp) fun h => h.2.1,
    fun hA => (Classical.em B).elim (fun hB => .inl ⟨hA, hB⟩) fun hB => .inr (.inr ⟨hq, hA, hB⟩)⟩

theorem JStep.hasK_inner {on ca cb : List String} {A B D : Rows} (h : JStep on ca cb A B [] [] D) (k : Row) :
    D.hasK on k ↔ A.hasK on k ∧ B.hasK on k :=
  (h.hasK_iff (offKeys_nil on) (offKeys_nil on) k).trans
    ⟨fun h => h.elim id fun h => h.elim (fun h => absurd rfl h.1) fun h => absurd rfl h.1, .inl⟩

theorem RowFrom.fst_eq {on ca cb : List String} {A B : Rows} {da db : List (String × Cell)}
    {r r' : Row} {o o' : Origin} (hA : A.uniq on) (hda : OffKeys on da)
    (hdb : OffKeys on db) (he : keq on r r') (h : RowFrom on ca cb A B da db r o)
    (h' : RowFrom on ca cb A B da db r' o') : o.1 = o'.1 := by
  cases h1 : o.1 with
  | some i =>
    obtain ⟨hi, hie⟩ := h.left hdb h1
    cases h2 : o'.1 with
    | some i' =>
      obtain ⟨hi', hie'⟩ := h'.left hdb h2
      rw [hA i i' hi hi' (keq_trans (keq_symm hie) (keq_trans he hie'))]
    | none => exact (h'.noleft hda h2 i hi (keq_trans (keq_symm he) hie)).elim
  | none =>
    cases h2 : o'.1 with
    | some i' =>
      obtain ⟨hi', hie'⟩ := h'.left hdb h2
      exact (h.noleft hda h1 i' hi' (keq_trans he hie')).elim
    | none => rfl

theorem JStep.uniq {on ca cb : List String} {A B : Rows} {da db : List (String × Cell)} {D : Rows}
    (h : JStep on ca cb A B da db D) (hda : OffKeys on da) (hdb : OffKeys on db)
    (hA : A.uniq on) (hB : B.uniq on) : D.uniq on := by
  obtain ⟨src, ⟨hnd, hn, hfrom⟩, _⟩ := h
  intro p q hp hq he
  rw [hn] at hp hq
  exact (List.getElem_inj hnd).1 (Prod.ext (RowFrom.fst_eq hA hda hdb he (hfrom p hp) (hfrom q hq))
    (RowFrom.fst_eq hB hdb hda he (hfrom p hp).swap (hfrom q hq).swap))

/-- one input of `join`: its rows, the name of its value column, its default -/
structure Src where
  t : Rows
  name : String
  dflt : Option Cell

/-- row `r` carries, in column `s.name`, the value of a row of `s` with `r`'s key — or, when `s` has
no such row, the default of `s` (which then exists) -/
def vrow (on : List String) (r : Row) (s : Src) : Prop :=
  (∃ j, j < s.t.n ∧ keq on (s.t.row j) r ∧ r s.name = s.t.row j s.name) ∨
  ((∀ j, j < s.t.n → ¬ keq on (s.t.row j) r) ∧ ∃ v, s.dflt = some v ∧ r s.name = v)

theorem vrow_congr {on : List String} {r r' : Row} {s : Src} (hk : keq on r r')
    (hv : r s.name = r' s.name) (h : vrow on r' s) : vrow on r s := by
  rcases h with ⟨j, hj, he, hval⟩ | ⟨hno, v, hd, hval⟩
  · exact .inl ⟨j, hj, keq_trans he (keq_symm hk), hv.trans hval⟩
  · exact .inr ⟨fun j hj he => hno j hj (keq_trans he hk), v, hd, hv.trans hval⟩

/-- every row of `D` accounts (`vrow`) for every source in `S` -/
def VOK (on : List String) (D : Rows) (S : List Src) : Prop :=
  ∀ p, p < D.n → ∀ s ∈ S, vrow on (D.row p) s

/-- what filling in the defaults `da` for the sources `S` joined into `A` needs: `A` holds every key
one of them holds, and `da` records the default of each -/
def DefAcc (on : List String) (A : Rows) (S : List Src) (da : List (String × Cell)) : Prop :=
  (∀ s ∈ S, ∀ k, s.t.hasK on k → A.hasK on k) ∧
  (∀ s ∈ S, ∃ v, s.dflt = some v ∧ ∀ r : Row, r.sets da s.name = v)

/-- for the sources joined into the right side apply this to `RowFrom.swap` -/
theorem RowFrom.vrow_left {on ca cb : List String} {A B : Rows} {da db : List (String × Cell)}
    {r : Row} {o : Origin} (hda : OffKeys on da) (hdb : OffKeys on db)
    {Sa : List Src} (hVa : VOK on A Sa)
    (hna : ∀ s ∈ Sa, s.name ∈ ca ∧ s.name ∉ on ∧ ∀ kv ∈ db, kv.1 ≠ s.name)
    (hDa : da ≠ [] → DefAcc on A Sa da) (h : RowFrom on ca cb A B da db r o) {s : Src}
    (hs : s ∈ Sa) : vrow on r s := by
  obtain ⟨_ | i, _ | j⟩ := o
  · exact h.elim
  · obtain ⟨hne, hj, hno, hrow⟩ := h
    have hk : keq on r (B.row j) := by rw [hrow]; exact keq_sets _ _ hda
    obtain ⟨hsub, hdef⟩ := hDa hne
    obtain ⟨v, hv, hval⟩ := hdef s hs
    refine .inr ⟨?_, v, hv, by rw [hrow]; exact hval _⟩
    intro x hx he
    obtain ⟨i, hi, hie⟩ := hsub s hs r ⟨x, hx, he⟩
    exact hno i hi (keq_trans (keq_symm hk) (keq_symm hie))
  · obtain ⟨hne, hi, hno, hrow⟩ := h
    have hk : keq on r (A.row i) := by rw [hrow]; exact keq_sets _ _ hdb
    refine vrow_congr hk ?_ (hVa i hi s hs)
    rw [hrow]; exact Row.sets_of_not_mem _ _ _ (hna s hs).2.2
  · obtain ⟨hi, hj, hka, hkb, hva, hvb⟩ := h
    exact vrow_congr hka (hva _ (hna s hs).1 (hna s hs).2.1) (hVa i hi s hs)

theorem JStep.vok {on ca cb : List String} {A B : Rows} {da db : List (String × Cell)} {D : Rows}
    (h : JStep on ca cb A B da db D) (hda : OffKeys on da) (hdb : OffKeys on db)
    {Sa Sb : List Src} (hVa : VOK on A Sa) (hVb : VOK on B Sb)
    (hna : ∀ s ∈ Sa, s.name ∈ ca ∧ s.name ∉ on ∧ ∀ kv ∈ db, kv.1 ≠ s.name)
    (hnb : ∀ s ∈ Sb, s.name ∈ cb ∧ s.name ∉ on ∧ ∀ kv ∈ da, kv.1 ≠ s.name)
    (hDa : da ≠ [] → DefAcc on A Sa da) (hDb : db ≠ [] → DefAcc on B Sb db) :
    VOK on D (Sa ++ Sb) := by
  obtain ⟨src, ⟨_, hn, hfrom⟩, _⟩ := h
  intro p hp s hs
  rw [hn] at hp
  rcases List.mem_append.1 hs with hs | hs
  · exact (hfrom p hp).vrow_left hda hdb hVa hna hDa hs
  · exact (hfrom p hp).swap.vrow_left hdb hda hVb hnb hDb hs

end Pyg
