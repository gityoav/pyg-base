/-
  The invariant `Inv` of a publication history: the store has the shape `bi_merge` leaves and tells, per date and as-of cut,
  what the full publication log tells.  Also here: the vocabulary of the declarative reads, `pubs` and `col` (one date's visible
  publications), with `mem_specRead` and `lastVal_col_some`.
-/
import PygProofs.Lemmas.BitempLemmas

namespace Pyg.Bitemp

/-- the store tells the same story as the full log, has the shape `bi_merge` leaves, and holds published rows only -/
def Inv (st rows : Store) : Prop := Good st ∧ SpecEq st rows ∧ ∀ r ∈ st, r ∈ rows

theorem Inv.good {st rows : Store} (h : Inv st rows) : Good st := h.1

theorem Inv.specEq {st rows : Store} (h : Inv st rows) : SpecEq st rows := h.2.1

theorem Inv.published {st rows : Store} (h : Inv st rows) : ∀ r ∈ st, r ∈ rows := h.2.2

/-- a publication history the property speaks about: non-empty, every version a proper series,
    merged in non-decreasing stamp order -/
structure Ordered (log : List Version) : Prop where
  ne : log ≠ []
  wf : ∀ v ∈ log, v.ts.Sorted
  stamps : log.Pairwise (fun a b => a.stamp ≤ b.stamp)

theorem Ordered.of_append {log later : List Version} (h : Ordered (log ++ later)) (hl : log ≠ []) : Ordered log :=
  ⟨hl, fun v hv => h.wf v (List.mem_append_left _ hv), (List.pairwise_append.mp h.stamps).1⟩

theorem specEq_append {a b : Store} (h : SpecEq a b) (n : Store) : SpecEq (a ++ n) (b ++ n) := by
  intro d p hp
  simp only [group_append, List.filter_append, accVal_append, h d p hp]

/-- one merge keeps the invariant as soon as, PER DATE, the new rows are stamped no earlier than what was published for that
    date so far (and are themselves in stamp order) -/
theorem inv_merge_cols {st rows n : Store} (h : Inv st rows) (hs : ∀ d, SortedLe (group d (rows ++ n))) :
    Inv (mergeFrames [st, n]) (rows ++ n) := by
  obtain ⟨hg, he, hm⟩ := h
  refine ⟨mergeFrames_good _ _, fun d p hp => ?_, fun r hr => List.append_subset_append hm n r (mergeFrames_subset _ _ hr)⟩
  have hX : SortedLe (group d (st ++ n)) := List.pairwise_filter_append_of_subset (hg.le d) hm (hs d)
  -- the merge folds as the sorted concatenation, which per date is the concatenation; its old part folds as `rows`
  rw [mergeFrames_specEq st n d p hp, group_sortStamp, sortStamp_of_sorted hX]
  exact specEq_append he n d p hp

theorem inv_merge {st rows n : Store} (h : Inv st rows) (hs : SortedLe (rows ++ n)) :
    Inv (mergeFrames [st, n]) (rows ++ n) :=
  inv_merge_cols h fun _ => hs.sublist List.filter_sublist

theorem logRows_append (a b : List Version) : logRows (a ++ b) = logRows a ++ logRows b := by
  simp [logRows]

theorem logRows_single (v : Version) : logRows [v] = Bi v.ts v.stamp := by
  simp [logRows]

theorem mem_Bi {ts : TS} {s : Int} {r : Row} : r ∈ Bi ts s ↔ ∃ p ∈ ts, (⟨p.1, s, p.2⟩ : Row) = r := List.mem_map

theorem Bi_eq_nil {ts : TS} {s : Int} : Bi ts s = [] ↔ ts = [] := by simp [Bi]

theorem mem_group_Bi {ts : TS} {s d : Int} {r : Row} :
    r ∈ group d (Bi ts s) ↔ r.stamp = s ∧ r.date = d ∧ (d, r.val) ∈ ts := by
  rw [mem_group, mem_Bi]
  constructor
  · rintro ⟨⟨p, hp, rfl⟩, rfl⟩
    exact ⟨rfl, rfl, hp⟩
  · rintro ⟨rfl, rfl, hp⟩
    exact ⟨⟨_, hp, rfl⟩, rfl⟩

theorem mem_logRows {log : List Version} {r : Row} :
    r ∈ logRows log ↔ ∃ v ∈ log, ∃ p ∈ v.ts, (⟨p.1, v.stamp, p.2⟩ : Row) = r := by
  simp only [logRows, List.mem_flatMap, mem_Bi]

def mergeStep (st : Option Store) (v : Version) : Option Store := some (biMerge st (Bi v.ts v.stamp))

theorem history_eq (log : List Version) : history log = log.foldl mergeStep Option.none := rfl

def mergeStepF (st : Option Store) (f : Store) : Option Store := some (biMerge st f)

theorem historyF_eq (fs : List Store) : historyF fs = fs.foldl mergeStepF Option.none := rfl

theorem invF_foldl (rest : List Store) : ∀ (st rows : Store), Inv st rows →
    (∀ d, SortedLe (group d (rows ++ rest.flatten))) →
    ∃ st', rest.foldl mergeStepF (some st) = some st' ∧ Inv st' (rows ++ rest.flatten) := by
  induction rest with
  | nil => intro st rows h _; exact ⟨st, rfl, by simpa using h⟩
  | cons f rest ih =>
    intro st rows h hs
    have e : rows ++ (f :: rest).flatten = (rows ++ f) ++ rest.flatten := by simp
    rw [e] at hs ⊢
    have hs1 : ∀ d, SortedLe (group d (rows ++ f)) := by
      intro d
      have := hs d
      rw [group_append] at this
      exact (List.pairwise_append.mp this).1
    exact ih _ _ (inv_merge_cols h hs1) hs

def frames (b : List Version) : List Store := b.map fun v => Bi v.ts v.stamp

theorem frames_flatten (b : List Version) : (frames b).flatten = logRows b := by
  simp [frames, logRows, List.flatMap_def]

theorem inv_foldl (rest : List Version) (st : Store) (log0 : List Version) (h : Inv st (logRows log0))
    (hs : SortedLe (logRows (log0 ++ rest))) :
    ∃ st', rest.foldl mergeStep (some st) = some st' ∧ Inv st' (logRows (log0 ++ rest)) := by
  rw [logRows_append, ← frames_flatten] at hs ⊢
  obtain ⟨st', e, hi⟩ := invF_foldl (frames rest) st (logRows log0) h fun d => hs.sublist List.filter_sublist
  refine ⟨st', ?_, hi⟩
  rw [← e, frames, List.foldl_map]
  rfl

/-- the invariant after any history of stamped frames whose first frame has the store shape and in which, per date, the stamps
    are non-decreasing in merge order -/
theorem historyF_inv (f : Store) (rest : List Store) (h0 : Good f)
    (hs : ∀ d, SortedLe (group d (f :: rest).flatten)) :
    ∃ st, historyF (f :: rest) = some st ∧ Inv st (f :: rest).flatten := by
  have hi : Inv f f := ⟨h0, SpecEq.refl _, fun _ h => h⟩
  exact invF_foldl rest f f hi hs

theorem history_eq_historyF (log : List Version) : history log = historyF (frames log) := by
  unfold history historyF frames
  rw [List.foldl_map]

theorem logRows_sorted (log : List Version) (hs : log.Pairwise (fun a b => a.stamp ≤ b.stamp)) :
    SortedLe (logRows log) := by
  unfold logRows SortedLe
  rw [List.pairwise_flatMap]
  refine ⟨?_, hs.imp ?_⟩
  · intro v _
    simp only [Bi, List.pairwise_map]
    exact List.pairwise_of_forall (by intros; simp)
  · intro a b hab x hx y hy
    simp only [Bi, List.mem_map] at hx hy
    obtain ⟨_, _, rfl⟩ := hx
    obtain ⟨_, _, rfl⟩ := hy
    exact hab

theorem logRows_stamp_ne (log : List Version) (hwf : ∀ v ∈ log, v.ts.Sorted)
    (hs : log.Pairwise (fun a b => a.stamp ≠ b.stamp)) :
    (logRows log).Pairwise (fun a b => a.date = b.date → a.stamp ≠ b.stamp) := by
  unfold logRows
  rw [List.pairwise_flatMap]
  refine ⟨fun v hv => ?_, hs.imp ?_⟩
  · rw [Bi, List.pairwise_map]
    exact (List.pairwise_map.mp (hwf v hv)).imp fun hlt he => absurd he (Int.ne_of_lt hlt)
  · intro a b hab x hx y hy _
    obtain ⟨_, _, rfl⟩ := mem_Bi.mp hx
    obtain ⟨_, _, rfl⟩ := mem_Bi.mp hy
    exact hab

theorem good_of_nodup (st : Store) (h : (st.map (·.date)).Nodup) : Good st := by
  intro d
  have hp : (group d st).Pairwise (fun a b => a.date ≠ b.date) := (List.pairwise_map.mp h).sublist List.filter_sublist
  have hfalse : ∀ {a b : Row}, a ∈ group d st → b ∈ group d st → a.date ≠ b.date → False :=
    fun ha hb hab => hab ((mem_group.mp ha).2.trans (mem_group.mp hb).2.symm)
  exact ⟨hp.imp_of_mem fun ha hb hab => (hfalse ha hb hab).elim, hp.imp_of_mem fun ha hb hab => (hfalse ha hb hab).elim⟩

theorem group_eq_singleton {st : Store} (h : (st.map (·.date)).Nodup) {r : Row} (hr : r ∈ st) : group r.date st = [r] := by
  have hp : (group r.date st).Pairwise (fun a b => a.date ≠ b.date) :=
    (List.pairwise_map.mp h).sublist List.filter_sublist
  have hm : r ∈ group r.date st := mem_group.mpr ⟨hr, rfl⟩
  have hd : ∀ a ∈ group r.date st, a.date = r.date := fun a ha => (mem_group.mp ha).2
  generalize group r.date st = g at hp hm hd
  match g, hp, hm, hd with
  | [], _, hm, _ => cases hm
  | [a], _, hm, _ => rw [List.mem_singleton.mp hm]
  | a :: b :: _, hp, _, hd =>
    exact absurd ((hd a (by simp)).trans (hd b (by simp)).symm) (List.rel_of_pairwise_cons hp (by simp))

theorem Bi_dates (ts : TS) (s : Int) : (Bi ts s).map (·.date) = ts.index := by
  simp only [Bi, TS.index, List.map_map, Function.comp_def]

theorem Bi_nodup (ts : TS) (s : Int) (h : ts.Sorted) : ((Bi ts s).map (·.date)).Nodup := by
  rw [Bi_dates]
  exact h.imp Int.ne_of_lt

theorem good_Bi (ts : TS) (s : Int) (h : ts.Sorted) : Good (Bi ts s) := good_of_nodup _ (Bi_nodup ts s h)

theorem history_inv {log : List Version} (h : Ordered log) : ∃ st, history log = some st ∧ Inv st (logRows log) := by
  cases log with
  | nil => exact absurd rfl h.ne
  | cons v rest =>
    rw [history_eq_historyF, ← frames_flatten]
    refine historyF_inv (Bi v.ts v.stamp) (frames rest) (good_Bi _ _ (h.wf v List.mem_cons_self)) fun d => ?_
    show SortedLe (group d (frames (v :: rest)).flatten)
    rw [frames_flatten]
    exact (logRows_sorted _ h.stamps).sublist List.filter_sublist

theorem Ordered.inv {log : List Version} (h : Ordered log) {st : Store} (hst : history log = some st) :
    Inv st (logRows log) := by
  obtain ⟨st', hst', hi⟩ := history_inv h
  rw [hst] at hst'
  cases hst'
  exact hi

theorem firstVal_cons (r : Row) (rest : Store) :
    firstVal (r :: rest) = (lastVal (rest.filter (·.stamp == r.stamp))).or r.val := by
  have e : (r :: rest).filter (·.stamp == r.stamp) = r :: rest.filter (·.stamp == r.stamp) :=
    List.filter_cons_of_pos (beq_self_eq_true r.stamp)
  show lastVal ((r :: rest).filter (·.stamp == r.stamp)) = _
  rw [e, lastVal_cons]

theorem firstVal_sortedLt (c : Store) (h : SortedLt c) : firstVal c = c.head?.bind (·.val) := by
  cases c with
  | nil => rfl
  | cons r rest =>
    have : rest.filter (·.stamp == r.stamp) = [] := by
      rw [List.filter_eq_nil_iff]
      intro x hx
      have := List.rel_of_pairwise_cons h hx
      simp only [beq_iff_eq]
      omega
    rw [firstVal_cons, this]
    rfl

theorem biRead_first (st : Store) (hg : Good st) (asof : Option Int) : biRead st asof 0 = perDate firstVal st asof := by
  rw [biRead_perDate st hg.le]
  refine perDate_congr (SpecEq.refl st) asof fun d _ => ?_
  rw [nthVal, nth_zero, firstVal_sortedLt _ ((hg.lt d).sublist List.filter_sublist)]

theorem down_le (s : Int) : Down (fun r => decide (r.stamp ≤ s)) := vis_down (some s)

theorem head_stamp_le {x y : Row} {X Y : Store} (hY : SortedLe (y :: Y)) (h : CutEq (x :: X) (y :: Y)) :
    y.stamp ≤ x.stamp := by
  have h1 := h _ (down_le x.stamp)
  have hne : (x :: X).filter (fun r => decide (r.stamp ≤ x.stamp)) ≠ [] := by simp
  have hne' : (y :: Y).filter (fun r => decide (r.stamp ≤ x.stamp)) ≠ [] := by
    intro hc; rw [hc] at h1; exact hne (accVal_eq_none.mp h1)
  by_cases hy : y.stamp ≤ x.stamp
  · exact hy
  · exfalso; apply hne'
    rw [List.filter_eq_nil_iff]
    intro r hr
    have : y.stamp ≤ r.stamp := by
      rcases List.mem_cons.mp hr with rfl | hr
      · omega
      · exact List.rel_of_pairwise_cons hY hr
    simp only [decide_eq_true_eq]; omega

theorem firstVal_sortedLe (x : Row) (X : Store) (h : SortedLe (x :: X)) :
    firstVal (x :: X) = lastVal ((x :: X).filter (fun r => decide (r.stamp ≤ x.stamp))) := by
  show lastVal ((x :: X).filter (·.stamp == x.stamp)) = _
  congr 1
  apply List.filter_congr
  intro r hr
  have : x.stamp ≤ r.stamp := by
    rcases List.mem_cons.mp hr with rfl | hr
    · omega
    · exact List.rel_of_pairwise_cons h hr
  rw [Bool.eq_iff_iff]; simp only [beq_iff_eq, decide_eq_true_eq]; omega

theorem firstVal_congr (X Y : Store) (hX : SortedLe X) (hY : SortedLe Y) (h : CutEq X Y) : firstVal X = firstVal Y := by
  cases X with
  | nil => rw [accVal_eq_none.mp h.accVal_eq.symm]
  | cons x X =>
    cases Y with
    | nil => exact absurd (accVal_eq_none.mp h.accVal_eq) (List.cons_ne_nil x X)
    | cons y Y =>
      have e : x.stamp = y.stamp :=
        Int.le_antisymm (head_stamp_le hX (fun p hp => (h p hp).symm)) (head_stamp_le hY h)
      rw [firstVal_sortedLe x X hX, firstVal_sortedLe y Y hY, lastVal_eq_getD, lastVal_eq_getD, ← e,
        h _ (down_le x.stamp)]

theorem sorted_split {q} (hq : Down q) (Z : Store) (hs : SortedLe Z) :
    Z.filter q ++ Z.filter (fun r => !q r) = Z := by
  induction Z with
  | nil => rfl
  | cons z Z ih =>
    by_cases hz : q z = true
    · simp only [List.filter_cons, hz, if_true, Bool.not_true, Bool.false_eq_true, if_false, List.cons_append]
      rw [ih hs.tail]
    · simp only [Bool.not_eq_true] at hz
      have h1 := filter_nil_of_sorted hq hs hz
      have h2 : Z.filter (fun r => !q r) = Z := by
        rw [List.filter_eq_self]
        intro r hr
        have := List.filter_eq_nil_iff.mp h1 r hr
        simpa using this
      simp [hz, h1, h2]

theorem sortStamp_append_const (c n : Store) (s : Int) (hc : SortedLe c) (hn : ∀ r ∈ n, r.stamp = s) :
    sortStamp (c ++ n) = c.filter (fun r => decide (r.stamp ≤ s)) ++ n ++ c.filter (fun r => !decide (r.stamp ≤ s)) := by
  have hq := down_le s
  have h := (sorted_split hq _ (sortStamp_sorted (c ++ n))).symm
  have n1 : n.filter (fun r => decide (r.stamp ≤ s)) = n := by
    rw [List.filter_eq_self]; intro r hr; simp [hn r hr]
  have n2 : n.filter (fun r => !decide (r.stamp ≤ s)) = [] := by
    rw [List.filter_eq_nil_iff]; intro r hr; simp [hn r hr]
  rw [sortStamp_filter, sortStamp_filter, List.filter_append, List.filter_append, n1, n2, List.append_nil] at h
  have s1 : SortedLe (c.filter (fun r => decide (r.stamp ≤ s)) ++ n) := by
    refine List.pairwise_append.mpr ⟨hc.sublist List.filter_sublist, ?_, ?_⟩
    · exact List.pairwise_of_forall_mem_list (by intro a ha b hb; rw [hn a ha, hn b hb]; omega)
    · intro a ha b hb
      have := (List.mem_filter.mp ha).2
      simp only [decide_eq_true_eq] at this
      rw [hn b hb]; exact this
  rw [sortStamp_of_sorted s1, sortStamp_of_sorted (hc.sublist List.filter_sublist)] at h
  exact h

theorem remerge_col (c n : Store) (s : Int) (hc : SortedLe c) (hn : ∀ r ∈ n, r.stamp = s)
    (hne : n ≠ [] → c.filter (fun r => decide (r.stamp ≤ s)) ≠ [])
    (hv : ∀ r ∈ n, r.val = Option.none ∨ r.val = lastVal (c.filter (fun r => decide (r.stamp ≤ s)))) :
    CutEq (sortStamp (c ++ n)) c := by
  intro p hp
  rw [sortStamp_append_const c n s hc hn]
  conv => rhs; rw [← sorted_split (down_le s) c hc]
  simp only [List.filter_append, accVal_append]
  congr 1
  by_cases hn0 : n = []
  · subst hn0; rfl
  · obtain ⟨r0, hr0⟩ := List.exists_mem_of_ne_nil n hn0
    -- the new rows share one stamp, so `p` sees all of them or none
    have hall : ∀ r ∈ n, p r = p r0 := fun r hr => hp.congr (by rw [hn r hr, hn r0 hr0])
    by_cases hps : p r0 = true
    · have n1 : n.filter p = n := List.filter_eq_self.mpr fun r hr => (hall r hr).trans hps
      have c1 : (c.filter (fun r => decide (r.stamp ≤ s))).filter p = c.filter (fun r => decide (r.stamp ≤ s)) := by
        rw [List.filter_eq_self]; intro r hr
        have := (List.mem_filter.mp hr).2
        simp only [decide_eq_true_eq] at this
        exact hp r0 r (by rw [hn r0 hr0]; exact this) hps
      rw [n1, c1, accVal_ne_nil _ (hne hn0)]
      exact accVal_noop _ _ hv
    · have n1 : n.filter p = [] := List.filter_eq_nil_iff.mpr fun r hr => by rw [hall r hr]; exact hps
      rw [n1]; rfl

theorem remerge_specEq (st : Store) (hg : Good st) (w : Version)
    (hvis : ∀ p ∈ w.ts, ∃ y, (p.1, y) ∈ biRead st (some w.stamp) (-1) ∧ (p.2 = Option.none ∨ p.2 = y)) :
    SpecEq (mergeFrames [st, Bi w.ts w.stamp]) st := by
  refine (mergeFrames_specEq _ _).trans ?_
  intro d p hp
  rw [group_sortStamp, group_append]
  have key : ∀ r ∈ group d (Bi w.ts w.stamp),
      (group d st).filter (fun r => decide (r.stamp ≤ w.stamp)) ≠ [] ∧
      (r.val = Option.none ∨ r.val = lastVal ((group d st).filter (fun r => decide (r.stamp ≤ w.stamp)))) := by
    intro r hr
    obtain ⟨y, hy, hor⟩ := hvis _ (mem_group_Bi.mp hr).2.2
    rw [biRead_last st hg] at hy
    obtain ⟨h1, h2⟩ := mem_perDate.mp hy
    exact ⟨h1, hor.imp_right fun h => h.trans h2⟩
  refine remerge_col _ _ w.stamp (hg.le d) (fun r hr => (mem_group_Bi.mp hr).1) ?_ (fun r hr => (key r hr).2) p hp
  intro hne
  obtain ⟨r0, hr0⟩ := List.exists_mem_of_ne_nil _ hne
  exact (key r0 hr0).1

theorem biMergeL_none_cons (f : Store) (fs : List Store) : biMergeL Option.none (f :: fs) = biMergeL (some f) fs := rfl

theorem biMergeL_some_nil (s : Store) : biMergeL (some s) [] = some s := rfl

theorem biMergeL_some_cons (s f : Store) (fs : List Store) :
    biMergeL (some s) (f :: fs) = some (mergeFrames [s, (f :: fs).flatten]) :=
  congrArg some (mergeFrames_congr (by simp))

theorem inv_biMergeL {s rows : Store} (h : Inv s rows) (fs : List Store) (hs : SortedLe (rows ++ fs.flatten)) :
    ∃ s', biMergeL (some s) fs = some s' ∧ Inv s' (rows ++ fs.flatten) := by
  cases fs with
  | nil => exact ⟨s, biMergeL_some_nil s, by rwa [List.flatten_nil, List.append_nil]⟩
  | cons f fs => exact ⟨_, biMergeL_some_cons s f fs, inv_merge h hs⟩

/-- the invariant of a history that may not have started yet -/
def BInv (st : Option Store) (log0 : List Version) : Prop :=
  match st with
  | Option.none => log0 = []
  | some s => Inv s (logRows log0)

theorem binv_step (st : Option Store) (log0 b : List Version) (h : BInv st log0) (hwf : ∀ v ∈ b, v.ts.Sorted)
    (hs : SortedLe (logRows (log0 ++ b))) : BInv (biMergeL st (frames b)) (log0 ++ b) := by
  cases st with
  | some s =>
    rw [logRows_append, ← frames_flatten b] at hs
    obtain ⟨s', e, hi⟩ := inv_biMergeL (show Inv s (logRows log0) from h) (frames b) hs
    rw [e]
    show Inv s' (logRows (log0 ++ b))
    rwa [logRows_append, ← frames_flatten b]
  | none =>
    cases (show log0 = [] from h)
    cases b with
    | nil => exact rfl
    | cons v rest =>
      -- the first version starts the store, the rest of the batch is merged into it
      rw [List.nil_append, ← List.singleton_append, logRows_append, logRows_single, ← frames_flatten rest] at hs
      obtain ⟨s', e, hi⟩ := inv_biMergeL ⟨good_Bi _ _ (hwf v List.mem_cons_self), SpecEq.refl _, fun _ hr => hr⟩ (frames rest) hs
      rw [frames, List.map_cons, biMergeL_none_cons, ← frames, e]
      show Inv s' (logRows ([v] ++ rest))
      rwa [logRows_append, logRows_single, ← frames_flatten rest]

theorem historyL_eq (batches : List (List Version)) :
    historyL batches = batches.foldl (fun st b => biMergeL st (frames b)) Option.none := rfl

theorem binv_foldl (rest : List (List Version)) : ∀ (st : Option Store) (log0 : List Version), BInv st log0 →
    (∀ b ∈ rest, ∀ v ∈ b, v.ts.Sorted) → SortedLe (logRows (log0 ++ rest.flatten)) →
    BInv (rest.foldl (fun st b => biMergeL st (frames b)) st) (log0 ++ rest.flatten) := by
  induction rest with
  | nil => intro st log0 h _ _; rwa [List.flatten_nil, List.append_nil]
  | cons b rest ih =>
    intro st log0 h hwf hs
    rw [List.flatten_cons, ← List.append_assoc] at hs ⊢
    have hs1 : SortedLe (logRows (log0 ++ b)) := by
      rw [logRows_append] at hs; exact (List.pairwise_append.mp hs).1
    exact ih _ _ (binv_step st log0 b h (hwf b List.mem_cons_self) hs1) (fun b' hb' => hwf b' (List.mem_cons_of_mem _ hb')) hs

theorem historyL_inv {batches : List (List Version)} (h : Ordered batches.flatten) :
    ∃ st, historyL batches = some st ∧ Inv st (logRows batches.flatten) := by
  have := binv_foldl batches Option.none [] rfl
    (fun b hb v hv => h.wf v (List.mem_flatten.mpr ⟨b, hb, hv⟩)) (logRows_sorted _ h.stamps)
  rw [← historyL_eq, List.nil_append] at this
  cases hh : historyL batches with
  | none => rw [hh] at this; exact absurd this h.ne
  | some st => rw [hh] at this; exact ⟨st, rfl, this⟩

theorem filter_logRows_later (log later : List Version) (T : Int) (hT : ∀ v ∈ later, T < v.stamp) :
    (logRows (log ++ later)).filter (fun r => decide (r.stamp ≤ T)) = (logRows log).filter (fun r => decide (r.stamp ≤ T)) := by
  have : (logRows later).filter (fun r => decide (r.stamp ≤ T)) = [] := by
    rw [List.filter_eq_nil_iff]
    intro r hr
    obtain ⟨v, hv, _, _, rfl⟩ := mem_logRows.mp hr
    have := hT v hv
    simp only [decide_eq_true_eq]
    omega
  rw [logRows_append, List.filter_append, this, List.append_nil]

theorem filter_logRows_of_bound (log : List Version) (M : Int) (hM : ∀ v ∈ log, v.stamp ≤ M) :
    (logRows log).filter (fun r => decide (r.stamp ≤ M)) = logRows log := by
  rw [List.filter_eq_self]
  intro r hr
  obtain ⟨v, hv, _, _, rfl⟩ := mem_logRows.mp hr
  simpa using hM v hv

/-- the publications visible as of `T` (`none`: all of them) -/
def pubs (log : List Version) (asof : Option Int) : Store := (logRows log).filter (vis asof)

theorem mem_dates_pubs {log : List Version} {asof : Option Int} {d : Int} :
    d ∈ dates (pubs log asof) ↔ ∃ v ∈ log, Vis asof v.stamp ∧ d ∈ v.ts.index := by
  simp only [mem_dates, pubs, List.mem_filter, mem_logRows, vis_iff, TS.index, List.mem_map]
  constructor
  · rintro ⟨_, ⟨⟨v, hv, p, hp, rfl⟩, hT⟩, rfl⟩
    exact ⟨v, hv, hT, p, hp, rfl⟩
  · rintro ⟨v, hv, hT, p, hp, rfl⟩
    exact ⟨_, ⟨⟨v, hv, p, hp, rfl⟩, hT⟩, rfl⟩

theorem filter_le_of_mem (c : Store) (hs : SortedLt c) (r : Row) (hr : r ∈ c) :
    ∃ A, c.filter (fun q => decide (q.stamp ≤ r.stamp)) = A ++ [r] := by
  obtain ⟨A, B, rfl⟩ := List.append_of_mem hr
  refine ⟨A, ?_⟩
  obtain ⟨_, hB, hAB⟩ := List.pairwise_append.mp hs
  have hA' : A.filter (fun q => decide (q.stamp ≤ r.stamp)) = A := by
    rw [List.filter_eq_self]; intro a ha
    have := hAB a ha r (by simp)
    simp only [decide_eq_true_eq]; omega
  have hB' : B.filter (fun q => decide (q.stamp ≤ r.stamp)) = [] := by
    rw [List.filter_eq_nil_iff]; intro b hb
    have := List.rel_of_pairwise_cons hB hb
    simp only [decide_eq_true_eq]; omega
  simp [List.filter_append, hA', hB']

theorem rows_in_store_visible (st : Store) (hg : Good st) (w : Version)
    (hin : ∀ p ∈ w.ts, (⟨p.1, w.stamp, p.2⟩ : Row) ∈ st) :
    ∀ p ∈ w.ts, ∃ y, (p.1, y) ∈ biRead st (some w.stamp) (-1) ∧ (p.2 = Option.none ∨ p.2 = y) := by
  intro p hp
  have hr := hin p hp
  have hgr : (⟨p.1, w.stamp, p.2⟩ : Row) ∈ group p.1 st := mem_group.mpr ⟨hr, rfl⟩
  obtain ⟨A, hA⟩ := filter_le_of_mem _ (hg.lt p.1) _ hgr
  refine ⟨lastVal ((group p.1 st).filter (vis (some w.stamp))), ?_, ?_⟩
  · rw [biRead_last st hg, mem_perDate]
    exact ⟨List.ne_nil_of_mem (List.mem_filter.mpr ⟨hgr, by simp [vis]⟩), rfl⟩
  · have : (group p.1 st).filter (vis (some w.stamp)) = A ++ [⟨p.1, w.stamp, p.2⟩] := hA
    rw [this, lastVal_snoc]
    cases hv : p.2 with
    | none => exact Or.inl rfl
    | some x => right; simp

theorem group_Bi_single (ts : TS) (s : Int) (hs : ts.Sorted) (p : Int × Option Int) (hp : p ∈ ts) :
    group p.1 (Bi ts s) = [⟨p.1, s, p.2⟩] :=
  group_eq_singleton (Bi_nodup ts s hs) (mem_Bi.mpr ⟨p, hp, rfl⟩)

/-- the rows of date `d` that the versions of `log` visible as of `asof` publish, in merge order -/
def col (d : Int) (asof : Option Int) (log : List Version) : Store := group d (pubs log asof)

theorem col_append (d : Int) (asof : Option Int) (a b : List Version) :
    col d asof (a ++ b) = col d asof a ++ col d asof b := by
  simp only [col, pubs, logRows_append, List.filter_append, group_append]

theorem col_single {asof : Option Int} {v : Version} (hT : Vis asof v.stamp) (d : Int) :
    col d asof [v] = group d (Bi v.ts v.stamp) := by
  rw [col, pubs, logRows_single, List.filter_eq_self.mpr]
  intro r hr
  obtain ⟨_, _, rfl⟩ := mem_Bi.mp hr
  exact (vis_iff asof _).mpr hT

/-- the column of a date around a visible version that holds it: what the earlier versions published, the version's one row, what
    the later versions published -/
theorem col_split {asof : Option Int} {v : Version} (hv : Vis asof v.stamp) (hs : v.ts.Sorted) {p : Int × Option Int}
    (hp : p ∈ v.ts) (before after : List Version) :
    col p.1 asof (before ++ v :: after) = col p.1 asof before ++ ⟨p.1, v.stamp, p.2⟩ :: col p.1 asof after := by
  rw [← List.singleton_append, col_append, col_append, col_single hv, group_Bi_single v.ts v.stamp hs p hp]
  rfl

theorem mem_col {d : Int} {asof : Option Int} {log : List Version} {r : Row} :
    r ∈ col d asof log ↔ ∃ v ∈ log, Vis asof v.stamp ∧ r.stamp = v.stamp ∧ r.date = d ∧ (d, r.val) ∈ v.ts := by
  simp only [col, pubs, mem_group, List.mem_filter, mem_logRows, vis_iff]
  constructor
  · rintro ⟨⟨⟨v, hv, p, hp, rfl⟩, hT⟩, rfl⟩
    exact ⟨v, hv, hT, rfl, rfl, hp⟩
  · rintro ⟨v, hv, hT, hs, rfl, hp⟩
    exact ⟨⟨⟨v, hv, (r.date, r.val), hp, by rw [← hs]⟩, hs ▸ hT⟩, rfl⟩

theorem col_ne_nil {d : Int} {asof : Option Int} {log : List Version} :
    col d asof log ≠ [] ↔ ∃ v ∈ log, Vis asof v.stamp ∧ d ∈ v.ts.index := by
  rw [col, group_ne_nil, ← mem_dates]
  exact mem_dates_pubs

theorem mem_specRead {log : List Version} {asof : Option Int} {d : Int} {y : Option Int} :
    (d, y) ∈ specRead log asof ↔ col d asof log ≠ [] ∧ y = lastVal (col d asof log) := by
  rw [specRead_eq, mem_perDate, col, pubs, group_filter]

theorem lastVal_col_none {d : Int} {asof : Option Int} {log : List Version} :
    lastVal (col d asof log) = Option.none ↔ ∀ v ∈ log, Vis asof v.stamp → ∀ y, (d, some y) ∉ v.ts := by
  rw [lastVal_eq_none_iff]
  constructor
  · intro h v hv hvT y hy
    cases h ⟨d, v.stamp, some y⟩ (mem_col.mpr ⟨v, hv, hvT, rfl, rfl, hy⟩)
  · intro h r hr
    obtain ⟨v, hv, hvT, _, _, hp⟩ := mem_col.mp hr
    cases hrv : r.val with
    | none => rfl
    | some y => rw [hrv] at hp; exact absurd hp (h v hv hvT y)

theorem lastVal_col_some (d : Int) (asof : Option Int) (x : Int) (log : List Version) (hwf : ∀ v ∈ log, v.ts.Sorted) :
    lastVal (col d asof log) = some x ↔
      ∃ before v after, log = before ++ v :: after ∧ Vis asof v.stamp ∧ (d, some x) ∈ v.ts ∧
        ∀ u ∈ after, Vis asof u.stamp → ∀ y, (d, some y) ∉ u.ts := by
  constructor
  · intro h
    induction log with
    | nil => cases h
    | cons v rest ih =>
      rw [← List.singleton_append, col_append, lastVal_append] at h
      cases hR : lastVal (col d asof rest) with
      | some z =>
        rw [hR] at h
        obtain ⟨before, u, after, e, hu⟩ := ih (fun u hu => hwf u (List.mem_cons_of_mem _ hu)) (hR.trans h)
        exact ⟨v :: before, u, after, by rw [e]; rfl, hu⟩
      | none =>
        rw [hR] at h
        obtain ⟨r, hr, hrv⟩ := lastVal_some_mem h
        obtain ⟨u, hu, huT, _, _, hp⟩ := mem_col.mp hr
        cases List.mem_singleton.mp hu
        rw [hrv] at hp
        exact ⟨[], v, rest, rfl, huT, hp, lastVal_col_none.mp hR⟩
  · rintro ⟨before, v, after, rfl, h1, h2, h3⟩
    -- the column is `before`'s rows, the one row of `v`, and NaN rows of `after`
    rw [col_split h1 (hwf v (by simp)) h2, lastVal_append, lastVal_cons, lastVal_col_none.mpr h3]
    rfl

theorem mergeStepE_some (st : Store) (v : Version) :
    mergeStepE (.ok (some st)) v =
      if st ++ Bi v.ts v.stamp = [] then .error .value else .ok (some (mergeFrames [st, Bi v.ts v.stamp])) := by
  by_cases h : st ++ Bi v.ts v.stamp = []
  · simp only [mergeStepE, biMergeE, List.isEmpty_iff, h, if_true]
  · simp only [mergeStepE, biMergeE, List.isEmpty_iff, h, if_false]
    rfl

theorem foldl_mergeStepE_error (l : List Version) (e : Err) : l.foldl mergeStepE (.error e) = .error e := by
  induction l with
  | nil => rfl
  | cons v l ih => exact ih

theorem historyE_foldl_ok (rest : List Version) (st : Store) (hst : st ≠ []) :
    rest.foldl mergeStepE (.ok (some st)) = .ok (rest.foldl mergeStep (some st)) := by
  induction rest generalizing st with
  | nil => rfl
  | cons v rest ih =>
    have hne : st ++ Bi v.ts v.stamp ≠ [] := fun h => hst (List.append_eq_nil_iff.mp h).1
    rw [List.foldl_cons, List.foldl_cons, mergeStepE_some, if_neg hne]
    exact ih _ (mergeFrames_ne_nil st (Bi v.ts v.stamp) hne)

end Pyg.Bitemp
