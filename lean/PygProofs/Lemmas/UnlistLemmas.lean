/-
  `unlist ∘ listby` and `ungroup ∘ groupby`: both read the regrouped table row by row, turn every group back into its rows and
  `concat` them (`concatV_named`), for any list of groups.
-/
import PygModel.Group
import PygProofs.Lemmas.GroupLemmas

namespace Pyg

theorem glensOf_eq {ns : List Nat} {m : Nat} (h : ∀ n ∈ ns, n = 1 ∨ n = m) (hm : m ∈ ns) :
    glensOf ns = .ok m := by
  have hf : ∀ n ∈ ns.filter (· ≠ 1), n = m := by
    intro n hn
    rw [List.mem_filter, decide_eq_true_eq] at hn
    exact (h n hn.1).resolve_left hn.2
  unfold glensOf
  split
  · next h0 =>
    have h1 : m = 1 := by
      apply Classical.byContradiction
      intro hne
      have : m ∈ ns.filter (· ≠ 1) := List.mem_filter.2 ⟨hm, decide_eq_true hne⟩
      rw [h0] at this
      cases this
    rw [List.isEmpty_eq_false_iff.2 (List.ne_nil_of_mem hm), h1]
    rfl
  · next n rest h0 =>
    have hn : n = m := hf n (h0 ▸ List.mem_cons_self)
    have hall : rest.all (· == n) = true :=
      List.all_eq_true.2 fun k hk => by rw [hf k (h0 ▸ List.mem_cons_of_mem _ hk), hn, beq_self_eq_true]
    rw [hall, hn]
    rfl

theorem expandRow_listby (ks : List (String × Val)) (os : List (String × List Val)) (m : Nat)
    (hks : ∀ c ∈ ks, cellList c.2 = [c.2]) (hos : ∀ c ∈ os, c.2.length = m) (hne : os ≠ []) :
    expandRow (ks ++ os.map fun c => (c.1, .list c.2)) =
      .ok (ks.map (fun c => (c.1, List.replicate m c.2)) ++ os) := by
  have hcols : (ks ++ os.map fun c => (c.1, Val.list c.2)).map (fun c => (c.1, cellList c.2)) =
      ks.map (fun c => (c.1, [c.2])) ++ os := by
    rw [List.map_append, List.map_map]
    congr 1
    · exact List.map_congr_left fun c hc => by rw [hks c hc]
    · exact List.map_id' os
  have hlen : glensOf ((ks.map (fun c => (c.1, [c.2])) ++ os).map (·.2.length)) = .ok m := by
    apply glensOf_eq
    · intro n hn
      rw [List.map_append, List.map_map, List.mem_append] at hn
      rcases hn with hn | hn
      · obtain ⟨c, _, rfl⟩ := List.mem_map.1 hn
        exact .inl rfl
      · obtain ⟨c, hc, rfl⟩ := List.mem_map.1 hn
        exact .inr (hos c hc)
    · obtain ⟨c, hc⟩ := List.exists_mem_of_ne_nil os hne
      exact List.mem_map.2 ⟨c, List.mem_append_right _ hc, hos c hc⟩
  have one : ∀ xs : List Val, xs.length = 1 → List.replicate 1 (xs.headD (.cell .none)) = xs
    | [_], _ => rfl
  simp only [expandRow, hcols, hlen, bind, Except.bind, pure, Except.pure]
  rw [List.map_append, List.map_map]
  congr 2
  refine (List.map_congr_left fun c hc => ?_).trans (List.map_id' os)
  by_cases h1 : c.2.length = 1
  · rw [if_pos h1, ← hos c hc, h1, one c.2 h1]
  · rw [if_neg h1]

/-- the rows of a group, column by column: its key, repeated -/
def keyRep (by_ : List String) : List (String × (Grp → List Val)) :=
  by_.zipIdx.map fun c => (c.1, fun g => g.2.map fun _ => tupleGet c.2 g.1)

/-- … and its rows of the columns that are not keys -/
def otherRows (t : Table) (by_ : List String) : List (String × (Grp → List Val)) :=
  (t.others by_).map fun c => (c.1, fun g => pick c.2 g.2)

theorem keyRep_names (by_ : List String) : (keyRep by_).map (·.1) = by_ := by
  rw [keyRep, List.map_map]
  exact List.zipIdx_map_fst 0 by_

theorem otherRows_names (t : Table) (by_ : List String) :
    (otherRows t by_).map (·.1) = (t.others by_).map (·.1) := by
  rw [otherRows, List.map_map]
  rfl

theorem others_not_key {t : Table} {by_ : List String} {k : String}
    (hk : k ∈ (t.others by_).map (·.1)) : k ∉ by_ := by
  obtain ⟨c, hc, rfl⟩ := List.mem_map.1 hk
  simpa [Table.others] using (List.mem_filter.1 hc).2

theorem regroup_names_nodup {t : Table} {by_ : List String} (hnd : by_.Nodup)
    (htn : ((t.others by_).map (·.1)).Nodup) :
    ((keyRep by_ ++ otherRows t by_).map (·.1)).Nodup := by
  rw [List.map_append, keyRep_names, otherRows_names, List.nodup_append]
  exact ⟨hnd, htn, fun a ha b hb hab => others_not_key hb (hab ▸ ha)⟩

theorem concatV_named {α} (cs : List (String × (α → List Val))) (hnd : (cs.map (·.1)).Nodup)
    (gs : List α) :
    concatV (cs.map (·.1)) (gs.map fun g => cs.map fun c => (c.1, c.2 g)) =
      cs.map fun c => (c.1, gs.flatMap c.2) := by
  rw [concatV, List.map_map]
  apply List.map_congr_left
  intro c hc
  simp only [Function.comp_def, List.flatMap_map]
  congr 1
  apply List.flatMap_congr
  intro g _
  rw [List.find?_key_map_of_nodup (·.1) (fun c => c.2 g) cs hnd c hc]
  rfl

theorem keyRep_flat (by_ : List String) (gs : List Grp) :
    (keyRep by_).map (fun c => (c.1, gs.flatMap c.2)) =
      by_.zipIdx.map fun c => (c.1, gs.flatMap fun g => g.2.map fun _ => tupleGet c.2 g.1) := by
  rw [keyRep, List.map_map]
  rfl

theorem otherRows_flat (t : Table) (by_ : List String) (gs : List Grp) :
    (otherRows t by_).map (fun c => (c.1, gs.flatMap c.2)) =
      (t.others by_).map fun c => (c.1, pick c.2 (gs.flatMap (·.2))) := by
  rw [otherRows, List.map_map]
  apply List.map_congr_left
  intro c _
  simp only [Function.comp_def, pick, List.map_flatMap]

theorem VTable.nrows_map_append {α} {l : List α} (hl : l ≠ []) (f : α → String × List Val) {n : Nat}
    (h : ∀ a ∈ l, (f a).2.length = n) (rest : VTable) : VTable.nrows (l.map f ++ rest) = n := by
  cases l with
  | nil => exact absurd rfl hl
  | cons a l => exact h a List.mem_cons_self

theorem VTable.nrows_map {α} {l : List α} (hl : l ≠ []) (f : α → String × List Val) {n : Nat}
    (h : ∀ a ∈ l, (f a).2.length = n) : VTable.nrows (l.map f) = n :=
  List.append_nil (l.map f) ▸ VTable.nrows_map_append hl f h []

theorem nrows_keyColsOf_append {by_ : List String} (hb : by_ ≠ []) (gs : List Grp) (rest : VTable) :
    VTable.nrows (keyColsOf by_ gs ++ rest) = gs.length :=
  VTable.nrows_map_append (fun h => hb (List.zipIdx_eq_nil_iff.1 h)) _ (fun _ _ => List.length_map _) rest

theorem keysOf_cellList {t : Table} {by_ : List String} {keys : List Val}
    (h : t.keysOf (by_.map .col) = .ok keys) : ∀ k ∈ keys, ∀ j, cellList (tupleGet j k) = [tupleGet j k] := by
  intro k hk j
  obtain ⟨cs, rfl, _⟩ := keysOf_cells t _ keys (fun f hf => by
    obtain ⟨_, _, e⟩ := List.mem_map.1 hf
    cases e) h k hk
  rw [tupleGet, getD_map_cell]
  rfl

/-- the table `listby` builds (see `Props.C11.listby_table`) -/
def listbyTable (t : Table) (by_ : List String) (gs : List Grp) : VTable :=
  keyColsOf by_ gs ++ (t.others by_).map fun c => (c.1, gs.map fun g => .list (pick c.2 g.2))

theorem expandRow_listbyTable (t : Table) (by_ : List String) (gs : List Grp) (ho : t.others by_ ≠ []) {i : Nat}
    (hi : i < gs.length) (hct : ∀ j, cellList (tupleGet j gs[i].1) = [tupleGet j gs[i].1]) :
    expandRow ((listbyTable t by_ gs).rowAt i) =
      .ok ((keyRep by_ ++ otherRows t by_).map fun c => (c.1, c.2 gs[i])) := by
  have hrow : VTable.rowAt (listbyTable t by_ gs) i =
      (by_.zipIdx.map fun c => (c.1, tupleGet c.2 gs[i].1)) ++
      ((t.others by_).map fun c => (c.1, pick c.2 gs[i].2)).map fun c => (c.1, .list c.2) := by
    simp only [VTable.rowAt, listbyTable, keyColsOf, List.map_append, List.map_map, Function.comp_def,
      List.getD_eq_getElem?_getD, List.getElem?_map, List.getElem?_eq_getElem hi, Option.map_some, Option.getD_some]
  rw [hrow, expandRow_listby _ _ gs[i].2.length]
  · simp only [keyRep, otherRows, List.map_append, List.map_map, Function.comp_def, List.map_const']
  · intro c hc
    obtain ⟨c', _, rfl⟩ := List.mem_map.1 hc
    exact hct _
  · intro c hc
    obtain ⟨c', _, rfl⟩ := List.mem_map.1 hc
    exact List.length_map _
  · exact fun h => ho (List.map_eq_nil_iff.1 h)

theorem unlist_listbyTable (t : Table) (by_ : List String) (gs : List Grp)
    (hb : by_ ≠ []) (hnd : by_.Nodup) (htn : ((t.others by_).map (·.1)).Nodup)
    (ho : t.others by_ ≠ []) (hgs : gs ≠ [])
    (hct : ∀ g ∈ gs, ∀ j, cellList (tupleGet j g.1) = [tupleGet j g.1]) :
    (listbyTable t by_ gs).unlist = .ok (
      (by_.zipIdx.map fun c => (c.1, gs.flatMap fun g => g.2.map fun _ => tupleGet c.2 g.1)) ++
      (t.others by_).map fun c => (c.1, pick c.2 (gs.flatMap (·.2)))) := by
  have hnrows : (listbyTable t by_ gs).nrows = gs.length := nrows_keyColsOf_append hb gs _
  have hlen : gs.length ≠ 0 := fun h => hgs (List.eq_nil_of_length_eq_zero h)
  have hrows : (List.range gs.length).mapM (fun i => expandRow ((listbyTable t by_ gs).rowAt i)) =
      .ok (gs.map fun g => (keyRep by_ ++ otherRows t by_).map fun c => (c.1, c.2 g)) :=
    List.mapM_range_pure fun i hi => expandRow_listbyTable t by_ gs ho hi (hct _ (List.getElem_mem hi))
  have hnames : (listbyTable t by_ gs).map (·.1) = (keyRep by_ ++ otherRows t by_).map (·.1) := by
    rw [List.map_append, keyRep_names, otherRows_names]
    simp [listbyTable, keyColsOf, List.map_map, Function.comp_def]
  simp only [VTable.unlist, hnrows, hlen, if_false, hrows, bind, Except.bind, pure, Except.pure]
  rw [hnames, concatV_named _ (regroup_names_nodup hnd htn), List.map_append, keyRep_flat,
    otherRows_flat]

/-- the table `groupby` builds (see `Props.C11.groupby_table`) -/
def groupbyTable (t : Table) (by_ : List String) (grp : String) (gs : List Grp) : VTable :=
  keyColsOf by_ gs ++ [(grp, gs.map fun g => subTable (t.others by_) g.2)]

theorem subCols_subTable (t : Table) (ids : List Nat) :
    subCols (subTable t ids) = some (t.map fun c => (c.1, pick c.2 ids)) := by
  simp only [subCols, subTable, List.mapM_map]
  exact List.mapM_some_of_forall (fun _ _ => rfl)

theorem ungroupRow_subTable (grp : String) (ks : List (String × Val)) (o : Table) (ids : List Nat)
    (hks : ∀ c ∈ ks, c.1 ≠ grp) (hdis : ∀ c ∈ o, c.1 ∉ ks.map (·.1)) (ho : o ≠ []) :
    ungroupRow grp (ks ++ [(grp, subTable o ids)]) =
      some (.ok ((o.map fun c => (c.1, pick c.2 ids)) ++
        ks.map fun c => (c.1, List.replicate ids.length c.2))) := by
  have hfind : (ks ++ [(grp, subTable o ids)]).find? (fun c => c.1 == grp) =
      some (grp, subTable o ids) := by
    rw [List.find?_append, List.find?_key_eq_none.2 fun hm => by
      obtain ⟨c, hc, e⟩ := List.mem_map.1 hm
      exact hks c hc e]
    simp
  have hrest : (ks ++ [(grp, subTable o ids)]).filter (fun c => c.1 != grp) = ks := by
    rw [List.filter_append, List.filter_eq_self.2 fun c hc => by simpa using hks c hc]
    simp
  have hn : VTable.nrows (o.map fun c => (c.1, pick c.2 ids)) = ids.length :=
    VTable.nrows_map ho _ fun _ _ => List.length_map _
  have hsub : (o.map fun c => (c.1, pick c.2 ids)).filter (fun c => !(ks.map (·.1)).contains c.1) =
      o.map fun c => (c.1, pick c.2 ids) := by
    apply List.filter_eq_self.2
    intro c hc
    obtain ⟨c', hc', rfl⟩ := List.mem_map.1 hc
    simpa using hdis c' hc'
  simp only [ungroupRow, hfind, subCols_subTable, hrest, hn, hsub, bind, Option.bind]

theorem ungroupRow_groupby (t : Table) (by_ : List String) (grp : String) (gs : List Grp)
    (hgb : grp ∉ by_) (ho : t.others by_ ≠ []) {i : Nat} (hi : i < gs.length) :
    ungroupRow grp ((groupbyTable t by_ grp gs).rowAt i) =
      some (.ok ((otherRows t by_ ++ keyRep by_).map fun c => (c.1, c.2 gs[i]))) := by
  have hrow : VTable.rowAt (groupbyTable t by_ grp gs) i =
      (by_.zipIdx.map fun c => (c.1, tupleGet c.2 gs[i].1)) ++ [(grp, subTable (t.others by_) gs[i].2)] := by
    simp only [VTable.rowAt, groupbyTable, keyColsOf, List.map_append, List.map_map, Function.comp_def,
      List.getD_eq_getElem?_getD, List.getElem?_map, List.getElem?_eq_getElem hi, Option.map_some, Option.getD_some,
      List.map_cons, List.map_nil]
  have hmem : ∀ c ∈ by_.zipIdx.map (fun c => (c.1, tupleGet c.2 gs[i].1)), c.1 ∈ by_ := by
    intro c hc
    obtain ⟨c', hc', rfl⟩ := List.mem_map.1 hc
    exact List.fst_mem_of_mem_zipIdx hc'
  rw [hrow, ungroupRow_subTable grp _ (t.others by_) gs[i].2 (fun c hc h => hgb (h ▸ hmem c hc)) ?_ ho]
  · simp only [keyRep, otherRows, List.map_append, List.map_map, Function.comp_def, List.map_const']
  · intro c hc h
    obtain ⟨k, hk, h⟩ := List.mem_map.1 h
    exact others_not_key (List.mem_map_of_mem (f := (·.1)) hc) (h ▸ hmem k hk)

theorem ungroup_groupbyTable (t : Table) (by_ : List String) (grp : String) (gs : List Grp)
    (hb : by_ ≠ []) (hnd : by_.Nodup) (htn : ((t.others by_).map (·.1)).Nodup)
    (hgb : grp ∉ by_) (ho : t.others by_ ≠ []) (hgs : gs ≠ []) :
    (groupbyTable t by_ grp gs).ungroup grp = some (.ok (
      ((t.others by_).map fun c => (c.1, pick c.2 (gs.flatMap (·.2)))) ++
      (by_.zipIdx.map fun c => (c.1, gs.flatMap fun g => g.2.map fun _ => tupleGet c.2 g.1)))) := by
  have hnrows : (groupbyTable t by_ grp gs).nrows = gs.length := nrows_keyColsOf_append hb gs _
  have hrows : (List.range gs.length).mapM
      (fun i => ungroupRow grp ((groupbyTable t by_ grp gs).rowAt i)) =
      some (gs.map fun g => (Except.ok ((otherRows t by_ ++ keyRep by_).map fun c => (c.1, c.2 g)) :
        Res VTable)) :=
    List.mapM_range_pure fun i hi => ungroupRow_groupby t by_ grp gs hgb ho hi
  simp only [VTable.ungroup, hnrows, hrows, bind, Option.bind, mapM_id_ok]
  cases gs with
  | nil => exact absurd rfl hgs
  | cons g0 gt =>
    simp only [List.map_cons]
    rw [← List.map_cons (f := fun g => (otherRows t by_ ++ keyRep by_).map fun c => (c.1, c.2 g)),
      List.map_map]
    show some (Except.ok (concatV ((otherRows t by_ ++ keyRep by_).map (·.1)) _)) = _
    have hnd' : ((otherRows t by_ ++ keyRep by_).map (·.1)).Nodup :=
      ((List.perm_append_comm.map _).nodup_iff).1 (regroup_names_nodup hnd htn)
    rw [concatV_named _ hnd', List.map_append, keyRep_flat, otherRows_flat]

end Pyg
