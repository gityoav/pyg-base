/-
  What a store with the invariant answers: `what = -1`, `0`, `'last'`, `'first'` read as the publication log folds
  (`reads_of_specEq`); re-merges keep the invariant (`inv_remerge_visible`, `Inv.continue`); when the raising batch history
  `historyLE` returns (`historyLE_foldl`).
-/
import PygProofs.Lemmas.BitempInv

namespace Pyg.Bitemp

theorem specRead_eq_R (log : List Version) (asof : Option Int) : specRead log asof = specReadR (logRows log) asof := rfl

theorem specFirst_eq_R (log : List Version) (asof : Option Int) : specFirst log asof = specFirstR (logRows log) asof := rfl

theorem all_nan_of_leadingNan : ∀ (l : Store), leadingNan l = l.length → ∀ x ∈ l, x.val = Option.none
  | [], _ => by simp
  | r :: l, h => by
    cases hv : r.val with
    | some y => simp [leadingNan, hv] at h
    | none =>
      have e2 : leadingNan (r :: l) = leadingNan l + 1 := by simp [leadingNan, hv]
      rw [e2, List.length_cons] at h
      intro x hx
      rcases List.mem_cons.mp hx with rfl | hx
      · exact hv
      · exact all_nan_of_leadingNan l (by omega) x hx

theorem getElem?_bind_val_of_all_nan (l : Store) (h : ∀ x ∈ l, x.val = Option.none) (i : Nat) :
    (l[i]?).bind (·.val) = Option.none := by
  cases hli : l[i]? with
  | none => rfl
  | some y => exact h y (List.mem_of_getElem? hli)

theorem firstNonNan_eq_nthVal (v : Store) : firstNonNan v = nthVal (leadingNan v) v := by
  induction v with
  | nil => rfl
  | cons r rest ih =>
    cases hv : r.val with
    | some x =>
      have e1 : firstNonNan (r :: rest) = some x := by simp [firstNonNan, hv]
      have e2 : leadingNan (r :: rest) = 0 := by simp [leadingNan, hv]
      rw [e1, e2, nthVal, Int.natCast_zero, nth_zero]
      exact hv.symm
    | none =>
      have e1 : firstNonNan (r :: rest) = firstNonNan rest := by simp [firstNonNan, hv]
      have e2 : leadingNan (r :: rest) = leadingNan rest + 1 := by simp [leadingNan, hv]
      rw [e1, e2, ih, nthVal, nthVal, nth_eq, nth_eq, nthIdx_natCast, nthIdx_natCast, List.length_cons, Nat.add_sub_cancel]
      by_cases hlt : leadingNan rest < rest.length
      · rw [Nat.min_eq_left (by omega), Nat.min_eq_left (by omega), List.getElem?_cons_succ]
      · -- every row is NaN: wherever the clamped index lands, the value is NaN
        have hall := all_nan_of_leadingNan rest (Nat.le_antisymm (List.takeWhile_sublist _).length_le (Nat.not_lt.mp hlt))
        rw [getElem?_bind_val_of_all_nan rest hall, getElem?_bind_val_of_all_nan (r :: rest)]
        intro x hx
        rcases List.mem_cons.mp hx with rfl | hx
        · exact hv
        · exact hall x hx

theorem mem_BiBump {ts : TS} {delta now : Int} {r : Row} :
    r ∈ BiBump ts delta now ↔ ∃ p ∈ ts, (⟨p.1, min (p.1 + delta) now, p.2⟩ : Row) = r := List.mem_map

theorem BiBump_stamp {ts : TS} {delta now : Int} {r : Row} (h : r ∈ BiBump ts delta now) :
    r.stamp = min (r.date + delta) now := by
  obtain ⟨p, _, rfl⟩ := mem_BiBump.mp h
  rfl

theorem BiBump_dates (ts : TS) (delta now : Int) : (BiBump ts delta now).map (·.date) = ts.index := by
  simp [BiBump, TS.index, List.map_map, Function.comp_def]

theorem cols_of_pairwise (fs : List Store) (h1 : ∀ f ∈ fs, ∀ d, SortedLe (group d f))
    (h2 : fs.Pairwise (fun f g => ∀ a ∈ f, ∀ b ∈ g, a.date = b.date → a.stamp ≤ b.stamp)) (d : Int) :
    SortedLe (group d fs.flatten) := by
  have e : group d fs.flatten = (fs.map (group d)).flatten := by simp only [group, List.filter_flatten]; rfl
  rw [e]
  unfold SortedLe
  rw [List.pairwise_flatten]
  refine ⟨?_, ?_⟩
  · intro l hl
    obtain ⟨f, hf, rfl⟩ := List.mem_map.mp hl
    exact h1 f hf d
  · rw [List.pairwise_map]
    refine h2.imp ?_
    intro f g hfg a ha b hb
    exact hfg a (mem_group.mp ha).1 b (mem_group.mp hb).1 (by rw [(mem_group.mp ha).2, (mem_group.mp hb).2])

/-- what `what='first'` must return for one date: nothing non-NaN published -> NaN; otherwise the fold of the publications stamped
    no later than the first non-NaN publication (with distinct stamps: the first non-NaN value published) -/
def firstNonNanSpec (L : Store) : Option Int :=
  match L.find? (·.val.isSome) with
  | Option.none => Option.none
  | some r => lastVal (L.filter fun q => decide (q.stamp ≤ r.stamp))

theorem lastVal_eq_none_iff_find {X : Store} : lastVal X = Option.none ↔ X.find? (·.val.isSome) = Option.none := by
  rw [lastVal_eq_none_iff, List.find?_eq_none]
  refine forall₂_congr fun r _ => ?_
  cases r.val <;> simp

theorem cut_sees_value_iff {X : Store} (hs : SortedLe X) {r : Row} (hf : X.find? (·.val.isSome) = some r) (s : Int) :
    lastVal (X.filter fun q => decide (q.stamp ≤ s)) ≠ Option.none ↔ r.stamp ≤ s := by
  obtain ⟨hrv, A, B, rfl, hA⟩ := List.find?_eq_some_iff_append.mp hf
  constructor
  · intro h
    by_cases hle : r.stamp ≤ s
    · exact hle
    · exfalso
      apply h
      rw [lastVal_eq_none_iff]
      intro q hq
      obtain ⟨hq1, hq2⟩ := List.mem_filter.mp hq
      simp only [decide_eq_true_eq] at hq2
      rcases List.mem_append.mp hq1 with hqa | hqb
      · have := hA q hqa
        cases hv : q.val <;> simp_all
      · exfalso
        have : r.stamp ≤ q.stamp := by
          rcases List.mem_cons.mp hqb with rfl | hqb
          · omega
          · exact List.rel_of_pairwise_cons (List.pairwise_append.mp hs).2.1 hqb
        omega
  · intro hle hn
    have := (lastVal_eq_none_iff _).mp hn r (List.mem_filter.mpr ⟨by simp, by simpa using hle⟩)
    rw [this] at hrv
    cases hrv

theorem firstNonNan_eq_of_find {X : Store} {r : Row} (hf : X.find? (·.val.isSome) = some r) : firstNonNan X = r.val := by
  simp [firstNonNan, hf]

/-- with pairwise distinct stamps the specification is literally "the first non-NaN value published" -/
theorem firstNonNanSpec_sortedLt (L : Store) (h : SortedLt L) : firstNonNanSpec L = firstNonNan L := by
  unfold firstNonNanSpec
  cases hf : L.find? (·.val.isSome) with
  | none => simp [firstNonNan, hf]
  | some r =>
    simp only
    obtain ⟨A, hA⟩ := filter_le_of_mem L h r (List.mem_of_find?_eq_some hf)
    rw [hA, lastVal_snoc, firstNonNan_eq_of_find hf]
    have := List.find?_some hf
    cases hv : r.val with
    | none => rw [hv] at this; simp at this
    | some x => rfl

theorem firstNonNanSpec_congr (X Y : Store) (hX : SortedLe X) (hY : SortedLe Y) (h : CutEq X Y) :
    firstNonNanSpec X = firstNonNanSpec Y := by
  have hcut : ∀ s, lastVal (X.filter fun q => decide (q.stamp ≤ s)) = lastVal (Y.filter fun q => decide (q.stamp ≤ s)) := by
    intro s; rw [lastVal_eq_getD, lastVal_eq_getD, h _ (down_le s)]
  have hfind : X.find? (·.val.isSome) = Option.none ↔ Y.find? (·.val.isSome) = Option.none := by
    rw [← lastVal_eq_none_iff_find, ← lastVal_eq_none_iff_find, h.lastVal_eq]
  unfold firstNonNanSpec
  cases hfX : X.find? (·.val.isSome) with
  | none => rw [hfind.mp hfX]
  | some r' =>
    cases hfY : Y.find? (·.val.isSome) with
    | none => rw [hfind.mpr hfY] at hfX; cases hfX
    | some r =>
      have e : r'.stamp = r.stamp := by
        apply Int.le_antisymm
        · rw [← cut_sees_value_iff hX hfX, hcut, cut_sees_value_iff hY hfY]; exact Int.le_refl _
        · rw [← cut_sees_value_iff hY hfY, ← hcut, cut_sees_value_iff hX hfX]; exact Int.le_refl _
      simp only [e, hcut]

/-- what `bi_read(..., what='first')` must return, on published rows -/
def specFirstS (rows : Store) (asof : Option Int) : TS :=
  (dates (rows.filter (vis asof))).map fun d => (d, firstNonNanSpec ((group d rows).filter (vis asof)))

theorem specFirstS_eq (rows : Store) (asof : Option Int) : specFirstS rows asof = perDate firstNonNanSpec rows asof := rfl

theorem reads_of_specEq {st rows : Store} (hg : Good st) (he : SpecEq st rows) (hr : ∀ d, SortedLe (group d rows))
    (T : Option Int) :
    biRead st T (-1) = perDate lastVal rows T ∧ biRead st T 0 = perDate firstVal rows T ∧
      biReadS st T .last = perDate lastVal rows T ∧ biReadS st T .first = perDate firstNonNanSpec rows T := by
  have hs := hg.le
  refine ⟨(biRead_last st hg T).trans (perDate_congr he T fun d hc => hc.lastVal_eq),
    (biRead_first st hg T).trans (perDate_congr he T fun d hc =>
      firstVal_congr _ _ ((hs d).sublist List.filter_sublist) ((hr d).sublist List.filter_sublist) hc), ?_, ?_⟩
  · rw [biReadS_perDate st hs]
    exact perDate_congr he T fun d hc => (lastNonNan_eq_lastVal _).trans hc.lastVal_eq
  · rw [biReadS_perDate st hs]
    exact perDate_congr he T fun d hc =>
      (firstNonNanSpec_sortedLt _ ((hg.lt d).sublist List.filter_sublist)).symm.trans
        (firstNonNanSpec_congr _ _ ((hs d).sublist List.filter_sublist) ((hr d).sublist List.filter_sublist) hc)

theorem Inv.reads {st : Store} {log : List Version} (h : Inv st (logRows log))
    (hs : log.Pairwise (fun a b => a.stamp ≤ b.stamp)) (T : Option Int) :
    biRead st T (-1) = specRead log T ∧ biRead st T 0 = specFirst log T := by
  rw [specRead_eq, specFirst_eq]
  obtain ⟨r1, r2, _⟩ := reads_of_specEq h.good h.specEq (fun d => (logRows_sorted log hs).sublist List.filter_sublist) T
  exact ⟨r1, r2⟩

theorem Ordered.reads {log : List Version} (h : Ordered log) {st : Store} (hst : history log = some st) (T : Option Int) :
    biRead st T (-1) = specRead log T ∧ biRead st T 0 = specFirst log T :=
  (h.inv hst).reads h.stamps T

theorem read_value_any (log : List Version) (h : Ordered log) (asof : Option Int) (st : Store) (hst : history log = some st)
    (d x : Int) :
    (d, some x) ∈ biRead st asof (-1) ↔
      ∃ before v after, log = before ++ v :: after ∧ Vis asof v.stamp ∧ (d, some x) ∈ v.ts ∧
        ∀ u ∈ after, Vis asof u.stamp → ∀ y, (d, some y) ∉ u.ts := by
  rw [(h.reads hst asof).1, mem_specRead, ← lastVal_col_some d asof x log h.wf]
  constructor
  · rintro ⟨_, hv⟩; exact hv.symm
  · intro hv
    refine ⟨fun hc => ?_, hv.symm⟩
    rw [hc] at hv
    cases hv

theorem read_nan_any (log : List Version) (h : Ordered log) (asof : Option Int) (st : Store) (hst : history log = some st)
    (d : Int) :
    (d, Option.none) ∈ biRead st asof (-1) ↔
      (∃ v ∈ log, Vis asof v.stamp ∧ d ∈ v.ts.index) ∧ ∀ v ∈ log, Vis asof v.stamp → ∀ y, (d, some y) ∉ v.ts := by
  rw [(h.reads hst asof).1, mem_specRead, col_ne_nil, eq_comm, lastVal_col_none]

theorem read_dates_any (log : List Version) (h : Ordered log) (asof : Option Int) (st : Store) (hst : history log = some st)
    (d : Int) :
    d ∈ (biRead st asof (-1)).index ↔ ∃ v ∈ log, Vis asof v.stamp ∧ d ∈ v.ts.index := by
  rw [(h.reads hst asof).1, specRead_eq, perDate_index]
  exact mem_dates_pubs

/-- a store that keeps the invariant against a log keeps it after re-merging a version that was published (its rows are rows of
    the log) and whose values are NaN or the values visible as of its stamp - its rows need not be rows of the store (a repeat is
    compressed away) -/
theorem inv_remerge_visible {st : Store} {log : List Version} (h : Inv st (logRows log)) (w : Version)
    (hsub : ∀ p ∈ w.ts, (⟨p.1, w.stamp, p.2⟩ : Row) ∈ logRows log)
    (hvis : ∀ p ∈ w.ts, ∃ y, (p.1, y) ∈ biRead st (some w.stamp) (-1) ∧ (p.2 = Option.none ∨ p.2 = y)) :
    Inv (mergeFrames [st, Bi w.ts w.stamp]) (logRows log) := by
  obtain ⟨hg, he, hm⟩ := h
  refine ⟨mergeFrames_good _ _, (remerge_specEq st hg w hvis).trans he, ?_⟩
  intro r hr
  rcases List.mem_append.mp (mergeFrames_subset _ _ hr) with h1 | h1
  · exact hm r h1
  · obtain ⟨p, hp, rfl⟩ := mem_Bi.mp h1
    exact hsub p hp

theorem inv_remerge {st : Store} {log : List Version} (h : Inv st (logRows log)) (w : Version)
    (hin : ∀ p ∈ w.ts, (⟨p.1, w.stamp, p.2⟩ : Row) ∈ st) :
    Inv (mergeFrames [st, Bi w.ts w.stamp]) (logRows log) :=
  inv_remerge_visible h w (fun p hp => h.published _ (hin p hp)) (rows_in_store_visible st h.good w hin)

theorem history_append (log later : List Version) :
    history (log ++ later) = later.foldl mergeStep (history log) := by
  rw [history_eq, history_eq, List.foldl_append]

theorem Inv.continue {st : Store} {log later : List Version} (hi : Inv st (logRows log))
    (hs : (log ++ later).Pairwise (fun a b => a.stamp ≤ b.stamp)) (T : Option Int) :
    ∃ st₁, later.foldl mergeStep (some st) = some st₁ ∧
      biRead st₁ T (-1) = specRead (log ++ later) T ∧ biRead st₁ T 0 = specFirst (log ++ later) T := by
  obtain ⟨st₁, e1, i1⟩ := inv_foldl later st log hi (logRows_sorted _ hs)
  exact ⟨st₁, e1, i1.reads hs T⟩

theorem Inv.continue_eq {st : Store} {log later : List Version} (hi : Inv st (logRows log)) (hl : Ordered (log ++ later))
    (T : Option Int) :
    ∃ st₁ st₂, later.foldl mergeStep (some st) = some st₁ ∧ history (log ++ later) = some st₂ ∧
      biRead st₁ T (-1) = biRead st₂ T (-1) ∧ biRead st₁ T 0 = biRead st₂ T 0 ∧
      biRead st₁ T (-1) = specRead (log ++ later) T ∧ biRead st₁ T 0 = specFirst (log ++ later) T := by
  obtain ⟨st₁, e1, r1, f1⟩ := hi.continue hl.stamps T
  obtain ⟨st₂, e2, i2⟩ := history_inv hl
  obtain ⟨r2, f2⟩ := i2.reads hl.stamps T
  exact ⟨st₁, st₂, e1, e2, r1.trans r2.symm, f1.trans f2.symm, r1, f1⟩

theorem logRows_eq_nil {b : List Version} : logRows b = [] ↔ ∀ v ∈ b, v.ts = [] := by
  simp [logRows, List.flatMap_eq_nil_iff, Bi_eq_nil]

/-- what the store says about the versions merged so far: no store yet iff no version yet; an empty store iff all versions empty -/
def StateOk (st : Option Store) (log0 : List Version) : Prop :=
  (st = Option.none ↔ log0 = []) ∧ ∀ s, st = some s → (s = [] ↔ ∀ v ∈ log0, v.ts = [])

/-- the call that hands batch `b` to `bi_merge` after the versions `log0` raises -/
def CallRaises (log0 b : List Version) : Prop :=
  b ≠ [] ∧ 2 ≤ (log0 ++ b).length ∧ ∀ v ∈ log0 ++ b, v.ts = []

theorem biMergeLE_some (s : Store) (fs : List Store) :
    biMergeLE (some s) fs =
      if fs ≠ [] ∧ s = [] ∧ fs.flatten = [] then .error .value else .ok (biMergeL (some s) fs) := by
  cases fs with
  | nil => rfl
  | cons f fs =>
    by_cases h : s = [] ∧ (f :: fs).flatten = []
    · rw [if_pos ⟨List.cons_ne_nil f fs, h⟩]
      simp [biMergeLE, h.1, List.append_eq_nil_iff.mp h.2]
    · rw [if_neg fun hc => h hc.2]
      unfold biMergeLE
      rw [if_neg]
      intro hc
      simp only [ge_iff_le, Bool.and_eq_true, decide_eq_true_eq, List.isEmpty_iff, Option.toList_some, List.cons_append,
        List.nil_append, List.flatten_cons, List.append_eq_nil_iff] at hc
      exact h ⟨hc.2.1, List.append_eq_nil_iff.mpr hc.2.2⟩

theorem biMergeL_some (s : Store) (fs : List Store) :
    ∃ s', biMergeL (some s) fs = some s' ∧ (s' = [] ↔ s = [] ∧ fs.flatten = []) := by
  cases fs with
  | nil => exact ⟨s, biMergeL_some_nil s, by simp⟩
  | cons f fs => exact ⟨_, biMergeL_some_cons s f fs, by rw [mergeFrames_eq_nil_iff]; simp⟩

theorem biMergeLE_step_some (s : Store) (log0 b : List Version) (hne : log0 ≠ [])
    (hs : s = [] ↔ ∀ v ∈ log0, v.ts = []) :
    (CallRaises log0 b → biMergeLE (some s) (frames b) = .error .value) ∧
    (¬ CallRaises log0 b → biMergeLE (some s) (frames b) = .ok (biMergeL (some s) (frames b)) ∧
      StateOk (biMergeL (some s) (frames b)) (log0 ++ b)) := by
  have hcond : (frames b ≠ [] ∧ s = [] ∧ (frames b).flatten = []) ↔ CallRaises log0 b := by
    rw [Ne, frames, List.map_eq_nil_iff, ← frames, hs, frames_flatten, logRows_eq_nil, CallRaises, List.forall_mem_append, List.length_append]
    have h1 : 1 ≤ log0.length := List.length_pos_iff.mpr hne
    constructor
    · rintro ⟨hb, hall⟩
      have h2 : 1 ≤ b.length := List.length_pos_iff.mpr hb
      exact ⟨hb, by omega, hall⟩
    · rintro ⟨hb, _, hall⟩
      exact ⟨hb, hall⟩
  rw [biMergeLE_some]
  refine ⟨fun hr => if_pos (hcond.mpr hr), fun hr => ⟨if_neg (mt hcond.mp hr), ?_⟩⟩
  obtain ⟨s', e, hnil⟩ := biMergeL_some s (frames b)
  rw [e]
  refine ⟨⟨fun hc => absurd hc (Option.some_ne_none s'), fun hc => absurd (List.append_eq_nil_iff.mp hc).1 hne⟩, fun s'' hs'' => ?_⟩
  cases hs''
  rw [hnil, hs, frames_flatten, logRows_eq_nil, List.forall_mem_append]

theorem biMergeLE_step (st : Option Store) (log0 b : List Version) (h : StateOk st log0) :
    (CallRaises log0 b → biMergeLE st (frames b) = .error .value) ∧
    (¬ CallRaises log0 b → biMergeLE st (frames b) = .ok (biMergeL st (frames b)) ∧
      StateOk (biMergeL st (frames b)) (log0 ++ b)) := by
  cases st with
  | some s => exact biMergeLE_step_some s log0 b (fun hc => by cases h.1.mpr hc) (h.2 s rfl)
  | none =>
    cases h.1.mp rfl
    cases b with
    | nil => exact ⟨fun hr => absurd rfl hr.1, fun _ => ⟨rfl, h⟩⟩
    | cons v rest =>
      -- the first version starts the store, the rest of the batch is one call on it
      have hcr : CallRaises [] (v :: rest) ↔ CallRaises [v] rest :=
        ⟨fun ⟨_, hl, ha⟩ => ⟨by rintro rfl; exact absurd hl (Nat.not_succ_le_self 1), hl, ha⟩,
          fun ⟨_, hl, ha⟩ => ⟨List.cons_ne_nil _ _, hl, ha⟩⟩
      obtain ⟨h1, h2⟩ := biMergeLE_step_some (Bi v.ts v.stamp) [v] rest (List.cons_ne_nil _ _) (by simp [Bi_eq_nil])
      exact ⟨fun hr => h1 (hcr.mp hr), fun hr => h2 (mt hcr.mpr hr)⟩

/-- some call of `rest`, made after the versions `log0`, raises -/
def RaisesFrom (log0 : List Version) (rest : List (List Version)) : Prop :=
  ∃ pre b post, rest = pre ++ b :: post ∧ CallRaises (log0 ++ pre.flatten) b

theorem raisesFrom_cons (log0 b : List Version) (rest : List (List Version)) :
    RaisesFrom log0 (b :: rest) ↔ CallRaises log0 b ∨ RaisesFrom (log0 ++ b) rest := by
  constructor
  · rintro ⟨pre, c, post, e, hc⟩
    cases pre with
    | nil =>
      simp only [List.nil_append, List.cons.injEq] at e
      obtain ⟨rfl, rfl⟩ := e
      left; simpa using hc
    | cons p pre =>
      simp only [List.cons_append, List.cons.injEq] at e
      obtain ⟨rfl, rfl⟩ := e
      right
      exact ⟨pre, c, post, rfl, by simpa [List.append_assoc] using hc⟩
  · rintro (hc | ⟨pre, c, post, rfl, hc⟩)
    · exact ⟨[], b, rest, rfl, by simpa using hc⟩
    · exact ⟨b :: pre, c, post, rfl, by simpa [List.append_assoc] using hc⟩

def stepLE (acc : Res (Option Store)) (b : List Version) : Res (Option Store) :=
  acc.bind fun st => biMergeLE st (frames b)

theorem stepLE_error (rest : List (List Version)) : rest.foldl stepLE (.error .value) = .error .value := by
  induction rest with
  | nil => rfl
  | cons b rest ih => simpa [List.foldl_cons, stepLE, Except.bind] using ih

theorem historyLE_foldl (rest : List (List Version)) : ∀ (st : Option Store) (log0 : List Version), StateOk st log0 →
    (RaisesFrom log0 rest → rest.foldl stepLE (.ok st) = .error .value) ∧
    (¬ RaisesFrom log0 rest →
      rest.foldl stepLE (.ok st) = .ok (rest.foldl (fun st b => biMergeL st (frames b)) st)) := by
  induction rest with
  | nil =>
    intro st log0 _
    refine ⟨?_, fun _ => rfl⟩
    rintro ⟨pre, b, post, e, _⟩
    simp at e
  | cons b rest ih =>
    intro st log0 h
    obtain ⟨hr, hk⟩ := biMergeLE_step st log0 b h
    rw [raisesFrom_cons]
    by_cases hc : CallRaises log0 b
    · refine ⟨fun _ => ?_, fun hn => absurd (Or.inl hc) hn⟩
      have : stepLE (.ok st) b = .error .value := hr hc
      rw [List.foldl_cons, this, stepLE_error]
    · obtain ⟨e, hs⟩ := hk hc
      have e' : stepLE (.ok st) b = .ok (biMergeL st (frames b)) := e
      obtain ⟨ih1, ih2⟩ := ih _ _ hs
      refine ⟨?_, ?_⟩
      · rintro (h1 | h1)
        · exact absurd h1 hc
        · rw [List.foldl_cons, e']; exact ih1 h1
      · intro hn
        rw [List.foldl_cons, List.foldl_cons, e']
        exact ih2 (fun h1 => hn (Or.inr h1))

theorem historyLE_eq_foldl (batches : List (List Version)) : historyLE batches = batches.foldl stepLE (.ok Option.none) := rfl

end Pyg.Bitemp
