import PygModel.DADotted
import PygProofs.Lemmas.Basics.Assoc
import PygProofs.Lemmas.Basics.Loops
import PygProofs.Lemmas.USetLemmas

/-! A python dict as an association list: `DA.lookup`, `DA.set`, `DA.setAll` are `List.lookup`, `List.setFirst` and its fold. -/

namespace Pyg.DA
open Pyg.USet
variable {V : Type}

theorem lookup_nil (k : String) : lookup k ([] : List (String × V)) = none := rfl

theorem lookup_cons (k l : String) (w : V) (kvs : List (String × V)) :
    lookup k ((l, w) :: kvs) = if k = l then some w else lookup k kvs := rfl

theorem lookup_eq_list_lookup (k : String) (l : List (String × V)) : lookup k l = l.lookup k := by
  induction l with
  | nil => rfl
  | cons c l ih =>
    obtain ⟨a, w⟩ := c
    rw [lookup_cons, List.lookup_cons_ite, ih]

theorem set_nil (k : String) (v : V) : set k v [] = [(k, v)] := rfl

theorem set_cons (k l : String) (v w : V) (kvs : List (String × V)) :
    set k v ((l, w) :: kvs) = if k = l then (l, v) :: kvs else (l, w) :: set k v kvs := rfl

theorem set_eq_setFirst (k : String) (v : V) (l : List (String × V)) : set k v l = List.setFirst k v l := by
  induction l with
  | nil => rfl
  | cons c l ih =>
    obtain ⟨a, w⟩ := c
    rw [set_cons, List.setFirst, ih]

theorem setAll_cons (base : List (String × V)) (p : String × V) (ps : List (String × V)) :
    setAll base (p :: ps) = setAll (set p.1 p.2 base) ps := rfl

theorem lookup_set (k j : String) (v : V) (l : List (String × V)) :
    lookup k (set j v l) = if k = j then some v else lookup k l := by
  rw [lookup_eq_list_lookup, lookup_eq_list_lookup, set_eq_setFirst, List.lookup_setFirst]

theorem lookup_isSome_iff (k : String) (l : List (String × V)) : (lookup k l).isSome = true ↔ k ∈ l.map (·.1) := by
  rw [lookup_eq_list_lookup]
  exact List.lookup_isSome_iff_keys

theorem lookup_eq_none_iff (k : String) (l : List (String × V)) : lookup k l = none ↔ k ∉ l.map (·.1) := by
  rw [lookup_eq_list_lookup]
  exact List.lookup_eq_none_iff_keys

theorem lookup_eq_none (k : String) (l : List (String × V)) (h : k ∉ l.map (·.1)) : lookup k l = none :=
  (lookup_eq_none_iff k l).2 h

theorem mem_of_lookup (k : String) (v : V) (kvs : List (String × V)) (h : lookup k kvs = some v) : (k, v) ∈ kvs :=
  List.mem_of_lookup_eq_some (lookup_eq_list_lookup k kvs ▸ h)

theorem lookup_of_mem_nodup (k : String) (v : V) (kvs : List (String × V)) (hn : (kvs.map (·.1)).Nodup)
    (h : (k, v) ∈ kvs) : lookup k kvs = some v :=
  (lookup_eq_list_lookup k kvs).trans (List.lookup_of_mem_nodup hn h)

theorem lookup_eq_some_iff_mem (k : String) (v : V) (l : List (String × V)) (hn : (l.map (·.1)).Nodup) :
    lookup k l = some v ↔ (k, v) ∈ l :=
  ⟨mem_of_lookup k v l, lookup_of_mem_nodup k v l hn⟩

theorem mem_set (k : String) (v : V) (l : List (String × V)) (x : String × V) (h : x ∈ set k v l) : x ∈ l ∨ x = (k, v) :=
  List.mem_setFirst (set_eq_setFirst k v l ▸ h)

theorem set_set (k : String) (x y : V) (l : List (String × V)) : set k x (set k y l) = set k x l := by
  rw [set_eq_setFirst, set_eq_setFirst, set_eq_setFirst, List.setFirst_setFirst]

theorem set_lookup_self (k : String) (v : V) (l : List (String × V)) (h : lookup k l = some v) : set k v l = l :=
  (set_eq_setFirst k v l).trans (List.setFirst_of_lookup (lookup_eq_list_lookup k l ▸ h))

theorem set_append_mid (k : String) (r r0 : V) (l1 l2 : List (String × V)) (h : k ∉ l1.map (·.1)) :
    set k r (l1 ++ (k, r0) :: l2) = l1 ++ (k, r) :: l2 :=
  (set_eq_setFirst k r _).trans (List.setFirst_append_mid k r r0 l1 l2 h)

theorem keys_set_of_mem (j : String) (v : V) (l : List (String × V)) (h : j ∈ l.map (·.1)) :
    (set j v l).map (·.1) = l.map (·.1) := by
  rw [set_eq_setFirst, List.keys_setFirst, if_pos h]

theorem set_of_not_mem (j : String) (v : V) (l : List (String × V)) (h : j ∉ l.map (·.1)) : set j v l = l ++ [(j, v)] :=
  (set_eq_setFirst j v l).trans (List.setFirst_of_not_mem j v l h)

theorem keys_set (k : String) (v : V) (l : List (String × V)) :
    (set k v l).map (·.1) = l.map (·.1) ++ [k].filter (· ∉ l.map (·.1)) := by
  rw [set_eq_setFirst, List.keys_setFirst, List.filter_cons, List.filter_nil]
  by_cases hk : k ∈ l.map (·.1)
  · rw [if_pos hk, decide_eq_false (not_not_intro hk), if_neg Bool.false_ne_true, List.append_nil]
  · rw [if_neg hk, decide_eq_true hk, if_pos rfl]

theorem nodup_keys_set (k : String) (v : V) (l : List (String × V)) (h : (l.map (·.1)).Nodup) :
    ((set k v l).map (·.1)).Nodup := by
  rw [set_eq_setFirst]
  exact List.nodup_keys_setFirst h k v

theorem setAll_append_of_nodup : ∀ (pairs base : List (String × V)),
    (base.map (·.1) ++ pairs.map (·.1)).Nodup → setAll base pairs = base ++ pairs
  | [], base, _ => (List.append_nil base).symm
  | p :: ps, base, h => by
      have hp : p.1 ∉ base.map (·.1) := fun hm =>
        (List.nodup_append.1 h).2.2 _ hm _ List.mem_cons_self rfl
      rw [setAll_cons, set_of_not_mem _ _ _ hp, setAll_append_of_nodup ps (base ++ [p]), List.append_assoc]
      · rfl
      · rwa [List.map_append, List.append_assoc]

theorem setAll_nil_of_nodup (pairs : List (String × V)) (h : (pairs.map (·.1)).Nodup) :
    setAll [] pairs = pairs :=
  setAll_append_of_nodup pairs [] h

theorem lookup_append (k : String) (xs ys : List (String × V)) :
    lookup k (xs ++ ys) = (lookup k xs <|> lookup k ys) := by
  rw [lookup_eq_list_lookup, lookup_eq_list_lookup, lookup_eq_list_lookup, List.lookup_append]
  cases List.lookup k xs <;> rfl

theorem lookup_setAll (k : String) (pairs base : List (String × V)) :
    lookup k (setAll base pairs) = (lookup k pairs.reverse <|> lookup k base) := by
  rw [lookup_eq_list_lookup, lookup_eq_list_lookup, lookup_eq_list_lookup]
  refine (List.lookup_foldl_set (set := fun l j v => set j v l) (fun l j v k' => ?_) k pairs base).trans ?_
  · rw [set_eq_setFirst, List.lookup_setFirst]
  · cases List.lookup k pairs.reverse <;> rfl

theorem lookup_reverse_of_last (k : String) (l : List (String × V)) (i : Nat) (hi : i < l.length) (hk : l[i].1 = k)
    (hlast : ∀ j, (hj : j < l.length) → i < j → l[j].1 ≠ k) : lookup k l.reverse = some l[i].2 := by
  induction l generalizing i with
  | nil => exact absurd hi (Nat.not_lt_zero i)
  | cons x xs ih =>
    rw [List.reverse_cons, lookup_append]
    cases i with
    | zero =>
      have hnone : lookup k xs.reverse = none := by
        rw [lookup_eq_none_iff, List.map_reverse, List.mem_reverse, List.mem_map]
        rintro ⟨kv, hkv, e⟩
        obtain ⟨j, hj, rfl⟩ := List.getElem_of_mem hkv
        exact hlast (j + 1) (Nat.succ_lt_succ hj) (Nat.succ_pos j) e
      rw [hnone]
      exact if_pos (Eq.symm hk)
    | succ i =>
      rw [ih i (Nat.lt_of_succ_lt_succ hi) hk fun j hj hij => hlast (j + 1) (Nat.succ_lt_succ hj) (Nat.succ_lt_succ hij)]
      rfl

theorem lookup_setAll_nil (k : String) (ps : List (String × V)) : lookup k (setAll [] ps) = lookup k ps.reverse := by
  rw [lookup_setAll]
  cases lookup k ps.reverse <;> rfl

theorem lookup_perm (k : String) {l l' : List (String × V)} (hn : (l.map (·.1)).Nodup) (hp : l.Perm l') :
    lookup k l = lookup k l' := by
  rw [lookup_eq_list_lookup, lookup_eq_list_lookup, List.lookup_perm hn hp]

theorem lookup_setAll_perm (k : String) (d : List (String × V)) {ps ps' : List (String × V)} (hn : (ps.map (·.1)).Nodup)
    (hp : ps.Perm ps') : lookup k (setAll d ps) = lookup k (setAll d ps') := by
  rw [lookup_setAll, lookup_setAll, lookup_perm k (((List.reverse_perm ps).map _).nodup_iff.2 hn)
    (((List.reverse_perm ps).trans hp).trans (List.reverse_perm ps').symm)]

theorem lookup_filter_key (p : String → Bool) (k : String) (l : List (String × V)) :
    lookup k (l.filter fun kv => p kv.1) = if p k then lookup k l else none := by
  rw [lookup_eq_list_lookup, lookup_eq_list_lookup, List.lookup_filter_key]

theorem lookup_filter_ne (k j : String) (l : List (String × V)) :
    lookup k (l.filter (·.1 ≠ j)) = if k = j then none else lookup k l := by
  rw [lookup_filter_key (fun x => decide (x ≠ j))]
  simp only [decide_eq_true_eq, ne_eq, ite_not]

theorem lookup_filter_mem (k : String) (ks : List String) (l : List (String × V)) :
    lookup k (l.filter (·.1 ∈ ks)) = if k ∈ ks then lookup k l else none := by
  rw [lookup_filter_key (fun x => decide (x ∈ ks))]
  simp only [decide_eq_true_eq]

theorem keys_setAll_append : ∀ (pairs base : List (String × V)),
    (setAll base pairs).map (·.1) = base.map (·.1) ++ (USet.mk (pairs.map (·.1))).filter (· ∉ base.map (·.1))
  | [], base => (List.append_nil _).symm
  | p :: ps, base => by
      rw [setAll_cons, keys_setAll_append ps, keys_set, List.append_assoc, List.map_cons, mk,
        ← List.singleton_append (l := (mk _).filter _), List.filter_append, List.filter_filter]
      congr 2
      refine List.filter_congr fun a _ => ?_
      rw [← Bool.decide_and, decide_eq_decide, List.mem_append, not_or, List.mem_filter, List.mem_singleton, decide_eq_true_eq]
      exact and_congr_right fun hb => ⟨fun h e => h ⟨e, e ▸ hb⟩, fun h e => h e.1⟩

/-- key ORDER of successive item assignments: the keys of the base in their order, then the new keys in the order of their
first assignment -/
theorem keys_setAll : ∀ (pairs base : List (String × V)), (base.map (·.1)).Nodup →
    (setAll base pairs).map (·.1) = mk (base.map (·.1) ++ pairs.map (·.1)) := fun pairs base hn => by
  rw [keys_setAll_append, mk_append, mk_of_nodup _ hn]

theorem setAll_keys_nodup (ps base : List (String × V)) (h : (base.map (·.1)).Nodup) :
    ((setAll base ps).map (·.1)).Nodup := by
  rw [keys_setAll ps base h]; exact USet.mk_nodup _

theorem keys_subKey (d : D V) (j : String) : keys (subKey d j) = (keys d).filter (· ≠ j) := by
  simp only [keys, subKey, List.filter_map]; rfl

theorem subKeys_eq (ks : List String) (d : D V) : subKeys d ks = { d with items := d.items.filter (·.1 ∉ ks) } := by
  induction ks generalizing d with
  | nil => simp [subKeys, List.filter_eq_self.2]
  | cons j js ih =>
    rw [show subKeys d (j :: js) = subKeys (subKey d j) js from rfl, ih, subKey]
    simp only [List.filter_filter, List.mem_cons, not_or, ne_eq, decide_not, Bool.decide_and, Bool.and_comm]

theorem keys_subKeys (ks : List String) (d : D V) : keys (subKeys d ks) = (keys d).filter (· ∉ ks) := by
  rw [subKeys_eq, keys, keys, List.filter_map]
  rfl

theorem lookup_subKeys (k : String) (ks : List String) (d : D V) :
    lookup k (subKeys d ks).items = if k ∈ ks then none else lookup k d.items := by
  rw [subKeys_eq, lookup_filter_key (fun x => decide (x ∉ ks))]
  simp only [decide_eq_true_eq, ite_not]

theorem lookup_map_fn (g : String → String) (k : String) (ks : List String) :
    lookup k (ks.map fun x => (x, g x)) = if k ∈ ks then some (g k) else none := by
  rw [lookup_eq_list_lookup, List.lookup_map_key]

theorem mapM_lookup {β : Type} (f : String → V → β) (e : Err) (l : List (String × V)) (ks : List String) :
    (ks.mapM fun k => match lookup k l with
      | some v => (pure (f k v) : Res β)
      | none => throw e) =
    if ks.all (fun k => (lookup k l).isSome) then .ok (ks.filterMap fun k => (lookup k l).map (f k)) else .error e := by
  rw [List.mapM_eq_ite_all (fun k => (lookup k l).map (f k)) e fun k _ => by cases lookup k l <;> rfl]
  simp only [Option.isSome_map]

theorem all_isSome_eq_false (l : List (String × V)) (ks : List String) :
    ks.all (fun k => (lookup k l).isSome) = false ↔ ∃ k ∈ ks, lookup k l = none := by
  simp only [List.all_eq_false, Option.not_isSome_iff_eq_none]

theorem getTuple_eq (d : D V) (ks : List String) :
    getTuple d ks = if ks.all (fun k => (lookup k d.items).isSome) then .ok (ks.filterMap fun k => lookup k d.items)
      else .error .key := by
  have h := mapM_lookup (fun _ v => v) .key d.items ks
  simp only [Option.map_id'] at h
  exact h

theorem getList_eq (d : D V) (ks : List String) :
    getList d ks = if ks.all (fun k => (lookup k d.items).isSome)
      then .ok { d with items := setAll [] (ks.filterMap fun k => (lookup k d.items).map (k, ·)) }
      else .error .key := by
  refine (congrArg (· >>= fun vs => pure { d with items := setAll [] vs }) (mapM_lookup Prod.mk .key d.items ks)).trans ?_
  split <;> rfl

theorem keys_select (l : List (String × V)) (ks : List String) (h : ks.all (fun k => (lookup k l).isSome) = true) :
    (ks.filterMap fun k => (lookup k l).map (k, ·)).map (·.1) = ks := by
  induction ks with
  | nil => rfl
  | cons k ks ih =>
    rw [List.all_cons, Bool.and_eq_true] at h
    obtain ⟨v, hv⟩ := Option.isSome_iff_exists.1 h.1
    rw [List.filterMap_cons, hv, Option.map_some, List.map_cons, ih h.2]

theorem lookup_select (l : List (String × V)) (k' : String) (ks : List String) :
    lookup k' (ks.filterMap fun k => (lookup k l).map (k, ·)).reverse = if k' ∈ ks then lookup k' l else none := by
  induction ks with
  | nil => rfl
  | cons k ks ih =>
    rw [List.filterMap_cons]
    cases hk : lookup k l with
    | none =>
      rw [Option.map_none, ih]
      by_cases e : k' = k
      · subst e; simp [hk]
      · simp [e]
    | some v =>
      rw [Option.map_some, List.reverse_cons, lookup_append, ih]
      by_cases e : k' = k
      · subst e; by_cases hm : k' ∈ ks <;> simp [hm, hk, lookup]
      · by_cases hm : k' ∈ ks <;> simp [hm, e, lookup]

/-- what the heap theorems need of `Dict.__add__`: on a receiver with distinct keys the result has distinct keys -/
class LawfulTreeAdd (V : Type) [TreeAdd V] : Prop where
  keys_nodup : ∀ (a b r : List (String × V)), (a.map (·.1)).Nodup → TreeAdd.treeAdd a b = .ok r →
    (r.map (·.1)).Nodup

theorem addC_eq_ok [TreeAdd V] {d r : D V} {o : List (String × V)} (h : addC d o = .ok r) :
    (∃ kvs, TreeAdd.treeAdd d.items o = .ok kvs ∧ r = { d with items := kvs }) ∨ r = add d o := by
  unfold addC at h
  split at h
  · cases hm : TreeAdd.treeAdd d.items o with
    | error e => rw [hm] at h; cases h
    | ok kvs => rw [hm] at h; cases h; exact .inl ⟨kvs, rfl, rfl⟩
  · cases h; exact .inr rfl

theorem addC_cls [TreeAdd V] (d r : D V) (o : List (String × V)) (h : addC d o = .ok r) : r.cls = d.cls := by
  rcases addC_eq_ok h with ⟨_, _, rfl⟩ | rfl <;> rfl

theorem relabelMap_prefix (ks : List String) {p : String} (kw : List (String × String)) (h1 : p.startsWith "_" = false)
    (h2 : p.endsWith "_" = true) : relabelMap ks (.affix p) kw = relabelMap ks (.fn (p ++ ·)) kw := by
  rw [relabelMap, relabelMap, affixMap, if_neg (h1 ▸ Bool.false_ne_true), if_pos h2]

theorem relabelMap_suffix (ks : List String) {p : String} (kw : List (String × String)) (h1 : p.startsWith "_" = true) :
    relabelMap ks (.affix p) kw = relabelMap ks (.fn (· ++ p)) kw := by
  rw [relabelMap, relabelMap, affixMap, if_pos h1]

theorem relabelMap_plain (ks : List String) {p : String} (kw : List (String × String)) (h1 : p.startsWith "_" = false)
    (h2 : p.endsWith "_" = false) : relabelMap ks (.affix p) kw = relabelMap ks .none kw := by
  rw [relabelMap, relabelMap, affixMap, if_neg (h1 ▸ Bool.false_ne_true), if_neg (h2 ▸ Bool.false_ne_true)]

theorem lookup_relabelMap (ks : List String) (arg : RelArg) (kw : List (String × String)) (k : String) :
    lookup k (relabelMap ks arg kw) = (lookup k kw <|> lookup k (relabelMap ks arg [])) :=
  lookup_append k kw _

theorem getKeyD_absent {d : D Val} {k : String} (h : lookup k d.items = none) :
    getKeyD d k = Tree.getDotted (.dict d.items) (Tree.splitDots k) := by
  rw [getKeyD, h]

theorem getKeyD_eq_getKey {d : D Val} {k : String} (h : lookup k d.items ≠ none) : getKeyD d k = getKey d k := by
  unfold getKeyD getKey
  cases hl : lookup k d.items with
  | some v => rfl
  | none => exact absurd hl h

theorem delPath_cons_cons {kvs r : List (String × Val)} {k k' : String} {rest : List String}
    (h : delPath kvs (k :: k' :: rest) = .ok r) :
    (r = kvs ∧ ∀ sub, lookup k kvs ≠ some (.dict sub)) ∨
    ∃ sub sub', lookup k kvs = some (.dict sub) ∧ delPath sub (k' :: rest) = .ok sub' ∧ r = set k (.dict sub') kvs := by
  rw [delPath] at h
  split at h
  · rename_i hl; cases h; exact .inl ⟨rfl, fun sub e => nomatch hl.symm.trans e⟩
  · rename_i sub hl
    obtain ⟨sub', hs, h⟩ := Res.bind_eq_ok.1 h
    cases h
    exact .inr ⟨sub, sub', hl, hs, rfl⟩
  · rename_i w hnd hl; cases h; exact .inl ⟨rfl, fun sub e => hnd sub (Option.some.inj (hl.symm.trans e))⟩

end Pyg.DA
