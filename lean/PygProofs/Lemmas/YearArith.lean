/-
  The Gregorian year grid as plain integer arithmetic: year `y` starts `365 y + y/4 - y/100 + y/400` days after year 0
  (`/`, `%` floor).  Both calendar models count their years by this expression: `Pyg.Civil` from March (`Civil.dbY y` of CivilLemmas, the leap day
  ends year `y`), `Pyg.Greg` from January of the year after (`Greg.dby (y + 1)`); CivilLemmas and GregLemmas read the two facts
  below in their own vocabulary.  Core Lean only, no model.
-/

namespace Pyg.Year

/-- a year written with its era `e`, century `c`, 4-year group `q` and year `s` in the group starts after whole cycles of 146097,
36524, 1461 and 365 days, and the year that follows it is a leap year iff it ends a 4-year group that does not end a century,
unless that century ends the era -/
theorem days_digits (e c q s : Int) (hc : 0 ≤ c ∧ c ≤ 3) (hq : 0 ≤ q ∧ q ≤ 24) (hs : 0 ≤ s ∧ s ≤ 3) :
    365 * (400 * e + 100 * c + 4 * q + s) + (400 * e + 100 * c + 4 * q + s) / 4 - (400 * e + 100 * c + 4 * q + s) / 100
        + (400 * e + 100 * c + 4 * q + s) / 400 = 146097 * e + 36524 * c + 1461 * q + 365 * s ∧
    ((400 * e + 100 * c + 4 * q + s + 1) % 4 = 0 ∧
        ((400 * e + 100 * c + 4 * q + s + 1) % 100 ≠ 0 ∨ (400 * e + 100 * c + 4 * q + s + 1) % 400 = 0) ↔
      s = 3 ∧ (q ≠ 24 ∨ c = 3)) := by
  omega

theorem days_succ (y : Int) :
    365 * (y + 1) + (y + 1) / 4 - (y + 1) / 100 + (y + 1) / 400 =
      365 * y + y / 4 - y / 100 + y / 400 + (if (y + 1) % 4 = 0 ∧ ((y + 1) % 100 ≠ 0 ∨ (y + 1) % 400 = 0) then 366 else 365) := by
  omega

end Pyg.Year
