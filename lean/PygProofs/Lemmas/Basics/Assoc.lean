/-
  Association lists `List (κ × α)`, the shape of every python dict, table and keyword list of the models.  Core has `lookup_cons`,
  `lookup_append`, `lookup_eq_none_iff`, `lookup_isSome_iff`, `lookup_eq_some_iff`; what follows is what it lacks.  From
  `lookup_cons_ite` on the lemmas take `DecidableEq κ` beside `BEq κ`, `LawfulBEq κ` (the `variable` at that point): they have an
  `if k' = k`, an `if k ∈ ks` or `setFirst` in the statement, but for `lookup_foldl_setKey` and `find?_foldl_setKey`, which are
  proved through `lookup_setKey`.
-/

namespace List
universe u v w
variable {κ : Type u} {α : Type v} {β : Type w}

theorem nodup_keys_filter (p : κ × α → Bool) {l : List (κ × α)} (h : (l.map (·.1)).Nodup) :
    ((l.filter p).map (·.1)).Nodup :=
  h.sublist (filter_sublist.map _)

theorem zip_keys_sublist : ∀ (xs : List κ) (ys : List α), ((xs.zip ys).map (·.1)).Sublist xs
  | [], _ => by simp
  | x :: xs, [] => by simp
  | x :: xs, y :: ys => by
      simp only [zip_cons_cons, map_cons]
      exact (zip_keys_sublist xs ys).cons_cons x

theorem nodup_zip_keys (xs : List κ) (ys : List α) (h : xs.Nodup) : ((xs.zip ys).map (·.1)).Nodup :=
  Nodup.sublist (zip_keys_sublist xs ys) h

theorem nodup_ite_snoc {ks : List κ} (hn : ks.Nodup) (k : κ) [Decidable (k ∈ ks)] :
    (if k ∈ ks then ks else ks ++ [k]).Nodup := by
  split
  · exact hn
  · rename_i h
    exact nodup_append.2 ⟨hn, pairwise_singleton _ k, fun a ha b hb e => h (mem_singleton.1 hb ▸ e ▸ ha)⟩

section
variable [DecidableEq κ]

/-- `d[k] = v` written as a recursion that overwrites the first entry under `k` (`DA.set`, `PDict.set`);
`keys_setFirst` and `lookup_setFirst` are word for word `keys_setKey`, `lookup_setKey` below -/
def setFirst (k : κ) (v : α) : List (κ × α) → List (κ × α)
  | [] => [(k, v)]
  | (l, w) :: kvs => if k = l then (l, v) :: kvs else (l, w) :: setFirst k v kvs

theorem keys_setFirst (k : κ) (v : α) (l : List (κ × α)) :
    (setFirst k v l).map (·.1) = if k ∈ l.map (·.1) then l.map (·.1) else l.map (·.1) ++ [k] := by
  induction l with
  | nil => rfl
  | cons c l ih =>
    obtain ⟨a, w⟩ := c
    rw [setFirst]
    by_cases h : k = a
    · subst h
      rw [if_pos rfl, map_cons, map_cons, if_pos mem_cons_self]
    · rw [if_neg h, map_cons, map_cons, ih]
      simp only [mem_cons, h, false_or]
      split <;> rfl

theorem nodup_keys_setFirst {l : List (κ × α)} (hn : (l.map (·.1)).Nodup) (k : κ) (v : α) :
    ((setFirst k v l).map (·.1)).Nodup :=
  keys_setFirst k v l ▸ nodup_ite_snoc hn k

theorem mem_setFirst {k : κ} {v : α} : ∀ {l : List (κ × α)} {x : κ × α}, x ∈ setFirst k v l → x ∈ l ∨ x = (k, v)
  | [], _, h => Or.inr (mem_singleton.1 h)
  | (l, w) :: kvs, x, h => by
    rw [setFirst] at h
    split at h
    · next e =>
      rcases mem_cons.1 h with h | h
      · exact Or.inr (e ▸ h)
      · exact Or.inl (mem_cons_of_mem _ h)
    · rcases mem_cons.1 h with h | h
      · exact Or.inl (h ▸ mem_cons_self)
      · exact (mem_setFirst h).imp_left (mem_cons_of_mem _)

theorem setFirst_setFirst (k : κ) (x y : α) : ∀ l : List (κ × α), setFirst k x (setFirst k y l) = setFirst k x l
  | [] => by
    show setFirst k x [(k, y)] = [(k, x)]
    rw [setFirst, if_pos rfl]
  | (l, w) :: kvs => by
    by_cases h : k = l
    · rw [setFirst, if_pos h, setFirst, if_pos h, setFirst, if_pos h]
    · rw [setFirst, if_neg h, setFirst, if_neg h, setFirst, if_neg h, setFirst_setFirst k x y kvs]

theorem setFirst_append_mid (k : κ) (r r0 : α) : ∀ (l1 l2 : List (κ × α)), k ∉ l1.map (·.1) →
    setFirst k r (l1 ++ (k, r0) :: l2) = l1 ++ (k, r) :: l2
  | [], l2, _ => by
    rw [nil_append, setFirst, if_pos rfl]
    rfl
  | (l, w) :: l1, l2, h => by
    rw [map_cons, mem_cons, not_or] at h
    rw [cons_append, setFirst, if_neg h.1, setFirst_append_mid k r r0 l1 l2 h.2]
    rfl

theorem setFirst_of_not_mem (k : κ) (v : α) : ∀ l : List (κ × α), k ∉ l.map (·.1) → setFirst k v l = l ++ [(k, v)]
  | [], _ => rfl
  | (l, w) :: kvs, h => by
    rw [map_cons, mem_cons, not_or] at h
    rw [setFirst, if_neg h.1, setFirst_of_not_mem k v kvs h.2, cons_append]

end

variable [BEq κ]

/-- python's `d[k] = v` on an insertion-ordered dict: an entry under `k` keeps its place and takes the new value, a new key is
appended.  `Table.set`, `dictSet`, `Table.setCol` and the step of `Table.mergeConds` (PygModel/Filter.lean) are this function. -/
def setKey (l : List (κ × α)) (k : κ) (v : α) : List (κ × α) :=
  if l.any (·.1 == k) then l.map (fun c => if c.1 == k then (k, v) else c) else l ++ [(k, v)]

theorem mem_setKey {l : List (κ × α)} {k : κ} {v : α} {e : κ × α} (h : e ∈ setKey l k v) : e ∈ l ∨ e = (k, v) := by
  unfold setKey at h
  split at h
  · obtain ⟨c, hc, rfl⟩ := mem_map.1 h
    split
    · exact .inr rfl
    · exact .inl hc
  · exact (mem_append.1 h).imp_right mem_singleton.1

variable [LawfulBEq κ]

theorem lookup_isSome_iff_keys {l : List (κ × α)} {k : κ} : (l.lookup k).isSome ↔ k ∈ l.map (·.1) := by
  rw [lookup_isSome_iff, mem_map]
  exact ⟨fun ⟨p, hp, e⟩ => ⟨p, hp, (eq_of_beq e).symm⟩, fun ⟨p, hp, e⟩ => ⟨p, hp, beq_iff_eq.2 e.symm⟩⟩

theorem lookup_eq_none_iff_keys {l : List (κ × α)} {k : κ} : l.lookup k = none ↔ k ∉ l.map (·.1) := by
  rw [← lookup_isSome_iff_keys, Option.not_isSome_iff_eq_none]

theorem mem_of_lookup_eq_some {l : List (κ × α)} {k : κ} {v : α} (h : l.lookup k = some v) : (k, v) ∈ l := by
  obtain ⟨l1, l2, rfl, _⟩ := lookup_eq_some_iff.1 h
  exact mem_append_right _ mem_cons_self

theorem any_key_iff_mem_keys {l : List (κ × α)} {k : κ} : l.any (·.1 == k) = true ↔ k ∈ l.map (·.1) := by
  rw [any_eq_true, mem_map]
  exact exists_congr fun e => and_congr_right fun _ => beq_iff_eq

theorem find?_key_eq_none {l : List (κ × α)} {k : κ} : l.find? (·.1 == k) = none ↔ k ∉ l.map (·.1) := by
  rw [find?_eq_none, mem_map]
  exact ⟨fun h ⟨e, he, hk⟩ => h e he (beq_iff_eq.2 hk), fun h e he hk => h ⟨e, he, eq_of_beq hk⟩⟩

theorem find?_key_some {l : List (κ × α)} {k : κ} {e : κ × α} (h : l.find? (·.1 == k) = some e) : e ∈ l ∧ e.1 = k :=
  ⟨mem_of_find?_eq_some h, eq_of_beq (find?_some (p := fun x : κ × α => x.1 == k) h)⟩

theorem find?_key_filter (p : κ × α → Bool) {k : κ} : ∀ {l : List (κ × α)}, (∀ e ∈ l, e.1 = k → p e = true) →
    (l.filter p).find? (·.1 == k) = l.find? (·.1 == k)
  | [], _ => rfl
  | e :: l, h => by
    have ih := find?_key_filter p (l := l) fun e' he' => h e' (mem_cons_of_mem _ he')
    by_cases hk : e.1 = k
    · rw [filter_cons_of_pos (h e mem_cons_self hk), find?_cons_of_pos (by simpa using hk),
        find?_cons_of_pos (by simpa using hk)]
    · rw [find?_cons_of_neg (by simpa using hk), ← ih, filter_cons]
      split
      · rw [find?_cons_of_neg (by simpa using hk)]
      · rfl

theorem keys_map_replace (l : List (κ × α)) (k : κ) (v : α) :
    (l.map fun c => if c.1 == k then (k, v) else c).map (·.1) = l.map (·.1) := by
  rw [map_map]
  apply map_congr_left
  intro c _
  by_cases h : c.1 = k
  · simp only [Function.comp, h, beq_self_eq_true, if_true]
  · simp only [Function.comp, beq_false_of_ne h, Bool.false_eq_true, if_false]

theorem keys_setKey (l : List (κ × α)) (k : κ) (v : α) :
    (setKey l k v).map (·.1) = if k ∈ l.map (·.1) then l.map (·.1) else l.map (·.1) ++ [k] := by
  unfold setKey
  by_cases h : k ∈ l.map (·.1)
  · rw [if_pos (any_key_iff_mem_keys.2 h), if_pos h, keys_map_replace]
  · rw [if_neg (fun e => h (any_key_iff_mem_keys.1 e)), if_neg h, map_append]
    rfl

theorem nodup_keys_setKey {l : List (κ × α)} (hn : (l.map (·.1)).Nodup) (k : κ) (v : α) :
    ((setKey l k v).map (·.1)).Nodup :=
  keys_setKey l k v ▸ nodup_ite_snoc hn k

theorem setKey_of_not_mem {l : List (κ × α)} {k : κ} (v : α) (h : k ∉ l.map (·.1)) : setKey l k v = l ++ [(k, v)] :=
  if_neg fun e => h (any_key_iff_mem_keys.1 e)

/-- `dict(pairs)` for pairs with distinct keys that the dict does not have: they are appended -/
theorem foldl_setKey_of_nodup : ∀ (kvs acc : List (κ × α)), (acc.map (·.1) ++ kvs.map (·.1)).Nodup →
    kvs.foldl (fun d kv => setKey d kv.1 kv.2) acc = acc ++ kvs
  | [], acc, _ => (append_nil acc).symm
  | kv :: rest, acc, h => by
    have hk : kv.1 ∉ acc.map (·.1) := fun hm => (nodup_append.1 h).2.2 _ hm kv.1 mem_cons_self rfl
    rw [foldl_cons, setKey_of_not_mem _ hk, foldl_setKey_of_nodup rest, append_assoc]
    · rfl
    · rwa [map_append, append_assoc]

theorem filter_fst_ne_eq_self {l : List (κ × α)} {k : κ} (h : ∀ p ∈ l, p.1 ≠ k) : l.filter (fun p => p.1 != k) = l :=
  filter_eq_self.2 fun p hp => bne_iff_ne.2 (h p hp)

theorem lookup_of_mem_nodup {l : List (κ × α)} (hn : (l.map (·.1)).Nodup) {k : κ} {v : α} (h : (k, v) ∈ l) :
    l.lookup k = some v := by
  induction l with
  | nil => cases h
  | cons p l ih =>
    obtain ⟨k', v'⟩ := p
    rw [map_cons, nodup_cons] at hn
    rw [lookup_cons]
    rcases mem_cons.1 h with e | h
    · cases e
      rw [beq_self_eq_true]
    · have hk : k ≠ k' := fun e => hn.1 (e ▸ mem_map_of_mem (f := (·.1)) h)
      rw [beq_false_of_ne hk, ih hn.2 h]

theorem lookup_eq_some_iff_mem {l : List (κ × α)} (hn : (l.map (·.1)).Nodup) {k : κ} {v : α} :
    l.lookup k = some v ↔ (k, v) ∈ l :=
  ⟨mem_of_lookup_eq_some, lookup_of_mem_nodup hn⟩

theorem lookup_perm {l l' : List (κ × α)} (hn : (l.map (·.1)).Nodup) (hp : l.Perm l') (k : κ) : l.lookup k = l'.lookup k := by
  apply Option.ext
  intro v
  rw [lookup_eq_some_iff_mem hn, lookup_eq_some_iff_mem ((hp.map _).nodup_iff.1 hn), hp.mem_iff]

theorem lookup_map_val (g : κ → α → β) (k : κ) (l : List (κ × α)) :
    (l.map fun c => (c.1, g c.1 c.2)).lookup k = (l.lookup k).map (g k) := by
  induction l with
  | nil => rfl
  | cons c l ih =>
    obtain ⟨a, w⟩ := c
    rw [map_cons, lookup_cons, lookup_cons, ih]
    cases h : k == a with
    | true =>
      rw [eq_of_beq h]
      rfl
    | false => rfl

theorem lookup_filter_key (l : List (κ × α)) (p : κ → Bool) (k : κ) :
    (l.filter fun c => p c.1).lookup k = if p k then l.lookup k else none := by
  induction l with
  | nil => rw [filter_nil, lookup_nil, ite_self]
  | cons c l ih =>
    obtain ⟨k', v⟩ := c
    rw [filter_cons, lookup_cons]
    cases h : k == k' with
    | true =>
      cases eq_of_beq h
      by_cases hp : p k = true
      · rw [if_pos hp, if_pos hp, lookup_cons, beq_self_eq_true]
      · rw [if_neg hp, if_neg hp, ih, if_neg hp]
    | false =>
      split
      · rw [lookup_cons, h, ih]
      · exact ih

/-- reading by `find?`, as `Table.col?`, `Registry.get?`, `TS.get` and the join code do -/
theorem find?_key_eq (l : List (κ × α)) (k : κ) : l.find? (·.1 == k) = (l.lookup k).map (k, ·) := by
  induction l with
  | nil => rfl
  | cons p l ih =>
    obtain ⟨k', v⟩ := p
    rw [find?_cons, lookup_cons, ih]
    cases h : k == k' with
    | true =>
      cases eq_of_beq h
      rw [beq_self_eq_true]
      rfl
    | false => rw [beq_false_of_ne (Ne.symm (ne_of_beq_false h))]

theorem find?_key_map_snd (l : List (κ × α)) (k : κ) : (l.find? (·.1 == k)).map (·.2) = l.lookup k := by
  rw [find?_key_eq]
  cases l.lookup k <;> rfl

theorem find?_key_of_nodup {l : List (κ × α)} {e : κ × α} (hn : (l.map (·.1)).Nodup) (he : e ∈ l) :
    l.find? (·.1 == e.1) = some e := by
  rw [find?_key_eq, lookup_of_mem_nodup hn (v := e.2) he]
  rfl

theorem find?_key_map_of_nodup {γ : Type _} (nm : γ → κ) (F : γ → α) (l : List γ) (hnd : (l.map nm).Nodup)
    (x : γ) (hx : x ∈ l) :
    (l.map fun a => (nm a, F a)).find? (fun c => c.1 == nm x) = some (nm x, F x) :=
  find?_key_of_nodup (e := (nm x, F x)) (by rwa [map_map]) (mem_map_of_mem (f := fun a => (nm a, F a)) hx)

variable [DecidableEq κ]

theorem lookup_cons_ite (k0 : κ) (v0 : α) (d : List (κ × α)) (k : κ) :
    ((k0, v0) :: d).lookup k = if k = k0 then some v0 else d.lookup k := by
  rw [lookup_cons]
  by_cases h : k = k0
  · subst h
    rw [beq_self_eq_true, if_pos rfl]
  · rw [beq_false_of_ne h, if_neg h]

/-- the dict `{k: F k for k in ks}` -/
theorem lookup_map_key (ks : List κ) (F : κ → α) (k : κ) :
    (ks.map fun k' => (k', F k')).lookup k = if k ∈ ks then some (F k) else none := by
  induction ks with
  | nil => rfl
  | cons a ks ih =>
    rw [map_cons, lookup_cons_ite, ih]
    by_cases h : k = a
    · subst h
      rw [if_pos rfl, if_pos mem_cons_self]
    · rw [if_neg h]
      simp only [mem_cons, h, false_or]

theorem lookup_zip (xs : List κ) (ys : List α) (n : κ) :
    (xs.zip ys).lookup n = if n ∈ xs then ys[xs.idxOf n]? else none := by
  induction xs generalizing ys with
  | nil => simp
  | cons x xs ih =>
    cases ys with
    | nil => simp
    | cons y ys =>
      simp only [zip_cons_cons, lookup_cons, idxOf_cons]
      by_cases h : n = x
      · subst h; simp
      · have h1 : (n == x) = false := by simpa using h
        have h2 : (x == n) = false := by simpa using fun e => h e.symm
        simp only [h1, h2, cond_false, mem_cons, h, false_or, getElem?_cons_succ]
        exact ih ys

/-- `d[k] = v` written as "drop the entries under `k`, put the new one first" (`Registry.set`): it reads like `setKey` -/
theorem lookup_cons_filter (l : List (κ × α)) (k : κ) (v : α) (k' : κ) :
    ((k, v) :: l.filter (fun e => !(e.1 == k))).lookup k' = if k' = k then some v else l.lookup k' := by
  rw [lookup_cons_ite, lookup_filter_key l (fun a => !(a == k))]
  by_cases h : k' = k
  · rw [if_pos h, if_pos h]
  · rw [if_neg h, if_neg h, if_pos (by simpa using h)]

theorem find?_key_map (F : κ → α) (k : κ) (ks : List κ) :
    (ks.map fun k' => (k', F k')).find? (·.1 == k) = if k ∈ ks then some (k, F k) else none := by
  rw [find?_key_eq, lookup_map_key]
  split <;> rfl

theorem lookup_map_replace (l : List (κ × α)) (k : κ) (v : α) (k' : κ) :
    (l.map fun c => if c.1 == k then (k, v) else c).lookup k' =
      if k' = k then (l.lookup k).map (fun _ => v) else l.lookup k' := by
  induction l with
  | nil => exact (ite_self none).symm
  | cons c l ih =>
    obtain ⟨a, w⟩ := c
    rw [map_cons, lookup_cons_ite a w l k', lookup_cons_ite a w l k]
    by_cases ha : a = k
    · subst ha
      simp only [beq_self_eq_true, if_true]
      rw [lookup_cons_ite, ih]
      split <;> rfl
    · simp only [beq_false_of_ne ha, Bool.false_eq_true, if_false]
      rw [lookup_cons_ite, ih, if_neg (Ne.symm ha)]
      by_cases hk : k' = k
      · subst hk
        rw [if_neg (Ne.symm ha), if_pos rfl, if_pos rfl]
      · rw [if_neg hk, if_neg hk]

theorem lookup_setKey (l : List (κ × α)) (k : κ) (v : α) (k' : κ) :
    (setKey l k v).lookup k' = if k' = k then some v else l.lookup k' := by
  unfold setKey
  cases h : l.lookup k with
  | none =>
    have hany : ¬ l.any (·.1 == k) = true := fun e => lookup_eq_none_iff_keys.1 h (any_key_iff_mem_keys.1 e)
    rw [if_neg hany, lookup_append, lookup_cons_ite, lookup_nil]
    by_cases hk : k' = k
    · subst hk
      rw [if_pos rfl, if_pos rfl, h]
      rfl
    · rw [if_neg hk, if_neg hk, Option.or_none]
  | some w =>
    have hany : l.any (·.1 == k) = true :=
      any_key_iff_mem_keys.2 (lookup_isSome_iff_keys.1 (h ▸ rfl))
    rw [if_pos hany, lookup_map_replace, h]
    rfl

theorem lookup_setFirst (k' k : κ) (v : α) (l : List (κ × α)) :
    (setFirst k v l).lookup k' = if k' = k then some v else l.lookup k' := by
  induction l with
  | nil => rw [setFirst, lookup_cons_ite]
  | cons c l ih =>
    obtain ⟨a, w⟩ := c
    rw [setFirst]
    by_cases h : k = a
    · subst h
      rw [if_pos rfl, lookup_cons_ite, lookup_cons_ite]
      split <;> rfl
    · rw [if_neg h, lookup_cons_ite, lookup_cons_ite, ih]
      by_cases hk : k' = a
      · subst hk
        rw [if_pos rfl, if_pos rfl, if_neg (Ne.symm h)]
      · rw [if_neg hk, if_neg hk]

theorem setFirst_of_lookup {k : κ} {v : α} : ∀ {l : List (κ × α)}, l.lookup k = some v → setFirst k v l = l
  | [], h => nomatch h
  | (l, w) :: kvs, h => by
    rw [lookup_cons_ite] at h
    rw [setFirst]
    by_cases e : k = l
    · rw [if_pos e] at h ⊢
      cases h
      rfl
    · rw [if_neg e] at h ⊢
      rw [setFirst_of_lookup h]

/-- `d.update(ps)`, for any `set` that reads like `d[k] = v` (`setKey`, `setFirst`): the last pair under `k`, else what `d` has -/
theorem lookup_foldl_set {set : List (κ × α) → κ → α → List (κ × α)}
    (hset : ∀ l k v k', (set l k v).lookup k' = if k' = k then some v else l.lookup k') (k : κ) :
    ∀ (ps d : List (κ × α)), (ps.foldl (fun d p => set d p.1 p.2) d).lookup k = (ps.reverse.lookup k).or (d.lookup k)
  | [], d => rfl
  | p :: ps, d => by
    rw [foldl_cons, lookup_foldl_set hset k ps, hset, reverse_cons, lookup_append, lookup_cons_ite, lookup_nil]
    cases ps.reverse.lookup k with
    | some _ => rfl
    | none => split <;> rfl

theorem lookup_foldl_setKey (kvs d : List (κ × α)) (k : κ) :
    (kvs.foldl (fun d kv => setKey d kv.1 kv.2) d).lookup k = (kvs.reverse.lookup k).or (d.lookup k) :=
  lookup_foldl_set lookup_setKey k kvs d

theorem find?_setKey (l : List (κ × α)) (k : κ) (v : α) (k' : κ) :
    (setKey l k v).find? (·.1 == k') = if k = k' then some (k, v) else l.find? (·.1 == k') := by
  rw [find?_key_eq, find?_key_eq, lookup_setKey]
  by_cases h : k' = k
  · subst h
    rw [if_pos rfl, if_pos rfl]
    rfl
  · rw [if_neg h, if_neg (Ne.symm h)]

theorem find?_foldl_setKey (kvs d : List (κ × α)) (k : κ) :
    (kvs.foldl (fun d kv => setKey d kv.1 kv.2) d).find? (·.1 == k) =
      (kvs.reverse.find? (·.1 == k)).or (d.find? (·.1 == k)) := by
  rw [find?_key_eq, find?_key_eq, find?_key_eq, lookup_foldl_setKey]
  cases kvs.reverse.lookup k <;> rfl

end List
