/-
  ASCII characters by code point: `Char.toLower` and `Char.isAlpha` as statements about `c.toNat` (core has `Char.toNat_inj`
  and `Char.isDigit_iff_toNat`), so that what the tokenizers need of them is linear arithmetic.
-/

namespace Char

theorem toNat_toLower (c : Char) :
    c.toLower.toNat = if 65 ≤ c.toNat ∧ c.toNat ≤ 90 then c.toNat + 32 else c.toNat := by
  unfold Char.toLower
  split
  · rename_i h
    have h2 : c.toNat ≤ 90 := UInt32.le_iff_toNat_le.1 h.2
    rw [if_pos ⟨UInt32.le_iff_toNat_le.1 h.1, h2⟩]
    show (c.val + 32).toNat = _
    rw [UInt32.toNat_add]
    show (c.toNat + 32) % 4294967296 = _
    omega
  · rename_i h
    rw [if_neg fun h' => h ⟨UInt32.le_iff_toNat_le.2 h'.1, UInt32.le_iff_toNat_le.2 h'.2⟩]

theorem isAlpha_iff_toNat (c : Char) :
    c.isAlpha = true ↔ (65 ≤ c.toNat ∧ c.toNat ≤ 90) ∨ (97 ≤ c.toNat ∧ c.toNat ≤ 122) := by
  simp only [Char.isAlpha, Char.isUpper, Char.isLower, Bool.or_eq_true, Bool.and_eq_true, decide_eq_true_eq, ge_iff_le,
    UInt32.le_iff_toNat_le]
  rfl

/-- `l` a lower-case ASCII letter, `u` its capital: the two characters `Char.toLower` sends to `l` -/
theorem toLower_eq_iff_of_lower (c l u : Char) (hl : 97 ≤ l.toNat ∧ l.toNat ≤ 122) (hu : u.toNat + 32 = l.toNat) :
    c.toLower = l ↔ c = l ∨ c = u := by
  rw [← Char.toNat_inj, ← Char.toNat_inj (c := c) (d := l), ← Char.toNat_inj (c := c) (d := u), Char.toNat_toLower]
  split <;> omega

theorem toLower_digit (c : Char) (h : c.isDigit = true) : c.toLower = c := by
  have hd : 48 ≤ c.toNat ∧ c.toNat ≤ 57 := Char.isDigit_iff_toNat.1 h
  rw [← Char.toNat_inj, Char.toNat_toLower, if_neg (by omega)]

theorem toLower_toLower (c : Char) : c.toLower.toLower = c.toLower := by
  rw [← Char.toNat_inj, Char.toNat_toLower c.toLower, Char.toNat_toLower c]
  split
  · rw [if_neg (by omega)]
  · rfl

theorem isDigit_not_alpha (c : Char) (h : c.isDigit = true) : c.isAlpha = false := by
  have hd : 48 ≤ c.toNat ∧ c.toNat ≤ 57 := Char.isDigit_iff_toNat.1 h
  exact Bool.eq_false_iff.2 fun ha => by
    have := (Char.isAlpha_iff_toNat c).1 ha
    omega

theorem isAlpha_not_digit (c : Char) (h : c.isAlpha = true) : c.isDigit = false :=
  Bool.eq_false_iff.2 fun hd => Bool.false_ne_true ((Char.isDigit_not_alpha c hd).symm.trans h)

theorem map_toLower_digits (ds : List Char) (hd : ∀ c ∈ ds, c.isDigit = true) : ds.map Char.toLower = ds := by
  conv => rhs; rw [← List.map_id ds]
  apply List.map_congr_left
  intro c hc; exact Char.toLower_digit c (hd c hc)

end Char
