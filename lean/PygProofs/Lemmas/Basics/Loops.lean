/-
  Loops that may fail: `List.mapM` into `Except` (a comprehension whose body may raise; the model's `mapE` is this) and into
  `Option`, and `List.foldlM`.  `l.mapM f = .ok r` says that `f` returns the members of `r` one by one (`List.mapM_eq_ok_iff_map`).
-/
import PygModel.Basic
import PygProofs.Lemmas.Basics.Lists

namespace List

section
universe u v w
variable {m : Type u → Type v} [Monad m] [LawfulMonad m] {α : Type w} {β : Type u}

theorem mapM_congr {f g : α → m β} : ∀ {l : List α}, (∀ x ∈ l, f x = g x) → l.mapM f = l.mapM g
  | [], _ => rfl
  | a :: l, h => by
      rw [List.mapM_cons, List.mapM_cons, h a List.mem_cons_self, List.mapM_congr fun x hx => h x (List.mem_cons_of_mem _ hx)]

theorem mapM_pure_of_forall {l : List α} {f : α → m β} {g : α → β} (h : ∀ x ∈ l, f x = pure (g x)) :
    l.mapM f = pure (l.map g) :=
  (List.mapM_congr h).trans List.mapM_pure

theorem mapM_range_pure {l : List α} {f : Nat → m β} {F : α → β}
    (h : ∀ i (hi : i < l.length), f i = pure (F l[i])) :
    (List.range l.length).mapM f = pure (l.map F) := by
  have hf : ∀ p ∈ l.zipIdx, (f ∘ (·.2)) p = pure (F p.1) := fun p hp => by
    obtain ⟨hi, e⟩ := List.getElem?_eq_some_iff.1 (List.mem_zipIdx_iff_getElem?.1 hp)
    rw [Function.comp_apply, h p.2 hi, e]
  rw [List.range_eq_range', ← List.zipIdx_map_snd 0 l, List.mapM_map, List.mapM_pure_of_forall hf]
  exact congrArg pure (List.map_eq_zipIdx_map l F).symm

end

theorem mapM_nil_ok {α β ε} {f : α → Except ε β} {ys : List β} : ([] : List α).mapM f = .ok ys ↔ ys = [] := by
  simp only [List.mapM_nil, pure, Except.pure, Except.ok.injEq]
  exact eq_comm

theorem mapM_cons_ok {α β ε} {f : α → Except ε β} {x : α} {xs : List α} {ys : List β} :
    (x :: xs).mapM f = .ok ys ↔ ∃ y ys', f x = .ok y ∧ xs.mapM f = .ok ys' ∧ ys = y :: ys' := by
  simp only [List.mapM_cons, bind, Except.bind]
  cases hx : f x with
  | error e => simp
  | ok y =>
    cases hr : xs.mapM f with
    | error e => simp
    | ok zs =>
      simp only [pure, Except.pure, Except.ok.injEq]
      constructor
      · rintro rfl; exact ⟨y, zs, rfl, rfl, rfl⟩
      · rintro ⟨y', ys', h1, h2, rfl⟩; cases h1; cases h2; rfl

theorem mapM_eq_ok_iff_map {α β ε} {f : α → Except ε β} : ∀ {l : List α} {r : List β},
    l.mapM f = .ok r ↔ l.map f = r.map .ok
  | [], r => by
    rw [List.mapM_nil_ok]
    exact ⟨fun h => h ▸ rfl, fun h => List.map_eq_nil_iff.1 h.symm⟩
  | x :: xs, r => by
    rw [List.mapM_cons_ok, List.map_cons]
    constructor
    · rintro ⟨y, ys, h1, h2, rfl⟩
      rw [h1, List.mapM_eq_ok_iff_map.1 h2]
      rfl
    · intro h
      cases r with
      | nil => nomatch h
      | cons y ys =>
        obtain ⟨h1, h2⟩ := List.cons.inj h
        exact ⟨y, ys, h1, List.mapM_eq_ok_iff_map.2 h2, rfl⟩

theorem mapM_ok_length {α β ε} {f : α → Except ε β} {xs : List α} {ys : List β} (h : xs.mapM f = .ok ys) :
    ys.length = xs.length := by
  have := congrArg List.length (List.mapM_eq_ok_iff_map.1 h)
  rwa [List.length_map, List.length_map, eq_comm] at this

theorem mem_of_mapM_ok {α β ε} {f : α → Except ε β} {xs : List α} {ys : List β} (h : xs.mapM f = .ok ys) :
    ∀ y ∈ ys, ∃ x ∈ xs, f x = .ok y := by
  intro y hy
  have := List.mem_map_of_mem (f := Except.ok (ε := ε)) hy
  rw [← List.mapM_eq_ok_iff_map.1 h] at this
  exact List.mem_map.1 this

theorem forall_ok_of_mapM {α β ε} {f : α → Except ε β} {l : List α} {ys : List β} (h : l.mapM f = .ok ys) :
    ∀ x ∈ l, ∃ y, f x = .ok y := by
  intro x hx
  have := List.mem_map_of_mem (f := f) hx
  rw [List.mapM_eq_ok_iff_map.1 h] at this
  obtain ⟨y, _, e⟩ := List.mem_map.1 this
  exact ⟨y, e.symm⟩

theorem mapM_ok_of_forall {α β ε} {l : List α} {f : α → Except ε β} {g : α → β}
    (h : ∀ x ∈ l, f x = .ok (g x)) : l.mapM f = .ok (l.map g) :=
  List.mapM_pure_of_forall h

theorem mapM_eq_ok_iff {α β ε} {f : α → Except ε β} {l : List α} {r : List β} : l.mapM f = .ok r ↔
    r.length = l.length ∧ ∀ (i : Nat) (x : α), l[i]? = some x → ∃ v, f x = .ok v ∧ r[i]? = some v := by
  rw [List.mapM_eq_ok_iff_map]
  constructor
  · intro h
    have hl : r.length = l.length := by
      have := congrArg List.length h
      rwa [List.length_map, List.length_map, eq_comm] at this
    refine ⟨hl, fun i x hx => ?_⟩
    have hi := (List.getElem?_eq_some_iff.1 hx).1
    have := congrArg (·[i]?) h
    simp only [List.getElem?_map, hx, List.getElem?_eq_getElem (hl ▸ hi), Option.map_some] at this
    exact ⟨_, Option.some.inj this, List.getElem?_eq_getElem _⟩
  · intro ⟨hl, h⟩
    apply List.ext_getElem?
    intro i
    rw [List.getElem?_map, List.getElem?_map]
    cases hx : l[i]? with
    | none =>
      rw [List.getElem?_eq_none (hl ▸ List.getElem?_eq_none_iff.1 hx)]
      rfl
    | some x =>
      obtain ⟨v, hv, hr⟩ := h i x hx
      rw [hr, Option.map_some, Option.map_some, hv]

theorem mapM_eq_error {α β ε} {f : α → Except ε β} {e : ε} : ∀ {l : List α}, l.mapM f = .error e →
    ∃ (i : Nat) (x : α), l[i]? = some x ∧ f x = .error e
  | [], h => nomatch h
  | a :: l, h => by
      rw [List.mapM_cons] at h
      cases ha : f a with
      | error e' =>
        rw [ha] at h
        cases h
        exact ⟨0, a, rfl, ha⟩
      | ok b =>
        rw [ha] at h
        cases hl : l.mapM f with
        | ok bs =>
          rw [hl] at h
          cases h
        | error e' =>
          rw [hl] at h
          cases h
          obtain ⟨i, x, h1, h2⟩ := List.mapM_eq_error hl
          exact ⟨i + 1, x, h1, h2⟩

theorem mapM_eq_error_of_mem {α β ε} {f : α → Except ε β} {e : ε} {l : List α} (h : ∃ x ∈ l, ∃ e', f x = .error e')
    (hall : ∀ x ∈ l, ∀ e', f x = .error e' → e' = e) : l.mapM f = .error e := by
  cases hm : l.mapM f with
  | ok ys =>
    obtain ⟨x, hx, e', he⟩ := h
    obtain ⟨y, hy⟩ := List.forall_ok_of_mapM hm x hx
    rw [he] at hy
    cases hy
  | error e' =>
    obtain ⟨i, x, hx, he⟩ := List.mapM_eq_error hm
    rw [hall x (List.mem_of_getElem? hx) e' he]

theorem mapM_eq_ite_all {α β ε} {f : α → Except ε β} (g : α → Option β) (e : ε) :
    ∀ {l : List α}, (∀ a ∈ l, f a = (g a).elim (.error e) .ok) →
    l.mapM f = if l.all (fun a => (g a).isSome) then .ok (l.filterMap g) else .error e
  | [], _ => rfl
  | a :: l, h => by
    rw [List.mapM_cons, List.mapM_eq_ite_all g e fun x hx => h x (List.mem_cons_of_mem _ hx), h a List.mem_cons_self,
      List.all_cons, List.filterMap_cons]
    cases g a with
    | none => rfl
    | some b => cases l.all (fun a => (g a).isSome) <;> rfl

theorem kvMapM_lookup {κ α β ε} [BEq κ] [LawfulBEq κ] {f : κ → α → Except ε β} : ∀ (kvs : List (κ × α)) (r : List (κ × β)),
    kvs.mapM (fun p => (f p.1 p.2).map (p.1, ·)) = .ok r →
    r.map (·.1) = kvs.map (·.1) ∧ ∀ k v, kvs.lookup k = some v → ∃ y, r.lookup k = some y ∧ f k v = .ok y
  | [], r, h => by
      rw [List.mapM_nil_ok] at h
      subst h
      exact ⟨rfl, fun k v hk => nomatch hk⟩
  | (k0, v0) :: kvs, r, h => by
      obtain ⟨p, r', hp, hr, rfl⟩ := List.mapM_cons_ok.1 h
      obtain ⟨hkeys, ih⟩ := List.kvMapM_lookup kvs r' hr
      cases hy : f k0 v0 with
      | error e =>
        rw [hy] at hp
        cases hp
      | ok y =>
        rw [hy] at hp
        cases hp
        refine ⟨congrArg (k0 :: ·) hkeys, fun k v hk => ?_⟩
        rw [List.lookup_cons] at hk ⊢
        cases hkk : k == k0 with
        | true =>
          rw [hkk] at hk
          cases hk
          rw [eq_of_beq hkk]
          exact ⟨y, rfl, hy⟩
        | false =>
          rw [hkk] at hk
          exact ih k v hk

theorem mapM_some_of_forall {α β} {l : List α} {F : α → Option β} {g : α → β}
    (h : ∀ x ∈ l, F x = some (g x)) : l.mapM F = some (l.map g) :=
  List.mapM_pure_of_forall h

theorem mapM_eq_some_iff_map {α β} {f : α → Option β} : ∀ {l : List α} {r : List β},
    l.mapM f = some r ↔ l.map f = r.map some
  | [], r => by
    rw [List.mapM_nil, List.map_nil]
    exact ⟨fun h => Option.some.inj h ▸ rfl, fun h => List.map_eq_nil_iff.1 h.symm ▸ rfl⟩
  | x :: xs, r => by
    rw [List.mapM_cons, List.map_cons]
    constructor
    · intro h
      obtain ⟨b, hb, h⟩ := Option.bind_eq_some_iff.1 h
      obtain ⟨bs, hbs, h⟩ := Option.bind_eq_some_iff.1 h
      cases h
      rw [hb, List.mapM_eq_some_iff_map.1 hbs]
      rfl
    · intro h
      cases r with
      | nil => nomatch h
      | cons b bs =>
        obtain ⟨h1, h2⟩ := List.cons.inj h
        rw [h1, List.mapM_eq_some_iff_map.2 h2]
        rfl

theorem mapM_option_map {α β γ} (f : α → Option β) (g : β → γ) (xs : List α) :
    xs.mapM (fun x => (f x).map g) = (xs.mapM f).map (List.map g) := by
  induction xs with
  | nil => rfl
  | cons x xs ih =>
    simp only [List.mapM_cons, ih]
    cases f x with
    | none => rfl
    | some t =>
      cases xs.mapM f with
      | none => rfl
      | some ts => rfl

theorem mapM_some_inv {α β} (F : α → Option β) (d : β) (l : List α) (r : List β) (h : l.mapM F = some r) :
    r = l.map (fun a => (F a).getD d) ∧ ∀ a ∈ l, (F a).isSome = true := by
  have h := List.mapM_eq_some_iff_map.1 h
  constructor
  · have := congrArg (List.map (·.getD d)) h
    rw [List.map_map, List.map_map] at this
    exact (List.map_id r).symm.trans this.symm
  · intro a ha
    have := List.mem_map_of_mem (f := F) ha
    rw [h] at this
    obtain ⟨b, _, e⟩ := List.mem_map.1 this
    rw [← e]
    rfl

theorem foldlM_inv {α β ε} {step : β → α → Except ε β} {P : β → Prop} {ms : List α}
    (hstep : ∀ m ∈ ms, ∀ s s', P s → step s m = .ok s' → P s') {s s' : β} (hp : P s)
    (h : ms.foldlM step s = .ok s') : P s' := by
  induction ms generalizing s with
  | nil => cases h; exact hp
  | cons m ms ih =>
    rw [List.foldlM_cons] at h
    cases h1 : step s m with
    | error e => rw [h1] at h; cases h
    | ok s1 =>
      rw [h1] at h
      exact ih (fun m' hm' => hstep m' (List.mem_cons_of_mem _ hm')) (hstep m List.mem_cons_self s s1 hp h1) h

end List

namespace Pyg

theorem Res.ok_bind {α β ε} (a : α) (f : α → Except ε β) : (Except.ok a >>= f) = f a := rfl

theorem Res.error_bind {α β ε} (e : ε) (f : α → Except ε β) : (Except.error e >>= f) = .error e := rfl

theorem Res.bind_eq_ok {α β : Type} {x : Res α} {f : α → Res β} {b : β} :
    x >>= f = .ok b ↔ ∃ a, x = .ok a ∧ f a = .ok b := by
  cases x with
  | error e => exact ⟨(fun h => nomatch h), fun ⟨_, h, _⟩ => nomatch h⟩
  | ok a => exact ⟨fun h => ⟨a, rfl, h⟩, fun ⟨_, h, h'⟩ => by cases h; exact h'⟩

theorem Res.ite_eq_ok {α : Type} (c : Bool) (e0 : Err) (x y : α) :
    (if c then (.ok x : Res α) else .error e0) = .ok y ↔ c = true ∧ x = y := by
  cases c with
  | true => exact ⟨fun h => ⟨rfl, Except.ok.inj h⟩, fun h => h.2 ▸ rfl⟩
  | false => exact iff_of_false (fun h => nomatch h) (fun h => nomatch h.1)

theorem Res.eq_of_ite_eq_ok {α : Type} {p : Prop} [Decidable p] {x g : α} {e : Err}
    (h : (if p then (.ok x : Res α) else .error e) = .ok g) : g = x := by
  split at h
  · exact (Except.ok.inj h).symm
  · cases h

theorem Res.ite_eq_error {α : Type} (c : Bool) (e0 e : Err) (x : α) :
    (if c then (.ok x : Res α) else .error e0) = .error e ↔ e = e0 ∧ c = false := by
  cases c with
  | true => exact iff_of_false (fun h => nomatch h) (fun h => nomatch h.2)
  | false => exact ⟨fun h => ⟨(Except.error.inj h).symm, rfl⟩, fun h => h.1 ▸ rfl⟩

theorem Res.map_eq_ok {A B : Type} {as : Res A} {c : A → B} {r : B} (h : as.map c = .ok r) :
    ∃ ys, as = .ok ys ∧ r = c ys := by
  cases as with
  | error e => cases h
  | ok ys => cases h; exact ⟨ys, rfl, rfl⟩

theorem Res.map_eq_ok_iff {α β : Type} {x : Res α} {f : α → β} {b : β} :
    x.map f = .ok b ↔ ∃ a, x = .ok a ∧ f a = b := by
  cases x with
  | error e => exact ⟨(fun h => nomatch h), fun ⟨_, h, _⟩ => nomatch h⟩
  | ok a => exact ⟨fun h => ⟨a, rfl, Except.ok.inj h⟩, fun ⟨_, h, h'⟩ => by cases h; exact congrArg Except.ok h'⟩

theorem Res.map_eq_error {A B : Type} {as : Res A} {c : A → B} {e : Err} (h : as.map c = .error e) :
    as = .error e := by
  cases as with
  | error e' => cases h; rfl
  | ok ys => cases h

theorem Res.map_map_congr {α β γ A B Γ : Type} {g : α → γ} {h : β → γ} {gs : A → Γ} {hs : B → Γ}
    {c : A → α} {c' : B → β} (C : Γ → γ) (hc : ∀ r, g (c r) = C (gs r)) (hc' : ∀ r, h (c' r) = C (hs r))
    {as : Res A} {bs : Res B} (h2 : as.map gs = bs.map hs) : (as.map c).map g = (bs.map c').map h := by
  cases as <;> cases bs <;> simp only [Except.map, Except.ok.injEq, Except.error.injEq, reduceCtorEq] at h2 ⊢
  · exact h2
  · rw [hc, hc', h2]

theorem Res.map_cons_bind {β γ ε} (h : β → γ) (a : Except ε β) (as : Except ε (List β)) :
    (a >>= fun y => as >>= fun ys => pure (y :: ys)).map (List.map h) =
      (a.map h >>= fun y => as.map (List.map h) >>= fun ys => pure (y :: ys)) := by
  cases a with
  | error e => rfl
  | ok y => cases as <;> rfl

theorem mapM_map_congr {α α' β β' γ ε} {f : α → Except ε β} {f' : α' → Except ε β'} {h : β → γ} {h' : β' → γ} {e : α → α'} :
    ∀ (l : List α), (∀ x ∈ l, (f' (e x)).map h' = (f x).map h) →
    ((l.map e).mapM f').map (List.map h') = (l.mapM f).map (List.map h)
  | [], _ => rfl
  | a :: l, H => by
      rw [List.map_cons, List.mapM_cons, List.mapM_cons, Res.map_cons_bind, Res.map_cons_bind, H a List.mem_cons_self,
        mapM_map_congr l fun x hx => H x (List.mem_cons_of_mem _ hx)]

/-- two results agree: values related by `Q`, or the same error -/
def ResRel {β γ ε} (Q : β → γ → Prop) : Except ε β → Except ε γ → Prop
  | .ok s, .ok t => Q s t
  | .error e, .error e' => e = e'
  | _, _ => False

theorem ResRel.cases {β γ ε} {Q : β → γ → Prop} {x : Except ε β} {y : Except ε γ} (h : ResRel Q x y) :
    (∃ a b, x = .ok a ∧ y = .ok b ∧ Q a b) ∨ ∃ e, x = .error e ∧ y = .error e := by
  cases x <;> cases y
  · exact .inr ⟨_, rfl, congrArg Except.error (Eq.symm h)⟩
  · exact h.elim
  · exact h.elim
  · exact .inl ⟨_, _, rfl, rfl, h⟩

theorem ResRel.map_eq {β γ δ ε} {Q : β → γ → Prop} {x : Except ε β} {y : Except ε γ} (h : ResRel Q x y) {k : β → δ}
    {k' : γ → δ} (hk : ∀ s t, Q s t → k s = k' t) : x.map k = y.map k' := by
  rcases h.cases with ⟨a, b, rfl, rfl, h⟩ | ⟨e, rfl, rfl⟩
  · exact congrArg Except.ok (hk a b h)
  · rfl

theorem ResRel.ite {β γ ε} {Q : β → γ → Prop} {c c' : Bool} (hc : c = c') {a : β} {b : γ} {e : ε} (h : Q a b) :
    ResRel Q (if c then .ok a else .error e) (if c' then .ok b else .error e) := by
  subst hc
  cases c
  · exact rfl
  · exact h

theorem foldlM_rel {α β γ ε} {stepA : β → α → Except ε β} {stepB : γ → α → Except ε γ} {Q : β → γ → Prop}
    (hstep : ∀ m s t, Q s t → ResRel Q (stepA s m) (stepB t m)) (ms : List α) {s : β} {t : γ} (hq : Q s t) :
    ResRel Q (ms.foldlM stepA s) (ms.foldlM stepB t) := by
  induction ms generalizing s t with
  | nil => exact hq
  | cons m ms ih =>
    rw [List.foldlM_cons, List.foldlM_cons]
    rcases (hstep m s t hq).cases with ⟨a, b, h1, h2, h⟩ | ⟨e, h1, h2⟩
    · rw [h1, h2]
      exact ih h
    · rw [h1, h2]
      exact rfl

theorem mapM_id_ok {α β} (l : List α) (h : α → β) :
    (l.map fun a => (Except.ok (h a) : Res β)).mapM id = .ok (l.map h) := by
  rw [List.mapM_map]
  exact List.mapM_pure

theorem mapM_filterMap_inv {α β : Type} (f : α → Option β) (g : β → Res α) : ∀ (xs : List α),
    (∀ x ∈ xs, ∃ y, f x = some y ∧ g y = .ok x) → (xs.filterMap f).mapM g = .ok xs
  | [], _ => rfl
  | x :: xs, h => by
      obtain ⟨y, hy, hg⟩ := h x (by simp)
      simp only [List.filterMap_cons, hy]
      rw [List.mapM_cons_ok]
      exact ⟨x, xs, hg, mapM_filterMap_inv f g xs (fun z hz => h z (by simp [hz])), rfl⟩

end Pyg
