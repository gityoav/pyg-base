/-
  Every operation of the dictable model returns a rectangular table when its operands are rectangular.
  `step` = look the operands up, then an `Effect` that does not mention the heap (`step_eq`).
-/
import PygProofs.Lemmas.TableLemmas
import PygModel.TableAlias  -- `Op.dst?`, `Op.inplace?`, `Op.aliasOf`: the classification `Op.effect_cases` is stated against
import PygProofs.Lemmas.HeapStep

namespace Pyg
namespace Table

theorem getSlice_rect {t t' : Table} {n : Nat} {a b s : Option Int} (h : t.Rect n)
    (hs : t.getSlice a b s = .ok t') : t'.Rect (sliceIdx n a b (s.getD 1)).length := by
  rw [getSlice_ok hs]
  intro c hc
  obtain ⟨c', hc', rfl⟩ := List.mem_map.1 hc
  simp [pySlice, h c' hc']

theorem getMask_rect {t t' : Table} {m : List Bool} (hs : t.getMask m = .ok t') : ∃ n', t'.Rect n' := by
  obtain ⟨idx, _, rfl⟩ := getMask_ok hs
  exact ⟨_, gatherRows_rect t idx⟩

theorem setFn_rect {t t' : Table} {n : Nat} {kf : String × Fn} (h : t.Rect n)
    (hs : t.setFn kf = .ok t') : ∃ n', t'.Rect n' := setFn_keeps setitem_keeps_rect ⟨n, h⟩ hs

theorem setFns_rect {t t' : Table} {n : Nat} (fns : List (String × Fn)) (h : t.Rect n)
    (hs : t.setFns fns = .ok t') : ∃ n', t'.Rect n' := setFns_keeps setitem_keeps_rect fns ⟨n, h⟩ hs

theorem doKey_rect {t t' : Table} {n : Nat} {f : DoFn} {k : String} (h : t.Rect n)
    (hs : t.doKey f k = .ok t') : ∃ n', t'.Rect n' := doKey_keeps setitem_keeps_rect ⟨n, h⟩ hs

theorem relabel_rect {t : Table} {n : Nat} (r : Relabel) (h : t.Rect n) : (t.relabel r).Rect n := by
  unfold relabel
  apply ofPairs_rect
  intro kv hkv
  obtain ⟨c, hc, rfl⟩ := List.mem_map.1 hkv
  exact h c hc

theorem getCol_length {t : Table} {n : Nat} (k : String) (h : t.Rect n) : (t.getCol k).length = t.nrows := by
  unfold getCol
  cases hc : t.col? k with
  | none => simp
  | some c =>
    simp only [Option.getD_some]
    rw [col?_length h hc, nrows_of_rect h (ne_nil_of_col? hc)]

theorem getProj_rect {t t' : Table} {n : Nat} {ks : List String} (h : t.Rect n)
    (hs : t.getProj ks = .ok t') : ∃ n', t'.Rect n' := by
  rcases getProj_ok hs with rfl | rfl
  · exact ⟨0, emptyLike_rect t⟩
  · refine ⟨t.nrows, ofPairs_rect fun kv hkv => ?_⟩
    obtain ⟨k, _, rfl⟩ := List.mem_map.1 hkv
    exact getCol_length k h

theorem flatMap_getCol_length {ts : List Table} (k : String) (h : ∀ t ∈ ts, ∃ n, t.Rect n) :
    (ts.flatMap fun t => t.getCol k).length = (ts.map Table.nrows).sum := by
  induction ts with
  | nil => rfl
  | cons t ts ih =>
    obtain ⟨n, hn⟩ := h t List.mem_cons_self
    simp only [List.flatMap_cons, List.length_append, List.map_cons, List.sum_cons]
    rw [getCol_length k hn, ih (fun t' ht' => h t' (List.mem_cons_of_mem _ ht'))]

theorem concat_rect {ts : List Table} (h : ∀ t ∈ ts, ∃ n, t.Rect n) :
    (concat ts).Rect ((ts.map Table.nrows).sum) := by
  intro c hc
  unfold concat at hc
  obtain ⟨k, _, rfl⟩ := List.mem_map.1 hc
  exact flatMap_getCol_length k h

theorem construct_rect {data : Data} {columns : Option (List String)} {kwargs : List (String × ColVal)}
    {t : Table} (h : construct data columns kwargs = some (.ok t)) : ∃ n, t.Rect n := by
  obtain ⟨_, _, hf⟩ := construct_ok h
  exact finish_ok_rect hf

/-- what a property of tables has to survive to hold of every table an operation of the history machine
stores (`Op.effect_keeps`): every other operation changes a table through these only (masks and index lists through
`gatherRows`: `getMask_ok`, `getTake_ok`) -/
structure Closed (P : Table → Prop) : Prop where
  nil : P []
  construct : ∀ {data : Data} {columns : Option (List String)} {kwargs : List (String × ColVal)} {t : Table},
    Pyg.construct data columns kwargs = some (.ok t) → P t
  setitem : ∀ {t t' : Table} {k : String} {v : ColVal}, P t → t.setitem k v = .ok t' → P t'
  erase : ∀ {t : Table} (k : String), P t → P (t.erase k)
  getSlice : ∀ {t t' : Table} {a b s : Option Int}, P t → t.getSlice a b s = .ok t' → P t'
  gatherRows : ∀ {t : Table} (idx : List Nat), P t → P (t.gatherRows idx)
  getProj : ∀ {t t' : Table} {ks : List String}, P t → t.getProj ks = .ok t' → P t'
  relabel : ∀ {t : Table} (r : Relabel), P t → P (t.relabel r)
  concat : ∀ {ts : List Table}, (∀ t ∈ ts, P t) → P (Table.concat ts)

theorem closed_rect : Closed fun t => ∃ n, t.Rect n where
  nil := ⟨0, rect_nil 0⟩
  construct := construct_rect
  setitem := setitem_keeps_rect
  erase := fun k ⟨n, hn⟩ => ⟨n, erase_rect k hn⟩
  getSlice := fun ⟨_, hn⟩ hs => ⟨_, getSlice_rect hn hs⟩
  gatherRows := fun idx _ => ⟨_, gatherRows_rect _ idx⟩
  getProj := fun ⟨_, hn⟩ hs => getProj_rect hn hs
  relabel := fun r ⟨n, hn⟩ => ⟨n, relabel_rect r hn⟩
  concat := fun h => ⟨_, concat_rect h⟩

end Table

def HeapRect (s : Heap) : Prop := ∀ t ∈ s, ∃ n, t.Rect n

theorem HeapRect.nil : HeapRect [] := by intro t ht; cases ht

theorem HeapRect.get {s : Heap} (hs : HeapRect s) {h : Nat} {t : Table} (ht : s[h]? = some t) :
    ∃ n, t.Rect n := hs t (List.mem_of_getElem? ht)

theorem Heap.query_fst (s : Heap) (r : Except Err Val) : (s.query r).1 = s := by
  unfold Heap.query; split <;> rfl

theorem Heap.bind_err (s : Heap) (d : Nat) (r : Except Err Table) (e : Err) (h : (s.bind d r).2 = .err e) :
    (s.bind d r).1 = s := by
  cases r with
  | ok t => cases h
  | error e' => rfl

/-- the handles whose tables an operation reads -/
def Op.reads : Op → List Nat
  | .new .. => []
  | .concat _ hs => hs
  | .setitem h .. | .delitem h .. | .update h .. | .len h | .shape h | .row h .. | .col h .. | .iter h
  | .tup h .. | .apply h .. | .addnone h | .slice _ h .. | .mask _ h .. | .take _ h .. | .proj _ h ..
  | .call _ h .. | .relabel _ h .. | .doo _ h .. | .addrec _ h .. | .copy _ h => [h]

/-- what an operation does to a heap: nothing (three kinds of answer), an assignment to a live handle
(`update` may assign and raise), or the binding of its destination -/
inductive Effect where
  | bad
  | alias (h : Nat)
  | query (r : Except Err Val)
  | assign (h : Nat) (t : Table) (e : Option Err)
  | bind (d : Nat) (r : Except Err Table)

def Effect.run (s : Heap) : Effect → Heap × Out
  | .bad => (s, .badHandle)
  | .alias h => (s, .alias h)
  | .query r => s.query r
  | .assign h t e => (s.set h t, match e with | Option.none => .unit | some e => .err e)
  | .bind d r => s.bind d r

/-- the handle an operation writes: its destination, or the table it assigns to; queries write nothing -/
def Op.writes : Op → Option Nat
  | .new d .. | .slice d .. | .mask d .. | .take d .. | .proj d .. | .call d .. | .relabel d ..
  | .doo d .. | .concat d .. | .addrec d .. | .copy d .. => some d
  | .setitem h .. | .delitem h .. | .update h .. => some h
  | .len .. | .shape .. | .row .. | .col .. | .iter .. | .tup .. | .apply .. | .addnone .. => Option.none

def Effect.writes : Effect → Option Nat
  | .assign h .. => some h
  | .bind d _ => some d
  | _ => Option.none

/-- the effect of an operation on the tables `ts` its handles read (`t`: the single operand) -/
def Op.effect (op : Op) (ts : List Table) : Effect :=
  let t := ts.headD []
  match op with
  | .new dst data columns kwargs =>
      match construct data columns kwargs with
      | some r => .bind dst r
      | Option.none => .bad
  | .setitem h k v =>
      match t.setitem k v with
      | .ok t' => .assign h t' Option.none
      | .error e => .query (.error e)
  | .delitem h k =>
      match t.delitem k with
      | .ok t' => .assign h t' Option.none
      | .error e => .query (.error e)
  | .update h kvs => .assign h (t.update kvs).1 (t.update kvs).2
  | .len _ => .query (t.len.map natVal)
  | .shape _ => .query (t.len.map fun n => .tuple [natVal n, natVal t.length])
  | .row _ i => .query ((t.getRow i).map recVal)
  | .col _ k => .query ((t.getColE k).map cellsVal)
  | .iter _ => .query (.ok (.list (t.iter.map recVal)))
  | .tup _ ks => .query ((t.getTuple ks).map fun rs => .list (rs.map fun r => .tuple (r.map .cell)))
  | .apply _ f => .query ((t.applyFn f).map cellsVal)
  | .slice dst _ a b st => .bind dst (t.getSlice a b st)
  | .mask dst _ m => .bind dst (t.getMaskC m)
  | .take dst _ is => .bind dst (t.getTake is)
  | .proj dst _ ks => .bind dst (t.getProj ks)
  | .call dst _ consts fns => .bind dst (t.call consts fns)
  | .relabel dst _ r => .bind dst (.ok (t.relabel r))
  | .doo dst _ f keys => .bind dst (t.doCols f keys)
  | .concat dst [] => .bind dst (.ok [])
  | .concat _ [h] => .alias h
  | .concat dst _ => .bind dst (.ok (Table.concat ts))
  | .addrec dst _ r =>
      match construct (.cols (r.map fun kv => (kv.1, .one kv.2))) Option.none [] with
      | some (.ok t2) => .bind dst (.ok (Table.concat [t, t2]))
      | some (.error e) => .query (.error e)
      | Option.none => .bad
  | .addnone h => .alias h
  | .copy dst _ => .bind dst (.ok t)

theorem mapM_getElem?_singleton (s : Heap) (h : Nat) :
    [h].mapM (fun h => s[h]?) = s[h]?.map fun t => [t] := by
  cases hs : s[h]? <;> simp [hs]

theorem step_eq (s : Heap) (op : Op) :
    step s op = match op.reads.mapM (fun h => s[h]?) with
      | Option.none => (s, .badHandle)
      | some ts => (op.effect ts).run s := by
  -- an operation on one handle: `step` and the effect agree table by table
  have unary : ∀ h (f : Table → Heap × Out), op.reads = [h] →
      (step s op = match s[h]? with
        | some t => f t
        | Option.none => (s, .badHandle)) →
      (∀ t, f t = (op.effect [t]).run s) →
      step s op = match op.reads.mapM (fun h => s[h]?) with
        | Option.none => (s, .badHandle)
        | some ts => (op.effect ts).run s := by
    intro h f hr he hf
    rw [he, hr, mapM_getElem?_singleton]
    cases s[h]? with
    | none => rfl
    | some t => exact hf t
  cases op with
  | new dst data columns kwargs =>
    simp only [step, Op.reads, Op.effect, List.mapM_nil]
    cases construct data columns kwargs <;> rfl
  | setitem h k v =>
    refine unary h _ rfl rfl fun t => ?_
    dsimp only [Op.effect, List.headD_cons]
    cases t.setitem k v <;> rfl
  | delitem h k =>
    refine unary h _ rfl rfl fun t => ?_
    dsimp only [Op.effect, List.headD_cons]
    cases t.delitem k <;> rfl
  | update h kvs =>
    refine unary h _ rfl rfl fun t => ?_
    dsimp only [Op.effect, List.headD_cons]
    rcases t.update kvs with ⟨t', _ | e⟩ <;> rfl
  | concat dst hs =>
    simp only [step, Op.reads]
    match hs with
    | [] => rfl
    | [h] =>
      simp only [mapM_getElem?_singleton]
      cases s[h]? <;> rfl
    | h1 :: h2 :: hs =>
      simp only [List.mapM_cons]
      cases s[h1]? with
      | none => rfl
      | some t1 =>
        cases s[h2]? with
        | none => rfl
        | some t2 => cases hs.mapM (fun h => s[h]?) <;> rfl
  | addrec dst h r =>
    simp only [step, Op.reads, mapM_getElem?_singleton]
    cases s[h]? with
    | none => rfl
    | some t =>
      simp only [Option.map_some, Op.effect, List.headD_cons]
      generalize construct (Data.cols _) Option.none [] = c
      rcases c with _ | _ | _ <;> rfl
  | len h | shape h | row h _ | col h _ | iter h | tup h _ | apply h _ | addnone h | slice _ h _ _ _ | mask _ h _
  | take _ h _ | proj _ h _ | call _ h _ _ | relabel _ h _ | doo _ h _ _ | copy _ h => exact unary h _ rfl rfl fun _ => rfl

theorem mem_of_mapM_getElem? {s : Heap} (hs : List Nat) (ts : List Table) (h : hs.mapM (fun h => s[h]?) = some ts) :
    ∀ t ∈ ts, t ∈ s := by
  intro t ht
  have := List.mem_map_of_mem (f := some) ht
  rw [← List.mapM_eq_some_iff_map.1 h] at this
  obtain ⟨i, _, hi⟩ := List.mem_map.1 this
  exact List.mem_of_getElem? hi

theorem step_of_reads_none {s : Heap} {op : Op} (h : op.reads.mapM (fun h => s[h]?) = Option.none) :
    step s op = (s, .badHandle) := by
  rw [step_eq, h]

theorem step_of_reads {s : Heap} {op : Op} {ts : List Table} (h : op.reads.mapM (fun h => s[h]?) = some ts) :
    step s op = (op.effect ts).run s := by
  rw [step_eq, h]

theorem Op.effect_cases (o : Op) (ts : List Table) :
    match o.effect ts with
    | .bad | .query _ => True
    | .alias h => o.aliasOf = some h
    | .assign h _ e => o.writes = some h ∧ o.inplace? = some h ∧ o.dst? = Option.none ∧ ∀ e', e = some e' → ∃ kvs, o = .update h kvs
    | .bind d _ => o.writes = some d ∧ o.dst? = some d := by
  cases o with
  | new dst data columns kwargs =>
    simp only [Op.effect]
    cases construct data columns kwargs with
    | none => trivial
    | some r => exact ⟨rfl, rfl⟩
  | setitem h k v =>
    simp only [Op.effect]
    cases (ts.headD []).setitem k v with
    | error e => trivial
    | ok t' => exact ⟨rfl, rfl, rfl, fun _ h => nomatch h⟩
  | delitem h k =>
    simp only [Op.effect]
    cases (ts.headD []).delitem k with
    | error e => trivial
    | ok t' => exact ⟨rfl, rfl, rfl, fun _ h => nomatch h⟩
  | update h kvs => exact ⟨rfl, rfl, rfl, fun _ _ => ⟨kvs, rfl⟩⟩
  | concat dst hs =>
    match hs with
    | [] => exact ⟨rfl, rfl⟩
    | [h] => exact rfl
    | _ :: _ :: _ => exact ⟨rfl, rfl⟩
  | addrec dst h r =>
    simp only [Op.effect]
    generalize construct (Data.cols _) Option.none [] = c
    rcases c with _ | _ | _
    · trivial
    · trivial
    · exact ⟨rfl, rfl⟩
  | addnone h => exact rfl
  | len h | shape h | row h _ | col h _ | iter h | tup h _ | apply h _ => trivial
  | slice _ h _ _ _ | mask _ h _ | take _ h _ | proj _ h _ | call _ h _ _ | relabel _ h _ | doo _ h _ _ | copy _ h =>
    exact ⟨rfl, rfl⟩

theorem Op.effect_alias {o : Op} {ts : List Table} {h : Nat} (he : o.effect ts = .alias h) : o.aliasOf = some h := by
  have := o.effect_cases ts
  rw [he] at this
  exact this

theorem Op.effect_assign {o : Op} {ts : List Table} {h : Nat} {t : Table} {e : Option Err}
    (he : o.effect ts = .assign h t e) :
    o.writes = some h ∧ o.inplace? = some h ∧ o.dst? = Option.none ∧ ∀ e', e = some e' → ∃ kvs, o = .update h kvs := by
  have := o.effect_cases ts
  rw [he] at this
  exact this

theorem Op.effect_bind {o : Op} {ts : List Table} {d : Nat} {r : Except Err Table} (he : o.effect ts = .bind d r) :
    o.writes = some d ∧ o.dst? = some d := by
  have := o.effect_cases ts
  rw [he] at this
  exact this

theorem Op.effect_writes {o : Op} {ts : List Table} {i : Nat} (h : (o.effect ts).writes = some i) :
    o.writes = some i := by
  cases he : o.effect ts with
  | assign h' t e => rw [he] at h; exact (Op.effect_assign he).1.trans h
  | bind d r => rw [he] at h; exact (Op.effect_bind he).1.trans h
  | bad | alias _ | query _ => rw [he] at h; cases h

def Effect.table? : Effect → Option Table
  | .assign _ t _ => some t
  | .bind _ (.ok t) => some t
  | _ => Option.none

theorem Effect.table?_bind {d : Nat} {r : Except Err Table} {t : Table} :
    (Effect.bind d r).table? = some t ↔ r = .ok t := by
  cases r with
  | ok t' => exact ⟨fun h => congrArg Except.ok (Option.some.inj h), fun h => congrArg some (Except.ok.inj h)⟩
  | error e => exact ⟨fun h => (nomatch h), fun h => (nomatch h)⟩

theorem Effect.run_heapStep (s : Heap) (eff : Effect) :
    HeapStep (eff.table? = some ·) (fun _ t => eff.table? = some t) s eff.writes (eff.run s).1 := by
  cases eff with
  | bad => exact .same
  | alias h => exact .same
  | query r => rw [Effect.run, Heap.query_fst]; exact .same
  | assign h t e => exact .set s h t fun _ => rfl
  | bind d r =>
    cases r with
    | error e => exact .same
    | ok t => exact .put s d t rfl fun _ => rfl

theorem Op.effect_keeps {P : Table → Prop} (hP : Table.Closed P) (op : Op) (ts : List Table) (h : ∀ t ∈ ts, P t) :
    ∀ t', (op.effect ts).table? = some t' → P t' := by
  open Table in
  have hn : P (ts.headD []) := by
    cases ts with
    | nil => exact hP.nil
    | cons t _ => exact h t List.mem_cons_self
  intro t' ht'
  cases op with
  | new dst data columns kwargs =>
    simp only [Op.effect] at ht'
    split at ht'
    · rename_i r hr
      exact hP.construct (hr.trans (congrArg some (Effect.table?_bind.1 ht')))
    · cases ht'
  | setitem h k v =>
    simp only [Op.effect] at ht'
    split at ht'
    · rename_i t1 h1
      cases ht'
      exact hP.setitem hn h1
    · cases ht'
  | delitem h k =>
    simp only [Op.effect] at ht'
    split at ht'
    · rename_i t1 h1
      cases ht'
      exact delitem_ok h1 ▸ hP.erase k hn
    · cases ht'
  | update h kvs => cases ht'; exact update_keeps hP.setitem kvs hn
  | slice dst _ a b st => exact hP.getSlice hn (Effect.table?_bind.1 ht')
  | mask dst _ m =>
    obtain ⟨idx, _, rfl⟩ := getMask_ok (getMaskC_ok (Effect.table?_bind.1 ht'))
    exact hP.gatherRows idx hn
  | take dst _ is => exact (getTake_ok (Effect.table?_bind.1 ht')).2 ▸ hP.gatherRows _ hn
  | proj dst _ ks => exact hP.getProj hn (Effect.table?_bind.1 ht')
  | call dst _ consts fns => exact call_keeps hP.setitem hn (Effect.table?_bind.1 ht')
  | relabel dst _ r => cases Effect.table?_bind.1 ht'; exact hP.relabel r hn
  | doo dst _ f keys => exact doKeys_keeps hP.setitem _ hn (Effect.table?_bind.1 ht')
  | concat dst hs =>
    match hs with
    | [] => cases Effect.table?_bind.1 ht'; exact hP.nil
    | [_] => cases ht'
    | _ :: _ :: _ => cases Effect.table?_bind.1 ht'; exact hP.concat h
  | addrec dst _ r =>
    simp only [Op.effect] at ht'
    split at ht'
    · rename_i t2 h2
      cases Effect.table?_bind.1 ht'
      exact hP.concat (List.forall_mem_pair hn (hP.construct h2))
    · cases ht'
    · cases ht'
  | copy dst _ => cases Effect.table?_bind.1 ht'; exact hn
  | len _ | shape _ | row _ _ | col _ _ | iter _ | tup _ _ | apply _ _ | addnone _ => cases ht'

theorem step_forall {P : Table → Prop} (hP : Table.Closed P) (s : Heap) (op : Op) (hs : ∀ t ∈ s, P t) :
    ∀ t ∈ (step s op).1, P t := by
  cases hm : op.reads.mapM fun h => s[h]? with
  | none => rw [step_of_reads_none hm]; exact hs
  | some ts =>
    rw [step_of_reads hm]
    have hk := Op.effect_keeps hP op ts fun t ht => hs t (mem_of_mapM_getElem? _ _ hm t ht)
    exact (Effect.run_heapStep s _).forall_mem hs hk fun _ t _ => hk t

theorem run_invariant {P : Heap → Prop} (hstep : ∀ s op, P s → P (step s op).1) (ops : List Op) (s : Heap)
    (hs : P s) : P (run s ops) := by
  induction ops generalizing s with
  | nil => exact hs
  | cons op ops ih => exact ih _ (hstep s op hs)

end Pyg
