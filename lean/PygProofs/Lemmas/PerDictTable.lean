/-
  C20: the table operations `join` is made of, in the row view (`Table.R : Rows`); the lemma the join proofs use of each is its
  `_sem` (`mul_sem`, `div_sem`, `setConsts_sem`, `concat2_sem`).
-/
import PygModel.PerDict
import PygProofs.Lemmas.JoinCols
import PygProofs.Lemmas.TableRows
import PygProofs.Lemmas.KeyedRows

namespace Pyg

/-- row `i` of a table as a function of the column name (`None` for a column the table lacks) -/
def Table.rowF (t : Table) (i : Nat) : Row := fun c => t.jcellAt c i

/-- the rows of a table -/
def Table.R (t : Table) : Rows := ⟨t.nrows, t.rowF⟩

@[simp] theorem Table.R_n (t : Table) : t.R.n = t.nrows := rfl

@[simp] theorem Table.R_row (t : Table) : t.R.row = t.rowF := rfl

/-- at least one column, all columns of the same length -/
def Table.WF (t : Table) : Prop := t ≠ [] ∧ t.Rect t.nrows

theorem Table.WF.of_rect {t : Table} {n : Nat} (hne : t ≠ []) (hr : t.Rect n) : t.WF ∧ t.nrows = n :=
  have hn := Table.nrows_of_rect hr hne
  ⟨⟨hne, hn ▸ hr⟩, hn⟩

/-- the key of row `i` as `join` compares it: the tuple of the `on` cells -/
def rowKey (t : Table) (on : List String) (i : Nat) : Val := .tuple (on.map fun c => .cell (t.jcellAt c i))

/-- some row of `t` has a key `cmp`-equal to `k` -/
def hasKey (t : Table) (on : List String) (k : Val) : Prop :=
  ∃ i, i < t.nrows ∧ cmp (rowKey t on i) k = .eq

theorem keyAt_keysOf_cols (t : Table) (on : List String) (i : Nat) (hi : i < t.nrows) :
    keyAt ((List.range t.nrows).map fun i => Val.tuple (on.map fun k => .cell (t.jcellAt k i))) i
      = rowKey t on i := by
  rw [keyAt_map _ _ (by rwa [List.length_range]), List.getElem_range]
  rfl

theorem rowKey_eq_keyCells (t : Table) (on : List String) (i : Nat) :
    rowKey t on i = .tuple ((t.keyCells on i).map .cell) := by
  rw [rowKey, Table.keyCells, List.map_map]
  rfl

theorem keyAt_rowKeys_eq (t : Table) (on : List String) {i : Nat} (hi : i < t.nrows) :
    keyAt (t.rowKeys on) i = rowKey t on i :=
  (keyAt_rowKeys hi).trans (rowKey_eq_keyCells t on i).symm

theorem toTable_cells (v : VTable) (h : ∀ c ∈ v, ∀ x ∈ c.2, ∃ y, x = Val.cell y) :
    v.toTable = some v.cells := by
  apply List.mapM_some_of_forall
  intro c hc
  have : c.2.mapM cellOfVal = some (c.2.map cellD) := by
    apply List.mapM_some_of_forall
    intro x hx
    obtain ⟨y, rfl⟩ := h c hc x hx
    rfl
  rw [this]
  rfl

theorem joinTableOf_shape (a b : Table) (on : List String) (kp : List (Val × Nat × Nat))
    (hsh : linter a.cols b.cols = on) :
    joinTableOf a b on .pair kp =
      (on.zipIdx.map fun c => (c.1, kp.map fun p => tupleGet c.2 p.1)) ++
      ((lminus a.cols on).map fun k => (k, kp.map fun p => Val.cell (a.jcellAt k p.2.1))) ++
      ((lminus b.cols on).map fun k => (k, kp.map fun p => Val.cell (b.jcellAt k p.2.2))) := by
  have hj0 : linter (lminus a.cols on) (lminus b.cols on) = [] := linter_eq_nil_iff.2 fun k hk hkb =>
    (mem_lminus_iff.1 hk).2 (hsh ▸ mem_linter_iff.2 ⟨(mem_lminus_iff.1 hk).1, (mem_lminus_iff.1 hkb).1⟩)
  have e : ∀ l : List String, lminus l [] = l := fun l => by simp [lminus]
  simp only [joinTableOf, hj0, e, List.map_nil, List.append_nil]

theorem joinTableOf_cells_are_cells (a b : Table) (on : List String) (kp : List (Val × Nat × Nat))
    (hsh : linter a.cols b.cols = on) (hk : ∀ p ∈ kp, ∃ cs : List Cell, p.1 = .tuple (cs.map .cell)) :
    ∀ c ∈ joinTableOf a b on .pair kp, ∀ x ∈ c.2, ∃ y, x = Val.cell y := by
  intro c hc x hx
  simp only [joinTableOf_shape a b on kp hsh, List.mem_append, List.mem_map] at hc
  rcases hc with (⟨y, _, rfl⟩ | ⟨y, _, rfl⟩) | ⟨y, _, rfl⟩ <;> obtain ⟨p, hp, rfl⟩ := List.mem_map.1 hx
  · obtain ⟨cs, he⟩ := hk p hp
    rw [he, tupleGet, getD_map_cell]
    exact ⟨_, rfl⟩
  · exact ⟨_, rfl⟩
  · exact ⟨_, rfl⟩

/-- what is known of `d = a * b`: `kp` lists (key, left row, right row) for the key-equal pairs, each once; row `p` of
`d` carries the key `kp[p].1`, `cmp`-equal to the keys of both rows it is built from, and otherwise the cells of those rows -/
structure MulRows (a b : Table) (on : List String) (d : Table) (kp : List (Val × Nat × Nat)) : Prop where
  ne : d ≠ []
  rect : d.Rect kp.length
  cols : d.cols = on ++ lminus a.cols on ++ lminus b.cols on
  key : ∀ p (hp : p < kp.length), rowKey d on p = kp[p].1
  pairs : kp.map (·.2) = joinPairs (a.rowKeys on) (b.rowKeys on)
  keys : ∀ p ∈ kp, cmp p.1 (rowKey a on p.2.1) = .eq ∧ cmp p.1 (rowKey b on p.2.2) = .eq
  left : ∀ c ∈ a.cols, c ∉ on → ∀ p (hp : p < kp.length), d.jcellAt c p = a.jcellAt c kp[p].2.1
  right : ∀ c ∈ b.cols, c ∉ on → ∀ p (hp : p < kp.length), d.jcellAt c p = b.jcellAt c kp[p].2.2

theorem mul_rows_full (a b : Table) (on : List String) (hon : on ≠ []) (hnd : on.Nodup)
    (hsh : linter a.cols b.cols = on) :
    ∃ (d : Table) (kp : List (Val × Nat × Nat)), a.mul b = some (.ok d) ∧ MulRows a b on d kp := by
  have hina : ∀ k ∈ on, k ∈ a.cols := fun k hk => (mem_linter_iff.1 (hsh ▸ hk)).1
  have hinb : ∀ k ∈ on, k ∈ b.cols := fun k hk => (mem_linter_iff.1 (hsh ▸ hk)).2
  have hj : join a b none none .pair = some (.ok (joinTableOf a b on .pair
      (keyedPairs (joinMatches (a.rowKeys on) (b.rowKeys on))))) := by
    rw [← join_eq_keyedPairs a b .pair rfl (joinColNames_named on on rfl) hnd hon (keysOf_named hina)
      (keysOf_named hinb), join_none, hsh]
  have hkeys := keyedPairs_keys (lk := a.rowKeys on) (rk := b.rowKeys on)
  have hpairs := keyedPairs_snd (joinMatches (a.rowKeys on) (b.rowKeys on))
  -- the key a row carries is the key of a row of `a` (the first of its group)
  have hrep : ∀ p ∈ keyedPairs (joinMatches (a.rowKeys on) (b.rowKeys on)),
      ∃ i, p.1 = .tuple ((a.keyCells on i).map .cell) := fun p hp => by
    have hm := keyedPairs_rep_mem p hp
    simp only [Table.rowKeys, List.mem_map, List.mem_range] at hm
    exact hm.imp fun i h => h.2.symm
  generalize keyedPairs (joinMatches (a.rowKeys on) (b.rowKeys on)) = kp at hj hrep hkeys hpairs
  have hcells := joinTableOf_cells_are_cells a b on kp hsh fun p hp =>
    (hrep p hp).elim fun i h => ⟨a.keyCells on i, h⟩
  have hcols : (joinTableOf a b on .pair kp).cells.cols = on ++ lminus a.cols on ++ lminus b.cols on := by
    simp [joinTableOf_shape a b on kp hsh, VTable.cells, Table.cols, List.zipIdx_map_fst, Function.comp_def]
  refine ⟨_, kp, by simp [Table.mul, hj, toTable_cells _ hcells], ?_, ?_, hcols, ?_, hpairs, ?_, ?_, ?_⟩
  · intro h
    have := congrArg List.length (h ▸ hcols)
    cases on with
    | nil => exact hon rfl
    | cons c cs => simp [Table.cols] at this
  · intro c hc
    obtain ⟨x, hx, rfl⟩ := List.mem_map.1 hc
    simpa using joinTableOf_rect a b on .pair kp x hx
  · intro p hp
    obtain ⟨i, he⟩ := hrep kp[p] (List.getElem_mem hp)
    rw [he, ← rowKey_eq_keyCells]
    refine congrArg Val.tuple (List.map_congr_left fun c hc => congrArg Val.cell ?_)
    obtain ⟨j, hj, rfl⟩ := List.getElem_of_mem hc
    rw [jcellAt_cells_joinTableOf_key a b .pair kp hnd hj hp, he, tupleGet, getD_map_cell, Table.keyCells,
      List.getD_eq_getElem?_getD, List.getElem?_map, List.getElem?_eq_getElem hj]
    rfl
  · intro p hp
    have := hkeys p hp
    have hij := (mem_joinPairs (i := p.2.1) (j := p.2.2)).1 (hpairs ▸ List.mem_map.2 ⟨p, hp, rfl⟩)
    rwa [keyAt_rowKeys_eq a on (rowKeys_length a on ▸ hij.1),
      keyAt_rowKeys_eq b on (rowKeys_length b on ▸ hij.2.1)] at this
  · exact fun c hca hcon p hp => jcellAt_cells_joinTableOf_left a b on .pair kp hca
      (fun h => hcon (hsh ▸ mem_linter_iff.2 ⟨hca, h⟩)) hcon hp
  · exact fun c hcb hcon p hp => jcellAt_cells_joinTableOf_right a b on .pair kp
      (fun h => hcon (hsh ▸ mem_linter_iff.2 ⟨h, hcb⟩)) hcb hcon hp

theorem mul_rows (a b d : Table) (on : List String) (hon : on ≠ []) (hnd : on.Nodup)
    (hsh : linter a.cols b.cols = on) (hd : a.mul b = some (.ok d)) :
    ∃ kp : List (Val × Nat × Nat),
      d.nrows = kp.length ∧
      (∀ p (hp : p < kp.length), rowKey d on p = kp[p].1) ∧
      (kp.map (·.2)).Perm ((allPairs a.nrows b.nrows).filter fun q =>
        cmp (rowKey a on q.1) (rowKey b on q.2) == .eq) ∧
      ∀ p ∈ kp, cmp p.1 (rowKey a on p.2.1) = .eq ∧ cmp p.1 (rowKey b on p.2.2) = .eq := by
  obtain ⟨d', kp, hm, h⟩ := mul_rows_full a b on hon hnd hsh
  obtain rfl : d' = d := by simpa [hm] using hd
  refine ⟨kp, Table.nrows_of_rect h.rect h.ne, h.key, ?_, h.keys⟩
  rw [h.pairs]
  have := joinPairs_perm (a.rowKeys on) (b.rowKeys on)
  simp only [rowKeys_length] at this
  refine this.trans (List.Perm.of_eq ?_)
  apply List.filter_congr
  rintro ⟨i, j⟩ hq
  have := mem_allPairs.1 hq
  simp only
  rw [keyAt_rowKeys_eq a on this.1, keyAt_rowKeys_eq b on this.2]

theorem cmp_rowKey_iff (a b : Table) (on : List String) (i j : Nat) :
    cmp (rowKey a on i) (rowKey b on j) = .eq ↔ keq on (a.rowF i) (b.rowF j) := by
  simp only [rowKey]
  rw [cmp_tuple, List.length_map, List.length_map, Nat.compare_eq_eq.2 rfl]
  exact lexArr_map_eq_eq_iff cmp _ _ on

/-- a statement "the result holds the keys all operands hold", proved for rows, read for `Val` keys -/
theorem hasKey_inter_of_hasK {r d : Table} {ds : List Table} {on : List String}
    (h : ∀ k : Row, r.R.hasK on k ↔ d.R.hasK on k ∧ ∀ t ∈ ds, t.R.hasK on k) (k : Val) :
    hasKey r on k ↔ hasKey d on k ∧ ∀ t ∈ ds, hasKey t on k := by
  have hc : ∀ {t x : Table} {i : Nat}, cmp (rowKey x on i) k = .eq → (hasKey t on k ↔ t.R.hasK on (x.rowF i)) :=
    fun {t x i} he => (exists_congr fun j => and_congr_right fun _ =>
      ⟨fun h => Std.TransCmp.eq_trans h (Std.OrientedCmp.eq_symm he), fun h => Std.TransCmp.eq_trans h he⟩).trans
        (exists_congr fun j => and_congr_right fun _ => cmp_rowKey_iff t x on j i)
  constructor
  · rintro ⟨p, hp, he⟩
    obtain ⟨h1, h2⟩ := (h (r.rowF p)).1 ⟨p, hp, keq_refl _ _⟩
    exact ⟨(hc he).2 h1, fun t ht => (hc he).2 (h2 t ht)⟩
  · rintro ⟨⟨i, hi, he⟩, h2⟩
    exact (hc he).2 ((h (d.rowF i)).2 ⟨⟨i, hi, keq_refl _ _⟩, fun t ht => (hc he).1 (h2 t ht)⟩)

theorem keq_mem_congr {on on' : List String} (h : ∀ c, c ∈ on' ↔ c ∈ on) (r r' : Row) :
    keq on' r r' ↔ keq on r r' :=
  ⟨fun hk c hc => hk c ((h c).2 hc), fun hk c hc => hk c ((h c).1 hc)⟩

/-- the columns `a` and `b` have in common are exactly `on` -/
def Shares (on : List String) (a b : Table) : Prop := ∀ c, (c ∈ a.cols ∧ c ∈ b.cols) ↔ c ∈ on

theorem Shares.linter {on : List String} {a b : Table} (h : Shares on a b) :
    ∀ c, c ∈ linter a.cols b.cols ↔ c ∈ on := fun c => by rw [mem_linter_iff]; exact h c

theorem Shares.symm {on : List String} {a b : Table} (h : Shares on a b) : Shares on b a :=
  fun c => by rw [and_comm]; exact h c

theorem linter_ne_nil {on : List String} {a b : Table} (hon : on ≠ []) (h : Shares on a b) :
    linter a.cols b.cols ≠ [] := by
  obtain ⟨c, hc⟩ := List.exists_mem_of_ne_nil _ hon
  exact List.ne_nil_of_mem ((h.linter c).2 hc)

/-- the key columns occur once each among the columns of `t` (a python dict cannot hold a key twice;
with a repeated key column `a * b` takes the `joinDup` branch of the join model, outside these proofs) -/
def OnNodup (on : List String) (t : Table) : Prop := (t.cols.filter fun c => on.contains c).Nodup

theorem filter_on_eq_self {on l : List String} (h : ∀ c ∈ l, c ∈ on) :
    l.filter (fun c => on.contains c) = l :=
  List.filter_eq_self.2 fun c hc => by simpa using h c hc

theorem filter_on_eq_nil {on l : List String} (h : ∀ c ∈ l, c ∉ on) :
    l.filter (fun c => on.contains c) = [] :=
  List.filter_eq_nil_iff.2 fun c hc => by simpa using h c hc

theorem linter_nodup {on : List String} {a b : Table} (hsh : Shares on a b) (hnd : OnNodup on a) :
    (linter a.cols b.cols).Nodup := by
  have e : linter a.cols b.cols = a.cols.filter (fun c => on.contains c) := by
    simp only [linter]
    apply List.filter_congr
    intro c hc
    by_cases hb : c ∈ b.cols
    · have : c ∈ on := (hsh c).1 ⟨hc, hb⟩
      simp [hb, this]
    · have : c ∉ on := fun ho => hb ((hsh c).2 ho).2
      simp [hb, this]
  rw [e]
  exact hnd

/-- `d` is a join of `a` and `b`: rectangular, with the columns of both, each key column once -/
structure JoinOf (on : List String) (a b d : Table) : Prop where
  wf : d.WF
  cols : ∀ c, c ∈ d.cols ↔ c ∈ a.cols ∨ c ∈ b.cols
  on_nodup : OnNodup on d

/-- `a * b` returns the inner part of a `JStep`: `kp` lists the key-equal pairs of rows, each once,
and row `p` of the product joins the pair `kp[p]` -/
theorem mul_sem (on : List String) (hon : on ≠ []) (a b : Table) (hsh : Shares on a b)
    (hnd : OnNodup on a) :
    ∃ (d : Table) (kp : List (Nat × Nat)), a.mul b = some (.ok d) ∧
      (∀ da db, RowsFrom on a.cols b.cols a.R b.R da db d.R (kp.map fun ij => (some ij.1, some ij.2))) ∧
      (∀ i j, (i, j) ∈ kp ↔ i < a.nrows ∧ j < b.nrows ∧ keq on (a.rowF i) (b.rowF j)) ∧
      JoinOf on a b d := by
  have hmem := hsh.linter
  obtain ⟨d, kp, hm, h⟩ :=
    mul_rows_full a b (linter a.cols b.cols) (linter_ne_nil hon hsh) (linter_nodup hsh hnd) rfl
  obtain ⟨hw, hn⟩ := Table.WF.of_rect h.ne h.rect
  have hond : OnNodup on d := by
    simp only [OnNodup, h.cols, List.filter_append]
    have e2 : ∀ x : Table,
        (lminus x.cols (linter a.cols b.cols)).filter (fun c => on.contains c) = [] := fun x =>
      filter_on_eq_nil fun c hc ho => (mem_lminus_iff.1 hc).2 ((hmem c).2 ho)
    rw [filter_on_eq_self fun c hc => (hmem c).1 hc, e2 a, e2 b, List.append_nil, List.append_nil]
    exact linter_nodup hsh hnd
  have hkm : ∀ i j, (i, j) ∈ kp.map (·.2) ↔ i < a.nrows ∧ j < b.nrows ∧ keq on (a.rowF i) (b.rowF j) := by
    intro i j
    rw [h.pairs, mem_joinPairs, rowKeys_length, rowKeys_length]
    refine and_congr_right fun hi => and_congr_right fun hj => ?_
    rw [keyAt_rowKeys_eq a _ hi, keyAt_rowKeys_eq b _ hj, cmp_rowKey_iff, keq_mem_congr hmem]
  refine ⟨d, kp.map (·.2), hm, fun da db => RowsFrom.inner (A := a.R) (B := b.R) (D := d.R) _ ?_ hkm ?_ ?_ da db,
    hkm, hw, ?_, hond⟩
  · rw [h.pairs]; exact joinPairs_nodup _ _
  · rw [Table.R_n, hn, List.length_map]
  · intro p hp
    have hp' : p < kp.length := by simpa using hp
    have hk := (h.keys kp[p] (List.getElem_mem hp')).1
    rw [← h.key p hp', cmp_rowKey_iff, keq_mem_congr hmem] at hk
    rw [List.getElem_map]
    exact ⟨hk, fun c hc hcon => h.left c hc (fun h => hcon ((hmem c).1 h)) p hp',
      fun c hc hcon => h.right c hc (fun h => hcon ((hmem c).1 h)) p hp'⟩
  · intro c
    rw [h.cols]
    simp only [List.mem_append, mem_lminus_iff]
    by_cases ho : c ∈ linter a.cols b.cols
    · simp only [ho, (mem_linter_iff.1 ho).1, true_or]
    · simp only [ho, false_or, not_false_eq_true, and_true]

theorem div_sem (on : List String) (hon : on ≠ []) (b a : Table) (hsh : Shares on b a) :
    ∃ ids : List Nat, b.div a = .ok (b.gatherRows ids) ∧ ids.Nodup ∧
      ∀ j, j ∈ ids ↔ j < b.nrows ∧ ∀ i, i < a.nrows → ¬ keq on (b.rowF j) (a.rowF i) := by
  have hmem := hsh.linter
  have hlk := keysOf_named (t := b) (names := linter b.cols a.cols) fun k hk => (mem_linter_iff.1 hk).1
  have hrk := keysOf_named (t := a) (names := linter b.cols a.cols) fun k hk => (mem_linter_iff.1 hk).2
  have hne : (linter b.cols a.cols).map KeySpec.col ≠ [] :=
    fun h => linter_ne_nil hon hsh (List.map_eq_nil_iff.1 h)
  refine ⟨xorIds 0 (b.rowKeys (linter b.cols a.cols)) (a.rowKeys (linter b.cols a.cols)), ?_,
    xorIds_nodup _ _, ?_⟩
  · exact xor_eq_gatherRows b a 0 rfl hne hlk hrk
  · intro j
    rw [mem_xorIds (keysOf_ne_none hlk), rowKeys_length, rowKeys_length]
    refine and_congr_right fun hj => forall_congr' fun i => imp_congr_right fun hi => ?_
    rw [keyAt_rowKeys_eq b _ hj, keyAt_rowKeys_eq a _ hi, ne_eq, cmp_rowKey_iff, keq_mem_congr hmem]

theorem getD_col_length {t : Table} (ht : t.Rect t.nrows) (c : String) :
    ((t.col? c).getD (List.replicate t.nrows .none)).length = t.nrows := by
  cases h : t.col? c with
  | none => simp
  | some xs => simpa using Table.col?_length ht h

theorem getD_col_get {t : Table} (c : String) (i : Nat) :
    (((t.col? c).getD (List.replicate t.nrows .none))[i]?).getD .none = t.jcellAt c i := by
  cases h : t.col? c with
  | none =>
    rw [jcellAt_of_col?_none h, Option.getD_none]
    by_cases hi : i < t.nrows <;> simp [hi]
  | some xs => rw [jcellAt_of_col? h, Option.getD_some, List.getD_eq_getElem?_getD]

theorem concat2_cols (a b : Table) :
    (a.concat2 b).cols = a.cols ++ b.cols.filter (fun k => !a.cols.contains k) :=
  (Table.cols_map _ _).trans (List.map_id' _)

theorem concat2_cell (a b : Table) (ha : a.Rect a.nrows) (c : String) (i : Nat) :
    (a.concat2 b).jcellAt c i =
      if i < a.nrows then a.jcellAt c i else b.jcellAt c (i - a.nrows) := by
  by_cases hc : c ∈ a.cols ++ b.cols.filter (fun k => !a.cols.contains k)
  · have hcol : (a.concat2 b).col? c = some
        ((a.col? c).getD (List.replicate a.nrows .none) ++
         (b.col? c).getD (List.replicate b.nrows .none)) :=
      Table.col?_map_keys _ _ c hc
    rw [jcellAt_of_col? hcol, List.getD_eq_getElem?_getD, List.getElem?_append, getD_col_length ha]
    split
    · exact getD_col_get c i
    · exact getD_col_get c (i - a.nrows)
  · have h1 : c ∉ (a.concat2 b).cols := by rw [concat2_cols]; exact hc
    have h2 : c ∉ a.cols := fun h => hc (List.mem_append.2 (.inl h))
    have h3 : c ∉ b.cols := by
      intro h
      apply hc
      exact List.mem_append.2 (.inr (List.mem_filter.2 ⟨h, by simpa using h2⟩))
    rw [jcellAt_not_mem h1, jcellAt_not_mem h2, jcellAt_not_mem h3]
    simp

theorem concat2_rect (a b : Table) (ha : a.Rect a.nrows) (hb : b.Rect b.nrows) :
    (a.concat2 b).Rect (a.nrows + b.nrows) := by
  intro c hc
  simp only [Table.concat2, List.mem_map] at hc
  obtain ⟨k, _, rfl⟩ := hc
  simp [getD_col_length ha, getD_col_length hb]

theorem concat2_ne_nil (a b : Table) (ha : a ≠ []) : a.concat2 b ≠ [] := fun h =>
  ha (List.map_eq_nil_iff.1
    (List.append_eq_nil_iff.1 ((concat2_cols a b).symm.trans (congrArg Table.cols h))).1)

theorem gatherRows_rowF (t : Table) (ids : List Nat) (j : Nat) (hj : j < ids.length) :
    (t.gatherRows ids).rowF j = t.rowF ids[j] := by
  funext c
  simp only [Table.rowF, Table.jcellAt, Table.col?_gatherRows]
  cases t.col? c with
  | none => simp
  | some xs => simp [List.getD_eq_getElem?_getD, hj]

theorem gatherRows_wf (t : Table) (ht : t ≠ []) (ids : List Nat) :
    (t.gatherRows ids).WF ∧ (t.gatherRows ids).nrows = ids.length :=
  Table.WF.of_rect (Table.gatherRows_ne_nil ht ids) (Table.gatherRows_rect t ids)

/-- a column of `t.map g`, when `g` turns exactly the columns named `c'` into columns named `c` and
applies `v` to their cells -/
theorem col?_map (t : Table) (g : String × List Cell → String × List Cell) (v : List Cell → List Cell)
    (c c' : String) (h : ∀ x ∈ t, ((g x).1 == c) = (x.1 == c') ∧ (x.1 = c' → (g x).2 = v x.2)) :
    Table.col? (t.map g) c = (t.col? c').map v := by
  induction t with
  | nil => rfl
  | cons x xs ih =>
    have hx := h x List.mem_cons_self
    have ih' := ih fun y hy => h y (List.mem_cons_of_mem _ hy)
    simp only [Table.col?, List.map_cons, List.find?_cons, hx.1] at ih' ⊢
    cases hxc : x.1 == c' with
    | true => simp [hx.2 (beq_iff_eq.1 hxc)]
    | false => exact ih'

theorem setCol_eq_setKey (t : Table) (k : String) (xs : List Cell) : t.setCol k xs = List.setKey t k xs := by
  unfold Table.setCol List.setKey
  rw [Table.contains_cols]
  rfl

theorem setCol_sem (t : Table) (k : String) (xs : List Cell) :
    (t.setCol k xs).col? k = some xs ∧ ∀ c, c ≠ k → (t.setCol k xs).col? c = t.col? c := by
  rw [Table.col?_eq_lookup, setCol_eq_setKey, List.lookup_setKey, if_pos rfl]
  refine ⟨rfl, fun c hc => ?_⟩
  rw [Table.col?_eq_lookup, Table.col?_eq_lookup, List.lookup_setKey, if_neg hc]

theorem setCol_cols (t : Table) (k : String) (xs : List Cell) :
    (t.setCol k xs).cols = if t.cols.contains k then t.cols else t.cols ++ [k] := by
  unfold Table.cols
  rw [setCol_eq_setKey, List.keys_setKey]
  simp only [List.contains_iff_mem]

theorem mem_setCol_cols (t : Table) (k : String) (xs : List Cell) (c : String) :
    c ∈ (t.setCol k xs).cols ↔ c ∈ t.cols ∨ c = k := by
  rw [setCol_cols]
  split
  · rename_i hk
    exact ⟨.inl, fun h => h.elim id fun he => he ▸ by simpa using hk⟩
  · simp

theorem setCol_wf (t : Table) (k : String) (xs : List Cell) (ht : t.WF) (hx : xs.length = t.nrows) :
    (t.setCol k xs).WF ∧ (t.setCol k xs).nrows = t.nrows := by
  rw [setCol_eq_setKey, ← Table.set_eq_setKey]
  exact Table.WF.of_rect (Table.set_ne_nil t k xs) (Table.set_rect ht.2 hx)

theorem setConst_of_ne {t : Table} (ht : t ≠ []) (k : String) (v : Cell) :
    t.setConst k v = t.setCol k (List.replicate t.nrows v) := by
  cases t with
  | nil => exact absurd rfl ht
  | cons c cs => rfl

theorem setConst_sem (t : Table) (k : String) (v : Cell) (ht : t ≠ []) :
    (t.setConst k v).col? k = some (List.replicate t.nrows v) ∧
    ∀ c, c ≠ k → (t.setConst k v).col? c = t.col? c :=
  setConst_of_ne ht k v ▸ setCol_sem t k _

theorem setConst_wf (t : Table) (ht : t.WF) (k : String) (v : Cell) :
    (t.setConst k v).WF ∧ (t.setConst k v).nrows = t.nrows :=
  setConst_of_ne ht.1 k v ▸ setCol_wf t k _ ht List.length_replicate

theorem setConst_cols (t : Table) (ht : t ≠ []) (k : String) (v : Cell) (c : String) :
    c ∈ (t.setConst k v).cols ↔ c ∈ t.cols ∨ c = k :=
  setConst_of_ne ht k v ▸ mem_setCol_cols t k _ c

theorem setConst_rowF (t : Table) (ht : t ≠ []) (k : String) (v : Cell) (i : Nat)
    (hi : i < t.nrows) : (t.setConst k v).rowF i = (t.rowF i).sets [(k, v)] := by
  funext c
  rw [Row.sets_single]
  obtain ⟨h1, h2⟩ := setConst_sem t k v ht
  by_cases hc : c = k
  · subst hc
    simp [Table.rowF, jcellAt_of_col? h1, List.getD_eq_getElem?_getD, hi]
  · rw [if_neg hc]
    exact jcellAt_congr (h2 c hc) i

theorem setConsts_sem (kvs : List (String × Cell)) : ∀ t : Table, t.WF →
    (t.setConsts kvs).WF ∧ (t.setConsts kvs).nrows = t.nrows ∧
    (∀ c, c ∈ (t.setConsts kvs).cols ↔ c ∈ t.cols ∨ ∃ kv ∈ kvs, kv.1 = c) ∧
    ∀ i, i < t.nrows → (t.setConsts kvs).rowF i = (t.rowF i).sets kvs := by
  induction kvs with
  | nil => intro t ht; exact ⟨ht, rfl, by simp [Table.setConsts], fun i _ => rfl⟩
  | cons kv kvs ih =>
    intro t ht
    obtain ⟨hw, hn⟩ := setConst_wf t ht kv.1 kv.2
    obtain ⟨i1, i2, i3, i4⟩ := ih (t.setConst kv.1 kv.2) hw
    have he : t.setConsts (kv :: kvs) = (t.setConst kv.1 kv.2).setConsts kvs := rfl
    rw [he]
    refine ⟨i1, i2.trans hn, ?_, ?_⟩
    · intro c
      rw [i3 c, setConst_cols t ht.1]
      simp only [List.mem_cons, exists_eq_or_imp]
      constructor
      · rintro ((h | h) | h)
        · exact .inl h
        · exact .inr (.inl h.symm)
        · exact .inr (.inr h)
      · rintro (h | h | h)
        · exact .inl (.inl h)
        · exact .inl (.inr h.symm)
        · exact .inr h
    · intro i hi
      rw [i4 i (hn ▸ hi), setConst_rowF t ht.1 _ _ i hi, ← Row.sets_append]
      rfl

theorem concat2_onNodup (on : List String) (D0 X : Table) (h : OnNodup on D0)
    (hon : ∀ c ∈ on, c ∈ D0.cols) : OnNodup on (D0.concat2 X) := by
  simp only [OnNodup, concat2_cols, List.filter_append]
  have : (X.cols.filter fun k => !D0.cols.contains k).filter (fun c => on.contains c) = [] :=
    filter_on_eq_nil fun c hc ho => by simpa [hon c ho] using (List.mem_filter.1 hc).2
  rw [this, List.append_nil]
  exact h

/-- `a + x`: the rows of `a`, then the rows of `x`; the columns of both -/
theorem concat2_sem (a x : Table) (ha : a.WF) (hx : x.Rect x.nrows) :
    (a.concat2 x).WF ∧ (a.concat2 x).nrows = a.nrows + x.nrows ∧
    (∀ p, p < a.nrows → (a.concat2 x).rowF p = a.rowF p) ∧
    (∀ q, (a.concat2 x).rowF (a.nrows + q) = x.rowF q) ∧
    (∀ c, c ∈ (a.concat2 x).cols ↔ c ∈ a.cols ∨ c ∈ x.cols) := by
  obtain ⟨xw, xn⟩ := Table.WF.of_rect (concat2_ne_nil a x ha.1) (concat2_rect a x ha.2 hx)
  refine ⟨xw, xn, fun p hp => funext fun c => ?_, fun q => funext fun c => ?_, fun c => ?_⟩
  · exact (concat2_cell a x ha.2 c p).trans (if_pos hp)
  · rw [Table.rowF, concat2_cell a x ha.2, if_neg (Nat.not_lt.2 (Nat.le_add_right _ _)), Nat.add_sub_cancel_left]
    rfl
  · rw [concat2_cols, List.mem_append, List.mem_filter]
    by_cases hc : c ∈ a.cols
    · exact ⟨fun _ => .inl hc, fun _ => .inl hc⟩
    · exact ⟨fun h => h.elim .inl fun h => .inr h.1, fun h => h.elim .inl fun h => .inr ⟨h, by simpa using hc⟩⟩

theorem select_ok (t : Table) (cs : List String) (h : ∀ k ∈ cs, k ∈ t.cols) :
    t.select cs = .ok (cs.map fun k => (k, (t.col? k).getD [])) := by
  apply List.mapM_ok_of_forall
  intro k hk
  obtain ⟨xs, hc⟩ := Table.col?_of_mem (h k hk)
  simp [hc]

theorem select_eq_ok_iff {t t' : Table} {cs : List String} :
    t.select cs = .ok t' ↔ (∀ k ∈ cs, k ∈ t.cols) ∧ t' = cs.map fun k => (k, (t.col? k).getD []) := by
  constructor
  · intro h
    have hc : ∀ k ∈ cs, k ∈ t.cols := fun k hk => by
      obtain ⟨y, hy⟩ := List.forall_ok_of_mapM h k hk
      cases hcol : t.col? k with
      | none => rw [hcol] at hy; cases hy
      | some xs => exact Table.mem_cols_of_col? hcol
    exact ⟨hc, Except.ok.inj (h.symm.trans (select_ok t cs hc))⟩
  · rintro ⟨hc, rfl⟩
    exact select_ok t cs hc

theorem select_cols (t t' : Table) (cs : List String) (h : t.select cs = .ok t') : t'.cols = cs := by
  rw [(select_eq_ok_iff.1 h).2]
  exact (Table.cols_map _ _).trans (List.map_id' _)

theorem select_cell (t t' : Table) (cs : List String) (h : t.select cs = .ok t') (k : String)
    (hk : k ∈ cs) (i : Nat) : t'.jcellAt k i = t.jcellAt k i := by
  rw [(select_eq_ok_iff.1 h).2, jcellAt_of_col? (Table.col?_map_keys cs (fun k => (t.col? k).getD []) k hk)]
  rfl

theorem select_wf (t t' : Table) (cs : List String) (ht : t.Rect t.nrows) (hcs : cs ≠ [])
    (h : t.select cs = .ok t') : t'.WF ∧ t'.nrows = t.nrows := by
  obtain ⟨h2, h1⟩ := select_eq_ok_iff.1 h
  refine Table.WF.of_rect ?_ ?_
  · rw [h1]
    cases cs with
    | nil => exact absurd rfl hcs
    | cons c cs => simp
  · rw [h1]
    intro c hc
    obtain ⟨k, hk, rfl⟩ := List.mem_map.1 hc
    obtain ⟨xs, hcol⟩ := Table.col?_of_mem (h2 k hk)
    simpa [hcol] using Table.col?_length ht hcol

theorem rename_cols (t : Table) (old new : String) :
    (t.rename old new).cols = t.cols.map fun c => if c == old then new else c := by
  rw [Table.rename, Table.cols_map, Table.cols, List.map_map]
  exact List.map_congr_left fun c _ => apply_ite Prod.fst _ _ _

theorem rename_self (t : Table) (k : String) : t.rename k k = t := by
  have h : ∀ c ∈ t, (if c.1 == k then (k, c.2) else c) = id c := fun c _ => by
    split
    · rename_i h; rw [← beq_iff_eq.1 h]; rfl
    · rfl
  rw [Table.rename, List.map_congr_left h, List.map_id]

theorem rename_col?_new (t : Table) (old new : String) (h : old = new ∨ new ∉ t.cols) :
    (t.rename old new).col? new = t.col? old := by
  rw [Table.rename, col?_map t _ id new old, Option.map_id_apply]
  intro x hx
  by_cases ho : x.1 = old
  · simp [ho]
  · have hn : x.1 ≠ new := h.elim (fun e => e ▸ ho) fun hn e =>
      hn (e ▸ List.mem_map.2 ⟨x, hx, rfl⟩)
    simp [ho, beq_false_of_ne hn]

theorem rename_col?_other (t : Table) (old new c : String) (h1 : c ≠ old) (h2 : c ≠ new) :
    (t.rename old new).col? c = t.col? c := by
  rw [Table.rename, col?_map t _ id c c, Option.map_id_apply]
  intro x _
  by_cases ho : x.1 = old
  · simp [ho, beq_false_of_ne (Ne.symm h1), beq_false_of_ne (Ne.symm h2)]
  · simp [ho]

theorem rename_rect (t : Table) (old new : String) (n : Nat) (h : t.Rect n) :
    (t.rename old new).Rect n := by
  intro c hc
  obtain ⟨x, hx, rfl⟩ := List.mem_map.1 hc
  split
  · exact h x hx
  · exact h x hx

theorem rename_nrows (t : Table) (old new : String) : (t.rename old new).nrows = t.nrows := by
  cases t with
  | nil => rfl
  | cons x xs =>
    simp only [Table.rename, List.map_cons, Table.nrows]
    split <;> rfl

end Pyg
