/-
  The heap model of C15 against the pure model: abstraction.  `Own sep H v r fp`: in heap `H` the
  reference `r` represents the pure tree `v`, the dict nodes used being `fp` (the footprint); with
  `sep = true` the representation is tree-shaped (no node is used twice: what `_tree_copy` produces and
  `_tree_setitem` maintains), with `sep = false` sharing between branches is allowed (the operands).
-/
import PygProofs.Lemmas.TreeHeapLemmas
import PygProofs.Lemmas.TreeMerge

namespace Pyg.TreeHeap
open Pyg Pyg.DA Pyg.Tree

mutual
  def Own (sep : Bool) (H : Heap) : Val → Ref → List Nat → Prop
    | .dict kvs, r, fp => ∃ a nd fps, r = .ptr a ∧ H[a]? = some nd ∧ fp = a :: fps ∧
        (sep = true → a ∉ fps) ∧ OwnKVs sep H kvs nd fps
    | .cell c, r, fp => r = .val (.cell c) ∧ fp = []
    | .list c, r, fp => r = .val (.list c) ∧ fp = []
    | .tuple c, r, fp => r = .val (.tuple c) ∧ fp = []
  def OwnKVs (sep : Bool) (H : Heap) : List (String × Val) → Node → List Nat → Prop
    | [], nd, fp => nd = [] ∧ fp = []
    | (k, v) :: kvs, nd, fp => ∃ r nd' fp1 fp2, nd = (k, r) :: nd' ∧ fp = fp1 ++ fp2 ∧
        Own sep H v r fp1 ∧ OwnKVs sep H kvs nd' fp2 ∧ (sep = true → ∀ x ∈ fp1, x ∉ fp2)
end

mutual
  def depth : Val → Nat
    | .dict kvs => depthKVs kvs + 1
    | _ => 0
  def depthKVs : List (String × Val) → Nat
    | [] => 0
    | (_, v) :: kvs => max (depth v) (depthKVs kvs)
end

theorem Own_dict {sep : Bool} {H : Heap} {kvs : List (String × Val)} {r : Ref} {fp : List Nat} :
    Own sep H (.dict kvs) r fp ↔ ∃ a nd fps, r = .ptr a ∧ H[a]? = some nd ∧ fp = a :: fps ∧
      (sep = true → a ∉ fps) ∧ OwnKVs sep H kvs nd fps := Iff.rfl

theorem OwnKVs_nil {sep : Bool} {H : Heap} {nd : Node} {fp : List Nat} : OwnKVs sep H [] nd fp ↔ nd = [] ∧ fp = [] :=
  Iff.rfl

theorem OwnKVs_cons {sep : Bool} {H : Heap} {k : String} {v : Val} {kvs : List (String × Val)} {nd : Node}
    {fp : List Nat} :
    OwnKVs sep H ((k, v) :: kvs) nd fp ↔ ∃ r nd' fp1 fp2, nd = (k, r) :: nd' ∧ fp = fp1 ++ fp2 ∧
      Own sep H v r fp1 ∧ OwnKVs sep H kvs nd' fp2 ∧ (sep = true → ∀ x ∈ fp1, x ∉ fp2) := Iff.rfl

theorem depthKVs_cons (k : String) (v : Val) (kvs : List (String × Val)) :
    depthKVs ((k, v) :: kvs) = max (depth v) (depthKVs kvs) := rfl

theorem depth_leaf (v : Val) (hv : ∀ s, v ≠ .dict s) : depth v = 0 := depth.eq_2 v hv

theorem Own_leaf {sep : Bool} {H : Heap} {v : Val} (hv : ∀ s, v ≠ .dict s) (r : Ref) (fp : List Nat) :
    Own sep H v r fp ↔ r = .val v ∧ fp = [] := by
  cases v with
  | dict s => exact absurd rfl (hv s)
  | _ => exact Iff.rfl

theorem Own_ptr_dict {sep : Bool} {H : Heap} {v : Val} {a : Nat} {fp : List Nat}
    (h : Own sep H v (.ptr a) fp) : ∃ s, v = .dict s := by
  cases v with
  | dict s => exact ⟨s, rfl⟩
  | _ => simp [Own] at h

theorem Own_val {sep : Bool} {H : Heap} {v w : Val} {fp : List Nat}
    (h : Own sep H v (.val w) fp) : v = w ∧ fp = [] ∧ ∀ s, v ≠ .dict s := by
  cases v with
  | dict s => simp [Own] at h
  | _ => simp only [Own, Ref.val.injEq] at h; exact ⟨h.1.symm, h.2, by intro s e; cases e⟩

theorem Own_OwnKVs_congr {sep : Bool} {H H' : Heap} :
    (∀ (v : Val) (r : Ref) (fp : List Nat), Own sep H v r fp → (∀ x ∈ fp, H'[x]? = H[x]?) → Own sep H' v r fp) ∧
    ∀ (kvs : List (String × Val)) (nd : Node) (fp : List Nat),
      OwnKVs sep H kvs nd fp → (∀ x ∈ fp, H'[x]? = H[x]?) → OwnKVs sep H' kvs nd fp := by
  refine Tree.induction (fun v hv r fp h _ => (Own_leaf hv r fp).2 ((Own_leaf hv r fp).1 h))
    (fun kvs ih r fp h hh => ?_) (fun _ _ h _ => h) (fun k v kvs ih1 ih2 nd fp h hh => ?_)
  · obtain ⟨a, nd, fps, rfl, ha, rfl, hs, hk⟩ := Own_dict.1 h
    exact Own_dict.2 ⟨a, nd, fps, rfl, (hh a List.mem_cons_self).trans ha, rfl, hs,
      ih nd fps hk fun x hx => hh x (List.mem_cons_of_mem _ hx)⟩
  · obtain ⟨r, nd', fp1, fp2, rfl, rfl, h1, h2, hd⟩ := OwnKVs_cons.1 h
    exact OwnKVs_cons.2 ⟨r, nd', fp1, fp2, rfl, rfl, ih1 r fp1 h1 fun x hx => hh x (List.mem_append_left _ hx),
      ih2 nd' fp2 h2 fun x hx => hh x (List.mem_append_right _ hx), hd⟩

theorem Own.congr {sep : Bool} {H H' : Heap} : ∀ (v : Val) (r : Ref) (fp : List Nat),
    Own sep H v r fp → (∀ x ∈ fp, H'[x]? = H[x]?) → Own sep H' v r fp :=
  Own_OwnKVs_congr.1

theorem OwnKVs.congr {sep : Bool} {H H' : Heap} : ∀ (kvs : List (String × Val)) (nd : Node) (fp : List Nat),
    OwnKVs sep H kvs nd fp → (∀ x ∈ fp, H'[x]? = H[x]?) → OwnKVs sep H' kvs nd fp :=
  Own_OwnKVs_congr.2

theorem Own_OwnKVs_lt {sep : Bool} {H : Heap} :
    (∀ (v : Val) (r : Ref) (fp : List Nat), Own sep H v r fp → ∀ x ∈ fp, x < H.length) ∧
    ∀ (kvs : List (String × Val)) (nd : Node) (fp : List Nat), OwnKVs sep H kvs nd fp → ∀ x ∈ fp, x < H.length := by
  refine Tree.induction (fun v hv r fp h x hx => ?_) (fun kvs ih r fp h x hx => ?_) (fun nd fp h x hx => ?_)
    (fun k v kvs ih1 ih2 nd fp h x hx => ?_)
  · rw [((Own_leaf hv r fp).1 h).2] at hx
    exact nomatch hx
  · obtain ⟨a, nd, fps, rfl, ha, rfl, _, hk⟩ := Own_dict.1 h
    rcases List.mem_cons.1 hx with rfl | hx
    · exact List.getElem?_some_lt ha
    · exact ih nd fps hk x hx
  · rw [(OwnKVs_nil.1 h).2] at hx
    exact nomatch hx
  · obtain ⟨r, nd', fp1, fp2, rfl, rfl, h1, h2, _⟩ := OwnKVs_cons.1 h
    rcases List.mem_append.1 hx with hx | hx
    · exact ih1 r fp1 h1 x hx
    · exact ih2 nd' fp2 h2 x hx

theorem Own.lt {sep : Bool} {H : Heap} : ∀ (v : Val) (r : Ref) (fp : List Nat),
    Own sep H v r fp → ∀ x ∈ fp, x < H.length :=
  Own_OwnKVs_lt.1

theorem OwnKVs.lt {sep : Bool} {H : Heap} : ∀ (kvs : List (String × Val)) (nd : Node) (fp : List Nat),
    OwnKVs sep H kvs nd fp → ∀ x ∈ fp, x < H.length :=
  Own_OwnKVs_lt.2

theorem Own_OwnKVs_weaken {H : Heap} :
    (∀ (v : Val) (r : Ref) (fp : List Nat), Own true H v r fp → Own false H v r fp) ∧
    ∀ (kvs : List (String × Val)) (nd : Node) (fp : List Nat), OwnKVs true H kvs nd fp → OwnKVs false H kvs nd fp := by
  refine Tree.induction (fun v hv r fp h => (Own_leaf hv r fp).2 ((Own_leaf hv r fp).1 h))
    (fun kvs ih r fp h => ?_) (fun _ _ h => h) (fun k v kvs ih1 ih2 nd fp h => ?_)
  · obtain ⟨a, nd, fps, rfl, ha, rfl, _, hk⟩ := Own_dict.1 h
    exact Own_dict.2 ⟨a, nd, fps, rfl, ha, rfl, (fun e => nomatch e), ih nd fps hk⟩
  · obtain ⟨r, nd', fp1, fp2, rfl, rfl, h1, h2, _⟩ := OwnKVs_cons.1 h
    exact OwnKVs_cons.2 ⟨r, nd', fp1, fp2, rfl, rfl, ih1 r fp1 h1, ih2 nd' fp2 h2, (fun e => nomatch e)⟩

theorem Own.weaken {H : Heap} : ∀ (v : Val) (r : Ref) (fp : List Nat), Own true H v r fp → Own false H v r fp :=
  Own_OwnKVs_weaken.1

theorem OwnKVs.weaken {H : Heap} : ∀ (kvs : List (String × Val)) (nd : Node) (fp : List Nat),
    OwnKVs true H kvs nd fp → OwnKVs false H kvs nd fp :=
  Own_OwnKVs_weaken.2

theorem OwnKVs.keys {sep : Bool} {H : Heap} : ∀ (kvs : List (String × Val)) (nd : Node) (fp : List Nat),
    OwnKVs sep H kvs nd fp → nd.map (·.1) = kvs.map (·.1)
  | [], _, _, h => by rw [OwnKVs_nil] at h; simp [h.1]
  | (k, v) :: kvs, nd, fp, h => by
      rw [OwnKVs_cons] at h
      obtain ⟨r, nd', fp1, fp2, rfl, rfl, _, h2, _⟩ := h
      simp [OwnKVs.keys kvs nd' fp2 h2]

theorem OwnKVs.single {sep : Bool} {H : Heap} (k : String) {v : Val} {r : Ref} {fp : List Nat}
    (h : Own sep H v r fp) : OwnKVs sep H [(k, v)] [(k, r)] fp :=
  OwnKVs_cons.2 ⟨r, [], fp, [], rfl, (List.append_nil fp).symm, h, OwnKVs_nil.2 ⟨rfl, rfl⟩, fun _ _ _ h => nomatch h⟩

theorem OwnKVs.append {sep : Bool} {H : Heap} : ∀ (k1 : List (String × Val)) (n1 : Node) (f1 : List Nat)
    (k2 : List (String × Val)) (n2 : Node) (f2 : List Nat),
    OwnKVs sep H k1 n1 f1 → OwnKVs sep H k2 n2 f2 → (∀ x ∈ f1, x ∉ f2) →
    OwnKVs sep H (k1 ++ k2) (n1 ++ n2) (f1 ++ f2)
  | [], _, _, k2, n2, f2, h1, h2, _ => by
      rw [OwnKVs_nil] at h1
      simpa [h1.1, h1.2] using h2
  | (k, v) :: k1, n1, f1, k2, n2, f2, h1, h2, hd => by
      rw [OwnKVs_cons] at h1
      obtain ⟨r, nd', fp1, fp2, rfl, rfl, ho, hk, hdis⟩ := h1
      refine OwnKVs_cons.2 ⟨r, nd' ++ n2, fp1, fp2 ++ f2, rfl, List.append_assoc .., ho,
        OwnKVs.append k1 nd' fp2 k2 n2 f2 hk h2 (fun x hx => hd x (by simp [hx])), ?_⟩
      intro hs x hx hm
      rcases List.mem_append.1 hm with hm | hm
      · exact hdis hs x hx hm
      · exact hd x (by simp [hx]) hm

theorem itemsH_itemsN_of_Own {sep : Bool} {H : Heap} :
    (∀ (v : Val) (r : Ref) (fp : List Nat) (f : Nat),
      Own sep H v r fp → depth v ≤ f → itemsH H f r = .ok (items v)) ∧
    ∀ (kvs : List (String × Val)) (nd : Node) (fp : List Nat) (f : Nat),
      OwnKVs sep H kvs nd fp → depthKVs kvs ≤ f → itemsN (itemsH H f) nd = .ok (itemsKVs kvs) := by
  refine Tree.induction (fun v hv r fp f h _ => ?_) (fun kvs ih r fp f h hd => ?_) (fun nd fp f h _ => ?_)
    (fun k v kvs ih1 ih2 nd fp f h hd => ?_)
  · rw [((Own_leaf hv r fp).1 h).1, itemsH_val, items_leaf v hv]
  · obtain ⟨a, nd, fps, rfl, ha, rfl, _, hk⟩ := Own_dict.1 h
    obtain ⟨f', rfl⟩ := Nat.exists_eq_add_one.2 (Nat.lt_of_lt_of_le (Nat.succ_pos _) hd)
    rw [itemsH_succ_ptr, ha]
    exact ih nd fps f' hk (Nat.le_of_succ_le_succ hd)
  · rw [(OwnKVs_nil.1 h).1]
    rfl
  · obtain ⟨r, nd', fp1, fp2, rfl, rfl, h1, h2, _⟩ := OwnKVs_cons.1 h
    rw [depthKVs_cons] at hd
    rw [itemsN_cons, ih1 r fp1 f h1 (Nat.le_trans (Nat.le_max_left _ _) hd),
      ih2 nd' fp2 f h2 (Nat.le_trans (Nat.le_max_right _ _) hd)]
    rfl

theorem itemsH_of_Own {sep : Bool} {H : Heap} : ∀ (v : Val) (r : Ref) (fp : List Nat) (f : Nat),
    Own sep H v r fp → depth v ≤ f → itemsH H f r = .ok (items v) :=
  itemsH_itemsN_of_Own.1

theorem itemsN_of_OwnKVs {sep : Bool} {H : Heap} : ∀ (kvs : List (String × Val)) (nd : Node) (fp : List Nat)
    (f : Nat), OwnKVs sep H kvs nd fp → depthKVs kvs ≤ f → itemsN (itemsH H f) nd = .ok (itemsKVs kvs) :=
  itemsH_itemsN_of_Own.2

theorem readH_readN_of_Own {sep : Bool} {H : Heap} :
    (∀ (v : Val) (r : Ref) (fp : List Nat) (f : Nat), Own sep H v r fp → depth v ≤ f → readH H f r = some v) ∧
    ∀ (kvs : List (String × Val)) (nd : Node) (fp : List Nat) (f : Nat),
      OwnKVs sep H kvs nd fp → depthKVs kvs ≤ f → readN (readH H f) nd = some kvs := by
  refine Tree.induction (fun v hv r fp f h _ => ?_) (fun kvs ih r fp f h hd => ?_) (fun nd fp f h _ => ?_)
    (fun k v kvs ih1 ih2 nd fp f h hd => ?_)
  · rw [((Own_leaf hv r fp).1 h).1, readH_val]
  · obtain ⟨a, nd, fps, rfl, ha, rfl, _, hk⟩ := Own_dict.1 h
    obtain ⟨f', rfl⟩ := Nat.exists_eq_add_one.2 (Nat.lt_of_lt_of_le (Nat.succ_pos _) hd)
    rw [readH_succ_ptr, ha]
    exact congrArg (Option.map Val.dict) (ih nd fps f' hk (Nat.le_of_succ_le_succ hd))
  · rw [(OwnKVs_nil.1 h).1]
    rfl
  · obtain ⟨r, nd', fp1, fp2, rfl, rfl, h1, h2, _⟩ := OwnKVs_cons.1 h
    rw [depthKVs_cons] at hd
    rw [readN_cons, ih1 r fp1 f h1 (Nat.le_trans (Nat.le_max_left _ _) hd),
      ih2 nd' fp2 f h2 (Nat.le_trans (Nat.le_max_right _ _) hd)]

theorem readH_of_Own {sep : Bool} {H : Heap} : ∀ (v : Val) (r : Ref) (fp : List Nat) (f : Nat),
    Own sep H v r fp → depth v ≤ f → readH H f r = some v :=
  readH_readN_of_Own.1

theorem readN_of_OwnKVs {sep : Bool} {H : Heap} : ∀ (kvs : List (String × Val)) (nd : Node) (fp : List Nat)
    (f : Nat), OwnKVs sep H kvs nd fp → depthKVs kvs ≤ f → readN (readH H f) nd = some kvs :=
  readH_readN_of_Own.2

/-- what is left of a branch when the entry at key `k` is taken out: any tree-shaped subtree whose
footprint avoids the other entries' footprint `fpo` can be put (back) at `k` -/
def Wand (H : Heap) (k : String) (kvs : List (String × Val)) (nd : Node) (fpo : List Nat) : Prop :=
  ∀ (H' : Heap) (r' : Ref) (v' : Val) (fpr' : List Nat), (∀ x ∈ fpo, H'[x]? = H[x]?) →
    Own true H' v' r' fpr' → (∀ x ∈ fpr', x ∉ fpo) →
    ∃ fps', OwnKVs true H' (DA.set k v' kvs) (DA.set k r' nd) fps' ∧ ∀ x ∈ fps', x ∈ fpr' ∨ x ∈ fpo

theorem OwnKVs.split {H : Heap} (k : String) : ∀ (kvs : List (String × Val)) (nd : Node) (fps : List Nat),
    OwnKVs true H kvs nd fps →
    ∃ fpo, (∀ x ∈ fpo, x ∈ fps) ∧ (lookup k nd = none → lookup k kvs = none) ∧
      (∀ r, lookup k nd = some r → ∃ v fpr, lookup k kvs = some v ∧ Own true H v r fpr ∧
        ∀ x ∈ fpr, x ∈ fps ∧ x ∉ fpo) ∧
      Wand H k kvs nd fpo
  | [], nd, fps, h => by
      obtain ⟨rfl, rfl⟩ := OwnKVs_nil.1 h
      exact ⟨[], (fun _ h => nomatch h), fun _ => rfl, (fun _ h => nomatch h),
        fun H' r' v' fpr' _ ho _ => ⟨fpr', OwnKVs.single k ho, fun x hx => Or.inl hx⟩⟩
  | (k0, v0) :: kvs, nd, fps, h => by
      obtain ⟨r0, nd', fp1, fp2, rfl, rfl, h1, h2, hd⟩ := OwnKVs_cons.1 h
      have hd := hd rfl
      by_cases e : k = k0
      · -- the entry at `k` is the head: the others are the tail, `fpo = fp2`
        subst e
        refine ⟨fp2, fun x hx => List.mem_append_right _ hx, (fun h => nomatch ((lookup_cons k k r0 nd').trans (if_pos rfl)).symm.trans h),
          fun r hr => ?_, fun H' r' v' fpr' hsame ho hdis => ?_⟩
        · cases ((lookup_cons k k r0 nd').trans (if_pos rfl)).symm.trans hr
          exact ⟨v0, fp1, (lookup_cons k k v0 kvs).trans (if_pos rfl), h1,
            fun x hx => ⟨List.mem_append_left _ hx, hd x hx⟩⟩
        · rw [set_cons, set_cons, if_pos rfl, if_pos rfl]
          exact ⟨fpr' ++ fp2, OwnKVs_cons.2 ⟨r', nd', fpr', fp2, rfl, rfl, ho, OwnKVs.congr kvs nd' fp2 h2 hsame,
            fun _ => hdis⟩, fun x hx => List.mem_append.1 hx⟩
      · -- the entry at `k`, if any, is in the tail: the head joins the others, `fpo = fp1 ++` the tail's
        obtain ⟨fpo, hsub, hnone, hsome, wand⟩ := OwnKVs.split k kvs nd' fp2 h2
        have hlk : ∀ {V} (w : V) (l : List (String × V)), lookup k ((k0, w) :: l) = lookup k l :=
          fun w l => (lookup_cons k k0 w l).trans (if_neg e)
        refine ⟨fp1 ++ fpo, fun x hx => (List.mem_append.1 hx).elim (List.mem_append_left _)
            fun h => List.mem_append_right _ (hsub x h), fun h => (hlk v0 kvs).trans (hnone ((hlk r0 nd').symm.trans h)),
          fun r hr => ?_, fun H' r' v' fpr' hsame ho hdis => ?_⟩
        · obtain ⟨v, fpr, hl, ho, hf⟩ := hsome r ((hlk r0 nd').symm.trans hr)
          exact ⟨v, fpr, (hlk v0 kvs).trans hl, ho, fun x hx => ⟨List.mem_append_right _ (hf x hx).1,
            fun hm => (List.mem_append.1 hm).elim (fun h => hd x h (hf x hx).1) (hf x hx).2⟩⟩
        · obtain ⟨fps2, hk2, hsub2⟩ := wand H' r' v' fpr' (fun x hx => hsame x (List.mem_append_right _ hx)) ho
            (fun x hx hm => hdis x hx (List.mem_append_right _ hm))
          rw [set_cons, set_cons, if_neg e, if_neg e]
          refine ⟨fp1 ++ fps2, OwnKVs_cons.2 ⟨r0, DA.set k r' nd', fp1, fps2, rfl, rfl,
            Own.congr v0 r0 fp1 h1 (fun x hx => hsame x (List.mem_append_left _ hx)), hk2, fun _ x hx hm => ?_⟩,
            fun x hx => ?_⟩
          · exact (hsub2 x hm).elim (fun h => hdis x h (List.mem_append_left _ hx)) fun h => hd x hx (hsub x h)
          · exact (List.mem_append.1 hx).elim (fun h => Or.inr (List.mem_append_left _ h))
              fun h => (hsub2 x h).imp_right (List.mem_append_right _)

theorem Own_put {m m' : Mem} {a : Nat} {k : String} {kvs : List (String × Val)} {nd : Node} {fps fpo fpr' : List Nat}
    {r' : Ref} {v' : Val} (ha : a < m.heap.length) (hs : a ∉ fps) (hlt : ∀ x ∈ fps, x < m.heap.length)
    (hsub : ∀ x ∈ fpo, x ∈ fps) (wand : Wand m.heap k kvs nd fpo)
    (c1 : m'.heap[a]? = some (DA.set k r' nd)) (c2 : Own true m'.heap v' r' fpr')
    (c3 : ∀ x ∈ fpr', (x ∈ fps ∧ x ∉ fpo) ∨ m.heap.length ≤ x)
    (c4 : ∀ x, x < m.heap.length → x ≠ a → (x ∈ fps → x ∈ fpo) → m'.heap[x]? = m.heap[x]?)
    (c5 : m.heap.length ≤ m'.heap.length) :
    ∃ fp', Own true m'.heap (.dict (DA.set k v' kvs)) (.ptr a) fp' ∧
      (∀ x ∈ fp', x ∈ a :: fps ∨ m.heap.length ≤ x) ∧
      (∀ x, x < m.heap.length → x ∉ a :: fps → m'.heap[x]? = m.heap[x]?) ∧
      m.heap.length ≤ m'.heap.length := by
  obtain ⟨fps', hk', hsub'⟩ := wand m'.heap r' v' fpr'
    (fun x hx => c4 x (hlt x (hsub x hx)) (fun e => hs (e ▸ hsub x hx)) fun _ => hx) c2
    (fun x hx hm => (c3 x hx).elim (fun h => h.2 hm) fun h => Nat.lt_irrefl x (Nat.lt_of_lt_of_le (hlt x (hsub x hm)) h))
  have hfps' : ∀ x ∈ fps', x ∈ fps ∨ m.heap.length ≤ x := fun x hx =>
    (hsub' x hx).elim (fun h => (c3 x h).imp_left And.left) fun h => Or.inl (hsub x h)
  refine ⟨a :: fps', Own_dict.2 ⟨a, _, fps', rfl, c1, rfl, fun _ hm => ?_, hk'⟩, fun x hx => ?_, fun x hxl hx => ?_, c5⟩
  · exact (hfps' a hm).elim hs fun h => Nat.lt_irrefl a (Nat.lt_of_lt_of_le ha h)
  · exact (List.mem_cons.1 hx).elim (fun e => Or.inl (e ▸ List.mem_cons_self)) fun h =>
      (hfps' x h).imp_left (List.mem_cons_of_mem _)
  · exact c4 x hxl (fun e => hx (e ▸ List.mem_cons_self)) fun h => absurd (List.mem_cons_of_mem _ h) hx

theorem setItemH_abs (v : Val) (hv : ∀ s, v ≠ .dict s) (ig : List Val) :
    ∀ (p : Path) (m : Mem) (a : Nat) (kvs : List (String × Val)) (fp : List Nat),
    Own true m.heap (.dict kvs) (.ptr a) fp →
    ∃ fp', Own true (setItemH m a p v ig).heap (.dict (setKVs kvs p v ig)) (.ptr a) fp' ∧
      (∀ x ∈ fp', x ∈ fp ∨ m.heap.length ≤ x) ∧
      (∀ x, x < m.heap.length → x ∉ fp → (setItemH m a p v ig).heap[x]? = m.heap[x]?) ∧
      m.heap.length ≤ (setItemH m a p v ig).heap.length := by
  intro p
  induction p with
  | nil => exact fun m a kvs fp h => ⟨fp, h, fun x hx => Or.inl hx, fun _ _ _ => rfl, Nat.le_refl _⟩
  | cons k rest ih =>
    intro m a kvs fp h
    obtain ⟨a', nd, fps, e, ha, rfl, hs, hk⟩ := Own_dict.1 h
    cases e
    have hs := hs rfl
    have halt : a < m.heap.length := List.getElem?_some_lt ha
    have hnode : node m a = nd := by rw [node, ha]; rfl
    have hlt := OwnKVs.lt kvs nd fps hk
    obtain ⟨fpo, hsub, hnone, hsome, wand⟩ := OwnKVs.split k kvs nd fps hk
    cases rest with
    | nil =>
      have hiso : (lookup k nd).isSome = (lookup k kvs).isSome :=
        Bool.eq_iff_iff.2 ((lookup_isSome_iff k nd).trans
          (OwnKVs.keys kvs nd fps hk ▸ (lookup_isSome_iff k kvs).symm))
      rw [setItemH_single, setKVs_single, hnode, hiso]
      split
      · exact ⟨a :: fps, h, fun x hx => Or.inl hx, fun _ _ _ => rfl, Nat.le_refl _⟩
      · refine Own_put halt hs hlt hsub wand ?_ ((Own_leaf hv _ _).2 ⟨rfl, rfl⟩) (fun _ h => nomatch h)
          (fun x _ hxa _ => store_get_ne m a k _ hxa) (Nat.le_of_eq (store_len m a k _).symm)
        rw [store_get_self, ha]
        rfl
    | cons k2 r2 =>
      rw [setItemH_deep, setKVs_deep, hnode]
      split
      · -- an existing branch: walk into it
        next b hl =>
        obtain ⟨v0, fpr, hl0, ho, hf⟩ := hsome _ hl
        obtain ⟨s, rfl⟩ := Own_ptr_dict ho
        rw [subOf_of_lookup hl0]
        obtain ⟨fpb, hob, hsubb, hsame, hlen⟩ := ih m b s fpr ho
        refine Own_put halt hs hlt hsub wand ?_ hob (fun x hx => (hsubb x hx).imp_left (hf x))
          (fun x hxl _ hx => hsame x hxl fun hm => (hf x hm).2 (hx (hf x hm).1)) hlen
        rw [hsame a halt fun hm => hs (hf a hm).1, ha, set_lookup_self k _ nd hl]
      · -- a missing key or a leaf: a new branch
        next hnp =>
        have hsubof : subOf k kvs = [] := by
          cases hl : lookup k nd with
          | none => exact subOf_of_none (hnone hl)
          | some r =>
            obtain ⟨v0, fpr, hl0, ho, _⟩ := hsome r hl
            rw [subOf, hl0]
            cases v0 with
            | dict s =>
              obtain ⟨b, _, _, rfl, _⟩ := Own_dict.1 ho
              exact absurd hl (hnp b)
            | _ => rfl
        rw [hsubof]
        have hm2len : (store (alloc m []).1 a k (.ptr m.heap.length)).heap.length = m.heap.length + 1 := by
          rw [store_len, alloc_len]
        have ho2 : Own true (store (alloc m []).1 a k (.ptr m.heap.length)).heap (.dict []) (.ptr m.heap.length)
            [m.heap.length] :=
          Own_dict.2 ⟨_, [], [], rfl, (store_get_ne _ a k _ (Nat.ne_of_gt halt)).trans List.getElem?_concat_length, rfl,
            (fun _ h => nomatch h), OwnKVs_nil.2 ⟨rfl, rfl⟩⟩
        obtain ⟨fpb, hob, hsubb, hsame, hlen⟩ := ih _ m.heap.length [] [m.heap.length] ho2
        refine Own_put halt hs hlt hsub wand ?_ hob
          (fun x hx => Or.inr ((hsubb x hx).elim (fun h => Nat.le_of_eq (List.mem_singleton.1 h).symm)
            fun h => by omega))
          (fun x hxl hxa _ => (hsame x (by omega) fun hm => Nat.ne_of_lt hxl (List.mem_singleton.1 hm)).trans
            ((store_get_ne _ a k _ hxa).trans (List.getElem?_append_left hxl)))
          (by omega)
        rw [hsame a (by omega) fun hm => Nat.ne_of_lt halt (List.mem_singleton.1 hm), store_get_self, alloc_heap,
          List.getElem?_append_left halt, ha]
        rfl

/-- what a copier does on trees of depth at most `f`: it returns the first new address, where the tree sits again, tree-shaped,
in new nodes only -/
def CopyAbs (f : Nat) (cp : Mem → Nat → Res (Mem × Nat)) : Prop :=
  ∀ (v : Val) (m : Mem) (t : Nat) (fp : List Nat), Own false m.heap v (.ptr t) fp → depth v ≤ f → wf v = true →
    ∃ m' fp', cp m t = .ok (m', m.heap.length) ∧
      Own true m'.heap v (.ptr m.heap.length) fp' ∧ (∀ x ∈ fp', m.heap.length ≤ x)

theorem copyKids_abs_of {f : Nat} {cp : Mem → Nat → Res (Mem × Nat)} (hspec : CopySpec cp) (habs : CopyAbs f cp) :
    ∀ (kvs : List (String × Val)) (m : Mem) (c : Nat)
      (doneKvs : List (String × Val)) (doneNd restNd : Node) (fpd fpr : List Nat),
      depthKVs kvs ≤ f → wfKVs kvs = true →
      OwnKVs false m.heap kvs restNd fpr → (∀ x ∈ fpr, x < c) →
      m.heap[c]? = some (doneNd ++ restNd) → ((doneNd ++ restNd).map (·.1)).Nodup →
      OwnKVs true m.heap doneKvs doneNd fpd → (∀ x ∈ fpd, c < x) →
      ∃ m' nd' fp', copyKids cp c m restNd = .ok m' ∧ m'.heap[c]? = some nd' ∧
        OwnKVs true m'.heap (doneKvs ++ kvs) nd' fp' ∧ (∀ x ∈ fp', c < x)
  | [], m, c, doneKvs, doneNd, restNd, fpd, fpr, _, _, hr, _, hc, _, hdone, hgt => by
      obtain ⟨rfl, rfl⟩ := OwnKVs_nil.1 hr
      rw [List.append_nil] at hc ⊢
      exact ⟨m, doneNd, fpd, rfl, hc, hdone, hgt⟩
  | (k, v) :: kvs, m, c, doneKvs, doneNd, restNd, fpd, fpr, hd, hw, hr, hfpr, hc, hnd, hdone, hgt => by
      obtain ⟨r, restNd', fp1, fp2, rfl, rfl, h1, h2, _⟩ := OwnKVs_cons.1 hr
      rw [depthKVs_cons] at hd
      rw [wfKVs_cons] at hw
      have hclt : c < m.heap.length := List.getElem?_some_lt hc
      have hfpdlt := OwnKVs.lt doneKvs doneNd fpd hdone
      -- once the entry at `k` is done (`r'`, tree-shaped in new nodes, in a memory `m2` that differs from `m` at `c` and in
      -- new nodes only), the loop goes on
      have next : ∀ (m2 : Mem) (r' : Ref) (fpc : List Nat),
          (∀ x, x ≠ c → x < m.heap.length → m2.heap[x]? = m.heap[x]?) →
          m2.heap[c]? = some (doneNd ++ (k, r') :: restNd') →
          Own true m2.heap v r' fpc → (∀ x ∈ fpc, m.heap.length ≤ x) →
          ∃ m' nd' fp', copyKids cp c m2 restNd' = .ok m' ∧ m'.heap[c]? = some nd' ∧
            OwnKVs true m'.heap (doneKvs ++ (k, v) :: kvs) nd' fp' ∧ ∀ x ∈ fp', c < x := by
        intro m2 r' fpc hsame hc2 hown hfpc
        have hdone2 := OwnKVs.append _ _ _ _ _ _
          (OwnKVs.congr doneKvs doneNd fpd hdone fun x hx => hsame x (Nat.ne_of_gt (hgt x hx)) (hfpdlt x hx))
          (OwnKVs.single k hown) (fun x hx hm => Nat.lt_irrefl x (Nat.lt_of_lt_of_le (hfpdlt x hx) (hfpc x hm)))
        have := copyKids_abs_of hspec habs kvs m2 c (doneKvs ++ [(k, v)]) (doneNd ++ [(k, r')]) restNd'
          (fpd ++ fpc) fp2 (Nat.le_trans (Nat.le_max_right _ _) hd) hw.2
          (OwnKVs.congr kvs restNd' fp2 h2 fun x hx =>
            have hx' := hfpr x (List.mem_append_right _ hx)
            hsame x (Nat.ne_of_lt hx') (Nat.lt_trans hx' hclt))
          (fun x hx => hfpr x (List.mem_append_right _ hx))
          (by rw [List.append_assoc]; exact hc2)
          (by rw [List.map_append, List.map_cons] at hnd; rw [List.append_assoc, List.map_append]; exact hnd)
          hdone2
          (fun x hx => (List.mem_append.1 hx).elim (hgt x) fun h => Nat.lt_of_lt_of_le hclt (hfpc x h))
        rwa [List.append_assoc] at this
      cases r with
      | val w =>
        obtain ⟨rfl, rfl, hleaf⟩ := Own_val h1
        exact next m (.val v) [] (fun _ _ _ => rfl) hc ((Own_leaf hleaf _ _).2 ⟨rfl, rfl⟩) (fun _ h => nomatch h)
      | ptr b =>
        obtain ⟨m1, fpc, hcopy, hownc, hfpc⟩ := habs v m b fp1 h1 (Nat.le_trans (Nat.le_max_left _ _) hd) hw.1
        obtain ⟨_, hsafe, _⟩ := hspec m b m1 _ hcopy
        have hknot : k ∉ doneNd.map (·.1) := fun hm =>
          (List.nodup_append.1 ((List.map_append ..) ▸ hnd)).2.2 k hm k List.mem_cons_self rfl
        rw [copyKids_ptr, hcopy]
        refine next (store m1 c k (.ptr m.heap.length)) (.ptr m.heap.length) fpc (fun x hxc hxl => ?_) ?_
          (Own.congr v _ fpc hownc fun x hx => ?_) hfpc
        · exact (store_get_ne m1 c k _ hxc).trans (hsafe.same x hxl)
        · rw [store_get_self, hsafe.same c hclt, hc, Option.map_some, set_append_mid k _ _ doneNd restNd' hknot]
        · exact store_get_ne m1 c k _ (Nat.ne_of_gt (Nat.lt_of_lt_of_le hclt (hfpc x hx)))

theorem copyH_abs : ∀ f, CopyAbs f (copyH f)
  | 0, v, _, _, _, h, hd, _ => by
      obtain ⟨kvs, rfl⟩ := Own_ptr_dict h
      exact nomatch hd
  | f + 1, v, m, t, fp, h, hd, hw => by
      obtain ⟨kvs, rfl⟩ := Own_ptr_dict h
      obtain ⟨a, nd, fps, e, ha, rfl, _, hk⟩ := Own_dict.1 h
      cases e
      have hlt := OwnKVs.lt kvs nd fps hk
      obtain ⟨m', nd', fp', hkids, hc, hown, hgt⟩ :=
        copyKids_abs_of (copyH_spec f) (copyH_abs f) kvs (alloc m nd).1 m.heap.length [] [] nd [] fps
          (Nat.le_of_succ_le_succ hd) ((wf_dict kvs).1 hw).2
          (OwnKVs.congr kvs nd fps hk fun x hx => List.getElem?_append_left (hlt x hx))
          hlt List.getElem?_concat_length ((OwnKVs.keys kvs nd fps hk) ▸ ((wf_dict kvs).1 hw).1)
          (OwnKVs_nil.2 ⟨rfl, rfl⟩) (fun _ h => nomatch h)
      refine ⟨m', m.heap.length :: fp', ?_, Own_dict.2 ⟨_, nd', fp', rfl, hc, rfl, fun _ hm => Nat.lt_irrefl _ (hgt _ hm), hown⟩,
        fun x hx => (List.mem_cons.1 hx).elim (fun e => e ▸ Nat.le_refl _) fun h => Nat.le_of_lt (hgt x h)⟩
      simp only [copyH_succ, ha, hkids]

theorem copyKids_abs : ∀ (kvs : List (String × Val)) (f : Nat) (m : Mem) (c : Nat)
    (doneKvs : List (String × Val)) (doneNd restNd : Node) (fpd fpr : List Nat),
    depthKVs kvs ≤ f → wfKVs kvs = true →
    OwnKVs false m.heap kvs restNd fpr → (∀ x ∈ fpr, x < c) →
    m.heap[c]? = some (doneNd ++ restNd) → ((doneNd ++ restNd).map (·.1)).Nodup →
    OwnKVs true m.heap doneKvs doneNd fpd → (∀ x ∈ fpd, c < x) →
    ∃ m' nd' fp', copyKids (copyH f) c m restNd = .ok m' ∧ m'.heap[c]? = some nd' ∧
      OwnKVs true m'.heap (doneKvs ++ kvs) nd' fp' ∧ (∀ x ∈ fp', c < x) :=
  fun kvs f => copyKids_abs_of (copyH_spec f) (copyH_abs f) kvs

theorem itemsKVs_snd_leaf : ∀ (kvs : List (String × Val)) (pv : Path × Val), pv ∈ itemsKVs kvs →
    ∀ s, pv.2 ≠ .dict s := by
  intro kvs pv h
  obtain ⟨kv, _, q, hq, rfl⟩ := mem_itemsKVs.1 h
  exact items_snd_leaf kv.2 q hq

theorem setItemsH_abs (ig : List Val) (c : Nat) : ∀ (its : List (Path × Val)),
    (∀ pv ∈ its, ∀ s, pv.2 ≠ .dict s) → ∀ (m : Mem) (kvs : List (String × Val)) (fp : List Nat),
    Own true m.heap (.dict kvs) (.ptr c) fp →
    ∃ fp', Own true (setItemsH m c its ig).heap (.dict (build ig its kvs)) (.ptr c) fp'
  | [], _, m, kvs, fp, h => ⟨fp, h⟩
  | (p, v) :: its, hl, m, kvs, fp, h => by
      obtain ⟨fp1, h1, _⟩ := setItemH_abs v (hl (p, v) List.mem_cons_self) ig p m c kvs fp h
      exact setItemsH_abs ig c its (fun pv hm => hl pv (List.mem_cons_of_mem _ hm))
        (setItemH m c p v ig) (setKVs kvs p v ig) fp1 h1

theorem allocTree_allocKVs_Own :
    (∀ (v : Val) (m : Mem),
      ∃ fp, Own true (allocTree m v).1.heap v (allocTree m v).2 fp ∧ (∀ x ∈ fp, m.heap.length ≤ x) ∧
        m.heap.length ≤ (allocTree m v).1.heap.length ∧
        ∀ x, x < m.heap.length → (allocTree m v).1.heap[x]? = m.heap[x]?) ∧
    ∀ (kvs : List (String × Val)) (m : Mem),
      ∃ fp, OwnKVs true (allocKVs m kvs).1.heap kvs (allocKVs m kvs).2 fp ∧ (∀ x ∈ fp, m.heap.length ≤ x) ∧
        m.heap.length ≤ (allocKVs m kvs).1.heap.length ∧
        ∀ x, x < m.heap.length → (allocKVs m kvs).1.heap[x]? = m.heap[x]? := by
  refine Tree.induction (fun v hv m => ?_) (fun kvs ih m => ?_) (fun m => ?_) (fun k v kvs ih1 ih2 m => ?_)
  · rw [allocTree_leaf m v hv]
    exact ⟨[], (Own_leaf hv _ _).2 ⟨rfl, rfl⟩, (fun _ h => nomatch h), Nat.le_refl _, fun _ _ => rfl⟩
  · obtain ⟨fps, hk, hge, hlen, hsame⟩ := ih m
    have hlt := OwnKVs.lt kvs _ fps hk
    rw [allocTree_dict]
    refine ⟨(allocKVs m kvs).1.heap.length :: fps,
      Own_dict.2 ⟨_, (allocKVs m kvs).2, fps, rfl, List.getElem?_concat_length, rfl,
        fun _ hm => Nat.lt_irrefl _ (hlt _ hm),
        OwnKVs.congr kvs _ fps hk fun x hx => List.getElem?_append_left (hlt x hx)⟩,
      fun x hx => (List.mem_cons.1 hx).elim (fun e => e ▸ hlen) (hge x),
      Nat.le_trans hlen (List.length_append ▸ Nat.le_add_right _ _),
      fun x hx => (List.getElem?_append_left (Nat.lt_of_lt_of_le hx hlen)).trans (hsame x hx)⟩
  · exact ⟨[], OwnKVs_nil.2 ⟨rfl, rfl⟩, (fun _ h => nomatch h), Nat.le_refl _, fun _ _ => rfl⟩
  · obtain ⟨fp1, h1, hge1, hlen1, hsame1⟩ := ih1 m
    obtain ⟨fp2, h2, hge2, hlen2, hsame2⟩ := ih2 (allocTree m v).1
    have hlt1 := Own.lt v _ fp1 h1
    rw [allocKVs_cons]
    exact ⟨fp1 ++ fp2,
      OwnKVs_cons.2 ⟨_, _, fp1, fp2, rfl, rfl, Own.congr v _ fp1 h1 fun x hx => hsame2 x (hlt1 x hx), h2,
        fun _ x hx hm => Nat.lt_irrefl x (Nat.lt_of_lt_of_le (hlt1 x hx) (hge2 x hm))⟩,
      fun x hx => (List.mem_append.1 hx).elim (hge1 x) fun h => Nat.le_trans hlen1 (hge2 x h),
      Nat.le_trans hlen1 hlen2,
      fun x hx => (hsame2 x (Nat.lt_of_lt_of_le hx hlen1)).trans (hsame1 x hx)⟩

theorem allocTree_Own : ∀ (v : Val) (m : Mem),
    ∃ fp, Own true (allocTree m v).1.heap v (allocTree m v).2 fp ∧ (∀ x ∈ fp, m.heap.length ≤ x) ∧
      m.heap.length ≤ (allocTree m v).1.heap.length ∧
      ∀ x, x < m.heap.length → (allocTree m v).1.heap[x]? = m.heap[x]? :=
  allocTree_allocKVs_Own.1

theorem allocKVs_Own : ∀ (kvs : List (String × Val)) (m : Mem),
    ∃ fp, OwnKVs true (allocKVs m kvs).1.heap kvs (allocKVs m kvs).2 fp ∧ (∀ x ∈ fp, m.heap.length ≤ x) ∧
      m.heap.length ≤ (allocKVs m kvs).1.heap.length ∧
      ∀ x, x < m.heap.length → (allocKVs m kvs).1.heap[x]? = m.heap[x]? :=
  allocTree_allocKVs_Own.2

end Pyg.TreeHeap
