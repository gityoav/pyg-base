/-
  The bare cache (PygModel.Cache): the invariant `CacheInv` of a cached non-raising function along a history, and the cache
  key - `normKey_eq_iff`: two keys are equal exactly when the values are python-`==` (`SameVal`).
-/
import PygModel.Cache
import PygProofs.Lemmas.EqDictLemmas
import PygProofs.Lemmas.Basics

namespace Pyg

/-- the first call of a history that has cache key `k` -/
def firstWith (calls : List Call) (k : Val) : Option Call := calls.find? fun c => callKey c == k

/-- the state of a cached non-raising `g` after the calls `seen`: one evaluation per stored key, the keys are distinct and are
those of `seen`, and under each key lies `g` of the first call of `seen` with that key -/
structure CacheInv (g : Call → Val) (st : CacheSt) (seen : List Call) : Prop where
  evals_eq : st.evals = st.cache.map (·.1)
  nodup : (st.cache.map (·.1)).Nodup
  keys : ∀ k, k ∈ st.cache.map (·.1) ↔ k ∈ seen.map callKey
  first : ∀ k v, st.cache.lookup k = some v → ∃ c0, firstWith seen k = some c0 ∧ v = g c0

theorem firstWith_append (xs ys : List Call) (k : Val) :
    firstWith (xs ++ ys) k = (firstWith xs k).or (firstWith ys k) :=
  List.find?_append

theorem firstWith_cons (c : Call) (cs : List Call) (k : Val) :
    firstWith (c :: cs) k = if callKey c = k then some c else firstWith cs k := by
  by_cases h : callKey c = k
  · rw [if_pos h, firstWith, List.find?_cons_of_pos (by simpa using h)]
  · rw [if_neg h, firstWith, List.find?_cons_of_neg (by simpa using h), firstWith]

theorem firstWith_prefix (xs ys : List Call) (k : Val) (c0 : Call) (h : firstWith xs k = some c0) :
    firstWith (xs ++ ys) k = some c0 := by
  rw [firstWith_append, h, Option.some_or]

theorem firstWith_none_iff (seen : List Call) (k : Val) : firstWith seen k = none ↔ k ∉ seen.map callKey := by
  rw [firstWith, List.find?_eq_none, List.mem_map]
  exact ⟨fun h ⟨c, hc, e⟩ => h c hc (beq_iff_eq.2 e), fun h c hc e => h ⟨c, hc, eq_of_beq e⟩⟩

theorem firstWith_eq_some_iff {cs : List Call} {k : Val} {c0 : Call} :
    firstWith cs k = some c0 ↔ ∃ pre post, cs = pre ++ c0 :: post ∧ callKey c0 = k ∧ ∀ x ∈ pre, callKey x ≠ k := by
  rw [firstWith, List.find?_eq_some_iff_append]
  constructor
  · rintro ⟨hk, pre, post, e, hb⟩
    exact ⟨pre, post, e, eq_of_beq hk, fun x hx e => by simpa [e] using hb x hx⟩
  · rintro ⟨pre, post, e, hk, hb⟩
    exact ⟨beq_iff_eq.2 hk, pre, post, e, fun x hx => by simpa using hb x hx⟩

theorem map_eq_append_cons {α β} {f : α → β} {l : List α} {h1 h2 : List β} {y : β} (h : l.map f = h1 ++ y :: h2) :
    ∃ l1 c0 l2, l = l1 ++ c0 :: l2 ∧ l1.map f = h1 ∧ f c0 = y := by
  obtain ⟨l1, l2, rfl, rfl, hm2⟩ := List.map_eq_append_iff.1 h
  obtain ⟨c0, l2', rfl, rfl, _⟩ := List.map_eq_cons_iff.1 hm2
  exact ⟨l1, c0, l2', rfl, rfl, rfl⟩

theorem firstWith_map_eq_some {α : Type} {f : α → Call} {l : List α} {k : Val} {y : Call} (h : firstWith (l.map f) k = some y) :
    ∃ l1 c0 l2, l = l1 ++ c0 :: l2 ∧ f c0 = y ∧ callKey (f c0) = k ∧ ∀ x ∈ l1, callKey (f x) ≠ k := by
  obtain ⟨pre, post, e, hk, hb⟩ := firstWith_eq_some_iff.1 h
  obtain ⟨l1, c0, l2, rfl, rfl, rfl⟩ := map_eq_append_cons e
  exact ⟨l1, c0, l2, rfl, rfl, hk, fun x hx => hb _ (List.mem_map_of_mem hx)⟩

theorem CacheInv.empty (g : Call → Val) : CacheInv g {} [] :=
  ⟨rfl, List.nodup_nil, fun _ => Iff.rfl, fun _ _ h => nomatch h⟩

theorem CacheInv.lookup_isSome_iff {g : Call → Val} {st : CacheSt} {seen : List Call} (inv : CacheInv g st seen) (k : Val) :
    (st.cache.lookup k).isSome ↔ k ∈ seen.map callKey := by
  rw [List.lookup_isSome_iff_keys, inv.keys]

theorem CacheInv.lookup_eq_none_iff {g : Call → Val} {st : CacheSt} {seen : List Call} (inv : CacheInv g st seen) (k : Val) :
    st.cache.lookup k = none ↔ k ∉ seen.map callKey := by
  rw [← inv.lookup_isSome_iff, Option.not_isSome_iff_eq_none]

theorem CacheInv.snoc_hit {g : Call → Val} {st : CacheSt} {seen : List Call} (inv : CacheInv g st seen) {c : Call}
    (h : callKey c ∈ seen.map callKey) : CacheInv g st (seen ++ [c]) := by
  refine ⟨inv.evals_eq, inv.nodup, fun k => ?_, fun k v hk => ?_⟩
  · rw [inv.keys k, List.map_append, List.mem_append]
    exact ⟨Or.inl, fun hm => hm.elim id fun hm => List.mem_singleton.1 hm ▸ h⟩
  · obtain ⟨c1, h1, h2⟩ := inv.first k v hk
    exact ⟨c1, firstWith_prefix seen [c] k c1 h1, h2⟩

theorem CacheInv.snoc_miss {g : Call → Val} {st : CacheSt} {seen : List Call} (inv : CacheInv g st seen) {c : Call}
    (h : callKey c ∉ seen.map callKey) :
    CacheInv g { cache := st.cache ++ [(callKey c, g c)], evals := st.evals ++ [callKey c] } (seen ++ [c]) := by
  refine ⟨by simp [inv.evals_eq], ?_, fun k => ?_, fun k v hk => ?_⟩
  · rw [List.map_append, List.nodup_append]
    refine ⟨inv.nodup, List.pairwise_singleton _ _, fun a ha b hb e => h ?_⟩
    have hb : b = callKey c := List.mem_singleton.1 hb
    exact hb ▸ e ▸ (inv.keys a).1 ha
  · simp only [List.map_append, List.mem_append, inv.keys k, List.map_cons, List.map_nil]
  · rw [List.lookup_append] at hk
    cases hk1 : st.cache.lookup k with
    | some w =>
      obtain ⟨c1, h1, h2⟩ := inv.first k w hk1
      rw [hk1, Option.some_or] at hk
      exact ⟨c1, firstWith_prefix seen [c] k c1 h1, Option.some.inj hk ▸ h2⟩
    | none =>
      rw [hk1, Option.none_or, List.lookup_cons_ite] at hk
      split at hk
      · next e =>
        subst e
        exact ⟨c, by rw [firstWith_append, (firstWith_none_iff _ _).2 h, Option.none_or, firstWith_cons, if_pos rfl],
          (Option.some.inj hk).symm⟩
      · cases hk

theorem cacheCall_hit (f : Call → Res Val) (st : CacheSt) (c : Call) (v : Val)
    (h : st.cache.lookup (callKey c) = some v) : cacheCall f st c = (st, .ok v) := by
  simp [cacheCall, h]

theorem cacheCall_miss (g : Call → Val) (st : CacheSt) (c : Call)
    (h : st.cache.lookup (callKey c) = none) :
    cacheCall (fun c => .ok (g c)) st c =
      ({ cache := st.cache ++ [(callKey c, g c)], evals := st.evals ++ [callKey c] }, .ok (g c)) := by
  simp [cacheCall, h]

theorem cacheCall_step (g : Call → Val) (st : CacheSt) (seen : List Call) (c : Call)
    (inv : CacheInv g st seen) :
    CacheInv g (cacheCall (fun c => .ok (g c)) st c).1 (seen ++ [c]) ∧
    ∃ c0, firstWith (seen ++ [c]) (callKey c) = some c0 ∧
      (cacheCall (fun c => .ok (g c)) st c).2 = .ok (g c0) := by
  cases hl : st.cache.lookup (callKey c) with
  | some v =>
    obtain ⟨c0, hc0, hv⟩ := inv.first _ v hl
    rw [cacheCall_hit _ st c v hl]
    exact ⟨inv.snoc_hit ((inv.lookup_isSome_iff _).1 (by rw [hl]; rfl)), c0, firstWith_prefix seen [c] _ c0 hc0, by rw [hv]⟩
  | none =>
    have hnot := (inv.lookup_eq_none_iff _).1 hl
    rw [cacheCall_miss g st c hl]
    exact ⟨inv.snoc_miss hnot, c,
      by rw [firstWith_append, (firstWith_none_iff _ _).2 hnot, Option.none_or, firstWith_cons, if_pos rfl], rfl⟩

theorem runCache_inv (g : Call → Val) : ∀ (cs : List Call) (st : CacheSt) (seen : List Call),
    CacheInv g st seen →
    CacheInv g (runCache (fun c => .ok (g c)) st cs).1 (seen ++ cs) ∧
    (runCache (fun c => .ok (g c)) st cs).2 =
      cs.map fun c => Except.ok (g ((firstWith (seen ++ cs) (callKey c)).getD c))
  | [], st, seen, inv => by simpa [runCache] using inv
  | c :: cs, st, seen, inv => by
      obtain ⟨inv1, c0, hc0, hr⟩ := cacheCall_step g st seen c inv
      have ih := runCache_inv g cs _ (seen ++ [c]) inv1
      have e : seen ++ [c] ++ cs = seen ++ c :: cs := by simp
      rw [e] at ih
      simp only [runCache, List.map_cons]
      refine ⟨ih.1, ?_⟩
      rw [ih.2, hr]
      have := firstWith_prefix (seen ++ [c]) cs (callKey c) c0 hc0
      rw [e] at this
      simp [this]

theorem runCache_append (f : Call → Res Val) : ∀ (st : CacheSt) (xs ys : List Call),
    runCache f st (xs ++ ys) =
      ((runCache f (runCache f st xs).1 ys).1, (runCache f st xs).2 ++ (runCache f (runCache f st xs).1 ys).2)
  | st, [], ys => by simp [runCache]
  | st, x :: xs, ys => by
      simp only [List.cons_append, runCache]
      rw [runCache_append f _ xs ys]

theorem snoc_replies {σ ρ : Type} {r r' : σ × List ρ} {s : σ} {x : ρ} (h : r' = (s, r.2 ++ [x])) (d : ρ) :
    r'.1 = s ∧ r'.2.getLast? = some x ∧ r'.2 = r.2 ++ [r'.2.getLast?.getD d] := by
  subst h
  simp

theorem runCache_snoc (f : Call → Res Val) (st : CacheSt) (xs : List Call) (c : Call) :
    runCache f st (xs ++ [c]) =
      ((cacheCall f (runCache f st xs).1 c).1, (runCache f st xs).2 ++ [(cacheCall f (runCache f st xs).1 c).2]) := by
  rw [runCache_append]
  rfl

theorem cacheCall_cache_indep (f : Call → Res Val) (st st' : CacheSt) (c : Call) (h : st.cache = st'.cache) :
    (cacheCall f st c).1.cache = (cacheCall f st' c).1.cache ∧ (cacheCall f st c).2 = (cacheCall f st' c).2 := by
  simp only [cacheCall, h]
  cases st'.cache.lookup (callKey c) with
  | some v => exact ⟨h, rfl⟩
  | none =>
    cases f c with
    | ok v => simp
    | error e => simp

theorem runCache_cache_indep (f : Call → Res Val) : ∀ (cs : List Call) (st st' : CacheSt), st.cache = st'.cache →
    (runCache f st cs).1.cache = (runCache f st' cs).1.cache
  | [], _, _, h => h
  | c :: cs, st, st', h => by
      simp only [runCache]
      exact runCache_cache_indep f cs _ _ (cacheCall_cache_indep f st st' c h).1

theorem runCacheH_eq_runCache (f : Call → Res Val) (unh : Call → Bool) :
    ∀ (calls : List Call) (st : CacheSt), (∀ c ∈ calls, unh c = false) →
      runCacheH unh f st calls = runCache f st calls
  | [], _, _ => rfl
  | c :: cs, st, h => by
      have hc : unh c = false := h c (by simp)
      simp only [runCacheH, runCache, cacheCallH, hc, Bool.false_eq_true, if_false]
      rw [runCacheH_eq_runCache f unh cs _ fun x hx => h x (by simp [hx])]

theorem runCacheH_filter (f : Call → Res Val) (unh : Call → Bool) :
    ∀ (calls : List Call) (st : CacheSt),
      (runCacheH unh f st calls).1.cache = (runCache f st (calls.filter fun c => !unh c)).1.cache ∧
      (∀ (i : Nat) (c : Call), calls[i]? = some c → unh c = true → (runCacheH unh f st calls).2[i]? = some (f c))
  | [], _ => ⟨rfl, fun i c h => by simp at h⟩
  | c :: cs, st => by
      cases hc : unh c
      · have ih := runCacheH_filter f unh cs (cacheCall f st c).1
        simp only [runCacheH, cacheCallH, hc, Bool.false_eq_true, if_false, List.filter_cons, Bool.not_false,
          if_true, runCache]
        refine ⟨ih.1, fun i x hx hu => ?_⟩
        cases i with
        | zero => simp at hx; subst hx; rw [hc] at hu; cases hu
        | succ i => simpa using ih.2 i x (by simpa using hx) hu
      · have ih := runCacheH_filter f unh cs { st with evals := st.evals ++ [callKey c] }
        simp only [runCacheH, cacheCallH, hc, if_true, List.filter_cons, Bool.not_true, Bool.false_eq_true,
          if_false]
        refine ⟨?_, fun i x hx hu => ?_⟩
        · rw [ih.1]
          exact runCache_cache_indep f _ _ st rfl
        · cases i with
          | zero => simp at hx; subst hx; simp
          | succ i => simpa using ih.2 i x (by simpa using hx) hu

/-! ### the cache key: `SameVal` is python's `==` stated through observations, not through `_prehash` -/

/-- the numeric value of a python number, `True == 1 == 1.0`, in quarters as `Cell.flt` holds it (`.flt 4` is `1.0`) -/
def cacheNum : Cell → Option Int
  | .bool b => some (if b then 4 else 0)
  | .int n => some (4 * n)
  | .flt q => some q
  | _ => Option.none

/-- python `==` on scalars: numbers by value, anything else only with itself.  (The model has no object
identity: a `nan` cell stands for ONE NaN object, which a python dict finds again by identity.) -/
def CacheCellSame (a b : Cell) : Prop :=
  match cacheNum a, cacheNum b with
  | some x, some y => x = y
  | Option.none, Option.none => a = b
  | _, _ => False

/-- python `==` on nested values: a list equals a list, a tuple a tuple (same length, equal elements), a dict a
dict (same keys, equal values under every key — the order of insertion is irrelevant); values of different
container types are different. -/
inductive SameVal : Val → Val → Prop
  | cell {a b : Cell} : CacheCellSame a b → SameVal (.cell a) (.cell b)
  | list {xs ys : List Val} : xs.length = ys.length →
      (∀ (i : Nat) (x y : Val), xs[i]? = some x → ys[i]? = some y → SameVal x y) → SameVal (.list xs) (.list ys)
  | tuple {xs ys : List Val} : xs.length = ys.length →
      (∀ (i : Nat) (x y : Val), xs[i]? = some x → ys[i]? = some y → SameVal x y) → SameVal (.tuple xs) (.tuple ys)
  | dict {a b : List (String × Val)} : (∀ k, (a.lookup k).isSome = (b.lookup k).isSome) →
      (∀ (k : String) (v w : Val), a.lookup k = some v → b.lookup k = some w → SameVal v w) → SameVal (.dict a) (.dict b)

mutual
  /-- every dict inside the value has distinct keys (as every python dict has) -/
  def Val.keysOk : Val → Bool
    | .cell _ => true
    | .list xs => keysOkList xs
    | .tuple xs => keysOkList xs
    | .dict kvs => decide ((kvs.map (·.1)).Nodup) && keysOkKVs kvs
  def keysOkList : List Val → Bool
    | [] => true
    | x :: xs => x.keysOk && keysOkList xs
  def keysOkKVs : List (String × Val) → Bool
    | [] => true
    | (_, v) :: kvs => v.keysOk && keysOkKVs kvs
end

theorem cacheKeysOkList_mem : ∀ {xs : List Val}, keysOkList xs = true → ∀ x ∈ xs, x.keysOk = true
  | [], _, x, hx => by simp at hx
  | y :: ys, h, x, hx => by
      simp only [keysOkList, Bool.and_eq_true] at h
      rcases List.mem_cons.1 hx with rfl | hx
      · exact h.1
      · exact cacheKeysOkList_mem h.2 x hx

theorem cacheKeysOkKVs_mem : ∀ {xs : List (String × Val)}, keysOkKVs xs = true → ∀ p ∈ xs, p.2.keysOk = true
  | [], _, x, hx => by simp at hx
  | (k, v) :: ys, h, x, hx => by
      simp only [keysOkKVs, Bool.and_eq_true] at h
      rcases List.mem_cons.1 hx with rfl | hx
      · exact h.1
      · exact cacheKeysOkKVs_mem h.2 x hx

theorem normKeyList_eq_map : ∀ xs : List Val, normKeyList xs = xs.map normKey
  | [] => rfl
  | x :: xs => by simp [normKeyList, normKeyList_eq_map xs]

theorem normKeyKVs_eq_map : ∀ kvs : List (String × Val), normKeyKVs kvs = kvs.map fun p => (p.1, normKey p.2)
  | [] => rfl
  | (k, v) :: kvs => by simp [normKeyKVs, normKeyKVs_eq_map kvs]

theorem keys_normKeyKVs (kvs : List (String × Val)) : (normKeyKVs kvs).map (·.1) = kvs.map (·.1) := by
  rw [normKeyKVs_eq_map]; simp [List.map_map, Function.comp_def]

theorem lookup_normKeyKVs (k : String) (kvs : List (String × Val)) :
    (normKeyKVs kvs).lookup k = (kvs.lookup k).map normKey := by
  rw [normKeyKVs_eq_map]
  exact List.lookup_map_val (fun _ => normKey) k kvs

theorem insertKV_eq (kv : String × Val) : ∀ l, insertKV kv l = EqM.insertK kv l
  | [] => rfl
  | h :: t => by simp [insertKV, EqM.insertK, insertKV_eq kv t]

theorem sortKV_eq : ∀ l : List (String × Val), sortKV l = EqM.sortK l
  | [] => rfl
  | h :: t => by simp [sortKV, EqM.sortK, sortKV_eq t, insertKV_eq]

theorem nodup_of_keys_nodup {l : List (String × Val)} (h : (l.map (·.1)).Nodup) : l.Nodup :=
  List.Pairwise.of_map (·.1) (fun _ _ hne e => hne (e ▸ rfl)) h

/-- two dicts with the same value under every key are permutations of each other (distinct keys), and a list sorted by distinct
keys is determined by its members -/
theorem sortK_eq_of_lookup_eq (A B : List (String × Val)) (hA : (A.map (·.1)).Nodup) (hB : (B.map (·.1)).Nodup)
    (h : ∀ k, A.lookup k = B.lookup k) : EqM.sortK A = EqM.sortK B := by
  have hmem : ∀ p, p ∈ A ↔ p ∈ B := by
    intro ⟨k, v⟩
    rw [← List.lookup_eq_some_iff_mem hA, ← List.lookup_eq_some_iff_mem hB, h k]
  have hperm : A.Perm B := (List.perm_ext_iff_of_nodup (nodup_of_keys_nodup hA) (nodup_of_keys_nodup hB)).2 hmem
  have hp' : (EqM.sortK A).Perm (EqM.sortK B) :=
    ((EqM.sortK_perm A).trans hperm).trans (EqM.sortK_perm B).symm
  refine List.Perm.eq_of_pairwise (le := fun (a b : String × Val) => a.1 ≤ b.1) ?_
    (EqM.sortK_pairwise A) (EqM.sortK_pairwise B) hp'
  intro a b ha hb h1 h2
  exact List.eq_of_nodup_map hB a ((hmem a).1 ((EqM.mem_sortK a A).1 ha)) b ((EqM.mem_sortK b B).1 hb)
    (String.le_antisymm h1 h2)

theorem lookup_eq_of_sortK_eq (A B : List (String × Val)) (hA : (A.map (·.1)).Nodup) (hB : (B.map (·.1)).Nodup)
    (h : EqM.sortK A = EqM.sortK B) (k : String) : A.lookup k = B.lookup k := by
  rw [List.lookup_perm hA (EqM.sortK_perm A).symm, h, ← List.lookup_perm hB (EqM.sortK_perm B).symm]

theorem normCell_eq (a : Cell) : normCell a = match cacheNum a with | some x => .flt x | Option.none => a := by
  cases a <;> rfl

theorem normCell_eq_iff (a b : Cell) : normCell a = normCell b ↔ CacheCellSame a b := by
  rw [normCell_eq, normCell_eq]
  unfold CacheCellSame
  cases ha : cacheNum a with
  | none =>
    cases hb : cacheNum b with
    | none => exact Iff.rfl
    | some y =>
      show a = Cell.flt y ↔ False
      exact ⟨(fun e => nomatch (e ▸ ha : cacheNum (Cell.flt y) = none)), False.elim⟩
  | some x =>
    cases hb : cacheNum b with
    | none =>
      show Cell.flt x = b ↔ False
      exact ⟨(fun e => nomatch (e ▸ hb : cacheNum (Cell.flt x) = none)), False.elim⟩
    | some y => exact ⟨fun e => Cell.flt.inj e, fun e => congrArg Cell.flt e⟩

theorem sameSeq_of_normKey {xs ys : List Val}
    (ih : ∀ x ∈ xs, ∀ y, x.keysOk = true → y.keysOk = true → normKey x = normKey y → SameVal x y)
    (ha : keysOkList xs = true) (hb : keysOkList ys = true) (h : xs.map normKey = ys.map normKey) :
    xs.length = ys.length ∧ ∀ (i : Nat) (x y : Val), xs[i]? = some x → ys[i]? = some y → SameVal x y := by
  refine ⟨by simpa using congrArg List.length h, fun i x y hx hy => ?_⟩
  have hi := congrArg (·[i]?) h
  simp only [List.getElem?_map, hx, hy, Option.map_some, Option.some.injEq] at hi
  exact ih x (List.mem_of_getElem? hx) y (cacheKeysOkList_mem ha x (List.mem_of_getElem? hx))
    (cacheKeysOkList_mem hb y (List.mem_of_getElem? hy)) hi

theorem ctorIdx_eq_of_normKey_eq {a b : Val} (h : normKey a = normKey b) : a.ctorIdx = b.ctorIdx := by
  have e : ∀ v : Val, (normKey v).ctorIdx = v.ctorIdx := fun v => by cases v <;> rfl
  rw [← e a, h, e b]

/-- values found by `lookup` are members, so the induction over `Val` with its membership hypotheses reaches them -/
theorem sameVal_of_normKey_eq (a : Val) : ∀ b : Val, a.keysOk = true → b.keysOk = true → normKey a = normKey b → SameVal a b := by
  induction a using Val.ind with
  | cell a =>
    intro b _ _ h
    cases b with
    | cell b => exact .cell ((normCell_eq_iff a b).1 (Val.cell.inj h))
    | _ => exact nomatch ctorIdx_eq_of_normKey_eq h
  | list xs ih =>
    intro b ha hb h
    cases b with
    | list ys =>
      simp only [normKey, Val.list.injEq, normKeyList_eq_map] at h
      obtain ⟨hl, he⟩ := sameSeq_of_normKey ih ha hb h
      exact .list hl he
    | _ => exact nomatch ctorIdx_eq_of_normKey_eq h
  | tuple xs ih =>
    intro b ha hb h
    cases b with
    | tuple ys =>
      simp only [normKey, Val.tuple.injEq, normKeyList_eq_map] at h
      obtain ⟨hl, he⟩ := sameSeq_of_normKey ih ha hb h
      exact .tuple hl he
    | _ => exact nomatch ctorIdx_eq_of_normKey_eq h
  | dict A ih =>
    intro b ha hb h
    cases b with
    | dict B =>
      simp only [normKey, Val.dict.injEq, sortKV_eq] at h
      simp only [Val.keysOk, Bool.and_eq_true, decide_eq_true_eq] at ha hb
      have hl := lookup_eq_of_sortK_eq _ _ (by rw [keys_normKeyKVs]; exact ha.1)
        (by rw [keys_normKeyKVs]; exact hb.1) h
      simp only [lookup_normKeyKVs] at hl
      refine .dict (fun k => by simpa using congrArg Option.isSome (hl k)) fun k v w hv hw => ?_
      have hk := hl k
      simp only [hv, hw, Option.map_some, Option.some.injEq] at hk
      have hm := List.mem_of_lookup_eq_some hv
      exact ih _ hm w (cacheKeysOkKVs_mem ha.2 _ hm) (cacheKeysOkKVs_mem hb.2 _ (List.mem_of_lookup_eq_some hw)) hk
    | _ => exact nomatch ctorIdx_eq_of_normKey_eq h

theorem map_congr_getElem? {α β} {f : α → β} {xs ys : List α} (hl : xs.length = ys.length)
    (h : ∀ (i : Nat) (x y : α), xs[i]? = some x → ys[i]? = some y → f x = f y) : xs.map f = ys.map f := by
  apply List.ext_getElem (by simp [hl])
  intro i h1 h2
  rw [List.getElem_map, List.getElem_map]
  exact h i _ _ (List.getElem?_eq_getElem _) (List.getElem?_eq_getElem _)

theorem normKey_eq_of_sameVal {a b : Val} (h : SameVal a b) : a.keysOk = true → b.keysOk = true →
    normKey a = normKey b := by
  induction h with
  | cell h => intro _ _; simp only [normKey, (normCell_eq_iff _ _).2 h]
  | @list xs ys hl _ ih | @tuple xs ys hl _ ih =>
    intro ha hb
    simp only [Val.keysOk] at ha hb
    simp only [normKey, Val.list.injEq, Val.tuple.injEq, normKeyList_eq_map]
    exact map_congr_getElem? hl fun i x y hx hy => ih i x y hx hy
      (cacheKeysOkList_mem ha x (List.mem_of_getElem? hx)) (cacheKeysOkList_mem hb y (List.mem_of_getElem? hy))
  | @dict a b hs _ ih =>
    intro ha hb
    simp only [Val.keysOk, Bool.and_eq_true, decide_eq_true_eq] at ha hb
    simp only [normKey, Val.dict.injEq, sortKV_eq]
    apply sortK_eq_of_lookup_eq _ _ (by rw [keys_normKeyKVs]; exact ha.1) (by rw [keys_normKeyKVs]; exact hb.1)
    intro k
    simp only [lookup_normKeyKVs]
    have hsk := hs k
    cases hv : a.lookup k with
    | none =>
      cases hw : b.lookup k with
      | none => rfl
      | some w => rw [hv, hw] at hsk; cases hsk
    | some v =>
      cases hw : b.lookup k with
      | none => rw [hv, hw] at hsk; cases hsk
      | some w =>
        simp only [Option.map_some, Option.some.injEq]
        exact ih k v w hv hw (cacheKeysOkKVs_mem ha.2 _ (List.mem_of_lookup_eq_some hv))
          (cacheKeysOkKVs_mem hb.2 _ (List.mem_of_lookup_eq_some hw))

theorem normKey_eq_iff (a b : Val) (ha : a.keysOk = true) (hb : b.keysOk = true) :
    normKey a = normKey b ↔ SameVal a b :=
  ⟨sameVal_of_normKey_eq a b ha hb, fun h => normKey_eq_of_sameVal h ha hb⟩

end Pyg
