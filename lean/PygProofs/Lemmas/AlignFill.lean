/-
  C03: the model with method lists and `limit` (`reindexFill` .. `syncJM`) on a bare direction is the model with one optional
  direction (`reindexFrame` .. `syncJ`); the container lemmas are proved for the general functions and specialised.
-/
import PygProofs.Lemmas.AlignTree
import PygProofs.Lemmas.AlignLimit

namespace Pyg.Align
open Pyg Pyg.Fill

theorem reindexFrameL_nolimit (f : Frame) (idx : List Int) (d : Dir) :
    reindexFrameL f idx d Option.none = reindexFrame f idx (some d) := by
  simp only [reindexFrameL, reindexFrame, asofColLim_nolimit]

theorem fillna_nil' (lim : Option Nat) (f : Frame) : fillna [] lim f = .ok f := rfl

theorem reindexFill_single (f : Frame) (idx : List Int) (m : Option Dir) :
    reindexFill f idx (fillMethods m) Option.none = .ok (reindexFrame f idx m) := by
  cases m with
  | none => rfl
  | some d =>
    cases d <;> exact congrArg Except.ok (reindexFrameL_nolimit f idx _)

theorem reindexFill_ok {f g : Frame} {idx : List Int} {ms : List Method} {lim : Option Nat} (h : reindexFill f idx ms lim = .ok g) :
    ∃ g0 rest, fillna rest lim g0 = .ok g ∧ (∀ m ∈ rest, m ∈ ms) ∧
      ((ms = .ffill :: rest ∧ g0 = reindexFrameL f idx .ffill lim) ∨ (ms = .bfill :: rest ∧ g0 = reindexFrameL f idx .bfill lim) ∨
        (ms = rest ∧ g0 = reindexFrame f idx Option.none)) := by
  cases ms with
  | nil => exact ⟨_, [], h, fun _ hm => hm, Or.inr (Or.inr ⟨rfl, rfl⟩)⟩
  | cons m rest =>
    cases m with
    | ffill =>
      simp only [reindexFill] at h
      split at h
      · exact ⟨_, rest, h, fun _ hm => List.mem_cons_of_mem _ hm, Or.inl ⟨rfl, rfl⟩⟩
      · cases h
    | bfill =>
      simp only [reindexFill] at h
      split at h
      · exact ⟨_, rest, h, fun _ hm => List.mem_cons_of_mem _ hm, Or.inr (Or.inl ⟨rfl, rfl⟩)⟩
      · cases h
    | _ => exact ⟨_, _ :: rest, h, fun _ hm => hm, Or.inr (Or.inr ⟨rfl, rfl⟩)⟩

theorem reindexLeafM_single (ix : Index) (m : Option Dir) (l : Leaf) :
    reindexLeafM ix (fillMethods m) Option.none l = reindexLeaf ix m l := by
  cases l with
  | ts s f => cases ix <;> simp [reindexLeafM, reindexLeaf, reindexFill_single, Except.map]
  | arr xs => cases ix <;> rfl
  | other v => rfl

theorem reindexTreeM_single (ix : Index) (m : Option Dir) (t : Tree) :
    reindexTreeM ix true (fillMethods m) Option.none t = reindexTree ix m t := by
  have : reindexLeafM ix (fillMethods m) Option.none = reindexLeaf ix m := funext (reindexLeafM_single ix m)
  cases ix <;> simp only [reindexTreeM, reindexTree, mapMS_bare, this]

theorem reindexTreeM_bare (ix : Index) (ms : List Method) (lim : Option Nat) (t : Tree) :
    reindexTreeM ix true ms lim t = match ix with
      | .none => .ok t
      | _ => t.mapM (reindexLeafM ix ms lim) := by
  cases ix <;> simp only [reindexTreeM, mapMS_bare]

theorem syncJM_single (j : Join) (m : Option Dir) (ch : Option How) (t : Tree) :
    syncJM j true (fillMethods m) ch t = syncJ j m ch t := by
  cases t with
  | leaf l => cases j <;> rfl
  | node tag kids =>
    cases j with
    | how h => simp only [syncJM, syncJ, sync, dfIndexJ, reindexTreeM_single]
    | explicit ix => simp only [syncJM, syncJ, reindexTreeM_single]

theorem syncJM_node_ok {j : Join} {bare : Bool} {ms : List Method} {ch : Option How} {tag : Tag} {kids : List (String × Tree)}
    {t' : Tree} (h : syncJM j bare ms ch (.node tag kids) = .ok t') :
    ∃ ix t1, dfIndexJ j (Tree.node tag kids).flatTop = .ok ix ∧
      reindexTreeM ix bare ms Option.none (.node tag kids) = .ok t1 ∧
      colStage ch (multiCols (Tree.node tag kids).flatTop) t1 = .ok t' := by
  simp only [syncJM] at h
  split at h
  · cases h
  · rename_i ix hix
    split at h
    · cases h
    · rename_i t1 h1
      exact ⟨ix, t1, hix, h1, by cases ch <;> exact h⟩

theorem presyncCallM_single (j : Join) (m : Option Dir) (args kwargs : List (String × Tree)) :
    presyncCallM j true (fillMethods m) args kwargs = presyncCall j m args kwargs := by
  simp only [presyncCallM, presyncCall, presyncOnto, reindexTreeM_single]

theorem presyncOnto_ok {ix : Index} {bare : Bool} {ms : List Method} {args kwargs : List (String × Tree)} {a k : Tree}
    (h : presyncOnto ix bare ms args kwargs = .ok (a, k)) :
    reindexTreeM ix bare ms Option.none (.node .tuple args) = .ok a ∧
      reindexTreeM ix bare ms Option.none (.node .dict kwargs) = .ok k := by
  simp only [presyncOnto] at h
  split at h
  · cases h
  · split at h
    · cases h
    · cases h; exact ⟨‹_›, ‹_›⟩

theorem reindexLeafM_none (ms : List Method) (lim : Option Nat) (l : Leaf) : reindexLeafM .none ms lim l = .ok l := by
  cases l <;> rfl

theorem reindexLeafM_skel (ix : Index) (ms : List Method) (lim : Option Nat) (l l' : Leaf)
    (h : reindexLeafM ix ms lim l = .ok l') : l'.skel = l.skel := by
  cases l with
  | ts s f =>
    cases ix with
    | none => cases h; rfl
    | len n => cases h
    | times idx =>
      simp only [reindexLeafM] at h
      cases hr : reindexFill f idx ms lim with
      | error e => rw [hr] at h; cases h
      | ok g => rw [hr] at h; cases h; rfl
  | other v => cases h; rfl
  | arr xs =>
    cases ix with
    | times idx => simp only [reindexLeafM] at h; split at h <;> cases h; rfl
    | none => cases h; rfl
    | len n =>
      simp only [reindexLeafM] at h
      split at h <;> cases h
      rfl

theorem skel_reindexTreeM (ix : Index) (bare : Bool) (ms : List Method) (lim : Option Nat) (t t' : Tree)
    (h : reindexTreeM ix bare ms lim t = .ok t') : t'.skel = t.skel := by
  cases ix with
  | none => cases h; rfl
  | times idx => exact skel_mapMS _ (fun ms' => reindexLeafM_skel _ ms' lim) _ _ _ _ h
  | len n => exact skel_mapMS _ (fun ms' => reindexLeafM_skel _ ms' lim) _ _ _ _ h

theorem pairs_reindexTreeM (ix : Index) (bare : Bool) (ms : List Method) (lim : Option Nat) (t t' : Tree)
    (h : reindexTreeM ix bare ms lim t = .ok t') :
    Pairs (SplitImage (fun ms' => reindexLeafM ix ms' lim) ms) t.leaves t'.leaves := by
  cases ix with
  | none =>
    cases h
    exact Pairs.diag _ fun l _ => ⟨ms, Or.inl rfl, reindexLeafM_none ms lim l⟩
  | times idx => exact pairs_mapMS _ _ _ _ _ h
  | len n => exact pairs_mapMS _ _ _ _ _ h

theorem pairs_reindexTreeM_bare (ix : Index) (ms : List Method) (lim : Option Nat) (t t' : Tree)
    (h : reindexTreeM ix true ms lim t = .ok t') :
    Pairs (fun l l' => reindexLeafM ix ms lim l = .ok l') t.leaves t'.leaves := by
  rw [reindexTreeM_bare] at h
  cases ix with
  | none => cases h; exact Pairs.diag _ fun l _ => reindexLeafM_none ms lim l
  | times idx => exact pairs_mapM _ _ _ h
  | len n => exact pairs_mapM _ _ _ h

theorem skel_reindexTree (ix : Index) (m : Option Dir) (t t' : Tree) (h : reindexTree ix m t = .ok t') :
    t'.skel = t.skel :=
  skel_reindexTreeM ix true (fillMethods m) Option.none t t' ((reindexTreeM_single ix m t).trans h)

theorem pairs_reindexTree (ix : Index) (m : Option Dir) (t t' : Tree) (h : reindexTree ix m t = .ok t') :
    Pairs (fun l l' => reindexLeaf ix m l = .ok l') t.leaves t'.leaves :=
  (pairs_reindexTreeM_bare ix (fillMethods m) Option.none t t' ((reindexTreeM_single ix m t).trans h)).mono
    fun l _ hl => (reindexLeafM_single ix m l).symm.trans hl

theorem reindexTree_ts (ix : List Int) (m : Option Dir) (t t' : Tree) (h : reindexTree (.times ix) m t = .ok t') :
    ∀ l ∈ t'.leaves, ∀ s f, l = .ts s f → f.idx = ix := by
  intro l hl s f e
  obtain ⟨l0, _, h0⟩ := (pairs_reindexTree _ m _ _ h).exists_of_mem_right l hl
  exact reindexLeaf_ts ix m l0 s f (e ▸ h0)

theorem syncJM_pairs {j : Join} {bare : Bool} {ms : List Method} {ch : Option How} {tag : Tag} {kids : List (String × Tree)}
    {t' : Tree} (h : syncJM j bare ms ch (.node tag kids) = .ok t') :
    ∃ ix, dfIndexJ j (Tree.node tag kids).flatTop = .ok ix ∧ t'.skel = (Tree.node tag kids).skel ∧
      Pairs (fun l l' => ∃ l1, SplitImage (fun ms' => reindexLeafM ix ms' Option.none) ms l l1 ∧
          colPass ch (multiCols (Tree.node tag kids).flatTop) l1 = .ok l') (Tree.node tag kids).leaves t'.leaves ∧
      -- a bare method is never handed out: every member is treated with the whole list
      (bare = true → Pairs (fun l l' => ∃ l1, reindexLeafM ix ms Option.none l = .ok l1 ∧
          colPass ch (multiCols (Tree.node tag kids).flatTop) l1 = .ok l') (Tree.node tag kids).leaves t'.leaves) := by
  obtain ⟨ix, t1, hix, h1, h2⟩ := syncJM_node_ok h
  refine ⟨ix, hix, (skel_colStage _ _ _ _ h2).trans (skel_reindexTreeM _ _ _ _ _ _ h1),
    (pairs_reindexTreeM _ _ _ _ _ _ h1).comp (pairs_colStage _ _ _ _ h2), fun hb => ?_⟩
  subst hb
  exact (pairs_reindexTreeM_bare _ _ _ _ _ h1).comp (pairs_colStage _ _ _ _ h2)

theorem syncJ_pairs {j : Join} {m : Option Dir} {ch : Option How} {tag : Tag} {kids : List (String × Tree)} {t' : Tree}
    (h : syncJ j m ch (.node tag kids) = .ok t') :
    ∃ ix, dfIndexJ j (Tree.node tag kids).flatTop = .ok ix ∧ t'.skel = (Tree.node tag kids).skel ∧
      Pairs (fun l l' => ∃ l1, reindexLeaf ix m l = .ok l1 ∧ colPass ch (multiCols (Tree.node tag kids).flatTop) l1 = .ok l')
        (Tree.node tag kids).leaves t'.leaves := by
  obtain ⟨ix, hix, hsk, _, hp⟩ := syncJM_pairs ((syncJM_single j m ch _).trans h)
  exact ⟨ix, hix, hsk, (hp rfl).mono fun l _ ⟨l1, hr, hc⟩ => ⟨l1, (reindexLeafM_single ix m l).symm.trans hr, hc⟩⟩

theorem sync_pairs {how : How} {m : Option Dir} {ch : Option How} {tag : Tag} {kids : List (String × Tree)} {t' : Tree}
    (h : sync how m ch (.node tag kids) = .ok t') :
    t'.skel = (Tree.node tag kids).skel ∧
      Pairs (fun l l' => ∃ l1, reindexLeaf (dfIndex how (Tree.node tag kids).flatTop) m l = .ok l1 ∧
          colPass ch (multiCols (Tree.node tag kids).flatTop) l1 = .ok l') (Tree.node tag kids).leaves t'.leaves := by
  obtain ⟨ix, hix, hsk, hp⟩ := syncJ_pairs (j := .how how) h
  cases hix
  exact ⟨hsk, hp⟩

end Pyg.Align
