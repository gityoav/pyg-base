/-
  Every comparison of `cmpN` is a key (the type rank, then a length) followed by a lexicographic tail that only matters
  between values with equal keys (`cmpN_nf`): symmetry and the triple law hold of each component, hence of `cmpN` by
  induction on the nesting of the first value, and make `cmp` a `Std.TransCmp`, which has the further order facts.
-/
import PygModel.Cmp
import PygProofs.Lemmas.Basics
import PygProofs.Lemmas.Tri

namespace Pyg

theorem Cell.cmp_swap (a b : Cell) : Cell.cmp a b = (Cell.cmp b a).swap := by
  simp only [Cell.cmp, Cell.cmpSame, Ordering.swap_then]
  rw [Std.OrientedOrd.eq_swap (a := a.rank), Std.OrientedOrd.eq_swap (a := a.num.1),
    Std.OrientedOrd.eq_swap (a := a.num.2), Std.OrientedOrd.eq_swap (a := a.skey)]

theorem Cell.cmp_tri (a b c : Cell) : tri (Cell.cmp a b) (Cell.cmp b c) (Cell.cmp a c) :=
  tri_then (tri_compare _ _ _) (tri_then (tri_compare _ _ _)
    (tri_then (tri_compare _ _ _) (tri_compare _ _ _)))

theorem Cell.cmp_of_numKey {a b : Cell} {k l : Int × Int} (ha : a.rank = 4 ∧ a.num = k ∧ a.skey = "")
    (hb : b.rank = 4 ∧ b.num = l ∧ b.skey = "") : Cell.cmp a b = (compare k.1 l.1).then (compare k.2 l.2) := by
  rw [Cell.cmp, Cell.cmpSame, ha.1, hb.1, ha.2.1, hb.2.1, ha.2.2, hb.2.2]
  simp only [Std.ReflCmp.compare_self, Ordering.eq_then, Ordering.then_eq]

/-- ints and finite floats, counted in quarters: `4 * n` for the int `n`, `q` for the float `q / 4` -/
theorem Cell.cmp_of_num {a b : Cell} {p q : Int} (ha : a.rank = 4 ∧ a.num = (0, p) ∧ a.skey = "")
    (hb : b.rank = 4 ∧ b.num = (0, q) ∧ b.skey = "") : Cell.cmp a b = compare p q :=
  Cell.cmp_of_numKey ha hb

theorem Cell.cmp_str (x y : String) : Cell.cmp (.str x) (.str y) = compare x y := by
  simp only [Cell.cmp, Cell.cmpSame, Cell.rank, Cell.num, Cell.skey, Std.ReflCmp.compare_self, Ordering.eq_then]

theorem Cell.cmp_dt (x y : Int) : Cell.cmp (.dt x) (.dt y) = compare x y := by
  simp only [Cell.cmp, Cell.cmpSame, Cell.rank, Cell.num, Cell.skey, Std.ReflCmp.compare_self, Ordering.eq_then,
    Ordering.then_eq]

/-- row numbers and sort ranks, as python ints, compare by value -/
theorem Cell.cmp_natCast (a b : Nat) : Cell.cmp (.int a) (.int b) = compare a b := by
  rw [Cell.cmp_of_num (p := 4 * (a : Int)) (q := 4 * (b : Int)) ⟨rfl, rfl, rfl⟩ ⟨rfl, rfl, rfl⟩]
  rcases Nat.lt_trichotomy a b with h | h | h
  · rw [Nat.compare_eq_lt.2 h, Int.compare_eq_lt]; omega
  · rw [Nat.compare_eq_eq.2 h, Int.compare_eq_eq]; omega
  · rw [Nat.compare_eq_gt.2 h, Int.compare_eq_gt]; omega

theorem cmpArr_eq_lexArr : ∀ xs ys, cmpArr xs ys = lexArr cmpN xs ys
  | [], _ | _ :: _, [] => rfl
  | x :: xs, y :: ys => congrArg (cmpN x y).then (cmpArr_eq_lexArr xs ys)

theorem cmpVals_eq_lexArr : ∀ xs ys, cmpVals xs ys = lexArr cmpN (xs.map (·.2)) (ys.map (·.2))
  | [], _ | _ :: _, [] => rfl
  | x :: xs, y :: ys => congrArg (cmpN x.2 y.2).then (cmpVals_eq_lexArr xs ys)

theorem cmpKeys_eq_lexArr : ∀ xs ys, cmpKeys xs ys = lexArr compare (xs.map (·.1)) (ys.map (·.1))
  | [], _ | _ :: _, [] => rfl
  | x :: xs, y :: ys => congrArg (compare x.1 y.1).then (cmpKeys_eq_lexArr xs ys)

theorem Cell.rank_ne (c : Cell) : c.rank ≠ 3 ∧ c.rank ≠ 5 ∧ c.rank ≠ 7 := by
  cases c <;> simp [Cell.rank]

theorem cmpN_rank (a b : Val) : cmpN a b = (compare a.rank b.rank).then (cmpN a b) := by
  cases a <;> cases b <;>
    simp only [cmpN, Cell.cmp, Val.rank, Ordering.then_self, ← Ordering.then_assoc,
      Nat.compare_eq_eq.2 rfl, Ordering.eq_then]

theorem Val.eq_cell_of_rank {v : Val} {c : Cell} (h : v.rank = c.rank) : ∃ c', v = .cell c' := by
  cases v with
  | cell c' => exact ⟨c', rfl⟩
  | dict _ => exact absurd h.symm (Cell.rank_ne c).1
  | list _ => exact absurd h.symm (Cell.rank_ne c).2.1
  | tuple _ => exact absurd h.symm (Cell.rank_ne c).2.2

theorem Val.eq_dict_of_rank {v : Val} (h : v.rank = 3) : ∃ kvs, v = .dict kvs := by
  cases v with
  | cell c => exact absurd h (Cell.rank_ne c).1
  | dict kvs => exact ⟨kvs, rfl⟩
  | list _ | tuple _ => cases h

theorem Val.eq_list_of_rank {v : Val} (h : v.rank = 5) : ∃ xs, v = .list xs := by
  cases v with
  | cell c => exact absurd h (Cell.rank_ne c).2.1
  | list xs => exact ⟨xs, rfl⟩
  | dict _ | tuple _ => cases h

theorem Val.eq_tuple_of_rank {v : Val} (h : v.rank = 7) : ∃ xs, v = .tuple xs := by
  cases v with
  | cell c => exact absurd h (Cell.rank_ne c).2.2
  | tuple xs => exact ⟨xs, rfl⟩
  | dict _ | list _ => cases h

def Val.cellPart : Val → Cell
  | .cell x => x
  | _ => .none

def Val.keys : Val → List String
  | .dict kvs => kvs.map (·.1)
  | _ => []

def Val.kids : Val → List Val
  | .cell _ => []
  | .list xs | .tuple xs => xs
  | .dict kvs => kvs.map (·.2)

theorem Val.keys_length (a : Val) : a.keys.length = if a.rank = 3 then a.kids.length else 0 := by
  cases a with
  | cell x => exact (if_neg (Cell.rank_ne x).1).symm
  | dict kvs => exact (List.length_map _).trans (List.length_map _).symm
  | list _ | tuple _ => rfl

theorem Val.ind_kids {P : Val → Prop} (h : ∀ a, (∀ x ∈ a.kids, P x) → P a) : ∀ a, P a :=
  Val.ind (fun c => h (.cell c) fun _ hx => nomatch hx) (fun xs ih => h (.list xs) ih) (fun xs ih => h (.tuple xs) ih)
    fun kvs ih => h (.dict kvs) fun x hx => by
      obtain ⟨kv, hkv, rfl⟩ := List.mem_map.1 hx
      exact ih kv hkv

/-- between values of one type rank: the scalar payload, the length, the dict keys, the members -/
theorem cmpN_nf {a b : Val} (e : a.rank = b.rank) :
    cmpN a b = (Cell.cmp a.cellPart b.cellPart).then ((compare a.kids.length b.kids.length).then
      ((lexArr compare a.keys b.keys).then (lexArr cmpN a.kids b.kids))) := by
  have hc (o : Ordering) : o = (Cell.cmp .none .none).then o := rfl
  cases a with
  | cell x =>
    obtain ⟨y, rfl⟩ := Val.eq_cell_of_rank e.symm
    exact Ordering.then_eq.symm
  | list xs =>
    obtain ⟨ys, rfl⟩ := Val.eq_list_of_rank e.symm
    rw [cmpN, cmpArr_eq_lexArr]
    exact hc _
  | tuple xs =>
    obtain ⟨ys, rfl⟩ := Val.eq_tuple_of_rank e.symm
    rw [cmpN, cmpArr_eq_lexArr]
    exact hc _
  | dict xs =>
    obtain ⟨ys, rfl⟩ := Val.eq_dict_of_rank e.symm
    show (compare xs.length ys.length).then ((cmpKeys xs ys).then (cmpVals xs ys)) = _
    rw [cmpKeys_eq_lexArr, cmpVals_eq_lexArr, Val.kids, Val.kids, List.length_map, List.length_map]
    exact hc _

theorem cmpN_swap (a b : Val) : cmpN a b = (cmpN b a).swap := by
  induction a using Val.ind_kids generalizing b with | _ a ih =>
  rw [cmpN_rank a b, cmpN_rank b a]
  refine swap_compare_then a.rank b.rank fun e => ?_
  rw [cmpN_nf e, cmpN_nf e.symm, Ordering.swap_then, Ordering.swap_then, Ordering.swap_then, ← Cell.cmp_swap,
    ← Std.OrientedOrd.eq_swap, ← swap_lexArr compare _ _ fun _ _ _ => Std.OrientedOrd.eq_swap, ← swap_lexArr cmpN _ _ ih]

theorem cmpN_tri (a b c : Val) : tri (cmpN a b) (cmpN b c) (cmpN a c) := by
  induction a using Val.ind_kids generalizing b c with | _ a ih =>
  rw [cmpN_rank a b, cmpN_rank b c, cmpN_rank a c]
  refine tri_compare_then a.rank b.rank c.rank fun e1 e2 => ?_
  rw [cmpN_nf e1, cmpN_nf e2, cmpN_nf (e1.trans e2)]
  refine tri_then (Cell.cmp_tri _ _ _) (tri_compare_then _ _ _ fun l1 l2 => tri_then ?_ ?_)
  · -- all three are dicts or none is, so the key lists are as long as one another
    refine tri_lexArr compare _ _ _ ?_ ?_ fun x _ y z => tri_compare x y z
    · rw [Val.keys_length, Val.keys_length, e1, l1]
    · rw [Val.keys_length, Val.keys_length, e2, l2]
  · exact tri_lexArr cmpN _ _ _ l1 l2 ih

instance : Std.TransCmp Cell.cmp := TransCmp.of_tri Cell.cmp_swap Cell.cmp_tri

instance : Std.TransCmp cmpN := TransCmp.of_tri cmpN_swap cmpN_tri

instance : Std.TransCmp cmp := TransCmp.comap (f := cmpN) Val.norm

theorem cmp_swap (a b : Val) : cmp a b = (cmp b a).swap := Std.OrientedCmp.eq_swap

theorem cmp_self (a : Val) : cmp a a = .eq := Std.ReflCmp.compare_self

theorem Val.norm_rank (v : Val) : v.norm.rank = v.rank := by
  cases v <;> rfl

theorem cmp_rank (a b : Val) : cmp a b = (compare a.rank b.rank).then (cmp a b) := by
  have h := cmpN_rank a.norm b.norm
  rw [Val.norm_rank, Val.norm_rank] at h
  exact h

theorem cmp_rank_le (a b : Val) (h : (cmp a b).isLE = true) : a.rank ≤ b.rank := by
  rw [cmp_rank] at h
  exact Nat.isLE_compare.1 (Ordering.isLE_left_of_isLE_then h)

theorem cmp_rank_eq {a b : Val} (h : cmp a b = .eq) : a.rank = b.rank := by
  rw [cmp_rank] at h
  exact Nat.compare_eq_eq.1 (Ordering.then_eq_eq.1 h).1

theorem cmp_of_rank_lt (a b : Val) (h : a.rank < b.rank) : cmp a b = .lt := by
  rw [cmp_rank, Nat.compare_eq_lt.2 h]
  rfl

theorem cmpNaT_nat_val (v : Val) : cmpNaT .nat (.val v) = if v.rank ≤ 2 then .gt else .lt := by
  simp only [cmpNaT]
  rcases Nat.lt_trichotomy 2 v.rank with h | h | h
  · rw [Nat.compare_eq_lt.2 h, if_neg (by omega)]; rfl
  · rw [← h]; simp
  · rw [Nat.compare_eq_gt.2 h, if_pos (by omega)]; rfl

theorem cmpNaT_swap (a b : ValN) : cmpNaT a b = (cmpNaT b a).swap := by
  cases a <;> cases b <;> simp only [cmpNaT]
  · rfl
  · rename_i v; rw [Std.OrientedOrd.eq_swap (a := v.rank) (b := 2)]; cases compare 2 v.rank <;> rfl
  · rename_i v; rw [Std.OrientedOrd.eq_swap (a := 2) (b := v.rank)]; cases compare v.rank 2 <;> rfl
  · exact cmp_swap _ _

instance : Std.TransCmp cmpNaT where
  eq_swap := cmpNaT_swap _ _
  isLE_trans {a b c} h1 h2 := by
    -- NaT sits between the type ranks 2 and 3: above a value iff its rank is at most 2
    have natLe (v : Val) : (cmpNaT .nat (.val v)).isLE = true ↔ 2 < v.rank := by
      rw [cmpNaT_nat_val]
      split
      · rename_i h; simp [Nat.not_lt.2 h]
      · rename_i h; simp [Nat.not_le.1 h]
    have leNat (v : Val) : (cmpNaT (.val v) .nat).isLE = true ↔ v.rank ≤ 2 := by
      rw [cmpNaT_swap, cmpNaT_nat_val]
      split
      · rename_i h; simp [h]
      · rename_i h; simp [h]
    cases a <;> cases b <;> cases c
    · rfl
    · exact h2
    · rfl
    · exact (natLe _).2 (Nat.lt_of_lt_of_le ((natLe _).1 h1) (cmp_rank_le _ _ h2))
    · exact h1
    · rename_i v w
      have := cmp_of_rank_lt v w (Nat.lt_of_le_of_lt ((leNat _).1 h1) ((natLe _).1 h2))
      simp [cmpNaT, this]
    · exact (leNat _).2 (Nat.le_trans (cmp_rank_le _ _ h1) ((leNat _).1 h2))
    · exact Std.TransCmp.isLE_trans (cmp := cmp) h1 h2

theorem normList_eq_map : ∀ xs, normList xs = xs.map Val.norm
  | [] => rfl
  | x :: xs => congrArg (x.norm :: ·) (normList_eq_map xs)

theorem cmpN_seq (xs ys : List Val) :
    (compare (normList xs).length (normList ys).length).then (cmpArr (normList xs) (normList ys)) =
      (compare xs.length ys.length).then (lexArr cmp xs ys) := by
  rw [cmpArr_eq_lexArr, normList_eq_map, normList_eq_map, List.length_map, List.length_map, lexArr_map]
  rfl

theorem cmp_tuple (xs ys : List Val) :
    cmp (.tuple xs) (.tuple ys) = (compare xs.length ys.length).then (lexArr cmp xs ys) :=
  cmpN_seq xs ys

theorem cmp_list (xs ys : List Val) :
    cmp (.list xs) (.list ys) = (compare xs.length ys.length).then (lexArr cmp xs ys) :=
  cmpN_seq xs ys

theorem cmp_cell (a b : Cell) : cmp (.cell a) (.cell b) = Cell.cmp a b := rfl

theorem cmp_tuple_cells (xs ys : List Cell) :
    cmp (.tuple (xs.map .cell)) (.tuple (ys.map .cell)) =
      (compare xs.length ys.length).then (lexArr Cell.cmp xs ys) := by
  rw [cmp_tuple, List.length_map, List.length_map, lexArr_map]
  rfl

end Pyg
