/-
  The core of C17 (bitemporal store).  Two columns are `CutEq` when every as-of cut of them folds to the same value;
  `_drop_repeats` on a column sorted by stamp, and so one `bi_merge`, leaves a column `CutEq` to what it was given.  Every read
  and every specification has the one shape `perDate`.
-/
import PygModel.Bitemp
import PygProofs.Lemmas.Basics

namespace Pyg.Bitemp

theorem ffillFrom_length (p : Option Int) (vs : List (Option Int)) : (ffillFrom p vs).length = vs.length := by
  induction vs generalizing p with
  | nil => rfl
  | cons v vs ih => simp [ffillFrom, ih]

/-- the mask of `_drop_repeats` (`_bitemporal.py:149-153`) as a recursion, for series (`val = Row.val`) and frames (`RowF.vals`): drop every row whose
    forward-filled value `fill (val r) p` repeats the filled value `p` of the row before; `none`: no row seen yet -/
def stepG {ρ φ} (val : ρ → φ) (fill : φ → φ → φ) (rep : φ → φ → Bool) : Option φ → List ρ → List ρ
  | _, [] => []
  | Option.none, r :: rest => r :: stepG val fill rep (some (val r)) rest
  | some p, r :: rest =>
      if rep (fill (val r) p) p then stepG val fill rep (some (fill (val r) p)) rest
      else r :: stepG val fill rep (some (fill (val r) p)) rest

theorem stepG_sublist {ρ φ} (val : ρ → φ) (fill : φ → φ → φ) (rep : φ → φ → Bool) (prev) (c : List ρ) :
    (stepG val fill rep prev c).Sublist c := by
  fun_induction stepG val fill rep prev c with
  | case1 => exact List.Sublist.refl _
  | case2 r rest ih => exact ih.cons_cons _
  | case3 p r rest h ih => exact ih.cons _
  | case4 p r rest h ih => exact ih.cons_cons _

/-- the vectorised mask equals the recursion, for the rows after the first; `ff` is `ffillFrom` / `ffillFromF` -/
theorem mask_eq_stepG {ρ φ} (val : ρ → φ) (fill : φ → φ → φ) (rep : φ → φ → Bool) (ff : φ → List φ → List φ)
    (hcons : ∀ p v vs, ff p (v :: vs) = fill v p :: ff (fill v p) vs) (p : φ) (d : List ρ) :
    ((d.zip ((List.zipWith rep (ff p (d.map val)) (p :: ff p (d.map val))).map (!·))).filter (·.2)).map (·.1)
      = stepG val fill rep (some p) d := by
  induction d generalizing p with
  | nil => simp [stepG]
  | cons r rest ih =>
    simp only [List.map_cons, hcons, List.zipWith_cons_cons, List.zip_cons_cons, List.filter_cons, stepG]
    by_cases h : rep (fill (val r) p) p = true
    · simp only [h, Bool.not_true, Bool.false_eq_true, if_false, if_true]
      exact ih _
    · simp only [Bool.not_eq_true] at h
      simp only [h, Bool.not_false, if_true, List.map_cons, Bool.false_eq_true, if_false]
      congr 1
      exact ih _

abbrev stepS : Option (Option Int) → Store → Store := stepG Row.val Option.or npEq

theorem dropRepeats_eq (d : Store) : dropRepeats d = keepLast (stepS Option.none d) := by
  cases d with
  | nil => rfl
  | cons r rest =>
    unfold dropRepeats
    simp only [List.map_cons, ffill, ffillFrom, Option.or_none, List.drop_succ_cons, List.drop_zero,
      List.zip_cons_cons, List.filter_cons, if_true, stepS, stepG]
    rw [List.zipWith_cons_dropLast, mask_eq_stepG Row.val Option.or npEq ffillFrom fun _ _ _ => rfl]

/-- as-of filters: predicates that only look at the stamp and are downward closed -/
def Down (p : Row → Bool) : Prop := ∀ r r' : Row, r'.stamp ≤ r.stamp → p r = true → p r' = true

/-- fold of publications with "no publication yet" (`none`) kept apart from "only NaN so far" (`some none`) -/
def accVal (acc : Option (Option Int)) (rows : Store) : Option (Option Int) :=
  rows.foldl (fun a r => some (r.val.or (a.getD Option.none))) acc

/-- two columns fold alike at every as-of cut -/
def CutEq (X Y : Store) : Prop := ∀ p, Down p → accVal Option.none (X.filter p) = accVal Option.none (Y.filter p)

def NanFirst (c : Store) : Prop := c.Pairwise (fun a b => b.val = Option.none → a.val = Option.none)
def SortedLe (c : Store) : Prop := c.Pairwise (fun a b => a.stamp ≤ b.stamp)
def SortedLt (c : Store) : Prop := c.Pairwise (fun a b => a.stamp < b.stamp)

theorem SortedLt.le {c : Store} (h : SortedLt c) : SortedLe c := h.imp (by intro a b hab; omega)

theorem Down.congr {p} (hp : Down p) {r r' : Row} (h : r.stamp = r'.stamp) : p r = p r' := by
  cases h1 : p r <;> cases h2 : p r' <;> simp
  · have := hp r' r (by omega) h2; simp_all
  · have := hp r r' (by omega) h1; simp_all

theorem keepLast_sublist (c : Store) : (keepLast c).Sublist c := by
  fun_induction keepLast c with
  | case1 => exact List.Sublist.refl _
  | case2 r rest h ih => exact ih.cons _
  | case3 r rest h ih => exact ih.cons_cons _

theorem dropRepeats_sublist (c : Store) : (dropRepeats c).Sublist c := by
  rw [dropRepeats_eq]; exact (keepLast_sublist _).trans (stepG_sublist ..)

theorem filter_nil_of_sorted {p} (hp : Down p) {r : Row} {rest : Store} (hs : SortedLe (r :: rest))
    (hr : p r = false) : rest.filter p = [] := by
  rw [List.filter_eq_nil_iff]
  intro r' hr' hp'
  have := hp r' r (List.rel_of_pairwise_cons hs hr') hp'
  simp_all

theorem accVal_cons (acc) (r : Row) (rows : Store) :
    accVal acc (r :: rows) = accVal (some (r.val.or (acc.getD Option.none))) rows := rfl

theorem accVal_append (acc) (a b : Store) : accVal acc (a ++ b) = accVal (accVal acc a) b := by
  simp [accVal, List.foldl_append]

theorem npEq_eq {a b : Option Int} (h : npEq a b = true) : a = b := by
  cases a <;> cases b <;> simp_all [npEq]

/-- `S` is `C` without some rows that repeat the forward-filled value before them (state `a`: nothing seen yet / the filled
    value so far) -/
inductive RepSub : Option (Option Int) → Store → Store → Prop
  | nil (a) : RepSub a [] []
  | keep (a) (r : Row) (S C : Store) : RepSub (some (r.val.or (a.getD Option.none))) S C → RepSub a (r :: S) (r :: C)
  | drop (q : Option Int) (r : Row) (S C : Store) : npEq (r.val.or q) q = true → RepSub (some (r.val.or q)) S C →
      RepSub (some q) S (r :: C)

theorem RepSub.sublist {a S C} (h : RepSub a S C) : S.Sublist C := by
  induction h with
  | nil => simp
  | keep _ r _ _ _ ih => exact ih.cons_cons r
  | drop _ r _ _ _ _ ih => exact ih.cons r

theorem RepSub.spec {a S C} (h : RepSub a S C) {p} (hp : Down p) (hs : SortedLe C) :
    accVal a (S.filter p) = accVal a (C.filter p) := by
  -- in stamp order nothing after an invisible row is visible
  have invisible : ∀ {a : Option (Option Int)} {r : Row} {S C : Store}, S.Sublist C → SortedLe (r :: C) → ¬ p r = true →
      accVal a (S.filter p) = accVal a (C.filter p) := by
    intro a r S C hsub hs hr
    have h1 : C.filter p = [] := filter_nil_of_sorted hp hs (Bool.not_eq_true _ ▸ hr)
    have h2 : S.filter p = [] := List.eq_nil_of_sublist_nil (h1 ▸ hsub.filter p)
    rw [h1, h2]
  induction h with
  | nil => rfl
  | keep a r S C hsub ih =>
    by_cases hr : p r = true
    · rw [List.filter_cons_of_pos hr, List.filter_cons_of_pos hr, accVal_cons, accVal_cons]
      exact ih hs.tail
    · rw [List.filter_cons_of_neg hr, List.filter_cons_of_neg hr]
      exact invisible hsub.sublist hs hr
  | drop q r S C heq hsub ih =>
    by_cases hr : p r = true
    · -- a repeat: the fold stays where it was
      have := ih hs.tail
      rw [List.filter_cons_of_pos hr, accVal_cons, Option.getD_some]
      rw [npEq_eq heq] at this ⊢
      exact this
    · rw [List.filter_cons_of_neg hr]
      exact invisible hsub.sublist hs hr

theorem stepS_repSub (prev) (c : Store) : RepSub prev (stepS prev c) c := by
  unfold stepS
  fun_induction stepG Row.val Option.or npEq prev c with
  | case1 => exact .nil _
  | case2 r rest ih => exact .keep _ r _ _ (by rw [Option.getD_none, Option.or_none]; exact ih)
  | case3 p r rest h ih => exact .drop p r _ _ h ih
  | case4 p r rest h ih => exact .keep _ r _ _ ih

theorem npEq_self_false {f : Option Int} (h : npEq f f = false) : f = Option.none := by
  cases f <;> simp_all [npEq]

theorem stepS_val {f : Option Int} {c : Store} {b : Row} (hb : b ∈ stepS (some f) c) (hv : b.val = Option.none) :
    f = Option.none := by
  induction c generalizing f with
  | nil => exact absurd hb List.not_mem_nil
  | cons r rest ih =>
    have hor : ∀ {g : Option Int}, r.val.or g = Option.none → g = Option.none :=
      fun h => (Option.or_eq_none_iff.mp h).2
    rw [stepS, stepG] at hb
    split at hb
    · exact hor (ih hb)
    · rename_i hne
      rcases List.mem_cons.mp hb with rfl | hb
      · rw [hv, Option.none_or] at hne
        exact npEq_self_false (Bool.not_eq_true _ ▸ hne)
      · exact hor (ih hb)

theorem stepS_nanFirst (prev) (c : Store) : NanFirst (stepS prev c) := by
  have key : ∀ (r : Row) (q : Option Int) (rest : Store), NanFirst (stepS (some (r.val.or q)) rest) →
      NanFirst (r :: stepS (some (r.val.or q)) rest) := by
    intro r q rest ih
    refine List.pairwise_cons.mpr ⟨?_, ih⟩
    intro b hb hv
    have := stepS_val hb hv
    cases hrv : r.val <;> simp_all
  unfold stepS
  fun_induction stepG Row.val Option.or npEq prev c with
  | case1 => exact List.Pairwise.nil
  | case2 r rest ih =>
    rw [← Option.or_none (o := r.val)] at ih ⊢
    exact key r Option.none rest ih
  | case3 p r rest h ih => exact ih
  | case4 p r rest h ih => exact key r p rest ih

theorem accVal_nonempty_congr (a b : Option (Option Int)) (X : Store) (hX : X ≠ [])
    (h : a.getD Option.none = b.getD Option.none ∨ ∀ r ∈ X, r.val ≠ Option.none) : accVal a X = accVal b X := by
  cases X with
  | nil => exact absurd rfl hX
  | cons x X =>
    rw [accVal_cons, accVal_cons]
    rcases h with h | h
    · rw [h]
    · cases hx : x.val with
      | none => exact absurd hx (h x List.mem_cons_self)
      | some v => rfl

theorem keepLast_spec {p} (hp : Down p) (acc) (c : Store) (hn : NanFirst c) :
    accVal acc ((keepLast c).filter p) = accVal acc (c.filter p) := by
  fun_induction keepLast c generalizing acc with
  | case1 => rfl
  | case2 r rest hany ih =>
    rw [ih _ hn.tail]
    by_cases hr : p r = true
    · rw [List.filter_cons_of_pos hr, accVal_cons]
      -- a later row of the same stamp is visible too, so the fold goes on; it ends the same unless `r` carried a value, and
      -- then (NaN rows first) every later row carries one and overrides it
      obtain ⟨r', hr', hst⟩ := List.any_eq_true.mp hany
      have hpr' : p r' = true := (hp.congr (eq_of_beq hst)).trans hr
      have hX : rest.filter p ≠ [] := List.ne_nil_of_mem (List.mem_filter.mpr ⟨hr', hpr'⟩)
      apply accVal_nonempty_congr _ _ _ hX
      cases hv : r.val with
      | none => exact Or.inl rfl
      | some v =>
        refine Or.inr fun x hx hxv => ?_
        have := List.rel_of_pairwise_cons hn (List.mem_filter.mp hx).1 hxv
        rw [hv] at this
        cases this
    · rw [List.filter_cons_of_neg hr]
  | case3 r rest hany ih =>
    by_cases hr : p r = true
    · rw [List.filter_cons_of_pos hr, List.filter_cons_of_pos hr, accVal_cons, accVal_cons]
      exact ih _ hn.tail
    · rw [List.filter_cons_of_neg hr, List.filter_cons_of_neg hr]
      exact ih _ hn.tail

theorem keepLast_sortedLt (c : Store) (hs : SortedLe c) : SortedLt (keepLast c) := by
  fun_induction keepLast c with
  | case1 => exact List.Pairwise.nil
  | case2 r rest h ih => exact ih hs.tail
  | case3 r rest hany ih =>
    refine List.pairwise_cons.mpr ⟨?_, ih hs.tail⟩
    intro b hb
    have hb' : b ∈ rest := (keepLast_sublist rest).subset hb
    have h1 : r.stamp ≤ b.stamp := List.rel_of_pairwise_cons hs hb'
    have h2 : b.stamp ≠ r.stamp := by
      intro h; apply hany; exact List.any_eq_true.mpr ⟨b, hb', by simpa using h⟩
    omega

theorem dropRepeats_spec (c : Store) (hs : SortedLe c) : CutEq (dropRepeats c) c := by
  intro p hp
  rw [dropRepeats_eq, keepLast_spec hp _ _ (stepS_nanFirst _ _), (stepS_repSub _ _).spec hp hs]

theorem dropRepeats_good (c : Store) (hs : SortedLe c) : SortedLt (dropRepeats c) ∧ NanFirst (dropRepeats c) := by
  rw [dropRepeats_eq]
  exact ⟨keepLast_sortedLt _ (hs.sublist (stepG_sublist ..)), (stepS_nanFirst _ _).sublist (keepLast_sublist _)⟩

theorem stampLe_trans (a b c : Row) : stampLe a b → stampLe b c → stampLe a c := by
  simp only [stampLe, decide_eq_true_eq]; omega

theorem stampLe_total (a b : Row) : (stampLe a b || stampLe b a) = true := by
  simp only [stampLe, Bool.or_eq_true, decide_eq_true_eq]; omega

theorem sortStamp_filter (p : Row → Bool) (l : Store) : (sortStamp l).filter p = sortStamp (l.filter p) :=
  List.mergeSort_filter stampLe_trans stampLe_total p l

theorem sortStamp_of_sorted {c : Store} (h : SortedLe c) : sortStamp c = c :=
  List.mergeSort_of_pairwise (h.imp (by intro a b hab; simpa [stampLe] using hab))

theorem sortStamp_sorted (c : Store) : SortedLe (sortStamp c) :=
  (List.pairwise_mergeSort stampLe_trans stampLe_total c).imp (by intro a b hab; simpa [stampLe] using hab)

theorem mem_sortStamp {r : Row} {c : Store} : r ∈ sortStamp c ↔ r ∈ c := List.mem_mergeSort

theorem group_sortStamp (d : Int) (rows : Store) : group d (sortStamp rows) = sortStamp (group d rows) :=
  sortStamp_filter _ _

theorem mem_dates {rows : Store} {d : Int} : d ∈ dates rows ↔ ∃ r ∈ rows, r.date = d :=
  List.mem_mergeSort_eraseDups.trans List.mem_map

theorem dates_sorted (rows : Store) : (dates rows).Pairwise (· < ·) := List.pairwise_mergeSort_eraseDups _

theorem dates_nodup (rows : Store) : (dates rows).Nodup := List.sorted_nodup Int.lt_irrefl (dates_sorted rows)

theorem dates_congr {a b : Store} (h : ∀ d, (∃ r ∈ a, r.date = d) ↔ (∃ r ∈ b, r.date = d)) : dates a = dates b :=
  List.pairwise_ext (fun _ _ => Int.lt_asymm) (dates_sorted a) (dates_sorted b) (by intro d; rw [mem_dates, mem_dates]; exact h d)

theorem dates_sortStamp (rows : Store) : dates (sortStamp rows) = dates rows :=
  dates_congr (by intro d; simp [mem_sortStamp])

theorem group_ne_nil {rows : Store} {d : Int} : group d rows ≠ [] ↔ ∃ r ∈ rows, r.date = d := by
  simp [group, List.filter_eq_nil_iff]

theorem mem_group {rows : Store} {d : Int} {r : Row} : r ∈ group d rows ↔ r ∈ rows ∧ r.date = d := by
  simp [group]

/-- the as-of filter of `bi_read` as a row predicate; `none` reads everything -/
def vis (asof : Option Int) (r : Row) : Bool :=
  match asof with
  | some T => decide (r.stamp ≤ T)
  | Option.none => true

theorem vis_down (asof : Option Int) : Down (vis asof) := by
  intro r r' h
  cases asof with
  | none => simp [vis]
  | some T => simp only [vis, decide_eq_true_eq]; omega

/-- a stamp is visible as of `asof` (`none`: every stamp is): `Vis (some T) s` is `s ≤ T`, `Vis none s` is `True`, by reduction -/
def Vis : Option Int → Int → Prop
  | some T, s => s ≤ T
  | Option.none, _ => True

theorem vis_iff (asof : Option Int) (r : Row) : vis asof r = true ↔ Vis asof r.stamp := by
  cases asof with
  | none => simp [vis, Vis]
  | some T => simp [vis, Vis]

theorem filter_vis_none (rows : Store) : rows.filter (vis Option.none) = rows :=
  List.filter_eq_self.mpr fun _ _ => rfl

theorem biRead_eq (st : Store) (asof : Option Int) (w : Int) :
    biRead st asof w = (dates (sortStamp (st.filter (vis asof)))).map fun d =>
      (d, nthVal w (group d (sortStamp (st.filter (vis asof))))) := by
  cases asof with
  | none => simp only [biRead, filter_vis_none]
  | some T => rfl

theorem group_filter (d : Int) (q : Row → Bool) (rows : Store) : group d (rows.filter q) = (group d rows).filter q := by
  simp only [group, List.filter_filter]
  congr 1; funext r; exact Bool.and_comm _ _

theorem group_append (d : Int) (a b : Store) : group d (a ++ b) = group d a ++ group d b := by
  simp [group]

theorem biReadS_eq (st : Store) (asof : Option Int) (sel : Sel) :
    biReadS st asof sel = (dates (sortStamp (st.filter (vis asof)))).map fun d =>
      (d, sel.apply (group d (sortStamp (st.filter (vis asof))))) := by
  cases asof with
  | none => simp only [biReadS, filter_vis_none]
  | some T => rfl

/-- the shape of every read and every specification of C17: per date with a visible row, a function of the date's visible rows -/
def perDate (F : Store → Option Int) (rows : Store) (asof : Option Int) : TS :=
  (dates (rows.filter (vis asof))).map fun d => (d, F ((group d rows).filter (vis asof)))

theorem perDate_eq (F : Store → Option Int) (rows : Store) (asof : Option Int) :
    (let pubs := match asof with
      | some T => rows.filter (fun r => decide (r.stamp ≤ T))
      | Option.none => rows
     (dates pubs).map fun d => (d, F (group d pubs))) = perDate F rows asof := by
  cases asof with
  | none => simp only [perDate, filter_vis_none]
  | some T => simp only [perDate, group_filter]; rfl

theorem specRead_eq (log : List Version) (asof : Option Int) : specRead log asof = perDate lastVal (logRows log) asof :=
  perDate_eq ..

theorem specFirst_eq (log : List Version) (asof : Option Int) : specFirst log asof = perDate firstVal (logRows log) asof :=
  perDate_eq ..

theorem specFirstLiteral_eq (log : List Version) (asof : Option Int) :
    specFirstLiteral log asof = perDate (fun g => g.head?.bind (·.val)) (logRows log) asof :=
  perDate_eq (fun g => g.head?.bind (·.val)) (logRows log) asof

theorem specReadR_eq (rows : Store) (asof : Option Int) : specReadR rows asof = perDate lastVal rows asof := perDate_eq ..

theorem specFirstR_eq (rows : Store) (asof : Option Int) : specFirstR rows asof = perDate firstVal rows asof := perDate_eq ..

theorem mem_perDate {F : Store → Option Int} {rows : Store} {asof : Option Int} {d : Int} {y : Option Int} :
    (d, y) ∈ perDate F rows asof ↔
      (group d rows).filter (vis asof) ≠ [] ∧ y = F ((group d rows).filter (vis asof)) := by
  rw [perDate, List.mem_map, ← group_filter, group_ne_nil, ← mem_dates, group_filter]
  constructor
  · rintro ⟨d', hd', he⟩
    cases he
    exact ⟨hd', rfl⟩
  · rintro ⟨hd, rfl⟩
    exact ⟨d, hd, rfl⟩

theorem perDate_index (F : Store → Option Int) (rows : Store) (asof : Option Int) :
    (perDate F rows asof).index = dates (rows.filter (vis asof)) := by
  simp only [perDate, TS.index, List.map_map, Function.comp_def, List.map_id']

theorem accVal_some (a : Option Int) (X : Store) :
    accVal (some a) X = some (X.foldl (fun acc r => r.val.or acc) a) := by
  induction X generalizing a with
  | nil => rfl
  | cons x X ih => simp only [accVal_cons, Option.getD_some, List.foldl_cons]; exact ih _

theorem lastVal_eq_getD (X : Store) : lastVal X = (accVal Option.none X).getD Option.none := by
  cases X with
  | nil => rfl
  | cons x X => simp [accVal_cons, accVal_some, lastVal]

theorem accVal_eq_none {X : Store} : accVal Option.none X = Option.none ↔ X = [] := by
  cases X with
  | nil => simp [accVal]
  | cons x X => simp [accVal_cons, accVal_some]

theorem lastVal_snoc (X : Store) (r : Row) : lastVal (X ++ [r]) = r.val.or (lastVal X) := by
  simp [lastVal, List.foldl_append]

/-- pandas' `last()` (last non-NaN) is the fold `lastVal` - on every group, whatever its shape -/
theorem lastNonNan_eq_lastVal (v : Store) : lastNonNan v = lastVal v := by
  induction v using List.rev_induction with
  | nil => rfl
  | snoc l r ih =>
    rw [lastVal_snoc, ← ih, lastNonNan, lastNonNan, List.reverse_append, List.reverse_singleton, List.singleton_append,
      List.find?_cons]
    cases hv : r.val <;> simp [hv]

theorem foldl_or_eq (B : Store) (a : Option Int) : B.foldl (fun acc r => r.val.or acc) a = (lastVal B).or a := by
  induction B generalizing a with
  | nil => simp [lastVal]
  | cons r B ih =>
    simp only [List.foldl_cons, lastVal]
    rw [ih, ih (r.val.or Option.none), Option.or_none, Option.or_assoc]

theorem lastVal_append (A B : Store) : lastVal (A ++ B) = (lastVal B).or (lastVal A) := by
  simp only [lastVal, List.foldl_append]; exact foldl_or_eq B _

theorem lastVal_cons (r : Row) (B : Store) : lastVal (r :: B) = (lastVal B).or r.val := by
  have := lastVal_append [r] B
  simpa [lastVal] using this

theorem lastVal_eq_none_iff (rows : Store) : lastVal rows = Option.none ↔ ∀ r ∈ rows, r.val = Option.none := by
  induction rows with
  | nil => simp [lastVal]
  | cons r rows ih =>
    rw [lastVal_cons, Option.or_eq_none_iff, ih]
    simp [and_comm]

theorem lastVal_some_mem {rows : Store} {x : Int} (h : lastVal rows = some x) : ∃ r ∈ rows, r.val = some x := by
  rw [← lastNonNan_eq_lastVal, lastNonNan] at h
  obtain ⟨r, hr, hv⟩ := Option.bind_eq_some_iff.mp h
  exact ⟨r, List.mem_reverse.mp (List.mem_of_find?_eq_some hr), hv⟩

theorem lastVal_none_or_eq (y : Option Int) (B : Store) (h : ∀ r ∈ B, r.val = Option.none ∨ r.val = y) :
    lastVal B = Option.none ∨ lastVal B = y := by
  induction B with
  | nil => exact Or.inl rfl
  | cons b B ih =>
    rw [lastVal_cons]
    rcases ih (fun r hr => h r (by simp [hr])) with e | e <;> rw [e]
    · simpa using h b (by simp)
    · cases y with
      | none => simpa using h b (by simp)
      | some x => right; rfl

theorem accVal_noop (y : Option Int) (n : Store) (h : ∀ r ∈ n, r.val = Option.none ∨ r.val = y) :
    accVal (some y) n = some y := by
  rw [accVal_some, foldl_or_eq]
  rcases lastVal_none_or_eq y n h with e | e <;> rw [e]
  · rfl
  · rw [Option.or_self]

theorem accVal_ne_nil (X : Store) (h : X ≠ []) : accVal Option.none X = some (lastVal X) := by
  rw [lastVal_eq_getD]
  cases hX : accVal Option.none X with
  | none => exact absurd (accVal_eq_none.mp hX) h
  | some a => rfl

/-- the position `_nth` selects in a group of `len` rows: `n ≥ 0` counts from the start, `n < 0` from the end, clamped -/
def nthIdx (n : Int) (len : Nat) : Nat :=
  if 0 ≤ n then min n.toNat (len - 1) else ((len : Int) + max n (-(len : Int))).toNat

theorem nth_eq (n : Int) (v : Store) : nth n v = v[nthIdx n v.length]? :=
  (apply_ite (fun i => v[i]?) (0 ≤ n) _ _).symm

theorem nthF_eq (n : Int) (v : StoreF) : nthF n v = v[nthIdx n v.length]? :=
  (apply_ite (fun i => v[i]?) (0 ≤ n) _ _).symm

theorem nthIdx_neg_one (len : Nat) : nthIdx (-1) len = len - 1 := by
  unfold nthIdx
  rw [if_neg (by decide)]
  cases len with
  | zero => rfl
  | succ k =>
    have : max (-1 : Int) (-((k + 1 : Nat) : Int)) = -1 := Int.max_eq_left (by omega)
    rw [this, Int.natCast_succ, Int.add_neg_cancel_right, Int.toNat_natCast]
    rfl

theorem nthIdx_natCast (k len : Nat) : nthIdx k len = min k (len - 1) := by
  unfold nthIdx
  rw [if_pos (Int.natCast_nonneg k), Int.toNat_natCast]

theorem nthIdx_lt (n : Int) {len : Nat} (h : 0 < len) : nthIdx n len < len := by
  unfold nthIdx
  split
  · exact Nat.lt_of_le_of_lt (Nat.min_le_right _ _) (Nat.sub_lt h Nat.one_pos)
  · omega

theorem nth_neg_one (v : Store) : nth (-1) v = v.getLast? := by
  rw [nth_eq, nthIdx_neg_one, List.getLast?_eq_getElem?]

theorem nth_zero (v : Store) : nth 0 v = v.head? := by
  have e : nthIdx 0 v.length = 0 := (nthIdx_natCast 0 v.length).trans (Nat.zero_min _)
  rw [nth_eq, e, List.head?_eq_getElem?]

theorem getLast_nanFirst (v : Store) (h : NanFirst v) : v.getLast?.bind (·.val) = lastVal v := by
  cases hl : v.getLast? with
  | none => rw [List.getLast?_eq_none_iff.mp hl]; rfl
  | some r =>
    obtain ⟨ys, rfl⟩ := List.getLast?_eq_some_iff.mp hl
    rw [lastVal_snoc]
    cases hv : r.val with
    | some x => simp [hv]
    | none =>
      have hall : ∀ y ∈ ys, y.val = Option.none := by
        intro y hy
        have := (List.pairwise_append.mp h).2.2 y hy r (by simp)
        exact this hv
      simp [hv, (lastVal_eq_none_iff ys).mpr hall]

/-- every date's rows strictly increasing in stamp and NaN rows first: the shape `bi_merge` leaves -/
def Good (st : Store) : Prop := ∀ d, SortedLt (group d st) ∧ NanFirst (group d st)

/-- two row lists tell the same story: `∀ d, CutEq (group d a) (group d b)`, written out -/
def SpecEq (a b : Store) : Prop :=
  ∀ d p, Down p → accVal Option.none ((group d a).filter p) = accVal Option.none ((group d b).filter p)

theorem Good.lt {st : Store} (h : Good st) (d : Int) : SortedLt (group d st) := (h d).1

theorem Good.le {st : Store} (h : Good st) (d : Int) : SortedLe (group d st) := (h d).1.le

theorem Good.nanFirst {st : Store} (h : Good st) (d : Int) : NanFirst (group d st) := (h d).2

theorem SpecEq.refl (a : Store) : SpecEq a a := fun _ _ _ => rfl
theorem SpecEq.symm {a b : Store} (h : SpecEq a b) : SpecEq b a := fun d p hp => (h d p hp).symm
theorem SpecEq.trans {a b c : Store} (h : SpecEq a b) (h' : SpecEq b c) : SpecEq a c :=
  fun d p hp => (h d p hp).trans (h' d p hp)

theorem CutEq.accVal_eq {X Y : Store} (h : CutEq X Y) : accVal Option.none X = accVal Option.none Y := by
  have := h _ (vis_down Option.none)
  rwa [filter_vis_none, filter_vis_none] at this

theorem SpecEq.dates_filter {a b : Store} (h : SpecEq a b) (asof : Option Int) :
    dates (a.filter (vis asof)) = dates (b.filter (vis asof)) := by
  apply dates_congr
  intro d
  rw [← group_ne_nil, ← group_ne_nil, group_filter, group_filter, Ne, Ne, ← accVal_eq_none, ← accVal_eq_none,
    h d _ (vis_down asof)]

theorem SpecEq.filter_vis {a b : Store} (h : SpecEq a b) (asof : Option Int) (d : Int) :
    CutEq ((group d a).filter (vis asof)) ((group d b).filter (vis asof)) := by
  intro p hp
  rw [List.filter_filter, List.filter_filter]
  apply h d
  intro r r' hrr hr
  simp only [Bool.and_eq_true] at hr ⊢
  exact ⟨hp r r' hrr hr.1, vis_down asof r r' hrr hr.2⟩

theorem CutEq.lastVal_eq {X Y : Store} (h : CutEq X Y) : lastVal X = lastVal Y := by
  rw [lastVal_eq_getD, lastVal_eq_getD, h.accVal_eq]

theorem perDate_congr {F G : Store → Option Int} {a b : Store} (h : SpecEq a b) (asof : Option Int)
    (hFG : ∀ d, CutEq ((group d a).filter (vis asof)) ((group d b).filter (vis asof)) →
      F ((group d a).filter (vis asof)) = G ((group d b).filter (vis asof))) :
    perDate F a asof = perDate G b asof := by
  unfold perDate
  rw [h.dates_filter]
  exact List.map_congr_left fun d _ => congrArg (Prod.mk d) (hFG d (h.filter_vis asof d))

theorem read_eq_perDate (sel : Store → Option Int) (st : Store) (hs : ∀ d, SortedLe (group d st)) (asof : Option Int) :
    ((dates (sortStamp (st.filter (vis asof)))).map fun d => (d, sel (group d (sortStamp (st.filter (vis asof)))))) =
      perDate sel st asof := by
  rw [dates_sortStamp]
  refine List.map_congr_left fun d _ => ?_
  rw [group_sortStamp, group_filter, sortStamp_of_sorted ((hs d).sublist List.filter_sublist)]

theorem biRead_perDate (st : Store) (hs : ∀ d, SortedLe (group d st)) (asof : Option Int) (w : Int) :
    biRead st asof w = perDate (nthVal w) st asof :=
  (biRead_eq st asof w).trans (read_eq_perDate (nthVal w) st hs asof)

theorem biReadS_perDate (st : Store) (hs : ∀ d, SortedLe (group d st)) (asof : Option Int) (sel : Sel) :
    biReadS st asof sel = perDate sel.apply st asof :=
  (biReadS_eq st asof sel).trans (read_eq_perDate sel.apply st hs asof)

theorem biRead_last (st : Store) (hg : Good st) (asof : Option Int) : biRead st asof (-1) = perDate lastVal st asof := by
  rw [biRead_perDate st hg.le]
  refine perDate_congr (SpecEq.refl st) asof fun d _ => ?_
  rw [nthVal, nth_neg_one, getLast_nanFirst _ ((hg.nanFirst d).sublist List.filter_sublist)]

theorem mem_biRead_some_perDate (st : Store) (hs : ∀ d, SortedLe (group d st)) (asof : Option Int) (d x : Int)
    (h : (d, some x) ∈ biRead st asof (-1)) : (d, some x) ∈ perDate lastVal st asof := by
  rw [biRead_perDate st hs, mem_perDate] at h
  refine mem_perDate.mpr ⟨h.1, ?_⟩
  rw [nthVal, nth_neg_one] at h
  cases hl : ((group d st).filter (vis asof)).getLast? with
  | none => rw [hl] at h; cases h.2
  | some r =>
    obtain ⟨ys, hys⟩ := List.getLast?_eq_some_iff.mp hl
    have hv : some x = r.val := by rw [h.2, hl]; rfl
    rw [hys, lastVal_snoc, ← hv]; rfl

theorem group_mergeFrames (d : Int) (o n : Store) :
    group d (mergeFrames [o, n]) = dropRepeats (sortStamp (group d (o ++ n))) := by
  have e : [o, n].flatten = o ++ n := by simp
  rw [← group_sortStamp, ← e]
  exact List.filter_flatMap_groups Row.date dropRepeats dropRepeats_sublist rfl _ _ (dates_nodup _) (fun _ => mem_dates) d

theorem mergeFrames_good (o n : Store) : Good (mergeFrames [o, n]) := by
  intro d
  rw [group_mergeFrames]
  exact dropRepeats_good _ (sortStamp_sorted _)

theorem mergeFrames_specEq (o n : Store) : SpecEq (mergeFrames [o, n]) (sortStamp (o ++ n)) := by
  intro d p hp
  rw [group_mergeFrames, group_sortStamp]
  exact dropRepeats_spec _ (sortStamp_sorted _) p hp

theorem mergeFrames_subset (o n : Store) {r : Row} (h : r ∈ mergeFrames [o, n]) : r ∈ o ++ n := by
  have h1 : r ∈ group r.date (mergeFrames [o, n]) := mem_group.mpr ⟨h, rfl⟩
  rw [group_mergeFrames] at h1
  have := (dropRepeats_sublist _).subset h1
  exact (mem_group.mp (mem_sortStamp.mp this)).1

theorem mergeFrames_congr {a b : List Store} (h : a.flatten = b.flatten) : mergeFrames a = mergeFrames b := by
  unfold mergeFrames; rw [h]

theorem dropRepeats_ne_nil (c : Store) (hs : SortedLe c) (hc : c ≠ []) : dropRepeats c ≠ [] := by
  intro he
  have := (dropRepeats_spec c hs).accVal_eq
  rw [he] at this
  exact hc (accVal_eq_none.mp this.symm)

theorem mergeFrames_ne_nil (o n : Store) (h : o ++ n ≠ []) : mergeFrames [o, n] ≠ [] := by
  obtain ⟨r, hr⟩ := List.exists_mem_of_ne_nil _ h
  intro he
  have hg := group_mergeFrames r.date o n
  rw [he] at hg
  have hne : sortStamp (group r.date (o ++ n)) ≠ [] := by
    intro hc
    have : r ∈ sortStamp (group r.date (o ++ n)) := mem_sortStamp.mpr (mem_group.mpr ⟨hr, rfl⟩)
    rw [hc] at this; simp at this
  exact dropRepeats_ne_nil _ (sortStamp_sorted _) hne (by simpa [group] using hg.symm)

theorem mergeFrames_eq_nil_iff (bis : List Store) : mergeFrames bis = [] ↔ bis.flatten = [] := by
  constructor
  · intro h
    by_cases hf : bis.flatten = []
    · exact hf
    · exfalso
      have e : mergeFrames bis = mergeFrames [[], bis.flatten] := mergeFrames_congr (by simp)
      rw [e] at h
      exact mergeFrames_ne_nil [] bis.flatten (by simpa using hf) h
  · intro h
    simp [mergeFrames, h, sortStamp, dates]

theorem dates_single (d : Int) (rows : Store) (hd : ∀ r ∈ rows, r.date = d) (hne : rows ≠ []) : dates rows = [d] := by
  unfold dates
  rw [List.eraseDups_all_eq d _ (by intro x hx; obtain ⟨r, hr, rfl⟩ := List.mem_map.mp hx; exact hd r hr) (by simpa using hne)]
  simp

theorem group_single (d : Int) (rows : Store) (hd : ∀ r ∈ rows, r.date = d) : group d rows = rows := by
  unfold group; rw [List.filter_eq_self]; intro r hr; simp [hd r hr]

theorem mergeFrames_single (d : Int) (o n : Store) (hd : ∀ r ∈ o ++ n, r.date = d) (hne : o ++ n ≠ [])
    (hs : SortedLe (o ++ n)) : mergeFrames [o, n] = dropRepeats (o ++ n) := by
  unfold mergeFrames
  simp only [List.flatten_cons, List.flatten_nil, List.append_nil]
  rw [sortStamp_of_sorted hs, dates_single d _ hd hne]
  simp [group_single d _ hd]

theorem biRead_single (d : Int) (st : Store) (hd : ∀ r ∈ st, r.date = d) (hne : st ≠ []) (hs : SortedLe st) (w : Int) :
    biRead st Option.none w = [(d, nthVal w st)] := by
  unfold biRead
  simp only []
  rw [sortStamp_of_sorted hs, dates_single d _ hd hne]
  simp [group_single d _ hd]

theorem specReadR_single (d : Int) (rows : Store) (hd : ∀ r ∈ rows, r.date = d) (hne : rows ≠ []) :
    specReadR rows Option.none = [(d, lastVal rows)] := by
  unfold specReadR
  simp only []
  rw [dates_single d _ hd hne]
  simp [group_single d _ hd]

end Pyg.Bitemp
