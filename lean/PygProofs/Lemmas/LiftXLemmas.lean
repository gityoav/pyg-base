/-
  PygModel.LiftX: on plain values the extended model, read through a map of the leaf results, is `wrapped` (`wrappedX_embed_upto`);
  its comprehensions and the Series / DataFrame / ndarray call loops are `List.mapM`.
-/
import PygModel.LiftX
import PygProofs.Lemmas.LiftLemmas

namespace Pyg

theorem itemByIXList_eq_map (i n : Nat) : ∀ xs, itemByIXList i n xs = xs.map (itemByIX i n)
  | [] => by simp [itemByIXList]
  | x :: xs => by simp [itemByIXList, itemByIXList_eq_map i n xs]

theorem itemByKeyXKVs_eq_map (key : String) (keys : List String) (pos : Option Nat) :
    ∀ kvs, itemByKeyXKVs key keys pos kvs = mapXKW (itemByKeyX key keys pos) kvs
  | [] => by simp [itemByKeyXKVs, mapXKW]
  | (k, v) :: kvs => by
      have := itemByKeyXKVs_eq_map key keys pos kvs
      simp [itemByKeyXKVs, mapXKW] at this ⊢
      exact this

theorem tXList_eq_map : ∀ xs, tXList xs = xs.map tX
  | [] => by simp [tXList]
  | x :: xs => by simp [tXList, tXList_eq_map xs]

theorem tXKVs_eq_map : ∀ kvs, tXKVs kvs = mapXKW tX kvs
  | [] => by simp [tXKVs, mapXKW]
  | (k, v) :: kvs => by
      have := tXKVs_eq_map kvs
      simp [tXKVs, mapXKW] at this ⊢
      exact this

theorem embList_eq_map : ∀ xs, Val.embList xs = xs.map Val.emb
  | [] => by simp [Val.embList]
  | x :: xs => by simp [Val.embList, embList_eq_map xs]

theorem embKVs_eq_map : ∀ kvs, Val.embKVs kvs = kvs.map fun p => (p.1, p.2.emb)
  | [] => by simp [Val.embKVs]
  | (k, v) :: kvs => by simp [Val.embKVs, embKVs_eq_map kvs]

theorem xkeysOf_mapXKW (g : XVal → XVal) (kw : XKW) : xkeysOf (mapXKW g kw) = xkeysOf kw := by
  simp [xkeysOf, mapXKW, List.map_map, Function.comp_def]

theorem dropAxisX_mapXKW (g : XVal → XVal) (kw : XKW) : dropAxisX (mapXKW g kw) = mapXKW g (dropAxisX kw) := by
  simp [dropAxisX, mapXKW, List.filter_map, Function.comp_def]

theorem dropAxisX_idem (kw : XKW) : dropAxisX (dropAxisX kw) = dropAxisX kw := by
  simp [dropAxisX, List.filter_filter]

theorem mapXKW_mapXKW (g h : XVal → XVal) (kw : XKW) : mapXKW g (mapXKW h kw) = mapXKW (g ∘ h) kw := by
  simp [mapXKW, List.map_map, Function.comp_def]

theorem mapXKW_id (kw : XKW) : mapXKW (fun c => c) kw = kw := by
  simp [mapXKW]

theorem lookup_axis_dropAxisX (kw : XKW) : (dropAxisX kw).lookup "axis" = Option.none :=
  List.lookup_eq_none_iff.2 fun _ hp => bne_comm.trans (List.mem_filter.1 hp).2

theorem axisIs1_dropAxisX (kw : XKW) : axisIs1 (dropAxisX kw) = false := by
  rw [axisIs1, lookup_axis_dropAxisX]

/-- `_wrapped` pops `axis` first; a second pop changes nothing — except that `axis` itself is gone, so frames and
2-d arrays are then looped by column -/
theorem wrappedX_dropAxisX_of_noaxis (T : LoopTypes) (f : XLeafFn) (v : XVal) (args : List XVal) (kw : XKW)
    (h : axisIs1 kw = false) : wrappedX T f v args (dropAxisX kw) = wrappedX T f v args kw := by
  cases v <;> simp only [wrappedX, dropAxisX_idem, axisIs1_dropAxisX, h]

theorem embKVs_keys (kvs : KW) : xkeysOf (Val.embKVs kvs) = keysOf kvs := by
  simp [embKVs_eq_map, xkeysOf, keysOf, List.map_map, Function.comp_def]

theorem xgetIdx_emb : ∀ (xs : List Val) (i : Nat), xgetIdx (xs.map Val.emb) i = (getIdx xs i).emb
  | [], i => by simp [xgetIdx, getIdx, Val.emb]
  | x :: xs, 0 => by simp [xgetIdx, getIdx]
  | x :: xs, i + 1 => by
      have := xgetIdx_emb xs i
      simpa [xgetIdx, getIdx] using this

theorem xgetKey_emb (kvs : KW) (k : String) : xgetKey (kvs.map fun p => (p.1, p.2.emb)) k = (getKey kvs k).emb := by
  rw [xgetKey, getKey, List.lookup_map_val (fun _ => Val.emb)]
  cases kvs.lookup k <;> rfl

mutual
  theorem itemByIX_emb (i n : Nat) : ∀ v : Val, itemByIX i n v.emb = (itemByI i n v).emb
    | .cell c | .dict kvs => by simp [Val.emb, itemByIX, itemByI]
    | .list xs | .tuple xs => by
        simp only [Val.emb, itemByIX, itemByI, embList_eq_map, List.length_map]
        split
        · exact xgetIdx_emb xs i
        · rw [← embList_eq_map, itemByIXList_emb i n xs]; simp [Val.emb]
  theorem itemByIXList_emb (i n : Nat) : ∀ xs : List Val,
      itemByIXList i n (Val.embList xs) = Val.embList (itemByIList i n xs)
    | [] => by simp [Val.embList, itemByIXList, itemByIList]
    | x :: xs => by
        simp [Val.embList, itemByIXList, itemByIList, itemByIX_emb i n x, itemByIXList_emb i n xs]
end

mutual
  theorem itemByKeyX_emb (k : String) (keys : List String) : ∀ v : Val,
      itemByKeyX k keys Option.none v.emb = (itemByKey k keys v).emb
    | .cell c => by simp [Val.emb, itemByKeyX, itemByKey]
    | .list xs | .tuple xs => by simp [Val.emb, itemByKeyX, itemByKey]
    | .dict kvs => by
        simp only [Val.emb, itemByKeyX, itemByKey, embKVs_keys]
        split
        · rw [embKVs_eq_map]; exact xgetKey_emb kvs k
        · rw [itemByKeyXKVs_emb k keys kvs]; simp [Val.emb]
  theorem itemByKeyXKVs_emb (k : String) (keys : List String) : ∀ kvs : KW,
      itemByKeyXKVs k keys Option.none (Val.embKVs kvs) = Val.embKVs (itemByKeyKVs k keys kvs)
    | [] => by simp [Val.embKVs, itemByKeyXKVs, itemByKeyKVs]
    | (k0, v) :: kvs => by
        simp [Val.embKVs, itemByKeyXKVs, itemByKeyKVs, itemByKeyX_emb k keys v, itemByKeyXKVs_emb k keys kvs]
end

theorem lookup_embKVs (k : String) (kw : KW) : (Val.embKVs kw).lookup k = (kw.lookup k).map Val.emb := by
  rw [embKVs_eq_map]
  exact List.lookup_map_val (fun _ => Val.emb) k kw

theorem filter_embKVs (q : String → Bool) (kw : KW) :
    (Val.embKVs kw).filter (fun p => q p.1) = Val.embKVs (kw.filter fun p => q p.1) := by
  simp only [embKVs_eq_map, List.filter_map, Function.comp_def]

theorem dropAxisX_emb (kw : KW) : dropAxisX (Val.embKVs kw) = Val.embKVs (dropAxis kw) :=
  filter_embKVs (· != "axis") kw

theorem map_embList {g' : XVal → XVal} {g : Val → Val} (h : ∀ v : Val, g' v.emb = (g v).emb) (args : List Val) :
    (Val.embList args).map g' = Val.embList (args.map g) := by
  simp [embList_eq_map, List.map_map, Function.comp_def, h]

theorem mapXKW_embKVs {g' : XVal → XVal} {g : Val → Val} (h : ∀ v : Val, g' v.emb = (g v).emb) (kw : KW) :
    mapXKW g' (Val.embKVs kw) = Val.embKVs (mapKW g kw) := by
  simp [embKVs_eq_map, mapXKW, mapKW, List.map_map, Function.comp_def, h]

theorem embList_length (xs : List Val) : (Val.embList xs).length = xs.length := by
  rw [embList_eq_map, List.length_map]

theorem wrappedX_list {T : LoopTypes} (hl : T.list = true) (f : XLeafFn) (xs args : List XVal) (kw : XKW) :
    wrappedX T f (.list xs) args kw = (wrappedXSeq T f xs.length 0 xs args (dropAxisX kw)).map .list := by
  rw [wrappedX, if_pos hl]
  cases wrappedXSeq T f xs.length 0 xs args (dropAxisX kw) <;> rfl

theorem wrappedX_tuple {T : LoopTypes} (ht : T.tuple = true) (f : XLeafFn) (xs args : List XVal) (kw : XKW) :
    wrappedX T f (.tuple xs) args kw = (wrappedXSeq T f xs.length 0 xs args (dropAxisX kw)).map .tuple := by
  rw [wrappedX, if_pos ht]
  cases wrappedXSeq T f xs.length 0 xs args (dropAxisX kw) <;> rfl

theorem wrappedX_dict {T : LoopTypes} {cls : Nat} (hd : T.dicts.contains cls = true) (f : XLeafFn) (kvs : XKW)
    (args : List XVal) (kw : XKW) : wrappedX T f (.dict cls kvs) args kw =
      (wrappedXKVs T f (sortStr (xkeysOf kvs)) kvs args (dropAxisX kw)).map (.dict cls) := by
  rw [wrappedX, if_pos hd]
  cases wrappedXKVs T f (sortStr (xkeysOf kvs)) kvs args (dropAxisX kw) <;> rfl

theorem wrappedX_frame {T : LoopTypes} (hT : T.frame = true) (f : XLeafFn) (idx cols : List String) (rows : List (List Cell))
    (args : List XVal) {kw : XKW} (hax : axisIs1 kw = false) :
    wrappedX T f (.frame idx cols rows) args kw = loopFrame f idx cols rows args (dropAxisX kw) := by
  rw [wrappedX, if_pos hT, hax]
  rfl

theorem wrappedX_frameT {T : LoopTypes} (hT : T.frame = true) (f : XLeafFn) (idx cols : List String) (rows : List (List Cell))
    (args : List XVal) {kw : XKW} (hax : axisIs1 kw = true) :
    wrappedX T f (.frame idx cols rows) args kw = loopFrameT f idx cols rows args (dropAxisX kw) := by
  rw [wrappedX, if_pos hT, if_pos hax]

theorem wrappedX_arr2 {T : LoopTypes} (hT : T.array = true) (f : XLeafFn) (nc : Nat) (rows : List (List Cell))
    (args : List XVal) {kw : XKW} (hax : axisIs1 kw = false) :
    wrappedX T f (.arr2 nc rows) args kw = loopArr f nc rows args (dropAxisX kw) := by
  rw [wrappedX, if_pos hT, hax]
  rfl

theorem wrappedXSeq_eq_mapM (T : LoopTypes) (f : XLeafFn) (n : Nat) (args : List XVal) (kw : XKW) :
    ∀ (xs : List XVal) (i : Nat), wrappedXSeq T f n i xs args kw =
      (xs.zipIdx i).mapM fun p => wrappedX T f p.1 (args.map (itemByIX p.2 n)) (mapXKW (itemByIX p.2 n) kw)
  | [], i => by
      rw [wrappedXSeq]
      rfl
  | x :: xs, i => by
      rw [wrappedXSeq, List.zipIdx_cons, List.mapM_cons, ← wrappedXSeq_eq_mapM T f n args kw xs (i + 1)]
      cases wrappedX T f x (args.map (itemByIX i n)) (mapXKW (itemByIX i n) kw) with
      | error e => rfl
      | ok y => cases wrappedXSeq T f n (i + 1) xs args kw <;> rfl

theorem wrappedXKVs_eq_mapM (T : LoopTypes) (f : XLeafFn) (keys : List String) (args : List XVal) (kw : XKW) :
    ∀ (kvs : XKW), wrappedXKVs T f keys kvs args kw =
      kvs.mapM fun p => (wrappedX T f p.2 (args.map (itemByKeyX p.1 keys Option.none))
        (mapXKW (itemByKeyX p.1 keys Option.none) kw)).map (p.1, ·)
  | [] => by
      rw [wrappedXKVs]
      rfl
  | (k, v) :: kvs => by
      rw [wrappedXKVs, List.mapM_cons, ← wrappedXKVs_eq_mapM T f keys args kw kvs]
      cases wrappedX T f v (args.map (itemByKeyX k keys Option.none)) (mapXKW (itemByKeyX k keys Option.none) kw) with
      | error e => rfl
      | ok y => cases wrappedXKVs T f keys kvs args kw <;> rfl

/-- a leaf function on extended values that agrees with `f` on plain ones -/
def Extends (f' : XLeafFn) (f : LeafFn) : Prop :=
  ∀ a args kw, f' (Val.emb a) (Val.embList args) (Val.embKVs kw) = (f a args kw).map Val.emb

/-- a leaf function on extended values that agrees with `f` on plain ones UP TO a map `g` of its results (the recording function
of the extended driver returns an opaque object where the plain one returns a tuple) -/
def ExtendsUpTo (g : XVal → XVal) (f' : XLeafFn) (f : LeafFn) : Prop :=
  ∀ a args kw, (f' (Val.emb a) (Val.embList args) (Val.embKVs kw)).map g = (f a args kw).map Val.emb

/-- `g` goes through the looped containers -/
structure ThroughContainers (g : XVal → XVal) : Prop where
  list : ∀ xs, g (.list xs) = .list (xs.map g)
  tuple : ∀ xs, g (.tuple xs) = .tuple (xs.map g)
  dict : ∀ kvs, g (.dict 0 kvs) = .dict 0 (kvs.map fun p => (p.1, g p.2))

theorem wrappedXSeq_embed_of {g : XVal → XVal} {T : LoopTypes} {f' : XLeafFn} {f : LeafFn} (n : Nat) (xs : List Val)
    (h : ∀ x ∈ xs, ∀ args kw,
      (wrappedX T f' x.emb (Val.embList args) (Val.embKVs kw)).map g = (wrapped f x args kw).map Val.emb)
    (i : Nat) (args : List Val) (kw : KW) :
    (wrappedXSeq T f' n i (Val.embList xs) (Val.embList args) (Val.embKVs kw)).map (List.map g)
      = (wrappedSeq f n i xs args kw).map Val.embList := by
  have hm : Val.embList = List.map Val.emb := funext embList_eq_map
  rw [wrappedXSeq_eq_mapM, wrappedSeq_eq_mapM, hm, List.zipIdx_map]
  refine mapM_map_congr _ fun p hp => ?_
  rw [← hm, Prod.map_fst, Prod.map_snd, id_eq, map_embList (itemByIX_emb p.2 n), mapXKW_embKVs (itemByIX_emb p.2 n)]
  exact h p.1 (List.fst_mem_of_mem_zipIdx hp) _ _

theorem wrappedXKVs_embed_of {g : XVal → XVal} {T : LoopTypes} {f' : XLeafFn} {f : LeafFn} (keys : List String) (kvs : KW)
    (h : ∀ kv ∈ kvs, ∀ args kw,
      (wrappedX T f' kv.2.emb (Val.embList args) (Val.embKVs kw)).map g = (wrapped f kv.2 args kw).map Val.emb)
    (args : List Val) (kw : KW) :
    (wrappedXKVs T f' keys (Val.embKVs kvs) (Val.embList args) (Val.embKVs kw)).map (List.map fun p => (p.1, g p.2))
      = (wrappedKVs f keys kvs args kw).map Val.embKVs := by
  have hm : Val.embKVs = List.map fun p => (p.1, p.2.emb) := funext embKVs_eq_map
  rw [wrappedXKVs_eq_mapM, wrappedKVs_eq_mapM, hm]
  refine mapM_map_congr _ fun p hp => ?_
  rw [← hm, map_embList (itemByKeyX_emb p.1 keys), mapXKW_embKVs (itemByKeyX_emb p.1 keys)]
  exact Res.map_map_congr (c := fun y => (p.1, y)) (c' := fun y => (p.1, y)) (gs := g) (hs := Val.emb) (Prod.mk p.1)
    (fun _ => rfl) (fun _ => rfl) (h p hp _ _)

theorem wrappedX_embed_upto (g : XVal → XVal) (hg : ThroughContainers g) (T : LoopTypes) (f' : XLeafFn) (f : LeafFn)
    (hl : T.list = true) (ht : T.tuple = true) (hd : T.dicts.contains 0 = true) (hf : ExtendsUpTo g f' f) :
    ∀ (v : Val) (args : List Val) (kw : KW),
    (wrappedX T f' v.emb (Val.embList args) (Val.embKVs kw)).map g = (wrapped f v args kw).map Val.emb := by
  intro v
  induction v using Val.ind with
  | cell c =>
    intro args kw
    rw [Val.emb, wrappedX, wrapped, dropAxisX_emb]
    exact hf (.cell c) args (dropAxis kw)
  | list xs ih =>
    intro args kw
    rw [Val.emb, wrappedX_list hl, wrapped_list, dropAxisX_emb, embList_length]
    exact Res.map_map_congr (h := Val.emb) (c' := Val.list) XVal.list hg.list (fun _ => rfl)
      (wrappedXSeq_embed_of xs.length xs ih 0 args (dropAxis kw))
  | tuple xs ih =>
    intro args kw
    rw [Val.emb, wrappedX_tuple ht, wrapped_tuple, dropAxisX_emb, embList_length]
    exact Res.map_map_congr (h := Val.emb) (c' := Val.tuple) XVal.tuple hg.tuple (fun _ => rfl)
      (wrappedXSeq_embed_of xs.length xs ih 0 args (dropAxis kw))
  | dict kvs ih =>
    intro args kw
    rw [Val.emb, wrappedX_dict hd, wrapped_dict, dropAxisX_emb, embKVs_keys]
    exact Res.map_map_congr (h := Val.emb) (c' := Val.dict) (XVal.dict 0) hg.dict (fun _ => rfl)
      (wrappedXKVs_embed_of (sortStr (keysOf kvs)) kvs ih args (dropAxis kw))

theorem wrappedXSeq_embed_upto (g : XVal → XVal) (hg : ThroughContainers g) (T : LoopTypes) (f' : XLeafFn) (f : LeafFn)
    (hl : T.list = true) (ht : T.tuple = true) (hd : T.dicts.contains 0 = true) (hf : ExtendsUpTo g f' f) :
    ∀ (n i : Nat) (xs : List Val) (args : List Val) (kw : KW),
    (wrappedXSeq T f' n i (Val.embList xs) (Val.embList args) (Val.embKVs kw)).map (List.map g)
      = (wrappedSeq f n i xs args kw).map Val.embList :=
  fun n i xs => wrappedXSeq_embed_of n xs (fun x _ => wrappedX_embed_upto g hg T f' f hl ht hd hf x) i

theorem wrappedXKVs_embed_upto (g : XVal → XVal) (hg : ThroughContainers g) (T : LoopTypes) (f' : XLeafFn) (f : LeafFn)
    (hl : T.list = true) (ht : T.tuple = true) (hd : T.dicts.contains 0 = true) (hf : ExtendsUpTo g f' f) :
    ∀ (keys : List String) (kvs : KW) (args : List Val) (kw : KW),
    (wrappedXKVs T f' keys (Val.embKVs kvs) (Val.embList args) (Val.embKVs kw)).map (List.map fun p => (p.1, g p.2))
      = (wrappedKVs f keys kvs args kw).map Val.embKVs :=
  fun keys kvs => wrappedXKVs_embed_of keys kvs (fun kv _ => wrappedX_embed_upto g hg T f' f hl ht hd hf kv.2)

theorem Extends.upTo {f' : XLeafFn} {f : LeafFn} (hf : Extends f' f) : ExtendsUpTo id f' f := fun a args kw => by
  rw [Except.map_id]
  exact hf a args kw

theorem throughContainers_id : ThroughContainers id :=
  ⟨fun xs => by rw [List.map_id]; rfl, fun xs => by rw [List.map_id]; rfl, fun kvs => congrArg (XVal.dict 0) (List.map_id' kvs).symm⟩

theorem wrappedXSeq_embed_aux (T : LoopTypes) (f' : XLeafFn) (f : LeafFn) (hl : T.list = true) (ht : T.tuple = true)
    (hd : T.dicts.contains 0 = true) (hf : Extends f' f) : ∀ (n i : Nat) (xs : List Val) (args : List Val) (kw : KW),
    wrappedXSeq T f' n i (Val.embList xs) (Val.embList args) (Val.embKVs kw)
      = (wrappedSeq f n i xs args kw).map Val.embList := by
  intro n i xs args kw
  have := wrappedXSeq_embed_upto id throughContainers_id T f' f hl ht hd hf.upTo n i xs args kw
  rwa [List.map_id_fun, Except.map_id] at this

theorem wrappedXKVs_embed_aux (T : LoopTypes) (f' : XLeafFn) (f : LeafFn) (hl : T.list = true) (ht : T.tuple = true)
    (hd : T.dicts.contains 0 = true) (hf : Extends f' f) : ∀ (keys : List String) (kvs : KW) (args : List Val) (kw : KW),
    wrappedXKVs T f' keys (Val.embKVs kvs) (Val.embList args) (Val.embKVs kw)
      = (wrappedKVs f keys kvs args kw).map Val.embKVs := by
  intro keys kvs args kw
  have := wrappedXKVs_embed_upto id throughContainers_id T f' f hl ht hd hf.upTo keys kvs args kw
  rwa [show (List.map fun p : String × XVal => (p.1, id p.2)) = id from List.map_id_fun', Except.map_id] at this

theorem wrappedXSeq_get {T : LoopTypes} {f : XLeafFn} {n : Nat} (xs : List XVal) (i : Nat) (args : List XVal)
    (kw : XKW) (ys : List XVal) (h : wrappedXSeq T f n i xs args kw = .ok ys) :
    ys.length = xs.length ∧ ∀ j x, xs[j]? = some x → ∃ y, ys[j]? = some y ∧
      wrappedX T f x (args.map (itemByIX (i + j) n)) (mapXKW (itemByIX (i + j) n) kw) = .ok y := by
  rw [wrappedXSeq_eq_mapM, List.mapM_eq_ok_iff, List.length_zipIdx] at h
  refine ⟨h.1, fun j x hj => ?_⟩
  obtain ⟨y, hy, hj'⟩ := h.2 j (x, i + j) (by rw [List.getElem?_zipIdx, hj]; rfl)
  exact ⟨y, hj', hy⟩

theorem wrappedXKVs_lookup {T : LoopTypes} {f : XLeafFn} {keys : List String} (kvs : XKW) (args : List XVal)
    (kw : XKW) (r : XKW) (h : wrappedXKVs T f keys kvs args kw = .ok r) :
    xkeysOf r = xkeysOf kvs ∧ ∀ k v, kvs.lookup k = some v → ∃ y, r.lookup k = some y ∧
      wrappedX T f v (args.map (itemByKeyX k keys Option.none)) (mapXKW (itemByKeyX k keys Option.none) kw) = .ok y :=
  List.kvMapM_lookup
    (f := fun k v => wrappedX T f v (args.map (itemByKeyX k keys Option.none)) (mapXKW (itemByKeyX k keys Option.none) kw))
    kvs r (wrappedXKVs_eq_mapM T f keys args kw kvs ▸ h)

theorem XVal.atT_cons_eq_some {T : LoopTypes} {v v' : XVal} {s : Step} {p : Path} :
    v.atT T (s :: p) = some v' ↔ ∃ c, v.childT T s = some c ∧ c.atT T p = some v' := by
  rw [XVal.atT]
  cases v.childT T s with
  | none => exact ⟨fun h => (nomatch h), fun ⟨_, h, _⟩ => (nomatch h)⟩
  | some c => exact ⟨fun h => ⟨c, rfl, h⟩, fun ⟨_, h1, h2⟩ => Option.some.inj h1 ▸ h2⟩

theorem selectX_nil (T : LoopTypes) (v : XVal) : selectX T v [] = fun c => c := rfl

theorem selectX_cons {T : LoopTypes} {v v' : XVal} {s : Step} (h : v.childT T s = some v') (p : Path) :
    selectX T v (s :: p) = selectX T v' p ∘ selStepX v s := by
  funext c
  rw [selectX, h]
  rfl

theorem kwAt_mapXKW_dropAxisX (p : Path) (g : XVal → XVal) (kw : XKW) :
    kwAt p (mapXKW g (dropAxisX kw)) = mapXKW g (dropAxisX kw) := by
  cases p with
  | nil => rfl
  | cons _ _ => rw [kwAt, dropAxisX_mapXKW, dropAxisX_idem]

theorem wrappedX_child {T : LoopTypes} {f : XLeafFn} {v r c : XVal} {args : List XVal} {kw : XKW} {s : Step}
    (h : wrappedX T f v args kw = .ok r) (hc : v.childT T s = some c) :
    ∃ y, r.childT T s = some y ∧
      wrappedX T f c (args.map (selStepX v s)) (mapXKW (selStepX v s) (dropAxisX kw)) = .ok y := by
  cases v with
  | list xs =>
    cases s with
    | key k => cases hc
    | idx i =>
      by_cases hl : T.list = true
      · rw [wrappedX_list hl] at h
        obtain ⟨ys, hys, rfl⟩ := Res.map_eq_ok h
        rw [XVal.childT, if_pos hl] at hc ⊢
        obtain ⟨y, hy1, hy2⟩ := (wrappedXSeq_get xs 0 args (dropAxisX kw) ys hys).2 i c hc
        rw [Nat.zero_add] at hy2
        exact ⟨y, hy1, hy2⟩
      · rw [XVal.childT, if_neg hl] at hc
        cases hc
  | tuple xs =>
    cases s with
    | key k => cases hc
    | idx i =>
      by_cases hl : T.tuple = true
      · rw [wrappedX_tuple hl] at h
        obtain ⟨ys, hys, rfl⟩ := Res.map_eq_ok h
        rw [XVal.childT, if_pos hl] at hc ⊢
        obtain ⟨y, hy1, hy2⟩ := (wrappedXSeq_get xs 0 args (dropAxisX kw) ys hys).2 i c hc
        rw [Nat.zero_add] at hy2
        exact ⟨y, hy1, hy2⟩
      · rw [XVal.childT, if_neg hl] at hc
        cases hc
  | dict cls kvs =>
    cases s with
    | idx i => cases hc
    | key k =>
      by_cases hl : T.dicts.contains cls = true
      · rw [wrappedX_dict hl] at h
        obtain ⟨ys, hys, rfl⟩ := Res.map_eq_ok h
        rw [XVal.childT, if_pos hl] at hc ⊢
        exact (wrappedXKVs_lookup kvs args (dropAxisX kw) ys hys).2 k c hc
      · rw [XVal.childT, if_neg hl] at hc
        cases hc
  | cell a | obj a | arr1 a | arr2 a b | ser a b | frame a b c => cases hc

theorem dropAxisX_kwAt (p : Path) (kw : XKW) : dropAxisX (kwAt p kw) = dropAxisX kw := by
  cases p with
  | nil => rfl
  | cons _ _ => rw [kwAt, dropAxisX_idem]

theorem wrappedX_leaf {T : LoopTypes} {v : XVal} (h : v.leafFor T = true) (f : XLeafFn) (args : List XVal) (kw : XKW) :
    wrappedX T f v args kw = f v args (dropAxisX kw) := by
  cases v with
  | cell _ | obj _ | arr1 _ | ser _ _ => rw [wrappedX]
  | list xs => simp only [wrappedX, (Bool.not_eq_true' (T.list)).mp h, Bool.false_eq_true, if_false]
  | tuple xs => simp only [wrappedX, (Bool.not_eq_true' (T.tuple)).mp h, Bool.false_eq_true, if_false]
  | dict cls kvs => simp only [wrappedX, (Bool.not_eq_true' (T.dicts.contains cls)).mp h, Bool.false_eq_true, if_false]
  | arr2 nc rows => simp only [wrappedX, (Bool.not_eq_true' (T.array)).mp h, Bool.false_eq_true, if_false]
  | frame idx cols rows => simp only [wrappedX, (Bool.not_eq_true' (T.frame)).mp h, Bool.false_eq_true, if_false]

theorem serCalls_eq_mapM (T : LoopTypes) (f : XLeafFn) (keys : List String) (args : List XVal) (kw : XKW) :
    ∀ (ks : List String) (xs : List XVal), serCalls T f keys ks xs args kw =
      (ks.zip xs).mapM fun p =>
        wrappedX T f p.2 (args.map (itemByKeyX p.1 keys Option.none)) (mapXKW (itemByKeyX p.1 keys Option.none) kw)
  | [], _ => by
      rw [serCalls]
      · rfl
      · exact fun _ _ _ _ h => nomatch h
  | _ :: _, [] => by
      rw [serCalls]
      · rfl
      · exact fun _ _ _ _ _ h => nomatch h
  | k :: ks, x :: xs => by
      rw [serCalls, List.zip_cons_cons, List.mapM_cons, ← serCalls_eq_mapM T f keys args kw ks xs]
      cases wrappedX T f x (args.map (itemByKeyX k keys Option.none)) (mapXKW (itemByKeyX k keys Option.none) kw) with
      | error e => rfl
      | ok y => cases serCalls T f keys ks xs args kw <;> rfl

theorem frameCalls_eq_mapM (f : XLeafFn) (idx keys : List String) (rows : List (List Cell)) (args : List XVal) (kw : XKW) :
    ∀ (cs : List String) (i : Nat), frameCalls f idx keys rows i cs args kw =
      (cs.zipIdx i).mapM fun p => f (.ser idx (colOf rows p.2)) (args.map (itemByKeyX p.1 keys (some p.2)))
        (mapXKW (itemByKeyX p.1 keys (some p.2)) kw)
  | [], i => by
      rw [frameCalls]
      rfl
  | c :: cs, i => by
      rw [frameCalls, List.zipIdx_cons, List.mapM_cons, ← frameCalls_eq_mapM f idx keys rows args kw cs (i + 1)]
      cases f (.ser idx (colOf rows i)) (args.map (itemByKeyX c keys (some i))) (mapXKW (itemByKeyX c keys (some i)) kw) with
      | error e => rfl
      | ok y => cases frameCalls f idx keys rows (i + 1) cs args kw <;> rfl

theorem arrCalls_eq_mapM (f : XLeafFn) (nc : Nat) (rows : List (List Cell)) (args : List XVal) (kw : XKW) :
    ∀ (k i : Nat), arrCalls f nc rows i k args kw =
      (List.range' i k).mapM fun j =>
        f (itemByIX j nc (.arr2 nc rows)) (args.map (itemByIX j nc)) (mapXKW (itemByIX j nc) kw)
  | 0, i => by
      rw [arrCalls]
      rfl
  | k + 1, i => by
      rw [arrCalls, List.range'_succ, List.mapM_cons, ← arrCalls_eq_mapM f nc rows args kw k (i + 1)]
      cases f (itemByIX i nc (.arr2 nc rows)) (args.map (itemByIX i nc)) (mapXKW (itemByIX i nc) kw) with
      | error e => rfl
      | ok y => cases arrCalls f nc rows (i + 1) k args kw <;> rfl

/-! `recorderX` returns an opaque object where `recorder` returns a tuple: they agree up to `XVal.unobj`, so `wrappedX_embed_upto` applies -/

mutual
  /-- opaque record objects read as the tuples of their fields, everywhere -/
  def XVal.unobj : XVal → XVal
    | .obj fs => .tuple (XVal.unobjList fs)
    | .list xs => .list (XVal.unobjList xs)
    | .tuple xs => .tuple (XVal.unobjList xs)
    | .dict cls kvs => .dict cls (XVal.unobjKVs kvs)
    | .arr1 xs => .arr1 (XVal.unobjList xs)
    | .ser ks xs => .ser ks (XVal.unobjList xs)
    | .cell c => .cell c
    | .arr2 nc rows => .arr2 nc rows
    | .frame idx cols rows => .frame idx cols rows
  def XVal.unobjList : List XVal → List XVal
    | [] => []
    | x :: xs => x.unobj :: XVal.unobjList xs
  def XVal.unobjKVs : List (String × XVal) → List (String × XVal)
    | [] => []
    | (k, v) :: kvs => (k, v.unobj) :: XVal.unobjKVs kvs
end

theorem unobjList_eq_map : ∀ xs, XVal.unobjList xs = xs.map XVal.unobj
  | [] => rfl
  | x :: xs => by simp [XVal.unobjList, unobjList_eq_map xs]

theorem unobjKVs_eq_map : ∀ kvs, XVal.unobjKVs kvs = kvs.map fun p => (p.1, p.2.unobj)
  | [] => rfl
  | (k, v) :: kvs => by simp [XVal.unobjKVs, unobjKVs_eq_map kvs]

theorem throughContainers_unobj : ThroughContainers XVal.unobj :=
  ⟨fun xs => by simp [XVal.unobj, unobjList_eq_map], fun xs => by simp [XVal.unobj, unobjList_eq_map],
   fun kvs => by simp [XVal.unobj, unobjKVs_eq_map]⟩

mutual
  theorem unobj_emb : ∀ v : Val, v.emb.unobj = v.emb
    | .cell c => by simp [Val.emb, XVal.unobj]
    | .list xs | .tuple xs => by simp [Val.emb, XVal.unobj, unobjList_emb xs]
    | .dict kvs => by simp [Val.emb, XVal.unobj, unobjKVs_emb kvs]
  theorem unobjList_emb : ∀ xs : List Val, XVal.unobjList (Val.embList xs) = Val.embList xs
    | [] => by simp [Val.embList, XVal.unobjList]
    | x :: xs => by simp [Val.embList, XVal.unobjList, unobj_emb x, unobjList_emb xs]
  theorem unobjKVs_emb : ∀ kvs : KW, XVal.unobjKVs (Val.embKVs kvs) = Val.embKVs kvs
    | [] => by simp [Val.embKVs, XVal.unobjKVs]
    | (k, v) :: kvs => by simp [Val.embKVs, XVal.unobjKVs, unobj_emb v, unobjKVs_emb kvs]
end

theorem recorderX_extends : ExtendsUpTo XVal.unobj recorderX recorder := by
  intro a args kw
  have hrec : (XVal.obj [a.emb, .tuple (Val.embList args), .dict 0 (Val.embKVs kw)]).unobj =
      (Val.tuple [a, .tuple args, .dict kw]).emb := by
    simp [XVal.unobj, XVal.unobjList, Val.emb, Val.embList, unobj_emb, unobjList_emb, unobjKVs_emb]
  cases a with
  | cell c =>
    cases c with
    | str s =>
      simp only [recorderX, recorder, Val.emb]
      by_cases h1 : s.startsWith "!v" = true
      · simp [h1, Except.map]
      · by_cases h2 : s.startsWith "!k" = true
        · simp [h1, h2, Except.map]
        · by_cases h3 : s.startsWith "!" = true
          · simp [h1, h2, h3, Except.map]
          · simp only [h1, h2, h3, if_false, Bool.false_eq_true]
            simpa [Except.map, Val.emb] using hrec
    | _ => simpa [recorderX, recorder, Except.map, Val.emb] using hrec
  | _ => simpa [recorderX, recorder, Except.map, Val.emb] using hrec

end Pyg
