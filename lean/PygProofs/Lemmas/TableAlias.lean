/-
  The reference heap (PygModel/TableAlias.lean) is conservative: while no two handles share a cell, `rstep (.op o)`
  seen through the handles IS `step o` on the value heap.
-/
import PygProofs.Lemmas.TableRect

namespace Pyg

namespace RefHeap

theorem bindPtr_heapStep (ptr : List Nat) (d c : Nat) :
    HeapStep (· = c) (fun _ y => y = c) ptr (some d) (bindPtr ptr d c) :=
  .put ptr d c rfl fun _ => rfl

theorem bindPtr_getElem?_ne (ptr : List Nat) (d c i : Nat) (hi : i < ptr.length) (hd : d ≠ i) :
    (bindPtr ptr d c)[i]? = ptr[i]? :=
  (bindPtr_heapStep ptr d c).frame hi fun e => hd (Option.some.inj e)

theorem bindPtr_getElem?_self (ptr : List Nat) (d c : Nat) (hd : d ≤ ptr.length) :
    (bindPtr ptr d c)[d]? = some c := by
  unfold bindPtr
  split
  · rename_i h; simp [h]
  · have : d = ptr.length := by omega
    subst this
    simp

theorem bindPtr_length_ge (ptr : List Nat) (d c : Nat) : ptr.length ≤ (bindPtr ptr d c).length :=
  (bindPtr_heapStep ptr d c).length_le

theorem get_eq_some {s : RefHeap} {i : Nat} {t : Table} (h : s.get i = some t) :
    ∃ c, s.ptr[i]? = some c ∧ s.cells[c]? = some t := by
  unfold get at h
  split at h
  · rename_i c hc; exact ⟨c, hc, h⟩
  · cases h

theorem get_of_ptr {s : RefHeap} {i c : Nat} (h : s.ptr[i]? = some c) : s.get i = s.cells[c]? := by
  unfold get; rw [h]

theorem cellOf_some {s : RefHeap} {h c : Nat} (hp : s.ptr[h]? = some c) : s.cellOf h = c := by
  rw [cellOf, hp]
  rfl

theorem cellOf_none {s : RefHeap} {h : Nat} (hp : s.ptr[h]? = Option.none) : s.cellOf h = s.cells.length := by
  rw [cellOf, hp]
  rfl

theorem ptrAfter_none (s : RefHeap) (out : Out) : s.ptrAfter Option.none out = s.ptr := rfl

theorem ptrAfter_of_ne_unit (s : RefHeap) (d : Option Nat) {out : Out} (h : out ≠ .unit) : s.ptrAfter d out = s.ptr := by
  cases d with
  | none => rfl
  | some d =>
    cases out with
    | unit => exact absurd rfl h
    | _ => rfl

theorem ptrAfter_badHandle (s : RefHeap) (d : Option Nat) : s.ptrAfter d .badHandle = s.ptr :=
  ptrAfter_of_ne_unit s d Out.noConfusion

theorem ptrAfter_alias (s : RefHeap) (d : Option Nat) (c : Nat) : s.ptrAfter d (.alias c) = s.ptr :=
  ptrAfter_of_ne_unit s d Out.noConfusion

theorem ptrAfter_unit (s : RefHeap) (d : Nat) : s.ptrAfter (some d) .unit = bindPtr s.ptr d s.cells.length := rfl

end RefHeap

theorem Op.writes_mapHandles (f : Nat → Nat) (d : Nat) (o : Op) :
    (o.mapHandles f d).writes =
      match o.dst? with
      | some _ => some d
      | Option.none => o.inplace?.map f := by
  cases o <;> rfl

theorem Op.reads_mapHandles (f : Nat → Nat) (d : Nat) (o : Op) : (o.mapHandles f d).reads = o.reads.map f := by
  cases o <;> rfl

/-- an effect with its handles translated as `Op.mapHandles` translates those of the operation -/
def Effect.mapHandles (f : Nat → Nat) (d : Nat) : Effect → Effect
  | .bad => .bad
  | .alias h => .alias (f h)
  | .query r => .query r
  | .assign h t e => .assign (f h) t e
  | .bind _ r => .bind d r

theorem Op.effect_mapHandles (f : Nat → Nat) (d : Nat) (o : Op) (ts : List Table) :
    (o.mapHandles f d).effect ts = (o.effect ts).mapHandles f d := by
  cases o with
  | new dst data columns kwargs =>
    simp only [Op.mapHandles, Op.effect]
    cases construct data columns kwargs <;> rfl
  | setitem h k v =>
    simp only [Op.mapHandles, Op.effect]
    cases (ts.headD []).setitem k v <;> rfl
  | delitem h k =>
    simp only [Op.mapHandles, Op.effect]
    cases (ts.headD []).delitem k <;> rfl
  | concat dst hs =>
    match hs with
    | [] => rfl
    | [h] => rfl
    | _ :: _ :: _ => rfl
  | addrec dst h r =>
    simp only [Op.mapHandles, Op.effect]
    generalize construct (Data.cols _) Option.none [] = c
    rcases c with _ | _ | _ <;> rfl
  | update h kvs | len h | shape h | row h _ | col h _ | iter h | tup h _ | apply h _ | addnone h | slice _ h _ _ _
  | mask _ h _ | take _ h _ | proj _ h _ | call _ h _ _ | relabel _ h _ | doo _ h _ _ | copy _ h => rfl

theorem step_length_ge (s : Heap) (op : Op) : s.length ≤ (step s op).1.length := by
  cases hm : op.reads.mapM fun h => s[h]? with
  | none => rw [step_of_reads_none hm]; exact Nat.le_refl _
  | some ts => rw [step_of_reads hm]; exact (Effect.run_heapStep s _).length_le

theorem step_unit_fresh (s : Heap) (op : Op) (d : Nat) (hd : op.dst? = some d) (f : Nat → Nat)
    (hu : (step s (op.mapHandles f s.length)).2 = .unit) :
    (step s (op.mapHandles f s.length)).1.length = s.length + 1 := by
  cases hm : (op.mapHandles f s.length).reads.mapM fun h => s[h]? with
  | none => rw [step_of_reads_none hm] at hu; cases hu
  | some ts =>
    rw [step_of_reads hm, Op.effect_mapHandles] at hu ⊢
    cases he : op.effect ts with
    | bad => rw [he] at hu; cases hu
    | alias h => rw [he] at hu; cases hu
    | query r => rw [he] at hu; cases r <;> cases hu
    | assign h t e => rw [(Op.effect_assign he).2.2.1] at hd; cases hd
    | bind d' r =>
      rw [he] at hu
      cases r with
      | ok t => simp [Effect.mapHandles, Effect.run, Heap.bind, Heap.put]
      | error e => cases hu

theorem rstep_bindAlias_cells (s : RefHeap) (dst h : Nat) : (rstep s (.bindAlias dst h)).1.cells = s.cells := by
  simp only [rstep]
  split <;> rfl

theorem rstep_cells_length_ge (s : RefHeap) (rop : ROp) : s.cells.length ≤ (rstep s rop).1.cells.length := by
  cases rop with
  | bindAlias dst h => exact Nat.le_of_eq (congrArg List.length (rstep_bindAlias_cells s dst h).symm)
  | op o => exact step_length_ge s.cells _

theorem rstep_ptr (s : RefHeap) (rop : ROp) :
    HeapStep (fun c => s.WF → c < (rstep s rop).1.cells.length) (fun _ c => s.WF → c < (rstep s rop).1.cells.length)
      s.ptr rop.rebinds (rstep s rop).1.ptr := by
  cases rop with
  | bindAlias dst h =>
    simp only [rstep]
    split
    · rename_i c hc
      exact .put _ _ _ (fun hs => hs c (List.mem_of_getElem? hc)) fun _ hs => hs c (List.mem_of_getElem? hc)
    · exact .same
  | op o =>
    simp only [rstep, RefHeap.ptrAfter]
    split
    · rename_i _ _ d hd hunit
      -- the destination is bound to the fresh cell `cells.length`, which the successful operation allocated
      have hfresh := step_unit_fresh s.cells o d hd s.cellOf hunit
      rw [ROp.rebinds, hd]
      exact .put _ _ _ (fun _ => by omega) fun _ _ => by omega
    · exact .same

namespace RefHeap

/-- the value heap the handles read -/
def vheap (s : RefHeap) : Heap := s.ptr.map fun c => s.cells.getD c []

theorem cells_cellOf (s : RefHeap) (hw : s.WF) (h : Nat) : s.cells[s.cellOf h]? = s.vheap[h]? := by
  unfold vheap
  rw [List.getElem?_map]
  cases hp : s.ptr[h]? with
  | none => simp [cellOf_none hp]
  | some c =>
    have hc : c < s.cells.length := hw c (List.mem_of_getElem? hp)
    simp [cellOf_some hp, List.getD_eq_getElem?_getD, hc]

theorem vheap_alloc (s : RefHeap) (hw : s.WF) (d : Nat) (t : Table) :
    vheap ⟨bindPtr s.ptr d s.cells.length, s.cells ++ [t]⟩ = s.vheap.put d t := by
  have hold : (s.ptr.map fun c => (s.cells ++ [t]).getD c []) = s.ptr.map fun c => s.cells.getD c [] := by
    apply List.map_congr_left
    intro c hc
    have := hw c hc
    simp [List.getD_eq_getElem?_getD, List.getElem?_append_left this]
  have hnew : (s.cells ++ [t]).getD s.cells.length [] = t := by simp [List.getD_eq_getElem?_getD]
  unfold vheap bindPtr Heap.put
  simp only [List.length_map]
  split
  · rw [List.map_set, hnew, hold]
  · rw [List.map_append, hold]
    simp

theorem mapM_cellOf (s : RefHeap) (hw : s.WF) (hs : List Nat) :
    (hs.map s.cellOf).mapM (fun c => s.cells[c]?) = hs.mapM fun h => s.vheap[h]? := by
  induction hs with
  | nil => rfl
  | cons h hs ih => simp only [List.map_cons, List.mapM_cons, cells_cellOf s hw, ih]

end RefHeap

open RefHeap

theorem rstep_bindAlias {s : RefHeap} {h c : Nat} (dst : Nat) (hp : s.ptr[h]? = some c) :
    rstep s (.bindAlias dst h) = (⟨bindPtr s.ptr dst c, s.cells⟩, .alias h) := by
  simp only [rstep, hp]

theorem rstep_setitem {s : RefHeap} {h c : Nat} {t : Table} (hp : s.ptr[h]? = some c) (hcell : s.cells[c]? = some t)
    (k : String) (v : ColVal) :
    (rstep s (.op (.setitem h k v))).1 = ⟨s.ptr, match t.setitem k v with
      | .ok t' => s.cells.set c t'
      | .error _ => s.cells⟩ := by
  simp only [rstep, ptrAfter, Op.mapHandles, Op.dst?, cellOf_some hp, step, hcell]
  cases t.setitem k v <;> rfl

/-- writing the cell of handle `h` is, through the handles, writing handle `h` (with `ptr.Nodup` no other handle reads that
cell); an unbound handle is translated to an index outside the store and neither side changes -/
theorem RefHeap.vheap_set_cellOf (s : RefHeap) (hw : s.WF) (hinj : s.ptr.Nodup) (h : Nat) (t' : Table) :
    vheap ⟨s.ptr, s.cells.set (s.cellOf h) t'⟩ = s.vheap.set h t' := by
  cases hp : s.ptr[h]? with
  | some c =>
    have hh : h < s.ptr.length := (List.getElem?_eq_some_iff.1 hp).1
    have hc : c < s.cells.length := hw c (List.mem_of_getElem? hp)
    rw [cellOf_some hp]
    unfold vheap
    apply List.ext_getElem?
    intro i
    rw [List.getElem?_set, List.getElem?_map, List.getElem?_map]
    by_cases hi : h = i
    · subst hi
      have hp' : s.ptr[h] = c := (List.getElem?_eq_some_iff.1 hp).2
      simp [hh, hp', List.getD_eq_getElem?_getD, hc]
    · rw [if_neg hi]
      cases hpi : s.ptr[i]? with
      | none => rfl
      | some x =>
        -- another handle on the same cell would be an alias
        have hx : x ≠ c := by
          intro hxc
          subst hxc
          exact hi ((List.getElem?_inj hh hinj).1 (hp.trans hpi.symm))
        simp [List.getD_eq_getElem?_getD, List.getElem?_set_ne (Ne.symm hx)]
  | none =>
    have hh : s.vheap.length ≤ h := by simpa [vheap] using hp
    rw [cellOf_none hp, List.set_eq_of_length_le (Nat.le_refl _), List.set_eq_of_length_le hh]

theorem rstep_op_sim (s : RefHeap) (hw : s.WF) (hinj : s.ptr.Nodup) (o : Op) :
    (rstep s (.op o)).1.vheap = (step s.vheap o).1 ∧ (rstep s (.op o)).2 = (step s.vheap o).2 := by
  have hreads := mapM_cellOf s hw o.reads
  rw [← Op.reads_mapHandles s.cellOf s.cells.length] at hreads
  simp only [rstep]
  cases hm : o.reads.mapM fun h => s.vheap[h]? with
  | none =>
    rw [step_of_reads_none hm, step_of_reads_none (hreads.trans hm), ptrAfter_badHandle]
    exact ⟨rfl, by cases o.aliasOf <;> rfl⟩
  | some ts =>
    rw [step_of_reads hm, step_of_reads (hreads.trans hm), Op.effect_mapHandles]
    cases he : o.effect ts with
    | bad => exact ⟨by rw [Effect.mapHandles, Effect.run, ptrAfter_badHandle]; rfl, by cases o.aliasOf <;> rfl⟩
    | alias h => exact ⟨by rw [Effect.mapHandles, Effect.run, ptrAfter_alias]; rfl, by rw [Op.effect_alias he]; rfl⟩
    | query r =>
      cases r <;> exact ⟨by rw [Effect.mapHandles, Effect.run, Heap.query, ptrAfter_of_ne_unit _ _ Out.noConfusion]; rfl,
        by cases o.aliasOf <;> rfl⟩
    | assign h t e =>
      rw [(Op.effect_assign he).2.2.1]
      exact ⟨RefHeap.vheap_set_cellOf s hw hinj h t, by cases e <;> cases o.aliasOf <;> rfl⟩
    | bind d r =>
      rw [(Op.effect_bind he).2]
      cases r with
      | error e => exact ⟨rfl, by cases o.aliasOf <;> rfl⟩
      | ok t =>
        -- the result goes to the fresh cell `cells.length`, the destination is bound to it: `Heap.put` on `vheap`
        have hput : Heap.put s.cells s.cells.length t = s.cells ++ [t] := by simp [Heap.put]
        refine ⟨?_, by cases o.aliasOf <;> rfl⟩
        simp only [Effect.mapHandles, Effect.run, Heap.bind, hput, ptrAfter_unit]
        exact vheap_alloc s hw d t

theorem rstep_op_nodup (s : RefHeap) (hw : s.WF) (hinj : s.ptr.Nodup) (o : Op) :
    (rstep s (.op o)).1.ptr.Nodup := by
  have hfresh : s.cells.length ∉ s.ptr := fun hm => Nat.lt_irrefl _ (hw _ hm)
  simp only [rstep, ptrAfter]
  split
  · unfold bindPtr
    split
    · exact List.nodup_set_fresh _ _ _ hinj hfresh
    · simp only [List.nodup_append, hinj, List.nodup_cons, List.not_mem_nil, not_false_eq_true,
        List.nodup_nil, and_self, List.mem_singleton, true_and]
      intro a ha b hb
      subst hb
      intro hab
      subst hab
      exact hfresh ha
  · exact hinj

end Pyg
