/-
  The wrapper model (PygModel.Wrap, PygModel.WrapLoops) through the normal form of the constructor on chains with distinct
  classes (`mk_chain`) and through what each layer forwards (`loopsCall_cases`, `pd2npCall_eq_self`, `kwFilter_eq_self`); the memo
  fields keep `MemoOk` under every operation; the `loops` layer that loops is C19's lifting when it loops over all three
  container types (`liftT_all_eq_wrapped`).
-/
import PygModel.WrapLoops
import PygProofs.Lemmas.BindLemmas

namespace Pyg

abbrev Chain := List (Cls × PDict)

def classes (ch : Chain) : List Cls := ch.map (·.1)

/-- parameters of the (first) wrapper of class `cls` -/
def paramsOf (cls : Cls) (ch : Chain) : Option PDict := (ch.find? fun w => w.1 == cls).map (·.2)

/-- the parameters a new `cls` wrapper ends up with: those of the wrapper it replaces, updated -/
def newParams (cls : Cls) (kwargs : PDict) (ch : Chain) : PDict :=
  match paramsOf cls ch with
  | some p => p.update kwargs
  | none => kwargs

theorem classes_cons (w : Cls × PDict) (ch : Chain) : classes (w :: ch) = w.1 :: classes ch := rfl

theorem nodup_classes_cons {w : Cls × PDict} {ch : Chain} :
    (classes (w :: ch)).Nodup ↔ w.1 ∉ classes ch ∧ (classes ch).Nodup :=
  List.nodup_cons

theorem stripAll_cons_self (cls : Cls) (p : PDict) (ch : Chain) : stripAll cls ((cls, p) :: ch) = stripAll cls ch :=
  List.filter_cons_of_neg (by simp)

theorem stripAll_cons_ne {cls : Cls} {w : Cls × PDict} (h : w.1 ≠ cls) (ch : Chain) :
    stripAll cls (w :: ch) = w :: stripAll cls ch :=
  List.filter_cons_of_pos (by simpa using h)

theorem paramsOf_cons_self (cls : Cls) (p : PDict) (ch : Chain) : paramsOf cls ((cls, p) :: ch) = some p := by
  rw [paramsOf, List.find?_cons_of_pos (by simp)]
  rfl

theorem paramsOf_cons_ne {cls : Cls} {w : Cls × PDict} (h : w.1 ≠ cls) (ch : Chain) :
    paramsOf cls (w :: ch) = paramsOf cls ch := by
  rw [paramsOf, List.find?_cons_of_neg (by simpa using h), paramsOf]

theorem newParams_of_some {cls : Cls} {kw p : PDict} {ch : Chain} (h : paramsOf cls ch = some p) :
    newParams cls kw ch = p.update kw := by
  rw [newParams, h]

theorem newParams_of_none {cls : Cls} {kw : PDict} {ch : Chain} (h : paramsOf cls ch = none) : newParams cls kw ch = kw := by
  rw [newParams, h]

theorem newParams_congr {cls : Cls} {ch ch' : Chain} (kw : PDict) (h : paramsOf cls ch = paramsOf cls ch') :
    newParams cls kw ch = newParams cls kw ch' := by
  rw [newParams, newParams, h]

theorem ne_of_not_mem_classes {cls : Cls} {ch : Chain} (h : cls ∉ classes ch) : ∀ w ∈ ch, w.1 ≠ cls :=
  fun w hw e => h (e ▸ List.mem_map.2 ⟨w, hw, rfl⟩)

theorem stripAll_of_not_mem (cls : Cls) (ch : Chain) (h : cls ∉ classes ch) : stripAll cls ch = ch :=
  List.filter_eq_self.2 fun w hw => by simpa using ne_of_not_mem_classes h w hw

theorem not_mem_classes_stripAll (cls : Cls) (ch : Chain) : cls ∉ classes (stripAll cls ch) := by
  intro h
  obtain ⟨w, hw, e⟩ := List.mem_map.1 h
  simp only [stripAll, List.mem_filter] at hw
  simp [e] at hw

theorem stripAll_idem (cls : Cls) (ch : Chain) : stripAll cls (stripAll cls ch) = stripAll cls ch :=
  stripAll_of_not_mem cls _ (not_mem_classes_stripAll cls ch)

theorem stripAll_comm (c d : Cls) (ch : Chain) : stripAll c (stripAll d ch) = stripAll d (stripAll c ch) := by
  simp only [stripAll, List.filter_filter]
  congr 1
  funext w
  exact Bool.and_comm _ _

theorem classes_stripAll (cls : Cls) (ch : Chain) : classes (stripAll cls ch) = (classes ch).filter (· != cls) := by
  simp [classes, stripAll, List.filter_map, Function.comp_def]

theorem nodup_stripAll (cls : Cls) (ch : Chain) (h : (classes ch).Nodup) : (classes (stripAll cls ch)).Nodup := by
  rw [classes_stripAll]
  exact List.Nodup.sublist List.filter_sublist h

theorem lastParams_of_not_mem (cls : Cls) (ch : Chain) (h : cls ∉ classes ch) : lastParams cls ch = none := by
  have : ch.filter (fun w => w.1 == cls) = [] :=
    List.filter_eq_nil_iff.2 fun w hw => by simpa using ne_of_not_mem_classes h w hw
  simp [lastParams, this]

theorem paramsOf_of_not_mem (cls : Cls) (ch : Chain) (h : cls ∉ classes ch) : paramsOf cls ch = none := by
  have : ch.find? (fun w => w.1 == cls) = none :=
    List.find?_eq_none.2 fun w hw => by simpa using ne_of_not_mem_classes h w hw
  simp [paramsOf, this]

/-- with distinct classes the last wrapper of a class (what the constructor's `while` loop ends on) is the first -/
theorem lastParams_eq_paramsOf (cls : Cls) : ∀ (ch : Chain), (classes ch).Nodup → lastParams cls ch = paramsOf cls ch
  | [], _ => by simp [lastParams, paramsOf]
  | w :: ws, h => by
      rw [nodup_classes_cons] at h
      by_cases hw : w.1 = cls
      · have hn : cls ∉ classes ws := hw ▸ h.1
        have hf : ws.filter (fun w => w.1 == cls) = [] :=
          List.filter_eq_nil_iff.2 fun x hx => by simpa using ne_of_not_mem_classes hn x hx
        simp [lastParams, paramsOf, List.filter, hw, hf, List.find?]
      · have hb : (w.1 == cls) = false := by simpa using hw
        have ih := lastParams_eq_paramsOf cls ws h.2
        simp only [lastParams, paramsOf, List.filter, hb, List.find?] at ih ⊢
        exact ih

theorem mk_chain (cls : Cls) (kwargs : PDict) (fn : WFn) (h : (classes fn.chain).Nodup) :
    (mk cls kwargs fn).chain = (cls, newParams cls kwargs fn.chain) :: stripAll cls fn.chain := by
  unfold mk
  cases hc : fn.chain with
  | nil => rfl
  | cons w rest =>
    obtain ⟨c, p⟩ := w
    rw [hc, nodup_classes_cons] at h
    by_cases hcc : c = cls
    · subst hcc
      have hn : c ∉ classes rest := h.1
      simp only [↓reduceIte]
      rw [newParams_of_some (paramsOf_cons_self c p rest), stripAll_cons_self, stripAll_of_not_mem c rest hn]
      cases rest with
      | nil => rfl
      | cons top below =>
        have hnb : c ∉ classes below := fun hm => hn (List.mem_cons_of_mem _ hm)
        simp only [lastParams_of_not_mem c below hnb, stripAll_of_not_mem c below hnb]
    · simp only [hcc, ↓reduceIte]
      rw [newParams_congr kwargs (paramsOf_cons_ne hcc rest), stripAll_cons_ne hcc, lastParams_eq_paramsOf cls rest h.2,
        newParams]
      cases paramsOf cls rest <;> rfl

theorem mk_base (cls : Cls) (kwargs : PDict) (fn : WFn) : (mk cls kwargs fn).base = fn.base := rfl

theorem mk_nodup (cls : Cls) (kwargs : PDict) (fn : WFn) (h : (classes fn.chain).Nodup) :
    (classes (mk cls kwargs fn).chain).Nodup := by
  rw [mk_chain cls kwargs fn h]
  exact nodup_classes_cons.2 ⟨not_mem_classes_stripAll cls fn.chain, nodup_stripAll cls fn.chain h⟩

theorem mkMany_cons (d : Cls × PDict) (ds : Chain) (fn : WFn) : mkMany (d :: ds) fn = mkMany ds (mk d.1 d.2 fn) := rfl

theorem mkMany_nodup (ds : Chain) (fn : WFn) (h : (classes fn.chain).Nodup) :
    (classes (mkMany ds fn).chain).Nodup :=
  List.foldl_preserves (P := fun f : WFn => (classes f.chain).Nodup) (fun f d _ hf => mk_nodup d.1 d.2 f hf) h

theorem mkMany_base (ds : Chain) (fn : WFn) : (mkMany ds fn).base = fn.base :=
  List.foldl_preserves (P := fun f : WFn => f.base = fn.base) (l := ds) (op := fun f (d : Cls × PDict) => mk d.1 d.2 f)
    (fun _ _ _ hf => hf) rfl

theorem paramsOf_stripAll_ne (cls d : Cls) (hd : d ≠ cls) (ch : Chain) : paramsOf cls (stripAll d ch) = paramsOf cls ch :=
  congrArg (Option.map fun w : Cls × PDict => w.2)
    (List.find?_key_filter (fun w : Cls × PDict => w.1 != d) (k := cls) (l := ch) fun e _ he => by simpa [he] using Ne.symm hd)

theorem paramsOf_mk_ne (cls d : Cls) (hd : d ≠ cls) (kd : PDict) (fn : WFn) (h : (classes fn.chain).Nodup) :
    paramsOf cls (mk d kd fn).chain = paramsOf cls fn.chain := by
  rw [mk_chain d kd fn h, paramsOf_cons_ne hd]
  exact paramsOf_stripAll_ne cls d hd fn.chain

theorem stripAll_mk_ne (cls d : Cls) (hd : d ≠ cls) (kd : PDict) (fn : WFn) (h : (classes fn.chain).Nodup) :
    stripAll cls (mk d kd fn).chain = (mk d kd { fn with chain := stripAll cls fn.chain }).chain := by
  rw [mk_chain d kd fn h, mk_chain d kd _ (nodup_stripAll cls fn.chain h)]
  rw [stripAll_cons_ne hd, newParams_congr kd (paramsOf_stripAll_ne d cls (fun e => hd e.symm) fn.chain),
    stripAll_comm cls d fn.chain]

theorem paramsOf_mkMany_ne (cls : Cls) (ds : Chain) (hds : ∀ d ∈ ds, d.1 ≠ cls) (fn : WFn)
    (h : (classes fn.chain).Nodup) : paramsOf cls (mkMany ds fn).chain = paramsOf cls fn.chain := by
  induction ds generalizing fn with
  | nil => rfl
  | cons d ds ih =>
    rw [mkMany_cons, ih (fun x hx => hds x (by simp [hx])) _ (mk_nodup d.1 d.2 fn h)]
    exact paramsOf_mk_ne cls d.1 (hds d (by simp)) d.2 fn h

theorem stripAll_mkMany_ne (cls : Cls) (ds : Chain) (hds : ∀ d ∈ ds, d.1 ≠ cls) (fn : WFn)
    (h : (classes fn.chain).Nodup) :
    stripAll cls (mkMany ds fn).chain = (mkMany ds { fn with chain := stripAll cls fn.chain }).chain := by
  induction ds generalizing fn with
  | nil => rfl
  | cons d ds ih =>
    rw [mkMany_cons, mkMany_cons, ih (fun x hx => hds x (by simp [hx])) _ (mk_nodup d.1 d.2 fn h)]
    have := stripAll_mk_ne cls d.1 (hds d (by simp)) d.2 fn h
    congr 2
    rw [this]
    rfl

theorem newParams_twice (cls : Cls) (kw : PDict) (hn : (kw.map (·.1)).Nodup) (ch : Chain) :
    PDict.Eqv ((newParams cls kw ch).update kw) (newParams cls kw ch) := by
  cases hq : paramsOf cls ch with
  | none =>
    rw [newParams_of_none hq]
    exact update_self_eqv kw hn
  | some p =>
    rw [newParams_of_some hq]
    exact update_update_eqv p kw

/-- `kw` has every key of `p` (a subclass `__init__` passes its COMPLETE parameter set: `try_value.__init__` always passes
`repeat, sleep, return_value, value, verbose`, `loops` its `types`, `pd2np` its `exc`) -/
def Covers (kw p : PDict) : Prop := ∀ k, (p.lookup k).isSome → (kw.lookup k).isSome

theorem update_covered_eqv (p kw : PDict) (hn : (kw.map (·.1)).Nodup) (hc : Covers kw p) :
    PDict.Eqv (p.update kw) kw := by
  intro k
  rw [PDict.lookup_update_nodup _ _ hn]
  cases hk : kw.lookup k with
  | some v => simp
  | none =>
    cases hp : p.lookup k with
    | none => simp
    | some v =>
      have := hc k (by simp [hp])
      simp [hk] at this

theorem covers_update (kw p u : PDict) (hu : (u.map (·.1)).Nodup) (h1 : Covers kw p) (h2 : Covers kw u) :
    Covers kw (p.update u) := by
  intro k hk
  rw [PDict.lookup_update_nodup _ _ hu] at hk
  cases hl : u.lookup k with
  | some v => exact h2 k (by simp [hl])
  | none =>
    simp only [hl, Option.none_or] at hk
    exact h1 k hk

theorem covers_newParams (cls : Cls) (kw1 kw2 : PDict) (hn1 : (kw1.map (·.1)).Nodup) (hk : Covers kw2 kw1) (ch : Chain)
    (hp : ∀ p, paramsOf cls ch = some p → Covers kw2 p) : Covers kw2 (newParams cls kw1 ch) := by
  cases hq : paramsOf cls ch with
  | none => exact newParams_of_none hq ▸ hk
  | some p => exact newParams_of_some hq ▸ covers_update kw2 p kw1 hn1 (hp p hq) hk

theorem paramsOf_mk_self (cls : Cls) (kw : PDict) (fn : WFn) (h : (classes fn.chain).Nodup) :
    paramsOf cls (mk cls kw fn).chain = some (newParams cls kw fn.chain) := by
  rw [mk_chain cls kw fn h, paramsOf_cons_self]

theorem mk_eqv_of (cls : Cls) (kw : PDict) (f g : WFn) (hf : (classes f.chain).Nodup) (hg : (classes g.chain).Nodup)
    (hb : f.base = g.base) (ht : stripAll cls f.chain = stripAll cls g.chain)
    (hh : PDict.Eqv (newParams cls kw f.chain) (newParams cls kw g.chain)) : WFn.Eqv (mk cls kw f) (mk cls kw g) := by
  refine ⟨hb, ?_, ?_⟩
  · rw [mk_chain cls kw f hf, mk_chain cls kw g hg, ht]
    rfl
  · intro i x y hx hy
    rw [mk_chain cls kw f hf] at hx
    rw [mk_chain cls kw g hg, ← ht] at hy
    cases i with
    | zero =>
      cases hx
      cases hy
      exact hh
    | succ i =>
      rw [List.getElem?_cons_succ] at hx hy
      rw [hx] at hy
      cases hy
      exact fun _ => rfl

/-- `W_q(D₁(…Dₙ(W_p(f)))) == W_q(D₁(…Dₙ(f)))` for decorators `Dᵢ` of other classes, as soon as updating the parameters the
inner application left by `q` gives what `q` alone gives -/
theorem mk_mkMany_mk_eqv (cls : Cls) (kw1 kw2 : PDict) (ds : Chain) (hds : ∀ d ∈ ds, d.1 ≠ cls) (fn : WFn)
    (h : (classes fn.chain).Nodup)
    (hh : PDict.Eqv ((newParams cls kw1 fn.chain).update kw2) (newParams cls kw2 fn.chain)) :
    WFn.Eqv (mk cls kw2 (mkMany ds (mk cls kw1 fn))) (mk cls kw2 (mkMany ds fn)) := by
  have hg := mk_nodup cls kw1 fn h
  apply mk_eqv_of cls kw2 _ _ (mkMany_nodup ds _ hg) (mkMany_nodup ds _ h)
  · simp only [mkMany_base, mk_base]
  · have hs : stripAll cls (mk cls kw1 fn).chain = stripAll cls fn.chain := by
      rw [mk_chain cls kw1 fn h, stripAll_cons_self, stripAll_idem]
    rw [stripAll_mkMany_ne cls ds hds _ hg, stripAll_mkMany_ne cls ds hds _ h, hs]
    rfl
  · rw [newParams_of_some ((paramsOf_mkMany_ne cls ds hds _ hg).trans (paramsOf_mk_self cls kw1 fn h)),
      newParams_congr kw2 (paramsOf_mkMany_ne cls ds hds _ h)]
    exact hh

/-- every filled memo holds the plain function's specification -/
def MemoOk (base : Sig) (ms : Memos) : Prop := ∀ s, some s ∈ ms → s = base

theorem specWalk_of_ok (base : Sig) : ∀ ms, MemoOk base ms → specWalk base ms = base
  | [], _ => rfl
  | some s :: _, h => by simpa [specWalk] using h s (by simp)
  | Option.none :: rest, h => by
      simp only [specWalk]
      exact specWalk_of_ok base rest fun s hs => h s (by simp [hs])

theorem fillMemos_ok (base : Sig) : ∀ ms, MemoOk base ms → MemoOk base (fillMemos base ms)
  | [], h => h
  | some s :: rest, h => h
  | Option.none :: rest, h => by
      have hr : MemoOk base rest := fun s hs => h s (by simp [hs])
      intro s hs
      simp only [fillMemos, List.mem_cons, Option.some.injEq] at hs
      rcases hs with hs | hs
      · rw [hs, specWalk_of_ok base rest hr]
      · exact fillMemos_ok base rest hr s hs

theorem mkMemos_ok (base : Sig) (keep : List Bool) (ms : Memos) (h : MemoOk base ms) :
    MemoOk base (mkMemos keep ms) := by
  intro s hs
  simp only [mkMemos, List.mem_cons, List.mem_map, List.mem_filter] at hs
  rcases hs with hs | ⟨p, ⟨hp, _⟩, he⟩
  · cases hs
  · obtain ⟨m, b⟩ := p
    simp only at he
    subst he
    exact h s (List.of_mem_zip hp).1

theorem MemoOk.nil (base : Sig) : MemoOk base [] := fun _ h => nomatch h

theorem MemoOk.request {base : Sig} {ms : Memos} (h : MemoOk base ms) (d : Nat) :
    MemoOk base (ms.take d ++ fillMemos base (ms.drop d)) := by
  intro s hs
  rcases List.mem_append.1 hs with hs | hs
  · exact h s (List.mem_of_mem_take hs)
  · exact fillMemos_ok base _ (fun t ht => h t (List.mem_of_mem_drop ht)) s hs

/-- which layers of a chain survive a constructor of class `cls`: the wrapper of the same class is cut out (`mk_chain`) -/
def keepOf (cls : Cls) (ch : List (Cls × PDict)) : List Bool := ch.map fun w => w.1 != cls

/-- a decorated function together with the memo field `function_fullargspec` of every wrapper object of its chain
(outermost first) -/
structure WFnM where
  fn : WFn
  memos : Memos

/-- what a program does with a decorated function as far as specifications are concerned -/
inductive WOp where
  | wrap (cls : Cls) (kw : PDict)      -- apply a decorator: `mk` on the chain, `mkMemos` on the memo fields
  | request (depth : Nat)              -- `getargspec` of the object `depth` levels below the top

def WOp.run (base : Sig) : WOp → WFnM → WFnM
  | .wrap cls kw, f => { fn := mk cls kw f.fn, memos := mkMemos (keepOf cls f.fn.chain) f.memos }
  | .request d, f => { f with memos := f.memos.take d ++ fillMemos base (f.memos.drop d) }

def WOp.wrapOf : WOp → Option (Cls × PDict)
  | .wrap cls kw => some (cls, kw)
  | .request _ => Option.none

theorem length_filter_zip_keep (g : Cls × PDict → Bool) : ∀ (ch : Chain) (ms : Memos), ms.length = ch.length →
    ((ms.zip (ch.map g)).filter (·.2)).length = (ch.filter g).length
  | [], ms, _ => by simp
  | w :: ch, [], h => by simp at h
  | w :: ch, m :: ms, h => by
      have ih := length_filter_zip_keep g ch ms (by simpa using h)
      cases hg : g w <;> simp [List.filter, hg, ih]

theorem fillMemos_length (base : Sig) : ∀ ms : Memos, (fillMemos base ms).length = ms.length
  | [] => rfl
  | some _ :: _ => rfl
  | Option.none :: rest => by simp [fillMemos, fillMemos_length base rest]

theorem WOp.foldl_run_fn (base : Sig) : ∀ (ops : List WOp) (f : WFnM),
    (ops.foldl (fun f op => op.run base f) f).fn = mkMany (ops.filterMap WOp.wrapOf) f.fn
  | [], f => rfl
  | op :: ops, f => by
      simp only [List.foldl_cons]
      rw [WOp.foldl_run_fn base ops]
      cases op with
      | wrap cls kw => simp [WOp.run, WOp.wrapOf, mkMany]
      | request d => simp [WOp.run, List.filterMap_cons, WOp.wrapOf]

theorem WOp.run_inv (base : Sig) (op : WOp) (g : WFnM)
    (h : MemoOk base g.memos ∧ g.memos.length = g.fn.chain.length ∧ (classes g.fn.chain).Nodup) :
    MemoOk base (op.run base g).memos ∧ (op.run base g).memos.length = (op.run base g).fn.chain.length ∧
      (classes (op.run base g).fn.chain).Nodup := by
  obtain ⟨h1, h2, h3⟩ := h
  cases op with
  | wrap cls kw =>
    refine ⟨mkMemos_ok base _ _ h1, ?_, mk_nodup cls kw g.fn h3⟩
    simp only [WOp.run, mkMemos, List.length_cons, List.length_map, mk_chain cls kw g.fn h3, keepOf, stripAll]
    rw [length_filter_zip_keep (fun w => w.1 != cls) g.fn.chain g.memos h2]
  | request d =>
    refine ⟨h1.request d, ?_, h3⟩
    simp only [WOp.run, List.length_append, fillMemos_length, List.length_take, List.length_drop]
    omega

mutual
  theorem int2float_eq_self : ∀ (v : Val), v.hasIntArr = false → int2float v = v
    | .cell .none, _ | .cell (.bool _), _ | .cell (.int _), _ | .cell (.flt _), _ | .cell .nan, _ | .cell .pinf, _
    | .cell .ninf, _ | .cell (.dt _), _ => rfl
    | .cell (.str s), h => by
        simp only [Val.hasIntArr] at h
        simp [int2float, h]
    | .list xs, h | .tuple xs, h => by
        simp only [Val.hasIntArr] at h
        simp only [int2float, int2floatList_eq_self xs h]
    | .dict kvs, h => by
        simp only [Val.hasIntArr] at h
        simp only [int2float, int2floatKVs_eq_self kvs h]
  theorem int2floatList_eq_self : ∀ (xs : List Val), hasIntArrList xs = false → int2floatList xs = xs
    | [], _ => rfl
    | x :: xs, h => by
        simp only [hasIntArrList, Bool.or_eq_false_iff] at h
        simp only [int2floatList, int2float_eq_self x h.1, int2floatList_eq_self xs h.2]
  theorem int2floatKVs_eq_self : ∀ (kvs : List (String × Val)), hasIntArrKVs kvs = false → int2floatKVs kvs = kvs
    | [], _ => rfl
    | (k, v) :: kvs, h => by
        simp only [hasIntArrKVs, Bool.or_eq_false_iff] at h
        simp only [int2floatKVs, int2float_eq_self v h.1, int2floatKVs_eq_self kvs h.2]
end

theorem int2floatKw_eq_self (exc : List String) : ∀ (kvs : PDict), hasIntArrKVs kvs = false → int2floatKw exc kvs = kvs
  | [], _ => rfl
  | (k, v) :: kvs, h => by
      simp only [hasIntArrKVs, Bool.or_eq_false_iff] at h
      simp only [int2floatKw, int2float_eq_self v h.1, int2floatKw_eq_self exc kvs h.2, ite_self]

theorem Call.hasIntArr_eq_false_iff {c : Call} :
    c.hasIntArr = false ↔ hasIntArrList c.args = false ∧ hasIntArrKVs c.kw = false :=
  Bool.or_eq_false_iff

theorem pd2npCall_eq_self (exc : List String) (c : Call) (h : c.hasIntArr = false) : pd2npCall exc c = c := by
  cases c with
  | mk args kw =>
    rw [Call.hasIntArr_eq_false_iff] at h
    simp only [pd2npCall, int2floatList_eq_self args h.1, int2floatKw_eq_self exc kw h.2]

theorem hasIntArrKVs_false_iff : ∀ (kvs : PDict), hasIntArrKVs kvs = false ↔ ∀ p ∈ kvs, p.2.hasIntArr = false
  | [] => by simp [hasIntArrKVs]
  | (k, v) :: kvs => by
      simp only [hasIntArrKVs, Bool.or_eq_false_iff, List.mem_cons, forall_eq_or_imp, hasIntArrKVs_false_iff kvs]

mutual
  theorem hasIntArr_int2float : ∀ (v : Val), (int2float v).hasIntArr = false
    | .cell .none | .cell (.bool _) | .cell (.int _) | .cell (.flt _) | .cell .nan | .cell .pinf | .cell .ninf
    | .cell (.dt _) => rfl
    | .cell (.str s) => by
        by_cases h : isIntArr s = true
        · simp only [int2float, h, if_true, Val.hasIntArr]
          simp [isIntArr]
        · have h' : isIntArr s = false := by simpa using h
          simp [int2float, h', Val.hasIntArr]
    | .list xs | .tuple xs => by simp only [int2float, Val.hasIntArr, hasIntArrList_int2floatList xs]
    | .dict kvs => by simp only [int2float, Val.hasIntArr, hasIntArrKVs_int2floatKVs kvs]
  theorem hasIntArrList_int2floatList : ∀ (xs : List Val), hasIntArrList (int2floatList xs) = false
    | [] => rfl
    | x :: xs => by simp only [int2floatList, hasIntArrList, hasIntArr_int2float x, hasIntArrList_int2floatList xs, Bool.or_self]
  theorem hasIntArrKVs_int2floatKVs : ∀ (kvs : List (String × Val)), hasIntArrKVs (int2floatKVs kvs) = false
    | [] => rfl
    | (k, v) :: kvs => by simp only [int2floatKVs, hasIntArrKVs, hasIntArr_int2float v, hasIntArrKVs_int2floatKVs kvs, Bool.or_self]
end

theorem int2floatKw_nil : ∀ (kvs : PDict), int2floatKw [] kvs = int2floatKVs kvs
  | [] => rfl
  | (k, v) :: kvs => by simp [int2floatKw, int2floatKVs, int2floatKw_nil kvs]

theorem int2floatKw_eq_map (exc : List String) : ∀ (kvs : PDict),
    int2floatKw exc kvs = kvs.map fun p => (p.1, if exc.contains p.1 then p.2 else int2float p.2)
  | [] => rfl
  | (k, v) :: kvs => by rw [int2floatKw, int2floatKw_eq_map exc kvs, List.map_cons]

theorem int2floatKw_keys (exc : List String) (kvs : PDict) : (int2floatKw exc kvs).map Prod.fst = kvs.map Prod.fst := by
  rw [int2floatKw_eq_map, List.map_map]
  rfl

theorem int2floatList_length : ∀ (xs : List Val), (int2floatList xs).length = xs.length
  | [] => rfl
  | x :: xs => by simp [int2floatList, int2floatList_length xs]

theorem int2floatKw_lookup (exc : List String) (k : String) (kvs : PDict) :
    (int2floatKw exc kvs).lookup k = (kvs.lookup k).map (fun v => if exc.contains k then v else int2float v) := by
  rw [int2floatKw_eq_map]
  exact List.lookup_map_val (fun k v => if exc.contains k then v else int2float v) k kvs

theorem popAxis_eq (kw : PDict) (hax : ∀ p ∈ kw, p.1 ≠ "axis") : popAxis kw = kw :=
  List.filter_fst_ne_eq_self hax

theorem mem_of_mem_popAxis {kw : PDict} {p : String × Val} (h : p ∈ popAxis kw) : p ∈ kw :=
  (List.mem_filter.1 h).1

theorem loopsCall_of_args (s : Sig) {c : Call} (h : c.args ≠ []) : loopsCall s c = { c with kw := popAxis c.kw } := by
  obtain ⟨_ | ⟨a, as⟩, kw⟩ := c
  · exact absurd rfl h
  · rfl

theorem loopsCall_of_key {s : Sig} {c : Call} {top : String} {ps : List String} {arg : Val} (ha : c.args = [])
    (hp : s.params = top :: ps) (hl : c.kw.lookup top = some arg) :
    loopsCall s c = { args := [arg], kw := popAxis (c.kw.erase top) } := by
  obtain ⟨args, kw⟩ := c
  obtain rfl : args = [] := ha
  simp only [loopsCall, hp, hl]

theorem loopsCall_of_none {s : Sig} {c : Call} (ha : c.args = [])
    (h : ∀ top ps, s.params = top :: ps → c.kw.lookup top = none) : loopsCall s c = c := by
  obtain ⟨args, kw⟩ := c
  obtain rfl : args = [] := ha
  unfold loopsCall
  cases hp : s.params with
  | nil => rfl
  | cons top ps => simp only [h top ps hp]

theorem loopsCall_cases (s : Sig) (c : Call) :
    (c.args = [] ∧ (∀ top ps, s.params = top :: ps → c.kw.lookup top = none) ∧ loopsCall s c = c) ∨
    (c.args ≠ [] ∧ loopsCall s c = { c with kw := popAxis c.kw }) ∨
    ∃ top ps arg, c.args = [] ∧ s.params = top :: ps ∧ c.kw.lookup top = some arg ∧
      loopsCall s c = { args := [arg], kw := popAxis (c.kw.erase top) } := by
  by_cases ha : c.args = []
  · by_cases h : ∀ top ps, s.params = top :: ps → c.kw.lookup top = none
    · exact .inl ⟨ha, h, loopsCall_of_none ha h⟩
    · simp only [Classical.not_forall] at h
      obtain ⟨top, ps, hp, hl⟩ := h
      obtain ⟨arg, hl⟩ := Option.ne_none_iff_exists'.1 hl
      exact .inr (.inr ⟨top, ps, arg, ha, hp, hl, loopsCall_of_key ha hp hl⟩)
  · exact .inr (.inl ⟨ha, loopsCall_of_args s ha⟩)


theorem bindRef_first_positional (s : Sig) (top : String) (ps : List String) (hp : s.params = top :: ps)
    (kw : PDict) (arg : Val) (hl : kw.lookup top = some arg) :
    bindRef s { args := [arg], kw := kw.erase top } = bindRef s { args := [], kw := kw } := by
  have hB' : ((kw.erase top).any fun p => (s.params.take 1).contains p.1) = false := by
    rw [List.any_eq_false]
    intro p hpm
    simp [hp, (PDict.mem_erase.1 hpm).2]
  have hB : (kw.any fun p => (s.params.take 0).contains p.1) = false := by
    rw [List.any_eq_false]; intro p _; simp
  have hC : extraKw s (kw.erase top) = extraKw s kw := by
    simp only [extraKw, PDict.erase, List.filter_filter]
    apply List.filter_congr
    intro p _
    by_cases h : p.1 = top
    · simp [h, hp]
    · simp [h]
  have hV : ∀ n ∈ s.params, pyValue s { args := [arg], kw := kw.erase top } n = pyValue s { args := [], kw := kw } n := by
    intro n hn
    unfold pyValue
    by_cases hnt : n = top
    · subst hnt
      simp [hp, hl]
    · have hi : ¬ s.params.idxOf n < 1 := by
        rw [hp, List.idxOf_cons]
        have : (top == n) = false := by simpa using fun e => hnt e.symm
        simp [this]
      have hlk : (kw.erase top).lookup n = kw.lookup n := by
        rw [PDict.lookup_erase]; simp [hnt]
      simp only [List.length_cons, List.length_nil, Nat.zero_add, hi, ↓reduceIte, Nat.not_lt_zero, hlk]
  have hS : starEntries s { args := [arg], kw := kw.erase top } = starEntries s { args := [], kw := kw } := by
    simp only [starEntries, hC]
    congr 1
    cases s.varargs with
    | none => rfl
    | some n => simp [hp]
  have hA : ¬ (1 > s.params.length ∧ s.varargs = none) := by
    rw [hp]; simp
  exact bindRef_congr s _ _ (iff_of_false hA (by simp)) (hB'.trans hB.symm) hC hV hS

theorem loopsCall_bind (s : Sig) (c : Call) (hax : ∀ p ∈ c.kw, p.1 ≠ "axis") :
    bindRef s (loopsCall s c) = bindRef s c := by
  rcases loopsCall_cases s c with ⟨_, _, e⟩ | ⟨_, e⟩ | ⟨top, ps, arg, ha, hp, hl, e⟩
  · rw [e]
  · rw [e, popAxis_eq c.kw hax]
  · rw [e, popAxis_eq (c.kw.erase top) fun p hpm => hax p (PDict.mem_erase.1 hpm).1]
    obtain ⟨args, kw⟩ := c
    obtain rfl : args = [] := ha
    exact bindRef_first_positional s top ps hp kw arg hl

theorem loopsCall_kw_sub (s : Sig) (c : Call) (p : String × Val) (h : p ∈ (loopsCall s c).kw) : p ∈ c.kw := by
  rcases loopsCall_cases s c with ⟨_, _, e⟩ | ⟨_, e⟩ | ⟨top, ps, arg, _, _, _, e⟩ <;> rw [e] at h
  · exact h
  · exact mem_of_mem_popAxis h
  · exact (PDict.mem_erase.1 (mem_of_mem_popAxis h)).1

theorem loopsCall_idem (s : Sig) (c : Call) (hax : ∀ p ∈ c.kw, p.1 ≠ "axis") :
    loopsCall s (loopsCall s c) = loopsCall s c := by
  rcases loopsCall_cases s c with ⟨_, _, e⟩ | ⟨hne, e⟩ | ⟨top, ps, arg, _, _, _, e⟩
  · rw [e, e]
  · rw [e, popAxis_eq c.kw hax, loopsCall_of_args s hne, popAxis_eq c.kw hax]
  · rw [e, loopsCall_of_args s (List.cons_ne_nil _ _)]
    exact congrArg _ (popAxis_eq _ fun q hq => hax q (PDict.mem_erase.1 (mem_of_mem_popAxis hq)).1)

theorem loopsCall_hasIntArr (s : Sig) (c : Call) (h : c.hasIntArr = false) : (loopsCall s c).hasIntArr = false := by
  simp only [Call.hasIntArr_eq_false_iff, hasIntArrKVs_false_iff] at h ⊢
  have hkw : ∀ p ∈ (loopsCall s c).kw, p.2.hasIntArr = false := fun p hp => h.2 p (loopsCall_kw_sub s c p hp)
  rcases loopsCall_cases s c with ⟨_, _, e⟩ | ⟨_, e⟩ | ⟨top, ps, arg, _, _, hl, e⟩
  · rw [e]
    exact h
  · exact ⟨e ▸ h.1, hkw⟩
  · refine ⟨?_, hkw⟩
    obtain ⟨l1, l2, he, _⟩ := List.lookup_eq_some_iff.1 hl
    rw [e]
    simpa [hasIntArrList] using h.2 (top, arg) (by rw [he]; simp)

theorem kwFilter_eq_self (s : Sig) (c : Call) (h : ∀ p ∈ c.kw, p.1 ∈ s.params) : kwFilter s c = c := by
  cases c with
  | mk args kw =>
    simp only [kwFilter, Call.mk.injEq, true_and]
    exact List.filter_eq_self.2 fun q hq => List.contains_iff_mem.2 (h q hq)

theorem kwFilter_append_junk (s : Sig) (c : Call) (junk : PDict) (hj : ∀ p ∈ junk, p.1 ∉ s.params) :
    kwFilter s { c with kw := c.kw ++ junk } = kwFilter s c := by
  have : junk.filter (fun p => s.params.contains p.1) = [] :=
    List.filter_eq_nil_iff.2 fun p hp => by simpa using hj p hp
  simp only [kwFilter, List.filter_append, this, List.append_nil]

theorem loopsCall_append (s : Sig) (c : Call) (junk : PDict) (hj : ∀ p ∈ junk, p.1 ∉ s.params)
    (hax : ∀ p ∈ c.kw ++ junk, p.1 ≠ "axis") :
    loopsCall s { c with kw := c.kw ++ junk } = { loopsCall s c with kw := (loopsCall s c).kw ++ junk } := by
  have haxj : junk.filter (fun p => p.1 != "axis") = junk := popAxis_eq junk fun p hp => hax p (List.mem_append_right _ hp)
  have htop : ∀ top ps, s.params = top :: ps → junk.lookup top = none ∧ junk.filter (fun p => p.1 != top) = junk :=
    fun top ps hp =>
      have hne : ∀ p ∈ junk, p.1 ≠ top := fun p hpj he => hj p hpj (by rw [hp, he]; exact List.mem_cons_self)
      ⟨List.lookup_eq_none_iff_keys.2 fun h => by
          obtain ⟨q, hq, e⟩ := List.mem_map.1 h
          exact hne q hq e,
        List.filter_fst_ne_eq_self hne⟩
  rcases loopsCall_cases s c with ⟨ha, hn, e⟩ | ⟨hne, e⟩ | ⟨top, ps, arg, ha, hp, hl, e⟩
  · rw [e]
    exact loopsCall_of_none ha fun top ps hp => by
      simp only [List.lookup_append, hn top ps hp, (htop top ps hp).1, Option.or_none]
  · rw [e, loopsCall_of_args s (c := { c with kw := c.kw ++ junk }) hne]
    simp only [popAxis, List.filter_append, haxj]
  · rw [e, loopsCall_of_key (c := { c with kw := c.kw ++ junk }) (arg := arg) ha hp
      (by simp only [List.lookup_append, hl, Option.some_or])]
    simp only [PDict.erase, popAxis, List.filter_append, (htop top ps hp).2, haxj]

theorem hasIntArr_append_left (c : Call) (junk : PDict) (h : ({ c with kw := c.kw ++ junk } : Call).hasIntArr = false) :
    c.hasIntArr = false := by
  rw [Call.hasIntArr_eq_false_iff] at h ⊢
  refine ⟨h.1, (hasIntArrKVs_false_iff _).2 fun p hp => (hasIntArrKVs_false_iff _).1 h.2 p (by simp [hp])⟩

theorem liftT_not_looped (types : List String) (leaf : Val → List Val → KW → Res Val) (a : Val) (args : List Val) (kw : KW)
    (h : isLooped types a = false) : liftT types leaf a args kw = leaf a args (dropAxis kw) := by
  cases a with
  | cell c => simp [liftT]
  | list xs => simp only [isLooped] at h; simp only [liftT, h, Bool.false_eq_true, if_false]
  | tuple xs => simp only [isLooped] at h; simp only [liftT, h, Bool.false_eq_true, if_false]
  | dict kvs => simp only [isLooped] at h; simp only [liftT, h, Bool.false_eq_true, if_false]

theorem dropAxis_eq_popAxis (kw : PDict) : dropAxis kw = popAxis kw := rfl

mutual
  /-- with all three container types looped, the `loops` layer of the stack model IS the lifting model of property C19 -/
  theorem liftT_all_eq_wrapped (types : List String) (leaf : LeafFn) (hl : types.contains "list" = true)
      (ht : types.contains "tuple" = true) (hd : types.contains "dict" = true) :
      ∀ (v : Val) (args : List Val) (kw : KW), liftT types leaf v args kw = wrapped leaf v args kw
    | .cell c, args, kw => by simp [liftT, wrapped]
    | .list xs, args, kw => by
        simp only [liftT, wrapped, hl, if_true, liftTSeq_all_eq types leaf hl ht hd xs.length 0 xs args (dropAxis kw)]
        cases wrappedSeq leaf xs.length 0 xs args (dropAxis kw) <;> rfl
    | .tuple xs, args, kw => by
        simp only [liftT, wrapped, ht, if_true, liftTSeq_all_eq types leaf hl ht hd xs.length 0 xs args (dropAxis kw)]
        cases wrappedSeq leaf xs.length 0 xs args (dropAxis kw) <;> rfl
    | .dict kvs, args, kw => by
        simp only [liftT, wrapped, hd, if_true, liftTKVs_all_eq types leaf hl ht hd (sortStr (keysOf kvs)) kvs args (dropAxis kw)]
        cases wrappedKVs leaf (sortStr (keysOf kvs)) kvs args (dropAxis kw) <;> rfl
  termination_by structural v => v
  theorem liftTSeq_all_eq (types : List String) (leaf : LeafFn) (hl : types.contains "list" = true)
      (ht : types.contains "tuple" = true) (hd : types.contains "dict" = true) (n : Nat) :
      ∀ (i : Nat) (xs : List Val) (args : List Val) (kw : KW),
        liftTSeq types leaf n i xs args kw = wrappedSeq leaf n i xs args kw
    | _, [], _, _ => by simp [liftTSeq, wrappedSeq]
    | i, x :: xs, args, kw => by
        simp only [liftTSeq, wrappedSeq, liftT_all_eq_wrapped types leaf hl ht hd x,
          liftTSeq_all_eq types leaf hl ht hd n (i + 1) xs args kw]
        cases wrapped leaf x (args.map (itemByI i n)) (mapKW (itemByI i n) kw) <;> rfl
  termination_by structural _ xs => xs
  theorem liftTKVs_all_eq (types : List String) (leaf : LeafFn) (hl : types.contains "list" = true)
      (ht : types.contains "tuple" = true) (hd : types.contains "dict" = true) (keys : List String) :
      ∀ (kvs : KW) (args : List Val) (kw : KW),
        liftTKVs types leaf keys kvs args kw = wrappedKVs leaf keys kvs args kw
    | [], _, _ => by simp [liftTKVs, wrappedKVs]
    | (k, v) :: kvs, args, kw => by
        simp only [liftTKVs, wrappedKVs, liftT_all_eq_wrapped types leaf hl ht hd v,
          liftTKVs_all_eq types leaf hl ht hd keys kvs args kw]
        cases wrapped leaf v (args.map (itemByKey k keys)) (mapKW (itemByKey k keys) kw) <;> rfl
  termination_by structural kvs => kvs
end

end Pyg
