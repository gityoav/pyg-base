/-
  The table side of C15 (PygModel/TreeTable.lean): `rowOf`, the row `tree_to_table` makes of one item; `table_to_tree` as the
  loop `buildOn` of the rows' items.
-/
import PygModel.TreeTable
import PygProofs.Lemmas.Basics.Loops
import PygProofs.Lemmas.TreeMerge

namespace Pyg.TreeTable
open Pyg Pyg.DA Pyg.Tree

/-- successive path writes (no ignore list) -/
abbrev buildOn (base : List (String × Val)) (its : List (Path × Val)) : List (String × Val) :=
  its.foldl (fun acc pv => setKVs acc pv.1 pv.2 []) base

theorem buildOn_eq_build (base : List (String × Val)) (its : List (Path × Val)) :
    buildOn base its = build [] its base := rfl

/-- the row `tree_to_table` makes of the item `(path, leaf)` under a pattern: wildcards bind the keys / the leaf,
literals must match (`none`: the item does not match the pattern) -/
def rowOf : List Seg → Path → Val → Option Row
  | [.wild n], [], v => some [(n, v)]
  | [.lit s], [], v => if v = .cell (.str s) then some [] else none
  | .wild n :: rest, k :: p, v => (rowOf rest p v).map (DA.set n (.cell (.str k)))
  | .lit s :: rest, k :: p, v => if k = s then rowOf rest p v else none
  | _, _, _ => none

theorem rowOf_nil (p : Path) (v : Val) : rowOf [] p v = none := by cases p <;> rfl

theorem rowOf_wild_nil (n : String) (v : Val) : rowOf [.wild n] [] v = some [(n, v)] := rfl

theorem rowOf_lit_nil (s : String) (v : Val) : rowOf [.lit s] [] v = if v = .cell (.str s) then some [] else none := rfl

theorem rowOf_long_nil (seg s2 : Seg) (r2 : List Seg) (v : Val) : rowOf (seg :: s2 :: r2) [] v = none := by
  cases seg <;> rfl

theorem rowOf_wild_cons (n k : String) (rest : List Seg) (p : Path) (v : Val) :
    rowOf (.wild n :: rest) (k :: p) v = (rowOf rest p v).map (DA.set n (.cell (.str k))) := by
  cases rest <;> rfl

theorem rowOf_lit_cons (s k : String) (rest : List Seg) (p : Path) (v : Val) :
    rowOf (.lit s :: rest) (k :: p) v = if k = s then rowOf rest p v else none := by
  cases rest <;> rfl

theorem toTable_wild_dict (n : String) (rest : List Seg) (kvs : List (String × Val)) :
    toTable (.wild n :: rest) (.dict kvs) =
      kvs.flatMap fun kv => (toTable rest kv.2).map (DA.set n (.cell (.str kv.1))) := by
  cases rest <;> rfl

theorem toTable_lit_dict (s : String) (rest : List Seg) (kvs : List (String × Val)) :
    toTable (.lit s :: rest) (.dict kvs) = match lookup s kvs with
      | some v => toTable rest v
      | none => [] := by
  cases rest <;> rfl

theorem toTable_wild_leaf (n : String) {t : Val} (ht : ∀ s, t ≠ .dict s) : toTable [.wild n] t = [[(n, t)]] :=
  toTable.eq_4 t n ht

theorem toTable_lit_leaf (s : String) {t : Val} (ht : ∀ s, t ≠ .dict s) :
    toTable [.lit s] t = if t = .cell (.str s) then [[]] else [] :=
  toTable.eq_5 t s ht

theorem toTable_one_leaf (seg : Seg) {t : Val} (ht : ∀ s, t ≠ .dict s) : toTable [seg] t = (rowOf [seg] [] t).toList := by
  cases seg with
  | wild n => rw [toTable_wild_leaf n ht, rowOf_wild_nil, Option.toList_some]
  | lit s =>
    rw [toTable_lit_leaf s ht, rowOf_lit_nil]
    split <;> rfl

/-- a leaf readable at a path that matches the pattern comes out of `tree_to_table` as its row -/
theorem toTable_complete : ∀ (P : List Seg) (p : Path) (t v : Val) (r : Row), (∀ s, v ≠ .dict s) →
    rowOf P p v = some r → getItem t p = .ok v → r ∈ toTable P t
  | [], p, _, v, _, _, h, _ => by rw [rowOf_nil] at h; cases h
  | seg :: s2 :: r2, [], _, v, _, _, h, _ => by rw [rowOf_long_nil] at h; cases h
  | [seg], [], t, v, r, hv, h, hg => by
      cases (getItem_nil t).symm.trans hg
      rw [toTable_one_leaf seg hv, h]
      exact List.mem_singleton_self _
  | .wild n :: rest, k :: p, t, v, r, hv, h, hg => by
      obtain ⟨kvs, w, rfl, hl, hg⟩ := getItem_cons_ok.1 hg
      rw [rowOf_wild_cons] at h
      obtain ⟨r0, hr, rfl⟩ := Option.map_eq_some_iff.1 h
      rw [toTable_wild_dict, List.mem_flatMap]
      exact ⟨(k, w), mem_of_lookup k w kvs hl, List.mem_map.2 ⟨r0, toTable_complete rest p w v r0 hv hr hg, rfl⟩⟩
  | .lit s :: rest, k :: p, t, v, r, hv, h, hg => by
      obtain ⟨kvs, w, rfl, hl, hg⟩ := getItem_cons_ok.1 hg
      rw [rowOf_lit_cons] at h
      split at h
      · next e =>
        subst e
        rw [toTable_lit_dict, hl]
        exact toTable_complete rest p w v r hv h hg
      · cases h

theorem toTree_eq_buildOn (P : List Seg) : ∀ (rows : List Row) (its : List (Path × Val)) (acc : List (String × Val)),
    rows.mapM (rowItem P) = .ok its → (∀ pv ∈ its, pv.1 ≠ []) →
    rows.foldlM (fun acc row => do
      let (p, v) ← rowItem P row
      if p.isEmpty then throw Err.value else pure (setKVs acc p v [])) acc = (.ok (buildOn acc its) : Res _)
  | [], its, acc, h, _ => by cases List.mapM_nil_ok.1 h; rfl
  | row :: rows, its, acc, h, hne => by
      obtain ⟨pv, its', hx, hr, rfl⟩ := List.mapM_cons_ok.1 h
      have hemp : pv.1.isEmpty = false := by
        cases hp : pv.1 with
        | nil => exact absurd hp (hne pv List.mem_cons_self)
        | cons _ _ => rfl
      simp only [List.foldlM_cons, bind, Except.bind, hx, hemp, Bool.false_eq_true, if_false, pure, Except.pure]
      exact toTree_eq_buildOn P rows its' _ hr fun y hy => hne y (List.mem_cons_of_mem _ hy)

end Pyg.TreeTable
