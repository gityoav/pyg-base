/-
  The model of df_slice / df_unslice (PygModel.Slice) seen through equations: every function that cuts is a `filter` by a
  window, every stitch is `assemble` of frames zipped with their windows.
-/
import PygModel.Slice
import PygProofs.Lemmas.Basics

namespace Pyg.Slice

/-- the row test of one slice: both masks -/
def inWindow (l u : Bool) (lb ub : Bound) (t : Int) : Bool := lbOk l lb t && ubOk u ub t

theorem lbOk_iff (l : Bool) (lb : Bound) (t : Int) : lbOk l lb t = true ↔
    match lb with
    | .none => True
    | .date x => if l then x ≤ t else x < t
    | .time x => if l then x ≤ tod t else x < tod t := by
  cases lb <;> cases l <;> simp [lbOk]

theorem ubOk_iff (u : Bool) (ub : Bound) (t : Int) : ubOk u ub t = true ↔
    match ub with
    | .none => True
    | .date x => if u then t ≤ x else t < x
    | .time x => if u then tod t ≤ x else tod t < x := by
  cases ub <;> cases u <;> simp [ubOk]

theorem lbOk_none (l : Bool) (t : Int) : lbOk l .none t = true := rfl

theorem ubOk_none (u : Bool) (t : Int) : ubOk u .none t = true := rfl

theorem ubOk_of_lt (u : Bool) {t M : Int} (h : t < M) : ubOk u (.date M) t = true := by
  cases u <;> simp [ubOk] <;> omega

theorem ubOk_mono (u : Bool) {b b' t : Int} (h : b ≤ b') (ht : ubOk u (.date b) t = true) : ubOk u (.date b') t = true := by
  cases u <;> simp [ubOk] at ht ⊢ <;> omega

theorem inWindow_iff {l u : Bool} {lb ub : Bound} {t : Int} :
    inWindow l u lb ub t = true ↔ lbOk l lb t = true ∧ ubOk u ub t = true :=
  Bool.and_eq_true_iff

theorem inWindow_getD (l u : Bool) (lb : Bound) (o : Option Int) {t M : Int} (h : t < M) :
    inWindow l u lb (optDate (some (o.getD M))) t = inWindow l u lb (optDate o) t := by
  cases o with
  | some b => rfl
  | none => rw [inWindow, inWindow, Option.getD_none, optDate, optDate, ubOk_of_lt u h, ubOk_none]

theorem closed_eq_ok (c : Char) (v : Bool) :
    closed c = .ok v ↔ (if v then c ∈ ['[', ']', 'c', 'C'] else c ∈ ['(', ')', 'o', 'O']) := by
  unfold closed
  by_cases h1 : c ∈ ['(', ')', 'o', 'O']
  · have h2 : c ∉ ['[', ']', 'c', 'C'] := by
      simp only [List.mem_cons, List.not_mem_nil, or_false] at h1 ⊢
      rcases h1 with rfl | rfl | rfl | rfl <;> decide
    cases v <;> simp [h1, h2]
  · by_cases h2 : c ∈ ['[', ']', 'c', 'C'] <;> cases v <;> simp [h1, h2]

theorem nonDecreasing_pairwise : ∀ (l : List Int), nonDecreasing l = true → l.Pairwise (· ≤ ·)
  | [], _ => List.Pairwise.nil
  | [_], _ => by simp
  | a :: b :: rest, h => by
    simp only [nonDecreasing, Bool.and_eq_true, decide_eq_true_eq] at h
    have ih := nonDecreasing_pairwise (b :: rest) h.2
    refine List.pairwise_cons.mpr ⟨?_, ih⟩
    intro x hx
    rcases List.mem_cons.mp hx with rfl | hx
    · exact h.1
    · have := List.rel_of_pairwise_cons ih hx; omega

theorem pairwise_nonDecreasing : ∀ (l : List Int), l.Pairwise (· ≤ ·) → nonDecreasing l = true
  | [], _ => rfl
  | [_], _ => rfl
  | a :: b :: rest, h => by
    have h' := List.pairwise_cons.mp h
    simp only [nonDecreasing, Bool.and_eq_true, decide_eq_true_eq]
    exact ⟨h'.1 b (by simp), pairwise_nonDecreasing (b :: rest) h'.2⟩

theorem decreasing_not_nonDecreasing : ∀ (l : List Int), 2 ≤ l.length → l.Pairwise (· > ·) → nonDecreasing l = false
  | [], h, _ => by simp at h
  | [_], h, _ => by simp at h
  | a :: b :: rest, _, h => by
    have h' := (List.pairwise_cons.mp h).1 b (by simp)
    simp only [nonDecreasing, Bool.and_eq_false_iff, decide_eq_false_iff_not]
    left; omega

theorem nonDecreasing_replicate (m : Nat) (a : Int) : nonDecreasing (List.replicate m a) = true :=
  pairwise_nonDecreasing _ (List.pairwise_replicate.mpr (Or.inr (Int.le_refl a)))

theorem dropWhile_sorted {α} (a : Int) : ∀ (df : Rows α), (df.map (·.1)).Pairwise (· ≤ ·) →
    df.dropWhile (fun r => decide (r.1 < a)) = df.filter fun r => decide (a ≤ r.1)
  | [], _ => rfl
  | x :: xs, h => by
    have hx : (∀ y ∈ xs.map (·.1), x.1 ≤ y) ∧ (xs.map (·.1)).Pairwise (· ≤ ·) := List.pairwise_cons.mp h
    by_cases hxa : x.1 < a
    · have : ¬ a ≤ x.1 := by omega
      simp only [List.dropWhile_cons, hxa, decide_true, if_true, List.filter_cons, this, decide_false]
      simpa using dropWhile_sorted a xs hx.2
    · have hax : a ≤ x.1 := by omega
      simp only [List.dropWhile_cons, hxa, decide_false, List.filter_cons, hax, decide_true, if_true]
      simp only [Bool.false_eq_true, if_false, List.cons.injEq, true_and]
      symm
      rw [List.filter_eq_self]
      intro y hy
      have := hx.1 y.1 (List.mem_map.mpr ⟨y, hy, rfl⟩)
      simp only [decide_eq_true_eq]; omega

theorem takeWhile_sorted {α} (b : Int) : ∀ (df : Rows α), (df.map (·.1)).Pairwise (· ≤ ·) →
    df.takeWhile (fun r => decide (r.1 ≤ b)) = df.filter fun r => decide (r.1 ≤ b)
  | [], _ => rfl
  | x :: xs, h => by
    have hx : (∀ y ∈ xs.map (·.1), x.1 ≤ y) ∧ (xs.map (·.1)).Pairwise (· ≤ ·) := List.pairwise_cons.mp h
    by_cases hxb : x.1 ≤ b
    · simp only [List.takeWhile_cons, hxb, decide_true, if_true, List.filter_cons, List.cons.injEq, true_and]
      exact takeWhile_sorted b xs hx.2
    · simp only [List.takeWhile_cons, hxb, decide_false, List.filter_cons]
      simp only [Bool.false_eq_true, if_false]
      symm
      rw [List.filter_eq_nil_iff]
      intro y hy
      have := hx.1 y.1 (List.mem_map.mpr ⟨y, hy, rfl⟩)
      simp only [decide_eq_true_eq]; omega

theorem labelSlice_eq_filter {α} (df : Rows α) (hs : (df.map (·.1)).Pairwise (· ≤ ·)) (a b : Option Int) :
    labelSlice df a b = df.filter fun r =>
      (match a with | some a => decide (a ≤ r.1) | Option.none => true) &&
      (match b with | some b => decide (r.1 ≤ b) | Option.none => true) := by
  have hsub : ∀ (p : Int × α → Bool), ((df.filter p).map (·.1)).Pairwise (· ≤ ·) :=
    fun p => hs.sublist (List.Sublist.map _ List.filter_sublist)
  cases a <;> cases b <;> simp only [labelSlice]
  · simp [List.filter_fun_true]
  · rw [takeWhile_sorted _ _ hs]; simp
  · rw [dropWhile_sorted _ _ hs]; simp
  · rw [dropWhile_sorted _ _ hs, takeWhile_sorted _ _ (hsub _), List.filter_filter]
    congr 1; funext r; exact Bool.and_comm _ _

/-- a lower bound that is a label (missing, or a date) under a closed bracket tests as the label slice does -/
theorem lbOk_of_label {l : Bool} {lb : Bound} {a : Option Int} (hl : l = true ∨ lb.isNone = true) (ha : lb.label = some a)
    (t : Int) : lbOk l lb t = a.all fun a => decide (a ≤ t) := by
  cases lb with
  | none => cases ha; rfl
  | date x =>
    cases ha
    rcases hl with rfl | h
    · rfl
    · cases h
  | time x => cases ha

theorem ubOk_of_label {u : Bool} {ub : Bound} {b : Option Int} (hu : u = true ∨ ub.isNone = true) (hb : ub.label = some b)
    (t : Int) : ubOk u ub t = b.all fun b => decide (t ≤ b) := by
  cases ub with
  | none => cases hb; rfl
  | date x =>
    cases hb
    rcases hu with rfl | h
    · rfl
    · cases h
  | time x => cases hb

theorem sliceOne_spec {α} (df : Rows α) (lb ub : Bound) (oc : Option (List Char)) :
    sliceOne df lb ub oc =
      if df = [] ∨ (lb = .none ∧ ub = .none) then .ok df
      else (brackets oc).map fun lu => df.filter fun r => inWindow lu.1 lu.2 lb ub r.1 := by
  unfold sliceOne
  have hc : (df.isEmpty || (lb.isNone && ub.isNone)) = true ↔ df = [] ∨ (lb = .none ∧ ub = .none) := by
    cases lb <;> cases ub <;> simp [Bound.isNone]
  by_cases h : df = [] ∨ (lb = .none ∧ ub = .none)
  · rw [if_pos (hc.mpr h), if_pos h]
  · rw [if_neg (fun h' => h (hc.mp h')), if_neg h]
    cases hb : brackets oc with
    | error e => rfl
    | ok lu =>
      obtain ⟨l, u⟩ := lu
      have hm : (df.filter fun r => lbOk l lb r.1).filter (fun r => ubOk u ub r.1) = df.filter fun r => inWindow l u lb ub r.1 := by
        simp only [List.filter_filter, inWindow]
        congr 1; funext r; exact Bool.and_comm _ _
      simp only [bind, Except.bind, pure, Except.pure, Except.map]
      split
      · rename_i hfast
        simp only [Bool.and_eq_true, Bool.or_eq_true] at hfast
        obtain ⟨⟨hl, hu⟩, hinc⟩ := hfast
        have hs := nonDecreasing_pairwise _ hinc
        split
        · rename_i a b ha hb
          rw [labelSlice_eq_filter df hs]
          congr 2; funext r
          rw [inWindow, lbOk_of_label hl ha, ubOk_of_label hu hb]
          cases a <;> cases b <;> rfl
        · rw [hm]
      · rw [hm]

theorem sliceOne_eq {α} (df : Rows α) (lb ub : Bound) (oc : Option (List Char)) (l u : Bool)
    (h : brackets oc = .ok (l, u)) :
    sliceOne df lb ub oc = .ok (df.filter fun r => inWindow l u lb ub r.1) := by
  rw [sliceOne_spec, h]
  split
  · rename_i hc
    rcases hc with rfl | ⟨rfl, rfl⟩
    · rfl
    · simp [inWindow, lbOk_none, ubOk_none, List.filter_fun_true]
  · rfl

theorem sliceOne_trivial {α} (df : Rows α) (oc : Option (List Char)) : sliceOne df .none .none oc = .ok df := by
  rw [sliceOne_spec, if_pos (Or.inr ⟨rfl, rfl⟩)]

theorem sliceOne_nil {α} (lb ub : Bound) (oc : Option (List Char)) : sliceOne ([] : Rows α) lb ub oc = .ok [] := by
  rw [sliceOne_spec, if_pos (Or.inl rfl)]

theorem sliceWrap_eq_sliceOne {α} (df : Rows α) (lb ub : Bound) (oc : Option (List Char))
    (h : ∀ a b, lb = .time a → ub = .time b → a ≤ b) : sliceWrap df lb ub oc = sliceOne df lb ub oc := by
  unfold sliceWrap
  split
  · rename_i a b
    rw [if_neg (Int.not_lt.mpr (h a b rfl rfl))]
  · rfl

theorem sortIndex_disjoint {α} (df : Rows α) (hs : df.Pairwise (fun a b => a.1 < b.1)) (p q : Int × α → Bool)
    (hd : ∀ x, ¬ (p x = true ∧ q x = true)) :
    sortIndex (df.filter p ++ df.filter q) = df.filter fun x => q x || p x := by
  unfold sortIndex
  apply List.Perm.eq_of_pairwise (le := fun a b => a.1 ≤ b.1)
  · intro a b ha hb h1 h2
    have ha' : a ∈ df := by
      rcases List.mem_append.mp (List.mem_mergeSort.mp ha) with h | h <;> exact (List.mem_filter.mp h).1
    exact List.eq_of_nodup_map (f := (·.1)) (List.pairwise_map.2 (hs.imp Int.ne_of_lt)) a ha' b (List.mem_filter.mp hb).1 (by omega)
  · exact (List.pairwise_mergeSort (by intro a b c; simp only [decide_eq_true_eq]; omega)
      (by intro a b; simp only [Bool.or_eq_true, decide_eq_true_eq]; omega) _).imp (by intro a b h; simpa using h)
  · exact (hs.imp (by intro a b h; omega)).sublist List.filter_sublist
  · exact (List.mergeSort_perm _ _).trans (List.filter_append_filter_perm p q hd df)

/-- a window of two times of day whose start is later than its end -/
def wraps (lb ub : Bound) : Bool :=
  match lb, ub with
  | .time a, .time b => decide (b < a)
  | _, _ => false

/-- the row test of `df_slice` on one frame: both masks, or - a wrapping window - either of them -/
def inWindowW (l u : Bool) (lb ub : Bound) (t : Int) : Bool :=
  if wraps lb ub then lbOk l lb t || ubOk u ub t else lbOk l lb t && ubOk u ub t

theorem wraps_eq_true_iff (lb ub : Bound) : wraps lb ub = true ↔ ∃ a b, lb = .time a ∧ ub = .time b ∧ b < a := by
  cases lb <;> cases ub <;> simp [wraps]

theorem wraps_eq_false_iff (lb ub : Bound) : wraps lb ub = false ↔ ∀ a b, lb = .time a → ub = .time b → a ≤ b := by
  cases lb <;> cases ub <;> simp [wraps]

theorem wraps_date_right (lb : Bound) (c : Int) : wraps lb (.date c) = false := by
  cases lb <;> rfl

theorem inWindowW_of_not_wraps {lb ub : Bound} (h : wraps lb ub = false) (l u : Bool) (t : Int) :
    inWindowW l u lb ub t = inWindow l u lb ub t := by
  simp only [inWindowW, h, Bool.false_eq_true, if_false, inWindow]

theorem inWindowW_of_wraps {lb ub : Bound} (h : wraps lb ub = true) (l u : Bool) (t : Int) :
    inWindowW l u lb ub t = (lbOk l lb t || ubOk u ub t) := by
  simp only [inWindowW, h, if_true]

theorem wraps_date (a b : Option Int) : wraps (BKind.date.bound a) (BKind.date.bound b) = false := by
  cases a <;> cases b <;> rfl

theorem inWindowW_date (l u : Bool) (a b : Option Int) (t : Int) :
    inWindowW l u (BKind.date.bound a) (BKind.date.bound b) t = inWindow l u (optDate a) (optDate b) t :=
  inWindowW_of_not_wraps (wraps_date a b) l u t

theorem sliceWrap_eq {α} (df : Rows α) (lb ub : Bound) (oc : Option (List Char)) (l u : Bool)
    (h : brackets oc = .ok (l, u)) (hs : wraps lb ub = true → df.Pairwise (fun x y => x.1 < y.1)) :
    sliceWrap df lb ub oc = .ok (df.filter fun r => inWindowW l u lb ub r.1) := by
  cases hw : wraps lb ub with
  | false =>
    rw [sliceWrap_eq_sliceOne df lb ub oc ((wraps_eq_false_iff lb ub).mp hw), sliceOne_eq df lb ub oc l u h]
    simp only [inWindowW_of_not_wraps hw]
  | true =>
    obtain ⟨a, b, rfl, rfl, hab⟩ := (wraps_eq_true_iff lb ub).mp hw
    simp only [sliceWrap, hab, if_true, inWindowW, hw]
    rw [sliceOne_eq df .none (.time b) oc l u h, sliceOne_eq df (.time a) .none oc l u h]
    simp only [bind, Except.bind, pure, Except.pure, inWindow]
    congr 1
    have hd : ∀ x : Int × α, ¬ ((lbOk l Bound.none x.1 && ubOk u (.time b) x.1) = true ∧
        (lbOk l (.time a) x.1 && ubOk u Bound.none x.1) = true) := by
      intro x ⟨h1, h2⟩
      cases l <;> cases u <;> simp [lbOk, ubOk] at h1 h2 <;> omega
    rw [sortIndex_disjoint df (hs hw) _ _ hd]
    apply List.filter_congr
    intro x _
    simp [lbOk_none, ubOk_none]

theorem zipper3_eq {α β γ} (xs : List α) (ys : List β) (zs : List γ) (h1 : ys.length = xs.length)
    (h2 : zs.length = xs.length) : zipper3 xs ys zs = .ok (xs.zip (ys.zip zs)) := by
  unfold zipper3
  rw [h1, h2]
  by_cases hm : xs.length = 1
  · simp [lens3, hm, bcast, h1, h2, bind, Except.bind, pure, Except.pure]
  · have : lens3 xs.length xs.length xs.length = .ok xs.length := by
      simp [lens3, hm, List.eraseDups_cons]
    simp [this, bcast, hm, h1, h2, bind, Except.bind, pure, Except.pure]

theorem bcast_one {α} (m : Nat) (hm : 1 < m) (x : α) : bcast m [x] = List.replicate m x := by
  simp [bcast, hm]

theorem bcast_self {α} (m : Nat) (xs : List α) (h : xs.length ≠ 1) : bcast m xs = xs := by
  simp [bcast, h]

theorem bcast_length {α} (m : Nat) (hm : 1 < m) (xs : List α) (h : xs.length = m ∨ xs.length = 1) :
    (bcast m xs).length = m := by
  rcases h with h | h
  · rw [bcast_self m xs (by omega)]; exact h
  · match xs, h with
    | [x], _ => rw [bcast_one m hm]; simp

theorem bcast_of_length {α} (m : Nat) (xs : List α) (h : xs.length = m) : bcast m xs = xs := by
  unfold bcast
  split
  · rename_i hc
    simp only [Bool.and_eq_true, beq_iff_eq, decide_eq_true_eq] at hc
    omega
  · rfl

theorem lens3_bcast (m a b c : Nat) (hm : 1 < m) (ha : a = m ∨ a = 1) (hb : b = m ∨ b = 1) (hc : c = m ∨ c = 1)
    (hone : a = m ∨ b = m ∨ c = m) : lens3 a b c = .ok m := by
  have hm1 : (m != 1) = true := by simp; omega
  rcases ha with rfl | rfl <;> rcases hb with rfl | rfl <;> rcases hc with rfl | rfl <;>
    first
      | (simp [lens3, hm1, List.eraseDups_cons]; done)
      | (exfalso; omega)

theorem lens3_mismatch (a b c : Nat) (h : (a ≠ 1 ∧ b ≠ 1 ∧ a ≠ b) ∨ (a ≠ 1 ∧ c ≠ 1 ∧ a ≠ c) ∨ (b ≠ 1 ∧ c ≠ 1 ∧ b ≠ c)) :
    lens3 a b c = .error .value := by
  unfold lens3
  have key : ∀ l : List Nat, (∃ x ∈ l, ∃ y ∈ l, x ≠ y) → (match l.eraseDups with | [] => (.ok 1 : Res Nat) | [n] => .ok n | _ => .error .value) = .error .value := by
    intro l ⟨x, hx, y, hy, hxy⟩
    have hx' : x ∈ l.eraseDups := List.mem_eraseDups.mpr hx
    have hy' : y ∈ l.eraseDups := List.mem_eraseDups.mpr hy
    match hl : l.eraseDups with
    | [] => rw [hl] at hx'; cases hx'
    | [n] =>
      rw [hl] at hx' hy'
      simp only [List.mem_singleton] at hx' hy'
      omega
    | _ :: _ :: _ => rfl
  apply key
  simp only [List.mem_filter, List.mem_cons, List.not_mem_nil, or_false, bne_iff_ne, ne_eq]
  rcases h with ⟨h1, h2, h3⟩ | ⟨h1, h2, h3⟩ | ⟨h1, h2, h3⟩
  · exact ⟨a, ⟨Or.inl rfl, h1⟩, b, ⟨Or.inr (Or.inl rfl), h2⟩, h3⟩
  · exact ⟨a, ⟨Or.inl rfl, h1⟩, c, ⟨Or.inr (Or.inr rfl), h2⟩, h3⟩
  · exact ⟨b, ⟨Or.inr (Or.inl rfl), h1⟩, c, ⟨Or.inr (Or.inr rfl), h2⟩, h3⟩

theorem zipper3_bcast {α β γ} (xs : List α) (ys : List β) (zs : List γ) (m : Nat) (hm : 1 < m)
    (hx : xs.length = m ∨ xs.length = 1) (hy : ys.length = m ∨ ys.length = 1) (hz : zs.length = m ∨ zs.length = 1)
    (hone : xs.length = m ∨ ys.length = m ∨ zs.length = m) :
    zipper3 xs ys zs = .ok ((bcast m xs).zip ((bcast m ys).zip (bcast m zs))) := by
  unfold zipper3
  rw [lens3_bcast m _ _ _ hm hx hy hz hone]
  rfl

theorem zipper3_first_long {α β γ} (xs : List α) (ys : List β) (zs : List γ)
    (hy : ys.length = xs.length ∨ (ys.length = 1 ∧ 1 < xs.length)) (hz : zs.length = xs.length ∨ (zs.length = 1 ∧ 1 < xs.length)) :
    zipper3 xs ys zs = .ok (xs.zip ((bcast xs.length ys).zip (bcast xs.length zs))) := by
  by_cases hm : 1 < xs.length
  · rw [zipper3_bcast xs ys zs xs.length hm (Or.inl rfl) (hy.imp_right (·.1)) (hz.imp_right (·.1)) (Or.inl rfl),
      bcast_of_length _ xs rfl]
  · have h1 : ys.length = xs.length := hy.resolve_right fun h => hm h.2
    have h2 : zs.length = xs.length := hz.resolve_right fun h => hm h.2
    rw [zipper3_eq xs ys zs h1 h2, bcast_of_length _ ys h1, bcast_of_length _ zs h2]

theorem zipper3_bcast_idem {α β γ} (xs : List α) (ys : List β) (zs : List γ) (hm : 1 < xs.length)
    (hy : ys.length = xs.length ∨ ys.length = 1) (hz : zs.length = xs.length ∨ zs.length = 1) :
    zipper3 xs ys zs = zipper3 xs (bcast xs.length ys) (bcast xs.length zs) := by
  have ly := bcast_length _ hm ys hy
  have lz := bcast_length _ hm zs hz
  rw [zipper3_first_long xs ys zs (hy.imp_right (⟨·, hm⟩)) (hz.imp_right (⟨·, hm⟩)), zipper3_first_long xs _ _ (Or.inl ly) (Or.inl lz),
    bcast_of_length _ _ ly, bcast_of_length _ _ lz]

theorem bcast_map {α β} (f : α → β) (n : Nat) (xs : List α) : bcast n (xs.map f) = (bcast n xs).map f := by
  unfold bcast
  simp only [List.length_map]
  split
  · simp [List.map_flatten, List.map_replicate]
  · rfl

theorem zipper3_map_left {α α' β γ} (f : α → α') (xs : List α) (ys : List β) (zs : List γ) :
    zipper3 (xs.map f) ys zs = (zipper3 xs ys zs).map (List.map fun x => (f x.1, x.2)) := by
  unfold zipper3
  simp only [List.length_map]
  cases lens3 xs.length ys.length zs.length with
  | error e => rfl
  | ok m =>
    simp only [bind, Except.bind, pure, Except.pure, Except.map, bcast_map, Except.ok.injEq]
    rw [List.zip_map_left]
    apply List.map_congr_left
    intro x _; rfl

/-- one piece of a stitch: frame `d` cut to `(lo, hi)` with the given brackets -/
def cut (l u : Bool) (x : Frame × Option Int × Option Int) : Frame :=
  ⟨x.1.width, x.1.rows.filter fun r => inWindow l u (optDate x.2.1) (optDate x.2.2) r.1⟩

def SortedRows (f : Frame) : Prop := f.rows.Pairwise (fun x y => x.1 < y.1)

/-- one piece: the frame `x.1` cut to the window `x.2` (bounds of kind `k`) -/
def cutB (k : BKind) (l u : Bool) (x : Frame × Option Int × Option Int) : Frame :=
  ⟨x.1.width, x.1.rows.filter fun r => inWindowW l u (k.bound x.2.1) (k.bound x.2.2) r.1⟩

theorem cutB_date (l u : Bool) : cutB .date l u = cut l u := by
  funext x; simp only [cutB, cut, inWindowW_date]

/-- sorted rows are needed only where a window can wrap: bounds that are times of day -/
theorem cutAllB_eq (k : BKind) (dlu : List (Frame × Option Int × Option Int)) (oc : Option (List Char)) (l u : Bool)
    (h : brackets oc = .ok (l, u)) (hs : k = .time → ∀ x ∈ dlu, SortedRows x.1) :
    cutAllB k dlu oc = .ok (dlu.map (cutB k l u)) := by
  unfold cutAllB
  apply List.mapM_ok_of_forall
  intro ⟨d, lo, hi⟩ hx
  have hw : wraps (k.bound lo) (k.bound hi) = true → d.rows.Pairwise (fun x y => x.1 < y.1) := by
    cases k
    · rw [wraps_date]; intro h; cases h
    · exact fun _ => hs rfl _ hx
  simp [sliceWrap_eq _ _ _ oc l u h hw, cutB, bind, Except.bind, pure, Except.pure]

theorem cutAllB_date (dlu : List (Frame × Option Int × Option Int)) (oc : Option (List Char)) :
    cutAllB .date dlu oc = cutAll dlu oc := by
  unfold cutAllB cutAll
  congr 1
  funext ⟨d, lo, hi⟩
  have : sliceWrap d.rows (BKind.date.bound lo) (BKind.date.bound hi) oc = sliceOne d.rows (optDate lo) (optDate hi) oc := by
    unfold sliceWrap
    cases lo <;> cases hi <;> rfl
  simp only [this]

theorem cutAll_eq (dlu : List (Frame × Option Int × Option Int)) (oc : Option (List Char)) (l u : Bool)
    (h : brackets oc = .ok (l, u)) : cutAll dlu oc = .ok (dlu.map (cut l u)) := by
  rw [← cutAllB_date, cutAllB_eq .date dlu oc l u h (fun hk => nomatch hk), cutB_date]

theorem framesOf_of_lt {n : Nat} (hn : 1 < n) (dfs : List TS) :
    framesOf dfs n = (List.range dfs.length).map fun i =>
      ⟨((dfs.drop i).take n).length, concatCols ((dfs.drop i).take n)⟩ := if_pos hn

theorem framesOf_of_le {n : Nat} (hn : n ≤ 1) (dfs : List TS) : framesOf dfs n = dfs.map fun ts => ⟨1, ofTS ts⟩ :=
  if_neg (by omega)

theorem framesOf_length (dfs : List TS) (n : Nat) : (framesOf dfs n).length = dfs.length := by
  unfold framesOf; split <;> simp

theorem forall_mem_framesOf {dfs : List TS} {n : Nat} {P : Frame → Prop}
    (hc : ∀ D : List TS, (∀ s ∈ D, s ∈ dfs) → P ⟨D.length, concatCols D⟩) (h1 : ∀ s ∈ dfs, P ⟨1, ofTS s⟩) :
    ∀ f ∈ framesOf dfs n, P f := by
  intro f hf
  unfold framesOf at hf
  split at hf
  · obtain ⟨i, _, rfl⟩ := List.mem_map.mp hf
    exact hc _ fun s hs => List.mem_of_mem_drop (List.mem_of_mem_take hs)
  · obtain ⟨s, hs, rfl⟩ := List.mem_map.mp hf
    exact h1 s hs

theorem framesOf_map (g : TS → TS) (G : Frame → Frame) (dfs : List TS) (n : Nat)
    (hc : 1 < n → ∀ D : List TS, (∀ s ∈ D, s ∈ dfs) →
      (⟨(D.map g).length, concatCols (D.map g)⟩ : Frame) = G ⟨D.length, concatCols D⟩)
    (h1 : ∀ s ∈ dfs, (⟨1, ofTS (g s)⟩ : Frame) = G ⟨1, ofTS s⟩) : framesOf (dfs.map g) n = (framesOf dfs n).map G := by
  unfold framesOf
  split
  · rename_i hn
    simp only [List.length_map, List.map_map]
    apply List.map_congr_left
    intro i _
    rw [← List.map_drop, ← List.map_take]
    exact hc hn _ fun s hs => List.mem_of_mem_drop (List.mem_of_mem_take hs)
  · simp only [List.map_map]
    exact List.map_congr_left h1

theorem framesOf_getElem_cols (dfs : List TS) (n : Nat) (hn : 1 < n) (i : Nat) (hi : i < (framesOf dfs n).length) :
    (framesOf dfs n)[i] = ⟨((dfs.drop i).take n).length, concatCols ((dfs.drop i).take n)⟩ := by
  simp [framesOf_of_lt hn]

theorem framesOf_getElem_series (dfs : List TS) (n : Nat) (hn : n ≤ 1) (i : Nat) (hi : i < (framesOf dfs n).length)
    (hd : i < dfs.length) : (framesOf dfs n)[i] = ⟨1, ofTS dfs[i]⟩ := by
  simp [framesOf_of_le hn]

theorem framesOf_getElem_width (dfs : List TS) (n i : Nat) (hi : i < (framesOf dfs n).length) :
    ((framesOf dfs n)[i]).width = min (max n 1) (dfs.length - i) := by
  have hd : i < dfs.length := by rwa [framesOf_length] at hi
  by_cases hn : 1 < n
  · rw [framesOf_getElem_cols dfs n hn, List.length_take, List.length_drop, Nat.max_eq_left (Nat.le_of_lt hn)]
  · rw [framesOf_getElem_series dfs n (Nat.le_of_not_lt hn) i hi hd, Nat.max_eq_right (Nat.le_of_not_lt hn),
      Nat.min_eq_left (Nat.sub_pos_of_lt hd)]

theorem framesOf_getElem_congr {A B : List TS} (hlen : A.length = B.length) (n i : Nat) (hi : i < A.length)
    (h : ∀ j, j < max n 1 → ∀ hA : i + j < A.length, A[i + j] = B[i + j]'(hlen ▸ hA)) :
    (framesOf A n)[i]'(by rw [framesOf_length]; exact hi) = (framesOf B n)[i]'(by rw [framesOf_length, ← hlen]; exact hi) := by
  by_cases hn : 1 < n
  · have hD : (A.drop i).take n = (B.drop i).take n := by
      apply List.ext_getElem (by rw [List.length_take, List.length_take, List.length_drop, List.length_drop, hlen])
      intro j h1 _
      rw [List.length_take, List.length_drop] at h1
      obtain ⟨hj, hjA⟩ := Nat.lt_min.mp h1
      rw [List.getElem_take, List.getElem_take, List.getElem_drop, List.getElem_drop]
      exact h j (Nat.lt_of_lt_of_le hj (Nat.le_max_left n 1)) (Nat.add_lt_of_lt_sub' hjA)
    rw [framesOf_getElem_cols A n hn, framesOf_getElem_cols B n hn, hD]
  · have h0 : A[i] = B[i]'(hlen ▸ hi) := h 0 (Nat.lt_of_lt_of_le Nat.one_pos (Nat.le_max_right n 1)) hi
    rw [framesOf_getElem_series A n (Nat.le_of_not_lt hn) i _ hi,
      framesOf_getElem_series B n (Nat.le_of_not_lt hn) i _ (hlen ▸ hi), h0]

theorem unionIndex_sorted (dfs : List TS) : (unionIndex dfs).Pairwise (· < ·) := List.pairwise_mergeSort_eraseDups _

theorem mem_unionIndex {dfs : List TS} {t : Int} : t ∈ unionIndex dfs ↔ ∃ s ∈ dfs, t ∈ s.index :=
  List.mem_mergeSort_eraseDups.trans List.mem_flatMap

theorem concatCols_sorted (dfs : List TS) : (concatCols dfs).Pairwise (fun a b => a.1 < b.1) := by
  simp only [concatCols, List.pairwise_map]
  exact unionIndex_sorted dfs

theorem mem_concatCols {dfs : List TS} {x : Int × List (Option Int)} :
    x ∈ concatCols dfs ↔ (∃ s ∈ dfs, x.1 ∈ s.index) ∧ x.2 = dfs.map (·.get x.1) := by
  simp only [concatCols, List.mem_map, mem_unionIndex]
  constructor
  · rintro ⟨t, ht, rfl⟩; exact ⟨ht, rfl⟩
  · rintro ⟨ht, h2⟩; exact ⟨x.1, ht, by rw [← h2]⟩

theorem mem_index {s : TS} {t : Int} : t ∈ s.index ↔ ∃ p ∈ s, p.1 = t := List.mem_map

theorem sorted_pairwise {s : TS} (hs : s.Sorted) : s.Pairwise (fun a b => a.1 < b.1) := by
  simpa [TS.Sorted, TS.index, List.pairwise_map] using hs

theorem filter_sorted {s : TS} (hs : s.Sorted) (p : Int × Option Int → Bool) : TS.Sorted (s.filter p) := by
  unfold TS.Sorted TS.index at hs ⊢
  exact hs.sublist (List.Sublist.map _ List.filter_sublist)

theorem ofTS_sorted {s : TS} (hs : s.Sorted) : (ofTS s).Pairwise (fun a b => a.1 < b.1) := by
  simp only [ofTS, List.pairwise_map]
  exact sorted_pairwise hs

theorem framesOf_rows_sorted (dfs : List TS) (n : Nat) (hs : ∀ s ∈ dfs, s.Sorted) :
    ∀ f ∈ framesOf dfs n, f.rows.Pairwise (fun a b => a.1 < b.1) :=
  forall_mem_framesOf (fun D _ => concatCols_sorted D) fun s hs' => ofTS_sorted (hs s hs')

theorem ofTS_filter (s : TS) (w : Int → Bool) : (ofTS s).filter (fun r => w r.1) = ofTS (s.filter fun p => w p.1) := by
  simp only [ofTS, List.filter_map]; rfl

theorem mem_ofTS {s : TS} {t : Int} {r : List (Option Int)} : (t, r) ∈ ofTS s ↔ ∃ v, (t, v) ∈ s ∧ r = [v] := by
  simp only [ofTS, List.mem_map, Prod.mk.injEq]
  constructor
  · rintro ⟨p, hp, rfl, rfl⟩; exact ⟨p.2, hp, rfl⟩
  · rintro ⟨v, hv, rfl⟩; exact ⟨(t, v), hv, rfl, rfl⟩

theorem framesOf_rect (dfs : List TS) (n : Nat) : ∀ f ∈ framesOf dfs n, ∀ r ∈ f.rows, f.width ≤ r.2.length :=
  forall_mem_framesOf (fun D _ r hr => by rw [(mem_concatCols.mp hr).2, List.length_map]; exact Nat.le_refl _)
    fun s _ r hr => by obtain ⟨_, _, h⟩ := mem_ofTS.mp hr; rw [h]; exact Nat.le_refl _

theorem mem_framesOf_series (dfs : List TS) (n : Nat) (hn : n ≤ 1) (i : Nat) (hi : i < (framesOf dfs n).length)
    (hd : i < dfs.length) (t : Int) (r : List (Option Int)) :
    (t, r) ∈ (framesOf dfs n)[i].rows ↔ ∃ v, (t, v) ∈ dfs[i] ∧ r = [v] := by
  rw [framesOf_getElem_series dfs n hn i hi hd]
  exact mem_ofTS

theorem get_filter (w : Int → Bool) {t : Int} (ht : w t = true) (s : TS) : TS.get (s.filter fun p => w p.1) t = s.get t := by
  unfold TS.get
  rw [List.find?_key_filter (fun p => w p.1) fun e _ he => he ▸ ht]

theorem get_eq_some_iff {s : TS} (hs : s.Sorted) (t x : Int) : s.get t = some x ↔ (t, some x) ∈ s := by
  have hn : (s.map (·.1)).Nodup := hs.imp Int.ne_of_lt
  unfold TS.get
  constructor
  · intro h
    obtain ⟨e, he, hx⟩ := Option.bind_eq_some_iff.1 h
    obtain ⟨hm, rfl⟩ := List.find?_key_some he
    exact (show e = (e.1, some x) from Prod.ext rfl hx) ▸ hm
  · intro h
    rw [List.find?_key_of_nodup (e := (t, some x)) hn h]
    rfl

theorem get_isSome_mem_index {s : TS} {t : Int} (h : (s.get t).isSome = true) : t ∈ s.index := by
  obtain ⟨x, hx⟩ := Option.isSome_iff_exists.1 h
  obtain ⟨e, he, _⟩ := Option.bind_eq_some_iff.1 hx
  exact List.mem_map.2 ⟨e, List.find?_key_some he⟩

theorem unionIndex_filter (D : List TS) (w : Int → Bool) :
    (unionIndex D).filter w = unionIndex (D.map fun s => s.filter fun p => w p.1) := by
  apply List.pairwise_ext (fun _ _ => Int.lt_asymm) ((unionIndex_sorted D).sublist List.filter_sublist) (unionIndex_sorted _)
  intro t
  simp only [List.mem_filter, mem_unionIndex, List.mem_map, mem_index]
  constructor
  · rintro ⟨⟨s, hs, p, hp, rfl⟩, hw⟩
    exact ⟨_, ⟨s, hs, rfl⟩, p, List.mem_filter.mpr ⟨hp, hw⟩, rfl⟩
  · rintro ⟨_, ⟨s, hs, rfl⟩, p, hp, rfl⟩
    exact ⟨⟨s, hs, p, (List.mem_filter.mp hp).1, rfl⟩, (List.mem_filter.mp hp).2⟩

theorem concatCols_filter (D : List TS) (w : Int → Bool) :
    (concatCols D).filter (fun r => w r.1) = concatCols (D.map fun s => s.filter fun p => w p.1) := by
  simp only [concatCols, List.filter_map, ← unionIndex_filter, List.map_map]
  show ((unionIndex D).filter w).map _ = _
  apply List.map_congr_left
  intro t ht
  congr 1
  apply List.map_congr_left
  intro s _
  exact (get_filter w (List.mem_filter.mp ht).2 s).symm

theorem framesOf_filter (dfs : List TS) (n : Nat) (w : Int → Bool) :
    (framesOf dfs n).map (fun f => (⟨f.width, f.rows.filter fun r => w r.1⟩ : Frame)) =
      framesOf (dfs.map fun s => s.filter fun p => w p.1) n :=
  (framesOf_map _ _ dfs n (fun _ D _ => by simp only [List.length_map, concatCols_filter])
    (fun s _ => by simp only [ofTS_filter])).symm

theorem framesOf_getElem_filter (dfs : List TS) (n : Nat) (w : Int → Bool) (i : Nat) (hi : i < dfs.length) :
    ((framesOf dfs n)[i]'(by rw [framesOf_length]; exact hi)).rows.filter (fun r => w r.1) =
      ((framesOf (dfs.map fun s => s.filter fun p => w p.1) n)[i]'(by rw [framesOf_length, List.length_map]; exact hi)).rows := by
  have e := List.getElem_of_eq (framesOf_filter dfs n w) (i := i) (by rw [List.length_map, framesOf_length]; exact hi)
  rw [List.getElem_map] at e
  exact congrArg Frame.rows e

theorem assemble_many (P : List Frame) (h : 2 ≤ P.length) :
    assemble P = some ⟨P.foldl (fun m f => max m f.width) 0,
      P.flatMap fun f => f.rows.map fun r => (r.1, padRow (P.foldl (fun m f => max m f.width) 0) r.2)⟩ := by
  match P, h with
  | _ :: _ :: _, _ => rfl

/-- ONE piece is assembled by the formula for many once its rows fill its width: nothing is padded -/
theorem assemble_rect (P : List Frame) (hne : P ≠ []) (hr : ∀ f ∈ P, ∀ r ∈ f.rows, f.width ≤ r.2.length) :
    assemble P = some ⟨P.foldl (fun m f => max m f.width) 0,
      P.flatMap fun f => f.rows.map fun r => (r.1, padRow (P.foldl (fun m f => max m f.width) 0) r.2)⟩ := by
  match P, hne with
  | [x], _ =>
    have : x.rows.map (fun r => (r.1, padRow x.width r.2)) = x.rows := by
      refine (List.map_congr_left fun r hr' => ?_).trans (List.map_id _)
      have := hr x (by simp) r hr'
      simp [padRow, Nat.sub_eq_zero_of_le this]
    simp only [assemble, List.foldl_cons, List.foldl_nil, Nat.zero_max, List.flatMap_cons, List.flatMap_nil, List.append_nil, this]
  | _ :: _ :: _, _ => rfl

theorem foldl_max_width (P : List Frame) (w : Nat) (hle : ∀ f ∈ P, f.width ≤ w) (hw : ∃ f ∈ P, f.width = w) :
    P.foldl (fun m f => max m f.width) 0 = w := by
  have e : P.foldl (fun m f => max m f.width) 0 = (P.map (·.width)).foldl max 0 := by rw [List.foldl_map]
  obtain ⟨f, hf, rfl⟩ := hw
  rw [e]
  apply Nat.le_antisymm
  · rcases List.mem_cons.mp (List.foldl_select_mem max (fun a b => by omega) 0 (P.map (·.width))) with h0 | hm
    · omega
    · obtain ⟨g, hg, hgw⟩ := List.mem_map.mp hm
      rw [← hgw]; exact hle g hg
  · exact List.foldl_select_bound (fun a b => b ≤ a) max (fun _ => Nat.le_refl _) (fun _ _ _ h1 h2 => Nat.le_trans h2 h1)
      (fun _ _ => Nat.le_max_left _ _) (fun _ _ => Nat.le_max_right _ _) 0 _ _
      (List.mem_cons_of_mem _ (List.mem_map_of_mem hf))

/-- the pieces for normalised bound lists -/
def piecesG (dfs : List TS) (lbs ubs : List (Option Int)) (n : Nat) (l u : Bool) : List Frame :=
  ((framesOf dfs n).zip (lbs.zip ubs)).map (cut l u)

theorem stitch_tail (k : BKind) (fr : List Frame) (lbs ubs : List (Option Int)) (oc : Option (List Char)) (l u : Bool)
    (hb : brackets oc = .ok (l, u)) (h1 : lbs.length = fr.length ∨ (lbs.length = 1 ∧ 1 < fr.length))
    (h2 : ubs.length = fr.length ∨ (ubs.length = 1 ∧ 1 < fr.length)) (hs : k = .time → ∀ f ∈ fr, SortedRows f) :
    (do let dlu ← zipper3 fr lbs ubs
        let res ← cutAllB k dlu oc
        pure (assemble res) : Res (Option Frame)) =
      .ok (assemble ((fr.zip ((bcast fr.length lbs).zip (bcast fr.length ubs))).map (cutB k l u))) := by
  rw [zipper3_first_long fr lbs ubs h1 h2, Res.ok_bind, cutAllB_eq k _ oc l u hb (fun hk x hx => hs hk _ (List.of_mem_zip hx).1)]
  rfl

theorem stitch_of_normalise {dfs d : List TS} {lb ub : Option (List Int)} {lbs ubs : List (Option Int)}
    (h : normalise dfs lb ub = .ok (d, lbs, ubs)) (oc : Option (List Char)) (n : Nat) :
    stitch dfs lb ub oc n = (do
      let dlu ← zipper3 (framesOf d n) lbs ubs
      let res ← cutAll dlu oc
      pure (assemble res)) := by
  rw [stitch, h, Res.ok_bind]

theorem stitch_of_normalise_error {dfs : List TS} {lb ub : Option (List Int)} {e : Err} (h : normalise dfs lb ub = .error e)
    (oc : Option (List Char)) (n : Nat) : stitch dfs lb ub oc n = .error e := by
  rw [stitch, h, Res.error_bind]

/-- the stitch with bound lists of length 1 or `dfs'.length` (≥ 2): the pieces are cut with the length-1 lists repeated -/
theorem stitch_general_bcast (dfs : List TS) (lb ub : Option (List Int)) (oc : Option (List Char)) (n : Nat) (l u : Bool)
    (hb : brackets oc = .ok (l, u)) (dfs' : List TS) (lbs ubs : List (Option Int))
    (hnorm : normalise dfs lb ub = .ok (dfs', lbs, ubs)) (htwo : 2 ≤ dfs'.length)
    (h1 : lbs.length = dfs'.length ∨ lbs.length = 1) (h2 : ubs.length = dfs'.length ∨ ubs.length = 1) :
    stitch dfs lb ub oc n =
      .ok (assemble (piecesG dfs' (bcast dfs'.length lbs) (bcast dfs'.length ubs) n l u)) := by
  rw [stitch_of_normalise hnorm]
  simp only [← cutAllB_date, piecesG, ← cutB_date]
  rw [stitch_tail .date _ lbs ubs oc l u hb (by rw [framesOf_length]; exact h1.imp_right (⟨·, htwo⟩))
    (by rw [framesOf_length]; exact h2.imp_right (⟨·, htwo⟩)) (fun h => nomatch h), framesOf_length]

theorem stitch_tail_piecesG (d : List TS) (n : Nat) (lbs ubs : List (Option Int)) (oc : Option (List Char)) (l u : Bool)
    (hb : brackets oc = .ok (l, u)) (h1 : lbs.length = d.length) (h2 : ubs.length = d.length) :
    (do let dlu ← zipper3 (framesOf d n) lbs ubs
        let res ← cutAll dlu oc
        pure (assemble res) : Res (Option Frame)) = .ok (assemble (piecesG d lbs ubs n l u)) := by
  simp only [← cutAllB_date, piecesG, ← cutB_date]
  rw [stitch_tail .date _ lbs ubs oc l u hb (by rw [framesOf_length]; exact Or.inl h1) (by rw [framesOf_length]; exact Or.inl h2)
    (fun h => nomatch h), framesOf_length, bcast_of_length _ _ h1, bcast_of_length _ _ h2]

theorem stitch_general (dfs : List TS) (lb ub : Option (List Int)) (oc : Option (List Char)) (n : Nat) (l u : Bool)
    (hb : brackets oc = .ok (l, u)) (dfs' : List TS) (lbs ubs : List (Option Int))
    (hnorm : normalise dfs lb ub = .ok (dfs', lbs, ubs)) (h1 : lbs.length = dfs'.length) (h2 : ubs.length = dfs'.length) :
    stitch dfs lb ub oc n = .ok (assemble (piecesG dfs' lbs ubs n l u)) := by
  rw [stitch_of_normalise hnorm, stitch_tail_piecesG dfs' n lbs ubs oc l u hb h1 h2]

theorem piecesG_length (dfs : List TS) (lbs ubs : List (Option Int)) (n : Nat) (l u : Bool)
    (h1 : lbs.length = dfs.length) (h2 : ubs.length = dfs.length) : (piecesG dfs lbs ubs n l u).length = dfs.length := by
  simp [piecesG, framesOf_length, h1, h2]

theorem assemble_piecesG (dfs : List TS) (lbs ubs : List (Option Int)) (n : Nat) (l u : Bool)
    (h1 : lbs.length = dfs.length) (h2 : ubs.length = dfs.length) (hne : lbs ≠ []) :
    assemble (piecesG dfs lbs ubs n l u) = some ⟨(piecesG dfs lbs ubs n l u).foldl (fun m f => max m f.width) 0,
      (piecesG dfs lbs ubs n l u).flatMap fun f => f.rows.map fun r =>
        (r.1, padRow ((piecesG dfs lbs ubs n l u).foldl (fun m f => max m f.width) 0) r.2)⟩ := by
  apply assemble_rect
  · intro h0
    have := piecesG_length dfs lbs ubs n l u h1 h2
    rw [h0] at this
    exact hne (List.eq_nil_of_length_eq_zero (h1.trans this.symm))
  · intro f hf r hr
    obtain ⟨x, hx, rfl⟩ := List.mem_map.mp hf
    exact framesOf_rect dfs n x.1 (List.of_mem_zip hx).1 r (List.mem_filter.mp hr).1

/-- frames zipped with their bounds, each cut by its own window, then concatenated with padding.  The pieces are written out
    (not as `cut` / `cutB`) over an abstract window `w`, so that the lemma serves date bounds and times of day alike -/
theorem mem_assembled {γ} (fr : List Frame) (lbs ubs : List γ) (w : γ → γ → Int → Bool) (W : Nat) (t : Int)
    (vs : List (Option Int)) :
    (t, vs) ∈ ((fr.zip (lbs.zip ubs)).map fun x => (⟨x.1.width, x.1.rows.filter fun r => w x.2.1 x.2.2 r.1⟩ : Frame)).flatMap
        (fun f => f.rows.map fun r => (r.1, padRow W r.2)) ↔
      ∃ i, ∃ hf : i < fr.length, ∃ hl : i < lbs.length, ∃ hu : i < ubs.length, ∃ r,
        (t, r) ∈ fr[i].rows ∧ w lbs[i] ubs[i] t = true ∧ vs = padRow W r := by
  simp only [List.mem_flatMap, List.mem_map, Prod.mk.injEq]
  constructor
  · rintro ⟨_, ⟨x, hx, rfl⟩, r, hr, rfl, rfl⟩
    obtain ⟨i, hi, rfl⟩ := List.mem_iff_getElem.mp hx
    rw [List.length_zip, List.length_zip] at hi
    obtain ⟨hf, hlu⟩ := Nat.lt_min.mp hi
    simp only [List.getElem_zip, List.mem_filter] at hr
    exact ⟨i, hf, (Nat.lt_min.mp hlu).1, (Nat.lt_min.mp hlu).2, r.2, hr.1, hr.2, rfl⟩
  · rintro ⟨i, hf, hl, hu, r, hr, hw, rfl⟩
    have hi : i < (fr.zip (lbs.zip ubs)).length := by
      rw [List.length_zip, List.length_zip]; exact Nat.lt_min.mpr ⟨hf, Nat.lt_min.mpr ⟨hl, hu⟩⟩
    refine ⟨_, ⟨(fr.zip (lbs.zip ubs))[i], List.getElem_mem hi, rfl⟩, (t, r), ?_, rfl, rfl⟩
    simp only [List.getElem_zip, List.mem_filter]
    exact ⟨hr, hw⟩

theorem pairwise_assembled {γ} (fr : List Frame) (lbs ubs : List γ) (w : γ → γ → Int → Bool) (W : Nat)
    (hrows : ∀ f ∈ fr, f.rows.Pairwise (fun a b => a.1 < b.1))
    (hord : ∀ i j (hi : i < lbs.length) (hi' : i < ubs.length) (hj : j < lbs.length) (hj' : j < ubs.length), i < j →
      ∀ x y, w lbs[i] ubs[i] x = true → w lbs[j] ubs[j] y = true → x < y) :
    (((fr.zip (lbs.zip ubs)).map fun x => (⟨x.1.width, x.1.rows.filter fun r => w x.2.1 x.2.2 r.1⟩ : Frame)).flatMap
        (fun f => f.rows.map fun r => (r.1, padRow W r.2))).Pairwise (fun a b => a.1 < b.1) := by
  rw [List.pairwise_flatMap]
  constructor
  · intro f hf
    obtain ⟨x, hx, rfl⟩ := List.mem_map.mp hf
    rw [List.pairwise_map]
    exact (hrows _ (List.of_mem_zip hx).1).sublist List.filter_sublist
  · rw [List.pairwise_map, List.pairwise_iff_getElem]
    intro i j hi hj hij x hx y hy
    obtain ⟨rx, hrx, rfl⟩ := List.mem_map.mp hx
    obtain ⟨ry, hry, rfl⟩ := List.mem_map.mp hy
    rw [List.length_zip, List.length_zip] at hi hj
    have hi' := Nat.lt_min.mp (Nat.lt_min.mp hi).2
    have hj' := Nat.lt_min.mp (Nat.lt_min.mp hj).2
    simp only [List.getElem_zip] at hrx hry
    exact hord i j hi'.1 hi'.2 hj'.1 hj'.2 hij _ _ (List.mem_filter.mp hrx).2 (List.mem_filter.mp hry).2

theorem mem_stitch (dfs : List TS) (lb ub : Option (List Int)) (oc : Option (List Char)) (n : Nat) (l u : Bool)
    (hb : brackets oc = .ok (l, u)) (dfs' : List TS) (lbs ubs : List (Option Int))
    (hnorm : normalise dfs lb ub = .ok (dfs', lbs, ubs)) (h1 : lbs.length = dfs'.length) (h2 : ubs.length = dfs'.length)
    (hne : lbs ≠ []) (F : Frame) (hF : stitch dfs lb ub oc n = .ok (some F)) (t : Int) (vs : List (Option Int)) :
    (t, vs) ∈ F.rows ↔ ∃ i, ∃ hf : i < (framesOf dfs' n).length, ∃ hl : i < lbs.length, ∃ hu : i < ubs.length, ∃ r,
      (t, r) ∈ (framesOf dfs' n)[i].rows ∧ inWindow l u (optDate lbs[i]) (optDate ubs[i]) t = true ∧
        vs = padRow F.width r := by
  rw [stitch_general dfs lb ub oc n l u hb dfs' lbs ubs hnorm h1 h2,
    assemble_piecesG dfs' lbs ubs n l u h1 h2 hne] at hF
  cases hF
  exact mem_assembled (framesOf dfs' n) lbs ubs (fun a b t => inWindow l u (optDate a) (optDate b) t) _ t vs

theorem normalise_ub {α} (dfs : List α) (ub : List Int) (h : nonDecreasing ub = true) :
    normalise dfs Option.none (some ub) = .ok (dfs, Option.none :: ub.dropLast.map some, ub.map some) := by
  simp [normalise, h, pure, Except.pure]

theorem normalise_ub_dec {α} (dfs : List α) (ub : List Int) (h : nonDecreasing ub = false) :
    normalise dfs Option.none (some ub) =
      .ok (dfs.reverse, Option.none :: ub.reverse.dropLast.map some, ub.reverse.map some) := by
  simp [normalise, h, pure, Except.pure]

theorem normalise_lb_dec {α} (dfs : List α) (lb : List Int) (h : nonDecreasing lb = false) :
    normalise dfs (some lb) Option.none =
      .ok (dfs.reverse, lb.reverse.map some, (lb.reverse.drop 1).map some ++ [Option.none]) := by
  simp [normalise, h, pure, Except.pure]

theorem normalise_both_dec {α} (dfs : List α) (lb ub : List Int) (h1 : nonDecreasing lb = false) (h2 : nonDecreasing ub = false) :
    normalise dfs (some lb) (some ub) = .ok (dfs.reverse, lb.reverse.map some, ub.reverse.map some) := by
  simp [normalise, h1, h2, pure, Except.pure]

/-- `normalise` touches the series only by reversing them or not -/
theorem normalise_shape (lb ub : Option (List Int)) : ∃ rev : Bool, ∀ {α : Type} (xs : List α),
    normalise xs lb ub = (normalise ([] : List Unit) lb ub).map fun x => (if rev then xs.reverse else xs, x.2) := by
  cases lb with
  | none =>
    cases ub with
    | none => exact ⟨false, fun _ => rfl⟩
    | some ub =>
      exact ⟨!nonDecreasing ub, fun xs => by cases h : nonDecreasing ub <;> simp [normalise, h, pure, Except.pure, Except.map]⟩
  | some lb =>
    cases ub with
    | none =>
      exact ⟨!nonDecreasing lb, fun xs => by cases h : nonDecreasing lb <;> simp [normalise, h, pure, Except.pure, Except.map]⟩
    | some ub =>
      exact ⟨!nonDecreasing lb, fun xs => by
        cases h : nonDecreasing lb <;> cases h' : nonDecreasing ub <;> simp [normalise, h, h', pure, Except.pure, Except.map]⟩

theorem normalise_map {α β} (f : α → β) (dfs : List α) (lb ub : Option (List Int)) :
    normalise (dfs.map f) lb ub = (normalise dfs lb ub).map fun x => (x.1.map f, x.2) := by
  obtain ⟨rev, h⟩ := normalise_shape lb ub
  rw [h, h dfs]
  cases normalise ([] : List Unit) lb ub <;> cases rev <;> simp [Except.map]

theorem normalise_members {α} (dfs : List α) (lb ub : Option (List Int)) (d : List α) (lbs ubs : List (Option Int))
    (h : normalise dfs lb ub = .ok (d, lbs, ubs)) : ∀ s ∈ d, s ∈ dfs := by
  obtain ⟨rev, hr⟩ := normalise_shape lb ub
  rw [hr] at h
  cases hn : normalise ([] : List Unit) lb ub with
  | error e => rw [hn] at h; cases h
  | ok x =>
    rw [hn] at h
    simp only [Except.map, Except.ok.injEq, Prod.mk.injEq] at h
    rw [← h.1]
    cases rev <;> simp

theorem length_lowers (ub : List Int) (hne : ub ≠ []) : (Option.none :: ub.dropLast.map some).length = ub.length := by
  cases ub with
  | nil => exact absurd rfl hne
  | cons a ub => simp

/-- the hypotheses under which the property speaks about stitching: as many series as bounds (at least two),
    bounds in non-decreasing order -/
structure Stitchable (dfs : List TS) (ub : List Int) : Prop where
  len : dfs.length = ub.length
  two : 2 ≤ ub.length
  inc : nonDecreasing ub = true

theorem Stitchable.ne_nil {dfs : List TS} {ub : List Int} (h : Stitchable dfs ub) : ub ≠ [] := by
  intro h0
  have := h.two
  simp [h0] at this

/-- `Stitchable` with "at least one": what the lemmas on stitching at upper bounds need (ONE piece is assembled as many are,
    `assemble_rect`) -/
structure Aligned (dfs : List TS) (ub : List Int) : Prop where
  len : dfs.length = ub.length
  ne_nil : ub ≠ []
  inc : nonDecreasing ub = true

theorem Stitchable.aligned {dfs : List TS} {ub : List Int} (h : Stitchable dfs ub) : Aligned dfs ub :=
  ⟨h.len, h.ne_nil, h.inc⟩

theorem Aligned.sorted {dfs : List TS} {ub : List Int} (h : Aligned dfs ub) : ub.Pairwise (· ≤ ·) :=
  nonDecreasing_pairwise ub h.inc

theorem Aligned.lowers_length {dfs : List TS} {ub : List Int} (h : Aligned dfs ub) :
    (Option.none :: ub.dropLast.map some).length = dfs.length := by
  rw [length_lowers ub h.ne_nil, h.len]

theorem Aligned.uppers_length {dfs : List TS} {ub : List Int} (h : Aligned dfs ub) : (ub.map some).length = dfs.length := by
  rw [List.length_map, h.len]

/-- the pieces of `df_slice(dfs, ub = ub, n = n)` for upper bounds in increasing order -/
def pieces (dfs : List TS) (ub : List Int) (n : Nat) (l u : Bool) : List Frame :=
  ((framesOf dfs n).zip ((Option.none :: ub.dropLast.map some).zip (ub.map some))).map (cut l u)

theorem Aligned.stitch_eq {dfs : List TS} {ub : List Int} (h : Aligned dfs ub) (oc : Option (List Char)) (n : Nat)
    (l u : Bool) (hb : brackets oc = .ok (l, u)) :
    stitch dfs Option.none (some ub) oc n = .ok (assemble (pieces dfs ub n l u)) :=
  stitch_general dfs _ _ oc n l u hb dfs _ _ (normalise_ub dfs ub h.inc) h.lowers_length h.uppers_length

theorem pieces_length (dfs : List TS) (ub : List Int) (n : Nat) (l u : Bool) (hlen : dfs.length = ub.length)
    (hne : ub ≠ []) : (pieces dfs ub n l u).length = ub.length := by
  rw [← hlen]
  exact piecesG_length dfs _ _ n l u (by rw [hlen, length_lowers ub hne]) (by rw [hlen, List.length_map])

theorem Aligned.pieces_length {dfs : List TS} {ub : List Int} (h : Aligned dfs ub) (n : Nat) (l u : Bool) :
    (pieces dfs ub n l u).length = ub.length :=
  Slice.pieces_length dfs ub n l u h.len h.ne_nil

theorem Aligned.assemble {dfs : List TS} {ub : List Int} (h : Aligned dfs ub) (n : Nat) (l u : Bool) :
    assemble (pieces dfs ub n l u) = some ⟨(pieces dfs ub n l u).foldl (fun m f => max m f.width) 0,
      (pieces dfs ub n l u).flatMap fun f => f.rows.map fun r =>
        (r.1, padRow ((pieces dfs ub n l u).foldl (fun m f => max m f.width) 0) r.2)⟩ :=
  assemble_piecesG dfs _ _ n l u h.lowers_length h.uppers_length (List.cons_ne_nil _ _)

/-- the lower bound of piece `i` -/
def loBound (ub : List Int) (i : Nat) : Bound := if i = 0 then .none else .date (ub.getD (i - 1) 0)

theorem loBound_succ {ub : List Int} {k : Nat} (h : k < ub.length) : loBound ub (k + 1) = .date ub[k] := by
  simp [loBound, h]

theorem optDate_lowers (ub : List Int) (i : Nat) (h : i < (Option.none :: ub.dropLast.map some).length) :
    optDate (Option.none :: ub.dropLast.map some)[i] = loBound ub i := by
  cases i with
  | zero => rfl
  | succ k =>
    rw [loBound_succ (by simp at h; omega)]
    simp [optDate, List.getElem_dropLast]

theorem pieces_getElem (dfs : List TS) (ub : List Int) (n : Nat) (l u : Bool)
    (i : Nat) (hi : i < (pieces dfs ub n l u).length) (hi' : i < ub.length) (hf : i < (framesOf dfs n).length) :
    (pieces dfs ub n l u)[i] = ⟨(framesOf dfs n)[i].width,
      (framesOf dfs n)[i].rows.filter fun r => inWindow l u (loBound ub i) (.date ub[i]) r.1⟩ := by
  simp only [pieces, List.getElem_map, List.getElem_zip, cut, optDate_lowers]
  rfl

theorem pieces_width (dfs : List TS) (ub : List Int) (n : Nat) (l u : Bool) (hlen : dfs.length = ub.length)
    (i : Nat) (hi : i < (pieces dfs ub n l u).length) (hi' : i < ub.length) :
    ((pieces dfs ub n l u)[i]).width = min (max n 1) (ub.length - i) := by
  have hf : i < (framesOf dfs n).length := by rw [framesOf_length, hlen]; exact hi'
  rw [pieces_getElem dfs ub n l u i hi hi' hf, framesOf_getElem_width dfs n i hf, hlen]

theorem lt_of_ubOk_lbOk {l u : Bool} (hlu : ¬ (l = true ∧ u = true)) {a b x y : Int} (hab : a ≤ b)
    (hx : ubOk u (.date a) x = true) (hy : lbOk l (.date b) y = true) : x < y := by
  cases l <;> cases u <;> simp [ubOk, lbOk] at hx hy hlu <;> omega

theorem inWindow_split {l u : Bool} (hlu : l = !u) (b0 : Option Int) {b c : Int} (h0 : ∀ a, b0 = some a → a ≤ b) (hbc : b ≤ c)
    (t : Int) :
    (inWindow l u (optDate b0) (.date b) t || inWindow l u (.date b) (.date c) t) = inWindow l u (optDate b0) (.date c) t := by
  subst hlu
  rw [Bool.eq_iff_iff]
  cases b0 with
  | none => cases u <;> simp [inWindow, lbOk, ubOk, optDate] <;> omega
  | some a =>
    have := h0 a rfl
    cases u <;> simp [inWindow, lbOk, ubOk, optDate] <;> omega

theorem loBound_of_lt {ub : List Int} (hub : ub.Pairwise (· ≤ ·)) {i j : Nat} (hij : i < j) (hj : j < ub.length) :
    ∃ b, loBound ub j = .date b ∧ ub[i]'(Nat.lt_trans hij hj) ≤ b := by
  obtain ⟨k, rfl⟩ : ∃ k, j = k + 1 := ⟨j - 1, by omega⟩
  have hk : k < ub.length := by omega
  exact ⟨ub[k], loBound_succ hk, List.getElem_le_of_le hub (by omega) hk⟩

theorem windows_disjoint {ub : List Int} (hub : ub.Pairwise (· ≤ ·)) {i k : Nat} (hi : i < ub.length) (hk : k < ub.length)
    (hik : i ≠ k) {t : Int} (h1 : inWindow false true (loBound ub i) (.date ub[i]) t = true) :
    inWindow false true (loBound ub k) (.date ub[k]) t = false := by
  rw [Bool.eq_false_iff]
  intro h2
  rw [inWindow_iff] at h1 h2
  rcases Nat.lt_or_gt_of_ne hik with hlt | hgt
  · obtain ⟨b, hb, hle⟩ := loBound_of_lt hub hlt hk
    rw [hb] at h2
    exact Int.lt_irrefl t (lt_of_ubOk_lbOk (by simp) hle h1.2 h2.1)
  · obtain ⟨b, hb, hle⟩ := loBound_of_lt hub hgt hi
    rw [hb] at h1
    exact Int.lt_irrefl t (lt_of_ubOk_lbOk (by simp) hle h2.2 h1.1)

theorem stitch_frame (dfs : List TS) (ub : List Int) (h : Aligned dfs ub) (oc : Option (List Char)) (n : Nat) (l u : Bool)
    (hb : brackets oc = .ok (l, u)) (F : Frame) (hF : stitch dfs Option.none (some ub) oc n = .ok (some F)) :
    F.width = min (max n 1) ub.length ∧
      F.rows = (pieces dfs ub n l u).flatMap fun f => f.rows.map fun r => (r.1, padRow F.width r.2) := by
  have hpl := h.pieces_length n l u
  have hpos := List.length_pos_iff.mpr h.ne_nil
  rw [h.stitch_eq oc n l u hb, h.assemble n l u] at hF
  cases hF
  refine ⟨?_, rfl⟩
  have h0 : 0 < (pieces dfs ub n l u).length := by omega
  refine foldl_max_width _ _ (fun f hf => ?_)
    ⟨(pieces dfs ub n l u)[0], List.getElem_mem h0, by rw [pieces_width dfs ub n l u h.len 0 h0 (by omega), Nat.sub_zero]⟩
  obtain ⟨i, hi, rfl⟩ := List.mem_iff_getElem.mp hf
  rw [pieces_width dfs ub n l u h.len i hi (by omega)]
  omega

theorem slices_eq (dfs : List TS) (ub : List Int) (h : Aligned dfs ub) (n : Nat) (F : Frame)
    (hF : stitch dfs Option.none (some ub) (some ['(', ']']) n = .ok (some F)) (i : Nat) (hi : i < ub.length) :
    (F.rows.filter fun r => inWindow false true (loBound ub i) (.date ub[i]) r.1) =
      ((pieces dfs ub n false true)[i]'(by rw [h.pieces_length]; exact hi)
        |>.rows.map fun r => (r.1, padRow F.width r.2)) := by
  have hpl := h.pieces_length n false true
  have hfl := framesOf_length dfs n
  have hlen := h.len
  have hin : ∀ k (hk : k < (pieces dfs ub n false true).length), ∀ x ∈ (pieces dfs ub n false true)[k].rows.map
      (fun r => (r.1, padRow F.width r.2)), inWindow false true (loBound ub k) (.date (ub[k]'(by omega))) x.1 = true := by
    intro k hk x hx
    rw [pieces_getElem dfs ub n false true k hk (by omega) (by omega)] at hx
    obtain ⟨r, hr, rfl⟩ := List.mem_map.mp hx
    exact (List.mem_filter.mp hr).2
  rw [(stitch_frame dfs ub h _ n false true rfl F hF).2]
  exact List.filter_flatMap_getElem _ _ _ i (by omega) (hin i (by omega))
    (fun k hk hki x hx => windows_disjoint h.sorted (by omega) hi hki (hin k hk x hx))

theorem mem_stitch_ub {dfs : List TS} {ub : List Int} (h : Aligned dfs ub) (oc : Option (List Char)) (n : Nat) (l u : Bool)
    (hb : brackets oc = .ok (l, u)) (F : Frame) (hF : stitch dfs Option.none (some ub) oc n = .ok (some F)) (t : Int)
    (vs : List (Option Int)) :
    (t, vs) ∈ F.rows ↔ ∃ i, ∃ hi : i < ub.length, ∃ r,
      (t, r) ∈ ((framesOf dfs n)[i]'(by rw [framesOf_length, h.len]; exact hi)).rows ∧
      lbOk l (loBound ub i) t = true ∧ ubOk u (.date ub[i]) t = true ∧ vs = padRow F.width r := by
  rw [mem_stitch dfs _ _ oc n l u hb dfs _ _ (normalise_ub dfs ub h.inc) h.lowers_length h.uppers_length (List.cons_ne_nil _ _) F hF t vs]
  constructor
  · rintro ⟨i, hf, hl, hu, r, hr, hw, rfl⟩
    rw [optDate_lowers, List.getElem_map, inWindow_iff] at hw
    exact ⟨i, by simpa using hu, r, hr, hw.1, hw.2, rfl⟩
  · rintro ⟨i, hi, r, hr, h1, h2, rfl⟩
    have hl : i < (Option.none :: ub.dropLast.map some).length := by rw [length_lowers ub h.ne_nil]; exact hi
    refine ⟨i, by rw [framesOf_length, h.len]; exact hi, hl, by simpa using hi, r, hr, ?_, rfl⟩
    rw [optDate_lowers, List.getElem_map, inWindow_iff]
    exact ⟨h1, h2⟩

theorem pieces_congr {A B : List TS} {ub : List Int} (sA : Aligned A ub) (sB : Aligned B ub) (n : Nat) (l u : Bool)
    (h : ∀ i j, j < max n 1 → ∀ (hij : i + j < ub.length),
      ((A[i + j]'(sA.len ▸ hij)).filter fun p => inWindow l u (loBound ub i) (.date (ub[i]'(by omega))) p.1) =
        (B[i + j]'(sB.len ▸ hij)).filter fun p => inWindow l u (loBound ub i) (.date (ub[i]'(by omega))) p.1) :
    pieces A ub n l u = pieces B ub n l u := by
  have hA := sA.len
  have hB := sB.len
  have hpA := sA.pieces_length n l u
  have hpB := sB.pieces_length n l u
  apply List.ext_getElem (by rw [hpA, hpB])
  intro i h1 h2
  have hi : i < ub.length := hpA ▸ h1
  have hiA : i < A.length := hA ▸ hi
  have hiB : i < B.length := hB ▸ hi
  rw [pieces_getElem A ub n l u i h1 hi (by rw [framesOf_length]; exact hiA),
    pieces_getElem B ub n l u i h2 hi (by rw [framesOf_length]; exact hiB),
    framesOf_getElem_width, framesOf_getElem_width,
    framesOf_getElem_filter A n (fun t => inWindow l u (loBound ub i) (.date ub[i]) t) i hiA,
    framesOf_getElem_filter B n (fun t => inWindow l u (loBound ub i) (.date ub[i]) t) i hiB]
  refine congr (congrArg Frame.mk (by rw [hA, hB])) (congrArg Frame.rows
    (framesOf_getElem_congr (by rw [List.length_map, List.length_map, hA, hB]) n i (by rw [List.length_map]; exact hiA)
      fun j hj hij => ?_))
  rw [List.length_map, hA] at hij
  rw [List.getElem_map, List.getElem_map, h i j hj hij]

/-- the slices `df_unslice` cuts -/
def slicesOf (F : Frame) (ub : List Int) : List (Rows (List (Option Int))) :=
  ((Bound.none :: ub.dropLast.map Bound.date).zip ub).map fun x =>
    F.rows.filter fun r => inWindow false true x.1 (.date x.2) r.1

/-- what `df_unslice` hands to the bounds: column `j` of slice `i` to bound `i+j` -/
def rsOf (F : Frame) (ub : List Int) : List (Int × TS) :=
  (slicesOf F ub).zipIdx.flatMap fun x =>
    (((ub.drop x.2).take F.width).zipIdx).map fun y => (y.1, column y.2 x.1)

theorem unsliceInc_eq (F : Frame) (ub : List Int) :
    unsliceInc F ub = .ok ((((rsOf F ub).map (·.1)).eraseDups.mergeSort (fun a b => decide (a ≤ b))).map fun u =>
      (u, nona (((rsOf F ub).filter (·.1 == u)).flatMap (·.2)))) := by
  have hm : ((Bound.none :: ub.dropLast.map Bound.date).zip ub).mapM
      (fun (x : Bound × Int) => match x with | (l, u) => sliceWrap F.rows l (.date u) (some ['(', ']'])) =
        .ok (slicesOf F ub) := by
    apply List.mapM_ok_of_forall
    intro x _
    show sliceWrap F.rows x.1 (.date x.2) _ = _
    rw [sliceWrap_eq_sliceOne _ _ _ _ (fun _ _ _ h => Bound.noConfusion h), sliceOne_eq _ _ _ _ false true rfl]
  unfold unsliceInc
  simp only [bind, Except.bind, pure, Except.pure]
  rw [hm]
  rfl

theorem unslice_inc (F : Frame) (ub : List Int) (h : nonDecreasing ub = true) : unslice F ub = unsliceInc F ub := by
  simp [unslice, h]

theorem unslice_dec (F : Frame) (ub : List Int) (h : nonDecreasing ub = false) :
    unslice F ub = (unsliceInc F ub.reverse).map List.reverse := by
  simp [unslice, h]

theorem slicesOf_getElem? (F : Frame) (ub : List Int) (i : Nat) (hi : i < ub.length) :
    (slicesOf F ub)[i]? = some (F.rows.filter fun r => inWindow false true (loBound ub i) (.date ub[i]) r.1) := by
  have hl : i < ((Bound.none :: ub.dropLast.map Bound.date).zip ub).length := by
    cases ub with
    | nil => cases hi
    | cons a ub => simp at hi ⊢; omega
  simp only [slicesOf, List.getElem?_map, List.getElem?_eq_getElem hl, Option.map_some, List.getElem_zip]
  congr 2
  funext r
  cases i with
  | zero => rfl
  | succ k =>
    rw [loBound_succ (by omega)]
    simp [List.getElem_dropLast]

theorem slicesOf_length (F : Frame) (ub : List Int) : (slicesOf F ub).length = ub.length := by
  cases ub with
  | nil => rfl
  | cons a ub => simp [slicesOf]

theorem slicesOf_zipIdx (F : Frame) (ub : List Int) :
    (slicesOf F ub).zipIdx = ub.zipIdx.map fun x =>
      (F.rows.filter fun r => inWindow false true (loBound ub x.2) (.date x.1) r.1, x.2) := by
  apply List.ext_getElem (by simp [slicesOf_length])
  intro i h1 _
  rw [List.length_zipIdx, slicesOf_length] at h1
  rw [List.getElem_zipIdx, (List.getElem?_eq_some_iff.mp (slicesOf_getElem? F ub i h1)).2, List.getElem_map, List.getElem_zipIdx,
    Nat.zero_add]

theorem mem_rsOf {F : Frame} {ub : List Int} {u : Int} {c : TS} :
    (u, c) ∈ rsOf F ub ↔ ∃ i j, ∃ hi : i < ub.length, j < F.width ∧ ub[i + j]? = some u ∧
      c = column j (F.rows.filter fun r => inWindow false true (loBound ub i) (.date ub[i]) r.1) := by
  simp only [rsOf, List.mem_flatMap, List.mem_map, Prod.mk.injEq, Prod.exists, List.mem_zipIdx_iff_getElem?]
  constructor
  · rintro ⟨ts, i, hts, u', j, huj, rfl, rfl⟩
    have hi : i < ub.length := by
      rw [← slicesOf_length F ub]
      exact (List.getElem?_eq_some_iff.mp hts).1
    rw [slicesOf_getElem? F ub i hi] at hts
    cases hts
    rw [List.getElem?_take] at huj
    split at huj
    · rw [List.getElem?_drop] at huj
      exact ⟨i, j, hi, by assumption, huj, rfl⟩
    · cases huj
  · rintro ⟨i, j, hi, hj, huj, rfl⟩
    refine ⟨_, i, slicesOf_getElem? F ub i hi, u, j, ?_, rfl, rfl⟩
    rw [List.getElem?_take, if_pos hj, List.getElem?_drop]; exact huj

theorem unslice_of_strict (F : Frame) (ub : List Int) (hstrict : ub.Pairwise (· < ·)) (hpos : 0 < F.width) :
    unslice F ub = .ok (ub.map fun u => (u, nona (((rsOf F ub).filter (·.1 == u)).flatMap (·.2)))) := by
  have hkeys : ((rsOf F ub).map (·.1)).eraseDups.mergeSort (fun a b => decide (a ≤ b)) = ub := by
    apply List.pairwise_ext (fun _ _ => Int.lt_asymm) (List.pairwise_mergeSort_eraseDups _) hstrict
    intro u
    rw [List.mem_mergeSort_eraseDups, List.mem_map]
    constructor
    · rintro ⟨⟨u', c⟩, hm, rfl⟩
      obtain ⟨i, j, _, _, huj, _⟩ := mem_rsOf.mp hm
      exact List.mem_of_getElem? huj
    · intro hu
      obtain ⟨k, hk, rfl⟩ := List.mem_iff_getElem.mp hu
      exact ⟨(ub[k], _), mem_rsOf.mpr ⟨k, 0, hk, hpos, by simp [hk], rfl⟩, rfl⟩
  rw [unslice_inc F ub (pairwise_nonDecreasing _ (hstrict.imp fun h => Int.le_of_lt h)), unsliceInc_eq, hkeys]

theorem entries_zipIdx_of_not_mem (g : Nat → TS) (u : Int) :
    ∀ (us : List Int) (o : Nat), u ∉ us → (((us.zipIdx o).map fun y => (y.1, g y.2)).filter (·.1 == u)).flatMap (·.2) = []
  | [], _, _ => rfl
  | a :: us, o, h => by
    have ha : (a == u) = false := by simpa using fun e : a = u => h (e ▸ List.mem_cons_self)
    simp only [List.zipIdx_cons, List.map_cons, List.filter_cons, ha, Bool.false_eq_true, if_false]
    exact entries_zipIdx_of_not_mem g u us (o + 1) (fun hm => h (List.mem_cons_of_mem _ hm))

theorem entries_zipIdx (g : Nat → TS) :
    ∀ (us : List Int) (o m : Nat) (hm : m < us.length), us.Nodup →
      (((us.zipIdx o).map fun y => (y.1, g y.2)).filter (·.1 == us[m])).flatMap (·.2) = g (o + m)
  | a :: us, o, 0, _, hnd => by
    have hrest := entries_zipIdx_of_not_mem g a us (o + 1) (List.nodup_cons.mp hnd).1
    simp only [List.zipIdx_cons, List.map_cons, List.getElem_cons_zero, List.filter_cons, beq_self_eq_true, if_true,
      List.flatMap_cons, hrest, List.append_nil, Nat.add_zero]
  | a :: us, o, m + 1, hm, hnd => by
    have hnd' := List.nodup_cons.mp hnd
    have ha : (a == us[m]'(by simpa using hm)) = false := by
      simpa using fun e : a = us[m]'(by simpa using hm) => hnd'.1 (e ▸ List.getElem_mem _)
    simp only [List.zipIdx_cons, List.map_cons, List.getElem_cons_succ, List.filter_cons, ha, Bool.false_eq_true, if_false]
    rw [entries_zipIdx g us (o + 1) m (by simpa using hm) hnd'.2]
    congr 1; omega

theorem entries_rsOf (F : Frame) {ub : List Int} (hstrict : ub.Pairwise (· < ·)) (k : Nat) (hk : k < ub.length) :
    ((rsOf F ub).filter (·.1 == ub[k])).flatMap (·.2) =
      ub.zipIdx.flatMap fun x => if x.2 ≤ k ∧ k < x.2 + F.width then
        column (k - x.2) (F.rows.filter fun r => inWindow false true (loBound ub x.2) (.date x.1) r.1) else [] := by
  unfold rsOf
  rw [List.filter_flatMap, List.flatMap_assoc, slicesOf_zipIdx, List.flatMap_map]
  apply List.flatMap_congr
  intro x _
  have hnd : ((ub.drop x.2).take F.width).Nodup :=
    (hstrict.imp (fun h => Int.ne_of_lt h)).sublist ((List.take_sublist _ _).trans (List.drop_sublist _ _))
  split
  · rename_i hc
    have hm : k - x.2 < ((ub.drop x.2).take F.width).length := by
      simp only [List.length_take, List.length_drop]; omega
    have he : ((ub.drop x.2).take F.width)[k - x.2] = ub[k] := by
      simp only [List.getElem_take, List.getElem_drop]; congr 1; omega
    rw [← he, entries_zipIdx (fun j => column j _) _ 0 _ hm hnd, Nat.zero_add]
  · rename_i hc
    apply entries_zipIdx_of_not_mem (fun j => column j _)
    intro hmem
    obtain ⟨j, hj, hjk⟩ := List.mem_take_drop.mp hmem
    obtain ⟨hij, e⟩ := List.getElem?_eq_some_iff.mp hjk
    have := List.sorted_getElem_inj Int.lt_irrefl hstrict hij hk e
    omega

theorem column_pad (j W : Nat) (rows : Rows (List (Option Int))) (h : ∀ r ∈ rows, j < r.2.length) :
    column j (rows.map fun r => (r.1, padRow W r.2)) = column j rows := by
  simp only [column, List.map_map]
  apply List.map_congr_left
  intro r hr
  simp only [Function.comp, padRow, List.getElem?_append_left (h r hr)]

theorem column_zero_ofTS (s : TS) : column 0 (ofTS s) = s := by
  simp only [column, ofTS, List.map_map]
  exact (List.map_congr_left fun p _ => rfl).trans (List.map_id s)

theorem mem_nona {s : TS} {p : Int × Option Int} : p ∈ nona s ↔ p ∈ s ∧ p.2.isSome = true := List.mem_filter

theorem nona_flatMap {α} (l : List α) (g : α → TS) : nona (l.flatMap g) = l.flatMap fun x => nona (g x) :=
  List.filter_flatMap

theorem nona_of_nanfree (s : TS) (h : ∀ p ∈ s, p.2.isSome = true) : nona s = s := by
  unfold nona; rw [List.filter_eq_self]; exact h

theorem nona_filter (s : TS) (p : Int × Option Int → Bool) : (nona s).filter p = nona (s.filter p) := by
  simp only [nona, List.filter_filter]
  congr 1; funext x; exact Bool.and_comm _ _

theorem map_nona_of_nanfree (dfs : List TS) (h : ∀ s ∈ dfs, ∀ p ∈ s, p.2.isSome = true) : dfs.map nona = dfs :=
  (List.map_congr_left fun s hs => nona_of_nanfree s (h s hs)).trans (List.map_id dfs)

end Pyg.Slice
