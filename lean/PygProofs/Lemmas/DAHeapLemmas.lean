import PygModel.DAHeap
import PygProofs.Lemmas.DALemmas

namespace Pyg.DAHeap
open Pyg.DA
variable {V : Type} [TreeAdd V]

/-- the objects an operator can allocate: a `dictattr` operation applied to objects of the heap -/
inductive Made (heap : Heap V) : D V → Prop
  | new (cls : Nat) (items : List (String × V)) : Made heap ⟨cls, setAll [] items⟩
  | copy {d : D V} : d ∈ heap → Made heap d
  | subKey {d : D V} (k : String) : d ∈ heap → Made heap (subKey d k)
  | subKeys {d : D V} (ks : List String) : d ∈ heap → Made heap (subKeys d ks)
  | andKeys {d : D V} (ks : List String) : d ∈ heap → Made heap (andKeys d ks)
  | addC {d r : D V} (o : List (String × V)) : d ∈ heap → addC d o = .ok r → Made heap r
  | getList {d r : D V} (ks : List String) : d ∈ heap → getList d ks = .ok r → Made heap r
  | relabel {d : D V} (m : List (String × String)) : d ∈ heap → Made heap (relabel d m)

/-- what an in-place operation can leave in a target that held `d` -/
inductive Written (d : D V) : D V → Prop
  | same : Written d d
  | set (k : String) (v : V) : Written d { d with items := set k v d.items }
  | del (k : String) : Written d (subKey d k)

omit [TreeAdd V] in
theorem deref_eq_ok {heap : Heap V} {h : Nat} {d : D V} : deref heap h = .ok d ↔ heap[h]? = some d := by
  unfold deref
  cases heap[h]? with
  | none => exact ⟨(fun e => nomatch e), fun e => nomatch e⟩
  | some d' => exact ⟨fun e => by cases e; rfl, fun e => by cases e; rfl⟩

omit [TreeAdd V] in
theorem asAttr_eq_ok {α : Type} {r : Res α} {a : α} : asAttr r = .ok a ↔ r = .ok a := by
  unfold asAttr
  split
  · exact ⟨(fun e => nomatch e), fun e => nomatch e⟩
  · rfl

omit [TreeAdd V] in
theorem delKey_eq_ok {d d' : D V} {k : String} (h : delKey d k = .ok d') : d' = subKey d k := by
  unfold delKey at h
  split at h
  · cases h; rfl
  · cases h

theorem step_setItem {heap : Heap V} {h : Nat} {d : D V} (hd : heap[h]? = some d) (k : String) (v : V) :
    step heap (.setItem h k v) = .ok (heap.set h { d with items := set k v d.items }, .unit) := by
  simp only [step, deref, hd, bind, Except.bind, pure, Except.pure]

theorem step_delItem {heap : Heap V} {h : Nat} {d : D V} (hd : heap[h]? = some d) (k : String) :
    step heap (.delItem h k) = (delKey d k).map fun d' => (heap.set h d', .unit) := by
  simp only [step, deref, hd, bind, Except.bind, pure, Except.pure]
  cases delKey d k <;> rfl

theorem step_effect {heap heap' : Heap V} {op : Op V} {out : Out V}
    (h : step heap op = .ok (heap', out)) : HeapStep (fun d => op.target = none ∧ Made heap d) Written heap op.target heap' := by
  -- per operation, `h` becomes the chain of its successful binds: the object(s) found at the handle(s), the result computed
  -- from them, and the equations that give `heap'` and `out`
  cases op <;>
    simp only [step, alloc, Res.bind_eq_ok, deref_eq_ok, asAttr_eq_ok, pure, Except.pure, Except.ok.injEq, Prod.mk.injEq] at h
  case new cls items => obtain ⟨rfl, rfl⟩ := h; exact .alloc _ ⟨rfl, .new cls items⟩
  case copy t => obtain ⟨d, hd, rfl, rfl⟩ := h; exact .alloc _ ⟨rfl, .copy (List.mem_of_getElem? hd)⟩
  case subK t k => obtain ⟨d, hd, rfl, rfl⟩ := h; exact .alloc _ ⟨rfl, .subKey k (List.mem_of_getElem? hd)⟩
  case subKs t ks => obtain ⟨d, hd, rfl, rfl⟩ := h; exact .alloc _ ⟨rfl, .subKeys ks (List.mem_of_getElem? hd)⟩
  case andKs t ks => obtain ⟨d, hd, rfl, rfl⟩ := h; exact .alloc _ ⟨rfl, .andKeys ks (List.mem_of_getElem? hd)⟩
  case add t o => obtain ⟨d, hd, r, hr, rfl, rfl⟩ := h; exact .alloc _ ⟨rfl, .addC o (List.mem_of_getElem? hd) hr⟩
  case addH t g => obtain ⟨d, hd, o, _, r, hr, rfl, rfl⟩ := h; exact .alloc _ ⟨rfl, .addC o.items (List.mem_of_getElem? hd) hr⟩
  case getL t ks => obtain ⟨d, hd, r, hr, rfl, rfl⟩ := h; exact .alloc _ ⟨rfl, .getList ks (List.mem_of_getElem? hd) hr⟩
  case relabel t m => obtain ⟨d, hd, rfl, rfl⟩ := h; exact .alloc _ ⟨rfl, .relabel m (List.mem_of_getElem? hd)⟩
  case setItem t k v => obtain ⟨d, hd, rfl, rfl⟩ := h; exact .write t d _ rfl hd (.set k v)
  case setAttr t k v =>
    obtain ⟨d, hd, h⟩ := h
    split at h <;> cases h
    · exact .write t d _ rfl hd .same
    · exact .write t d _ rfl hd (.set k v)
  case delItem t k | delAttr t k => obtain ⟨d, hd, d', hk, rfl, rfl⟩ := h; exact .write t d _ rfl hd (delKey_eq_ok hk ▸ .del k)
  case getItem t k | getT t ks => obtain ⟨_, _, _, _, rfl, _⟩ := h; exact .same
  case getAttr t k =>
    obtain ⟨d, _, h⟩ := h
    split at h
    · cases h; exact .same
    · obtain ⟨_, _, h⟩ := Res.bind_eq_ok.1 h; cases h; exact .same
  case keys t => obtain ⟨_, _, rfl, _⟩ := h; exact .same

theorem Made.keys_nodup [LawfulTreeAdd V] {heap : Heap V} {d : D V} (inv : ∀ d ∈ heap, (keys d).Nodup)
    (h : Made heap d) : (keys d).Nodup := by
  cases h with
  | new cls items | andKeys ks hd | relabel m hd => exact setAll_keys_nodup _ [] List.nodup_nil
  | copy hd => exact inv _ hd
  | subKey k hd => rw [keys_subKey]; exact (inv _ hd).sublist List.filter_sublist
  | subKeys ks hd => rw [keys_subKeys]; exact (inv _ hd).sublist List.filter_sublist
  | addC o hd hr =>
    rcases addC_eq_ok hr with ⟨kvs, hm, rfl⟩ | rfl
    · exact LawfulTreeAdd.keys_nodup _ _ _ (inv _ hd) hm
    · exact setAll_keys_nodup o _ (inv _ hd)
  | getList ks hd hr =>
    obtain ⟨vs, _, h⟩ := Res.bind_eq_ok.1 hr
    cases h
    exact setAll_keys_nodup vs [] List.nodup_nil

omit [TreeAdd V] in
theorem Written.cls {d d' : D V} (h : Written d d') : d'.cls = d.cls := by
  cases h <;> rfl

omit [TreeAdd V] in
theorem Written.keys_nodup {d d' : D V} (hd : (keys d).Nodup) (h : Written d d') : (keys d').Nodup := by
  cases h with
  | same => exact hd
  | set k v => exact nodup_keys_set k v d.items hd
  | del k => rw [keys_subKey]; exact hd.sublist List.filter_sublist

theorem exec_effect (heap : Heap V) (op : Op V) : HeapStep (fun d => op.target = none ∧ Made heap d) Written heap op.target (exec heap op) := by
  unfold exec
  cases h : step heap op with
  | error e => exact .same
  | ok r => exact step_effect (out := r.2) h

theorem exec_keys_nodup [LawfulTreeAdd V] (heap : Heap V) (op : Op V) (inv : ∀ d ∈ heap, (keys d).Nodup) :
    ∀ d ∈ exec heap op, (keys d).Nodup :=
  (exec_effect heap op).forall_mem inv (fun _ h => h.2.keys_nodup inv) fun _ _ hd h => h.keys_nodup hd

end Pyg.DAHeap
