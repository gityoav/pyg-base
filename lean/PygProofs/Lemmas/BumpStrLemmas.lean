/-
  From the text of a tenor to the step it performs (C09): the decimal numeral Python's `'%d' % n` writes, read back by the
  model's char-level tokenizer, so that theorems can be stated on `bumpStr t "<n><unit>"`, the string a caller passes.
-/
import PygProofs.Lemmas.TokenLemmas

namespace Pyg.Bump
open Pyg Pyg.Gen

/-- `'%d' % n` (= `str(n)`): optional minus sign, then the decimal digits of `|n|` without leading zeros -/
def numText (n : Int) : List Char :=
  (if n < 0 then ['-'] else []) ++ (Nat.repr n.natAbs).toList

/-- the characters of `'%d%s' % (n, u)` -/
def tenorCs (n : Int) (u : Char) : List Char := numText n ++ [u]

/-- the string `'%d%s' % (n, u)`, e.g. `tenor (-3) 'b' = "-3b"` -/
def tenor (n : Int) (u : Char) : String := String.ofList (tenorCs n u)

/-- a compound tenor: the parts written one after the other, e.g. `"1y-3m2d"` -/
def tenors (ps : List (Int × Char)) : String := String.ofList (ps.flatMap fun p => tenorCs p.1 p.2)

example : tenor (-3) 'b' = "-3b" ∧ tenor 0 'd' = "0d" ∧ tenor 60 'y' = "60y" := by decide
example : tenors [(1, 'y'), (-3, 'm'), (2, 'd')] = "1y-3m2d" := by decide

/-- `int(str(n)) = n` on naturals: the model's `int(<digits>)` reads back the decimal numeral core Lean prints -/
theorem digitsVal_repr (n : Nat) : digitsVal (Nat.repr n).toList = n := by
  rw [Nat.toList_repr]
  have h : ∀ ds, digitsVal ds = Nat.ofDigitChars 10 ds 0 := fun ds => rfl
  rw [h]; exact Nat.ofDigitChars_ten_toDigits

theorem digitsVal_zeros (z : Nat) (ds : List Char) : digitsVal (List.replicate z '0' ++ ds) = digitsVal ds := by
  unfold digitsVal
  induction z with
  | zero => rfl
  | succ z ih => simp only [List.replicate_succ, List.cons_append, List.foldl_cons]; exact ih

theorem repr_digits (n : Nat) : ∀ c ∈ (Nat.repr n).toList, c.isDigit = true := by
  intro c hc
  rw [Nat.toList_repr] at hc
  exact Nat.isDigit_of_mem_toDigits (by decide) (by decide) hc

theorem repr_ne_nil (n : Nat) : (Nat.repr n).toList ≠ [] := by
  rw [Nat.toList_repr]; exact Nat.toDigits_ne_nil

/-- the token `'%d%s' % (n, u)` as the tokenizer lemmas see it -/
def numTok (n : Int) (u : Char) : Tok := ⟨if n < 0 then .minus else .none, (Nat.repr n.natAbs).toList, u⟩

theorem numTok_text (n : Int) (u : Char) : (numTok n u).text = tenorCs n u := by
  unfold numTok Tok.text tenorCs numText
  by_cases h : n < 0 <;> simp [h]

theorem numTok_wf (n : Int) (u : Char) (hu : u ∈ Gen.periodUnits) : (numTok n u).WF :=
  Tok.wf_mk _ _ u (repr_ne_nil _) (repr_digits _) hu

theorem numTok_value (n : Int) (u : Char) : (numTok n u).value = n := by
  unfold numTok Tok.value
  by_cases h : n < 0 <;> simp only [h, if_true, if_false, digitsVal_repr] <;> omega

theorem tenors_single (n : Int) (u : Char) : tenors [(n, u)] = tenor n u := by
  unfold tenors tenor; rw [List.flatMap_singleton]

theorem tenors_text (ps : List (Int × Char)) :
    tenors ps = String.ofList ((ps.map fun p => numTok p.1 p.2).flatMap Tok.text) := by
  unfold tenors; rw [List.flatMap_map]; congr 2; funext p; exact (numTok_text p.1 p.2).symm

/-- the text `[-]digits ++ [unit]` is one token of the `period` regex, whatever follows it -/
theorem nextToken_tenor (n : Int) (u : Char) (hu : u ∈ Gen.periodUnits) (rest : List Char) :
    nextToken (tenorCs n u ++ rest) = some (n, u, rest) := by
  rw [← numTok_text, nextToken_text _ (numTok_wf n u hu), numTok_value]; rfl

/-- a lower-case unit letter of the `period` regex -/
def LowerUnit (u : Char) : Prop := u ∈ Gen.periodUnits ∧ u.toLower = u

instance (u : Char) : Decidable (LowerUnit u) := by unfold LowerUnit; infer_instance

example : LowerUnit 'b' ∧ LowerUnit 'q' ∧ ¬ LowerUnit 'B' := by decide

theorem toLower_unit : ∀ u ∈ Gen.periodUnits, u.toLower ∈ Gen.periodUnits ∧ u.toLower.toLower = u.toLower := by decide

theorem resolveNamed_num (c : Char) (r : List Char) (h : c.isDigit = true ∨ c = '-' ∨ c = '+') :
    resolveNamed (c :: r) = c :: r := by
  have named_heads : ∀ kv ∈ Gen.namedTenors,
      (match kv.1.toList with | c :: _ => !c.isDigit && c != '-' && c != '+' | [] => false) = true := by decide
  unfold resolveNamed
  have : Gen.namedTenors.find? (fun kv => kv.1.toList == c :: r) = none := by
    rw [List.find?_eq_none]
    intro kv hkv
    have hh := named_heads kv hkv
    cases e : kv.1.toList with
    | nil => simp
    | cons c' r' =>
      rw [e] at hh
      simp only [Bool.and_eq_true, Bool.not_eq_eq_eq_not, Bool.not_true, bne_iff_ne, ne_eq] at hh
      simp only [beq_iff_eq, List.cons.injEq, not_and]
      intro hc; subst hc
      rcases h with h | h | h
      · rw [h] at hh; cases hh.1.1
      · exact absurd h hh.1.2
      · exact absurd h hh.2
  rw [this]

theorem resolveNamed_nil : resolveNamed [] = [] := by decide

end Pyg.Bump
