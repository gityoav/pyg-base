/-
  C05: calendar objects with a lazily built table (PygModel/Calendar.lean `CalObj`, `ObjRegistry`): the table of an object
  is never stale, so an object answers what the calendar value answers; registry frame lemmas for objects.
-/
import PygProofs.Lemmas.CalendarLemmas

namespace Pyg.Calendar
open Pyg

/-- the table of an object, if built, is the table of its own configuration -/
def CalObj.WF (o : CalObj) : Prop := o.tbl = none ∨ o.tbl = some o.cal.bdays

theorem CalObj.fresh_wf (c : Cal) : (CalObj.fresh c).WF := Or.inl rfl

theorem CalObj.table_of_wf (o : CalObj) (h : o.WF) : o.table = o.cal.bdays := by
  unfold CalObj.table
  rcases h with h | h <;> rw [h]

theorem CalObj.populate_cal (o : CalObj) : o.populate.cal = o.cal := by
  unfold CalObj.populate; split <;> rfl

theorem CalObj.populate_wf (o : CalObj) (h : o.WF) : o.populate.WF := by
  unfold CalObj.populate
  split
  · exact h
  · exact Or.inr rfl

theorem CalObj.populate_table (o : CalObj) (h : o.WF) : o.populate.table = o.cal.bdays := by
  rw [CalObj.table_of_wf _ (CalObj.populate_wf o h), CalObj.populate_cal]

/-- an operation leaves the object alone or calls `_populate()` -/
theorem CalObj.use_fst (o : CalObj) (u : Use) : (o.use u).1 = o ∨ (o.use u).1 = o.populate := by
  cases u with
  | isb t => exact Or.inl rfl
  | adjust a t => exact Or.inl rfl
  | add a t n =>
    simp only [CalObj.use]
    split
    · exact Or.inr rfl
    · exact Or.inl rfl
  | bdays a x y => exact Or.inr rfl
  | drange x y b => exact Or.inr rfl
  | clock t => exact Or.inr rfl

theorem CalObj.use_cal (o : CalObj) (u : Use) : (o.use u).1.cal = o.cal := by
  rcases o.use_fst u with e | e
  · rw [e]
  · rw [e, CalObj.populate_cal]

theorem CalObj.use_wf (o : CalObj) (h : o.WF) (u : Use) : (o.use u).1.WF := by
  rcases o.use_fst u with e | e
  · rw [e]; exact h
  · rw [e]; exact CalObj.populate_wf o h

/-- the single-step path of `add` does not read the table -/
theorem addT_small (c : Cal) (t1 t2 : List Int) (a : Adj) (t n : Int) (h : ¬ n.natAbs > 1) : c.addT t1 a t n = c.addT t2 a t n := by
  unfold Cal.addT; simp only [h, if_false]

/-- an object whose table is not stale answers every operation as the calendar value does -/
theorem CalObj.use_ans (o : CalObj) (h : o.WF) (u : Use) : (o.use u).2 = o.cal.use u := by
  cases u with
  | isb t => rfl
  | adjust a t => rfl
  | add a t n =>
    simp only [CalObj.use, Cal.use, Cal.add]
    split
    · simp only [CalObj.populate_table o h]
    · next hn => simp only [addT_small o.cal [] o.cal.bdays a t n hn]
  | bdays a x y => simp only [CalObj.use, Cal.use, Cal.bdaysBetween, CalObj.populate_table o h]
  | drange x y b => simp only [CalObj.use, Cal.use, Cal.drangeB, CalObj.populate_table o h]
  | clock t => simp only [CalObj.use, Cal.use, Cal.clock, CalObj.populate_table o h]

theorem oget?_set_same (r : ObjRegistry) (k : String) (o : CalObj) : (r.set k o).get? k = some o := by
  unfold ObjRegistry.set ObjRegistry.get?
  rw [List.find?_key_map_snd, List.lookup_cons_filter, if_pos rfl]

theorem oget?_set_other (r : ObjRegistry) (k k' : String) (o : CalObj) (h : k' ≠ k) :
    (r.set k' o).get? k = r.get? k := by
  unfold ObjRegistry.set ObjRegistry.get?
  rw [List.find?_key_map_snd, List.find?_key_map_snd, List.lookup_cons_filter, if_neg (Ne.symm h)]

theorem ocalendar_fetch (month : Int → Int) (r : ObjRegistry) (k : String) (o : CalObj) (h : r.get? k = some o) :
    r.calendar month k ⟨none, none, none, none⟩ = (r, o) := by
  simp [ObjRegistry.calendar, h, CalArgs.isDefault]

theorem ocalendar_register (month : Int → Int) (r : ObjRegistry) (k : String) (a : CalArgs)
    (h : a.isDefault = false ∨ r.get? k = none) :
    ((r.calendar month k a).1).get? k = some (CalObj.fresh (mkCal month a)) := by
  unfold ObjRegistry.calendar
  rcases h with h | h
  · cases hg : r.get? k <;> simp [h, oget?_set_same]
  · simp [h, oget?_set_same]

theorem ocalendar_frame (month : Int → Int) (r : ObjRegistry) (k k' : String) (a : CalArgs) (o : CalObj)
    (hk : r.get? k = some o) (h : k' = k → a.isDefault = true) :
    ((r.calendar month k' a).1).get? k = some o := by
  unfold ObjRegistry.calendar
  by_cases e : k' = k
  · subst e
    simp [hk, h rfl]
  · cases hg : r.get? k' <;> cases hd : a.isDefault <;> simp [oget?_set_other r k k' _ e, hk]

end Pyg.Calendar
