/-
  C12, arrays and `nona(x, edge)`: the values `fillna` computes do not depend on which strictly increasing index labels the
  rows, and on such an index the label slices of `edge = ±1` are the rows up to the last / from the first one holding a value.
-/
import PygProofs.Lemmas.FillLemmas

namespace Pyg.Fill

/-- two rectangular frames with the same column values over (possibly different) sorted indices of one length -/
structure Same (f g : Frame) : Prop where
  vals : f.vals = g.vals
  len : f.idx.length = g.idx.length
  sf : f.Sorted
  sg : g.Sorted
  rf : f.Rect

theorem Same.rg {f g : Frame} (h : Same f g) : g.Rect := by
  intro c hc
  have : c.2 ∈ g.vals := List.mem_map_of_mem hc
  rw [← h.vals] at this
  obtain ⟨c', hc', e⟩ := List.mem_map.mp this
  rw [← e, h.rf c' hc', h.len]

theorem vals_mapCols (h : Col → Col) (f : Frame) : (f.mapCols h).vals = f.vals.map h := by
  simp [Frame.vals, Frame.mapCols, List.map_map, Function.comp_def]

theorem vals_gather (pos : List Nat) (f : Frame) :
    (f.gather pos).vals = f.vals.map fun c => pos.map fun i => c.getD i Option.none := by
  simp [Frame.vals, Frame.gather, List.map_map, Function.comp_def]

theorem rowValid_vals (f : Frame) (i : Nat) :
    f.rowValid i = f.vals.any fun c => (c.getD i Option.none).isSome := by
  simp [Frame.rowValid, Frame.vals, List.any_map, Function.comp_def]

theorem rect_vals {f : Frame} (hr : f.Rect) {c : Col} (hc : c ∈ f.vals) : c.length = f.idx.length := by
  obtain ⟨c', hc', e⟩ := List.mem_map.mp hc
  rw [← e]; exact hr c' hc'

theorem Same.mapCols {f g : Frame} (h : Same f g) (k k' : Col → Col)
    (hk : ∀ c ∈ f.vals, k c = k' c) (hlen : ∀ c ∈ f.vals, (k c).length = c.length) :
    Same (f.mapCols k) (g.mapCols k') := by
  refine ⟨?_, h.len, h.sf, h.sg, ?_⟩
  · rw [vals_mapCols, vals_mapCols, ← h.vals]; exact List.map_congr_left hk
  · intro c hc
    simp only [Frame.mapCols, List.mem_map] at hc
    obtain ⟨c', hc', rfl⟩ := hc
    have : c'.2 ∈ f.vals := List.mem_map_of_mem hc'
    simp only [hlen _ this]; exact h.rf c' hc'

theorem Same.gather {f g : Frame} (h : Same f g) (pos : List Nat)
    (hp : pos.Pairwise (· < ·)) (hb : ∀ i ∈ pos, i < f.idx.length) :
    Same (f.gather pos) (g.gather pos) := by
  refine ⟨?_, ?_, ?_, ?_, Frame.rect_gather _ _⟩
  · rw [vals_gather, vals_gather, h.vals]
  · exact (Frame.nrows_gather f pos).trans (Frame.nrows_gather g pos).symm
  · exact List.sorted_map_getD 0 h.sf hp hb
  · exact List.sorted_map_getD 0 h.sg hp (fun i hi => by rw [← h.len]; exact hb i hi)

theorem Same.gather_sublist {f g : Frame} (h : Same f g) {pos : List Nat} (hp : pos.Sublist (List.range f.nrows)) :
    Same (f.gather pos) (g.gather pos) :=
  h.gather pos (List.pairwise_lt_range.sublist hp) fun _ hi => List.mem_range.mp (hp.subset hi)

theorem Same.rowValid {f g : Frame} (h : Same f g) : f.rowValid = g.rowValid := by
  funext i; rw [rowValid_vals, rowValid_vals, h.vals]

theorem Same.nrows {f g : Frame} (h : Same f g) : f.nrows = g.nrows := h.len

theorem Same.allNaN_eq {f g : Frame} (h : Same f g) :
    f.cols.all (fun c => (lastValidTime f.idx c.2).isNone) = g.cols.all (fun c => (lastValidTime g.idx c.2).isNone) := by
  have e : ∀ k : Frame, k.cols.all (fun c => (lastValidTime k.idx c.2).isNone) =
      (k.vals.map fun c => (lastValidTime k.idx c).isNone).all id := fun k => by
    rw [Frame.vals, List.map_map, List.all_map]
    rfl
  rw [e f, e g, ← h.vals]
  exact congrArg (List.all · id) (List.map_congr_left fun c hc =>
    lastValidTime_isNone_indep _ _ _ (rect_vals h.rf hc).symm (h.len ▸ (rect_vals h.rf hc).symm))

theorem step_same (lim : Option Nat) (m : Method) {f g : Frame} (h : Same f g) :
    ResRel Same (step lim f m) (step lim g m) := by
  by_cases hm : m = .fnna ∨ m = .nona
  · obtain ⟨P, hP, e⟩ := step_gather_sorted lim hm
    rw [e f h.sf, e g h.sg, ← h.rowValid, ← h.nrows]
    exact h.gather_sublist (hP _ _)
  · rcases Method.filling_cases ⟨fun e => hm (.inl e), fun e => hm (.inr e)⟩ with hm' | hm'
    · obtain ⟨k, hl, _, e⟩ := step_label_free lim hm'
      rw [e f, e g]
      exact ResRel.ite rfl (h.mapCols k k (fun _ _ => rfl) fun c _ => hl c)
    · obtain ⟨inv, e⟩ := step_tail lim hm'
      rw [e f, e g]
      exact ResRel.ite (congrArg (limOk lim || ·) h.allNaN_eq) (h.mapCols _ _
        (fun c hc => ffillTail_indep _ _ _ _ _ h.sf h.sg (rect_vals h.rf hc).symm (h.len ▸ (rect_vals h.rf hc).symm))
        fun c hc => ffillTail_length _ _ _ _ (rect_vals h.rf hc).symm)

theorem step_wellformed {lim : Option Nat} {m : Method} {f g : Frame} (hs : f.Sorted) (hr : f.Rect)
    (h : step lim f m = .ok g) : g.Sorted ∧ g.Rect := by
  have := step_same lim m (f := f) (g := f) ⟨rfl, rfl, hs, hs, hr⟩
  rw [h] at this
  exact ⟨this.sf, this.rf⟩

theorem fillna_same (lim : Option Nat) (ms : List Method) {f g : Frame} (h : Same f g) :
    ResRel Same (fillna ms lim f) (fillna ms lim g) :=
  foldlM_rel (fun m _ _ => step_same lim m) ms h

theorem vals_ofArr (cols : List Col) : (ofArr cols).vals = cols := by
  simp only [Frame.vals, ofArr, List.map_map]
  have : ((fun (c : String × Col) => c.2) ∘ fun (x : Col × Nat) => (toString x.2, x.1)) = fun x => x.1 := by
    funext x; rfl
  rw [this, List.zipIdx_map_fst]

theorem same_ofArr (f : Frame) (hs : f.Sorted) (hr : f.Rect) (hne : f.cols ≠ []) : Same f (ofArr f.vals) := by
  refine ⟨(vals_ofArr _).symm, ?_, hs, List.sorted_range _, hr⟩
  cases hc : f.cols with
  | nil => exact (hne hc).elim
  | cons c cs =>
    have := hr c (by rw [hc]; simp)
    simp [ofArr, Frame.vals, hc, this]

/-- the dispatch on `edge` common to `nona`, `nonaArrE` and their store versions: `a` without an edge or when no row
survives, `b` for `edge = 1`, `c` for `edge = -1` -/
def edgeCases {α : Type} (edge : Option Int) (empty : Bool) (a b c : α) : Res α :=
  match edge with
  | Option.none => .ok a
  | some e => if empty then .ok a else if e == 1 then .ok b else if e == -1 then .ok c else .error .other

theorem nona_eq_edgeCases (edge : Option Int) (f : Frame) :
    nona edge f = edgeCases edge (f.gather ((List.range f.nrows).filter f.rowValid)).idx.isEmpty
      (f.gather ((List.range f.nrows).filter f.rowValid))
      (f.gather ((List.range f.nrows).filter fun i =>
        decide (f.idx.getD i 0 ≤ (f.gather ((List.range f.nrows).filter f.rowValid)).idx.getLastD 0)))
      (f.gather ((List.range f.nrows).filter fun i =>
        decide (f.idx.getD i 0 ≥ (f.gather ((List.range f.nrows).filter f.rowValid)).idx.headD 0))) := rfl

theorem nonaArrE_eq_edgeCases (edge : Option Int) (cols : List Col) :
    nonaArrE edge cols = edgeCases edge ((List.range (ofArr cols).nrows).filter (ofArr cols).rowValid).isEmpty (nonaArr cols)
      (cols.map fun c => c.take (((List.range (ofArr cols).nrows).filter (ofArr cols).rowValid).getLastD 0 + 1))
      (cols.map fun c => c.drop (((List.range (ofArr cols).nrows).filter (ofArr cols).rowValid).headD 0)) := rfl

theorem edgeCases_empty {α : Type} (edge : Option Int) (a b c : α) : edgeCases edge true a b c = .ok a := by
  cases edge <;> rfl

theorem edgeCases_last {α : Type} (a b c : α) : edgeCases (some 1) false a b c = .ok b := rfl

theorem edgeCases_first {α : Type} (a b c : α) : edgeCases (some (-1)) false a b c = .ok c := rfl

theorem edgeCases_other {α : Type} {e : Int} (h1 : e ≠ 1) (h2 : e ≠ -1) (a b c : α) :
    edgeCases (some e) false a b c = .error .other := by
  have e1 : (e == 1) = false := beq_false_of_ne h1
  have e2 : (e == -1) = false := beq_false_of_ne h2
  simp only [edgeCases, e1, e2, Bool.false_eq_true, if_false]

theorem edgeCases_congr {α : Type} {edge : Option Int} {empty empty' : Bool} {a b c a' b' c' : α} (he : empty = empty')
    (ha : a = a') (hb : empty = false → b = b') (hc : empty = false → c = c') :
    edgeCases edge empty a b c = edgeCases edge empty' a' b' c' := by
  subst he ha
  cases empty with
  | true => rw [edgeCases_empty, edgeCases_empty]
  | false => rw [hb rfl, hc rfl]

theorem edgeCases_map {α β : Type} (g : α → β) (edge : Option Int) (empty : Bool) (a b c : α) :
    (edgeCases edge empty a b c).map g = edgeCases edge empty (g a) (g b) (g c) := by
  cases edge with
  | none => rfl
  | some e =>
    cases empty with
    | true => rfl
    | false =>
      by_cases h1 : e = 1
      · subst h1; rfl
      · by_cases h2 : e = -1
        · subst h2; rfl
        · rw [edgeCases_other h1 h2, edgeCases_other h1 h2]; rfl

theorem edgeCases_ok {α : Type} {edge : Option Int} {empty : Bool} {a b c x : α} (h : edgeCases edge empty a b c = .ok x) :
    (x = a ∧ ∀ {β : Type} (a' b' c' : β), edgeCases edge empty a' b' c' = .ok a') ∨
    (x = b ∧ ∀ {β : Type} (a' b' c' : β), edgeCases edge empty a' b' c' = .ok b') ∨
    (x = c ∧ ∀ {β : Type} (a' b' c' : β), edgeCases edge empty a' b' c' = .ok c') := by
  cases edge with
  | none => cases h; exact .inl ⟨rfl, fun _ _ _ => rfl⟩
  | some e =>
    cases empty with
    | true => cases h; exact .inl ⟨rfl, fun _ _ _ => rfl⟩
    | false =>
      by_cases h1 : e = 1
      · subst h1; cases h; exact .inr (.inl ⟨rfl, fun _ _ _ => rfl⟩)
      · by_cases h2 : e = -1
        · subst h2; cases h; exact .inr (.inr ⟨rfl, fun _ _ _ => rfl⟩)
        · rw [edgeCases_other h1 h2] at h; cases h

theorem nona_no_valid (edge : Option Int) {f : Frame} (h : (List.range f.nrows).filter f.rowValid = []) :
    nona edge f = .ok (f.gather []) := by
  rw [nona_eq_edgeCases, h]
  exact edgeCases_empty _ _ _ _

namespace Frame

theorem vals_gather_take (f : Frame) (hr : f.Rect) (q : Nat) :
    (f.gather ((List.range f.nrows).take q)).vals = f.vals.map fun c => c.take q := by
  rw [vals_gather]
  refine List.map_congr_left fun c hc => ?_
  have hl : c.length = f.nrows := rect_vals hr hc
  rw [← hl, List.map_take, List.map_getD_range]

theorem vals_gather_drop (f : Frame) (hr : f.Rect) (q : Nat) :
    (f.gather ((List.range f.nrows).drop q)).vals = f.vals.map fun c => c.drop q := by
  rw [vals_gather]
  refine List.map_congr_left fun c hc => ?_
  have hl : c.length = f.nrows := rect_vals hr hc
  rw [← hl, List.map_drop, List.map_getD_range]

theorem isEmpty_idx_gather (f : Frame) (pos : List Nat) : (f.gather pos).idx.isEmpty = pos.isEmpty :=
  List.isEmpty_map

/-- `df.loc[:res.index[-1]]` on a sorted index: the rows up to the last one holding a value -/
theorem filter_le_last (f : Frame) (hs : f.Sorted) (hne : (List.range f.nrows).filter f.rowValid ≠ []) :
    ((List.range f.nrows).filter fun i =>
      decide (f.idx.getD i 0 ≤ (f.gather ((List.range f.nrows).filter f.rowValid)).idx.getLastD 0)) =
    (List.range f.nrows).take (((List.range f.nrows).filter f.rowValid).getLastD 0 + 1) := by
  rw [show (f.gather _).idx.getLastD 0 = _ from List.getLastD_map_of_ne_nil _ 0 0 hne]
  exact filter_label_le f hs _ (List.getLastD_filter_range f.nrows f.rowValid hne).1

/-- `df.loc[res.index[0]:]` on a sorted index: the rows from the first one holding a value on -/
theorem filter_ge_first (f : Frame) (hs : f.Sorted) (hne : (List.range f.nrows).filter f.rowValid ≠ []) :
    ((List.range f.nrows).filter fun i =>
      decide (f.idx.getD i 0 ≥ (f.gather ((List.range f.nrows).filter f.rowValid)).idx.headD 0)) =
    (List.range f.nrows).drop (((List.range f.nrows).filter f.rowValid).headD 0) := by
  rw [show (f.gather _).idx.headD 0 = _ from List.headD_map_of_ne_nil _ 0 0 hne]
  exact filter_label_ge f hs _ (List.headD_filter_range f.nrows f.rowValid hne).1

end Frame

end Pyg.Fill
