/-
  What a column computed row by row becomes (`set_of_mapE_rows`: derived columns, `do`); the dependency loop of
  `d(**kwargs)` and `update`: in which order, with which error.
-/
import PygProofs.Lemmas.TableCons

namespace Pyg
theorem Fn.eval_error {f : Fn} {row : String → Option Cell} {e : Err} (h : f.eval row = .error e) : e = .type := by
  cases f <;> simp only [Fn.eval] at h
  · split at h <;> cases h; rfl
  · split at h <;> cases h; rfl
  · split at h <;> cases h; rfl
  · cases h

namespace Table

theorem set_of_mapE_rows {t : Table} {n : Nat} (hr : t.Rect n) (hne : t ≠ []) {g : Nat → Except Err Cell}
    {vs : List Cell} (hvs : mapE g (List.range t.nrows) = .ok vs) (k : String) :
    t.setitem k (.many vs) = .ok (t.set k vs) ∧ (t.set k vs).col? k = some vs ∧ vs.length = n ∧
      (∀ i (hi : i < vs.length), g i = .ok vs[i]) ∧
      (∀ k', k' ≠ k → (t.set k vs).col? k' = t.col? k') ∧ (t.set k vs).Rect n := by
  obtain ⟨hlen, hset⟩ := setitem_of_mapE_rows hr hne hvs k
  refine ⟨hset, by simp [col?_set], hlen, ?_, fun k' hk' => by simp [col?_set, hk'], set_rect hr hlen⟩
  intro i hi
  have := mapE_ok_getElem hvs i (by simpa [mapE_ok_length hvs] using hi) hi
  simpa using this

/-- dependency order of an evaluation sequence: no callable reads a key that a LATER callable defines -/
def DepOrder (order : List (String × Fn)) : Prop :=
  order.Pairwise fun kf later => later.1 ∉ kf.2.args

theorem setFns_append (t : Table) (a b : List (String × Fn)) :
    t.setFns (a ++ b) = match t.setFns a with
      | .error e => .error e
      | .ok t' => t'.setFns b := by
  induction a generalizing t with
  | nil => rfl
  | cons kf a ih =>
    simp only [List.cons_append, setFns]
    cases t.setFn kf with
    | error e => rfl
    | ok t1 => exact ih t1

theorem filter_not_any_key {fns : List (String × Fn)} (hn : (fns.map (·.1)).Nodup) (p : String × Fn → Bool) :
    fns.filter (fun kf => !((fns.filter p).any (·.1 == kf.1))) = fns.filter (fun kf => !p kf) := by
  apply List.filter_congr
  intro kf hkf
  congr 1
  rw [Bool.eq_iff_iff, List.any_eq_true]
  constructor
  · rintro ⟨kf', hkf', hk⟩
    obtain ⟨hm, hp'⟩ := List.mem_filter.1 hkf'
    rwa [List.eq_of_nodup_map hn kf' hm kf hkf (by simpa using hk)] at hp'
  · exact fun hp => ⟨kf, List.mem_filter.2 ⟨hkf, hp⟩, by simp⟩

theorem indepFns_reads {fns : List (String × Fn)} {kf kf' : String × Fn} (hkf : kf ∈ indepFns fns) (hkf' : kf' ∈ fns) :
    kf'.1 ∉ kf.2.args := by
  intro hmem
  have := List.all_eq_true.1 (List.mem_filter.1 hkf).2 _ hmem
  rw [List.contains_iff_mem.2 (List.mem_map.2 ⟨kf', hkf', rfl⟩)] at this
  cases this

theorem callLoop_order (fuel : Nat) (res t' : Table) (fns : List (String × Fn))
    (hn : (fns.map (·.1)).Nodup) (hf : fns.length ≤ fuel) (h : res.callLoop fuel fns = .ok t') :
    ∃ order, order.Perm fns ∧ res.setFns order = .ok t' ∧ DepOrder order := by
  refine callLoop_induct (motive := fun fuel res fns r => (fns.map (·.1)).Nodup → fns.length ≤ fuel → ∀ t', r = .ok t' →
    ∃ order, order.Perm fns ∧ res.setFns order = .ok t' ∧ DepOrder order) ?_ ?_ ?_ ?_ fuel res fns hn hf t' h
  · intro fuel res fns h01 _ hf t' h
    refine ⟨fns, List.Perm.refl _, h, ?_⟩
    have hlen : fns.length ≤ 1 := h01.elim (fun h0 => by omega) id
    match fns, hlen with
    | [], _ => exact List.Pairwise.nil
    | [kf], _ => exact List.pairwise_singleton _ _
    | _ :: _ :: _, hlen => exact absurd hlen (by simp)
  · exact fun _ _ _ _ _ _ _ _ h => nomatch h
  · exact fun _ _ _ _ _ _ _ _ _ _ h => nomatch h
  · intro fuel res fns res' _ hne hres ih hn hf t' h
    have hperm : (indepFns fns ++ restFns fns).Perm fns := by
      rw [restFns, indepFns, filter_not_any_key hn]
      exact List.filter_append_perm _ fns
    have hlen' : (restFns fns).length ≤ fuel := by
      have h1 := hperm.length_eq
      have h2 := List.length_pos_iff.2 hne
      rw [List.length_append] at h1
      omega
    obtain ⟨order', hp', hs', hd'⟩ := ih (hn.sublist (List.Sublist.map _ List.filter_sublist)) hlen' t' h
    refine ⟨indepFns fns ++ order', (List.Perm.append_left _ hp').trans hperm, ?_, List.pairwise_append.2 ⟨?_, hd', ?_⟩⟩
    · rw [setFns_append, hres]
      exact hs'
    · exact List.pairwise_of_forall_mem_list fun a ha b hb => indepFns_reads ha (List.mem_filter.1 hb).1
    · exact fun a ha b hb => indepFns_reads ha (List.mem_filter.1 (hp'.subset hb)).1

/-- a derived column always fits: `res[k] = res.apply(f)` can only fail inside `f` (TypeError: a parameter
that is not a column) -/
theorem setFn_error {t : Table} {n : Nat} (hr : t.Rect n) {kf : String × Fn} {e : Err}
    (h : t.setFn kf = .error e) : e = .type := by
  unfold setFn at h
  split at h
  · rename_i e' he'
    cases h
    obtain ⟨i, _, hi⟩ := mapE_error_mem he'
    exact Fn.eval_error hi
  · rename_i vs hvs
    by_cases hne : t = []
    · subst hne
      rw [setitem_nil] at h
      cases h
    · rw [(setitem_of_mapE_rows hr hne hvs kf.1).2] at h
      cases h

theorem setFns_error {t : Table} {n : Nat} (hr : t.Rect n) {fns : List (String × Fn)} {e : Err}
    (h : t.setFns fns = .error e) : e = .type := by
  induction fns generalizing t n with
  | nil => cases h
  | cons kf fns ih =>
    simp only [setFns] at h
    cases hs : t.setFn kf with
    | error e' => rw [hs] at h; cases h; exact setFn_error hr hs
    | ok t1 =>
      rw [hs] at h
      obtain ⟨n1, hn1⟩ := setFn_rect hr hs
      exact ih hn1 h

theorem callLoop_value_error (fuel : Nat) {res : Table} {n : Nat} (hr : res.Rect n) (fns : List (String × Fn))
    (h : res.callLoop fuel fns = .error .value) :
    ∃ pending : List (String × Fn), pending.Sublist fns ∧ pending.length > 1 ∧
      ∀ kf ∈ pending, ∃ a ∈ kf.2.args, a ∈ pending.map (·.1) := by
  refine callLoop_induct (motive := fun _ res fns r => ∀ n, res.Rect n → r = .error .value →
    ∃ pending : List (String × Fn), pending.Sublist fns ∧ pending.length > 1 ∧
      ∀ kf ∈ pending, ∃ a ∈ kf.2.args, a ∈ pending.map (·.1)) ?_ ?_ ?_ ?_ fuel res fns n hr h
  · exact fun _ _ _ _ _ hr h => absurd (setFns_error hr h) (by decide)
  · intro _ _ fns hlen hind _ _ _
    refine ⟨fns, List.Sublist.refl _, hlen, fun kf hkf => ?_⟩
    have := List.filter_eq_nil_iff.1 hind kf hkf
    rw [Bool.not_eq_true, List.all_eq_false] at this
    obtain ⟨a, ha, hc⟩ := this
    rw [Bool.not_eq_true, Bool.not_eq_false'] at hc
    exact ⟨a, ha, List.contains_iff_mem.1 hc⟩
  · intro _ _ _ e _ _ he _ hr h
    cases h
    exact absurd (setFns_error hr he) (by decide)
  · intro _ _ _ _ _ _ hres ih _ hr h
    obtain ⟨n', hn'⟩ := setFns_rect _ hr hres
    obtain ⟨pending, hsub, hl, hp⟩ := ih n' hn' h
    exact ⟨pending, hsub.trans List.filter_sublist, hl, hp⟩

theorem update_fits {t : Table} {n : Nat} (hr : t.Rect n) (hne : t ≠ []) (kvs : List (String × ColVal))
    (hfit : ∀ kv ∈ kvs, kv.2.value.length = n ∨ kv.2.value.length = 1) :
    t.update kvs = (t.updateWith (kvs.map fun kv => (kv.1, bcast n kv.2.value)), Option.none) := by
  induction kvs generalizing t with
  | nil => rfl
  | cons kv kvs ih =>
    have hkv := hfit kv List.mem_cons_self
    simp only [update, setitem_eq hr hne, if_pos hkv]
    rw [ih (set_rect hr (bcast_length hkv)) (set_ne_nil _ _ _) fun kv hkv => hfit kv (List.mem_cons_of_mem _ hkv)]
    rfl

theorem updateWith_ne_nil {t : Table} (hne : t ≠ []) (u : Table) : t.updateWith u ≠ [] := by
  unfold updateWith
  induction u generalizing t with
  | nil => exact hne
  | cons kv u ih => exact ih (set_ne_nil _ _ _)

theorem update_append {t : Table} (pre post : List (String × ColVal)) :
    t.update (pre ++ post) = match t.update pre with
      | (t', Option.none) => t'.update post
      | (t', some e) => (t', some e) := by
  induction pre generalizing t with
  | nil => rfl
  | cons kv pre ih =>
    obtain ⟨k, v⟩ := kv
    simp only [List.cons_append, update]
    cases t.setitem k v with
    | error e => rfl
    | ok t1 => exact ih

end Table
end Pyg
