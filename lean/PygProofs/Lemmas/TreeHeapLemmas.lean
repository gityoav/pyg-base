/-
  The heap model of C15 (PygModel/TreeHeap.lean), equation by equation, and the frame invariant.
  `Safe n m m'`: between `m` and `m'` no node below address `n` was written (and every logged write
  is at an address ≥ n).  `Closed n m`: the nodes at addresses ≥ n only point (as far as a key
  lookup can see) to nodes at addresses ≥ n — so a walk that starts in the fresh region stays there.
-/
import PygModel.TreeHeap
import PygProofs.Lemmas.Basics.Lists
import PygProofs.Lemmas.TreeLemmas

namespace Pyg.TreeHeap
open Pyg Pyg.DA Pyg.Tree

structure Safe (n : Nat) (m m' : Mem) : Prop where
  len : m.heap.length ≤ m'.heap.length
  same : ∀ x, x < n → m'.heap[x]? = m.heap[x]?
  log : ∃ new, m'.log = new ++ m.log ∧ ∀ x ∈ new, n ≤ x

def Closed (n : Nat) (m : Mem) : Prop :=
  ∀ x, n ≤ x → ∀ k b, lookup k (node m x) = some (.ptr b) → n ≤ b

theorem Safe.refl (n : Nat) (m : Mem) : Safe n m m := ⟨Nat.le_refl _, fun _ _ => rfl, [], rfl, by simp⟩

theorem Safe.trans {n : Nat} {m1 m2 m3 : Mem} (h1 : Safe n m1 m2) (h2 : Safe n m2 m3) : Safe n m1 m3 := by
  obtain ⟨n1, e1, hn1⟩ := h1.log
  obtain ⟨n2, e2, hn2⟩ := h2.log
  refine ⟨Nat.le_trans h1.len h2.len, fun x hx => (h2.same x hx).trans (h1.same x hx), n2 ++ n1, ?_, ?_⟩
  · rw [e2, e1, List.append_assoc]
  · intro x hx
    rcases List.mem_append.1 hx with h | h
    · exact hn2 x h
    · exact hn1 x h

theorem Safe.mono {n n' : Nat} {m m' : Mem} (h : Safe n m m') (hn : n' ≤ n) : Safe n' m m' := by
  obtain ⟨nw, e, hnw⟩ := h.log
  exact ⟨h.len, fun x hx => h.same x (Nat.lt_of_lt_of_le hx hn), nw, e, fun x hx => Nat.le_trans hn (hnw x hx)⟩

theorem alloc_heap (m : Mem) (nd : Node) : (alloc m nd).1.heap = m.heap ++ [nd] := rfl
theorem alloc_log (m : Mem) (nd : Node) : (alloc m nd).1.log = m.log := rfl
theorem alloc_len (m : Mem) (nd : Node) : (alloc m nd).1.heap.length = m.heap.length + 1 := by
  simp [alloc_heap]
theorem store_len (m : Mem) (a : Nat) (k : String) (r : Ref) :
    (store m a k r).heap.length = m.heap.length := by simp [store]
theorem store_get_ne (m : Mem) (a : Nat) (k : String) (r : Ref) {x : Nat} (h : x ≠ a) :
    (store m a k r).heap[x]? = m.heap[x]? := List.getElem?_modify_ne _ _ (Ne.symm h)
theorem store_get_self (m : Mem) (a : Nat) (k : String) (r : Ref) :
    (store m a k r).heap[a]? = m.heap[a]?.map (DA.set k r) := List.getElem?_modify_eq ..

theorem setItemH_single (m : Mem) (a : Nat) (k : String) (v : Val) (ig : List Val) :
    setItemH m a [k] v ig =
      if (lookup k (node m a)).isSome && ig.contains v then m else store m a k (.val v) := rfl

theorem setItemH_deep (m : Mem) (a : Nat) (k k2 : String) (rest : Path) (v : Val) (ig : List Val) :
    setItemH m a (k :: k2 :: rest) v ig =
      match lookup k (node m a) with
      | some (.ptr b) => setItemH m b (k2 :: rest) v ig
      | _ => setItemH (store (alloc m []).1 a k (.ptr m.heap.length)) m.heap.length (k2 :: rest) v ig := rfl

theorem copyKids_ptr (cp : Mem → Nat → Res (Mem × Nat)) (c : Nat) (m : Mem) (k : String) (b : Nat) (nd : Node) :
    copyKids cp c m ((k, .ptr b) :: nd) =
      match cp m b with
      | .error e => .error e
      | .ok (m1, cb) => copyKids cp c (store m1 c k (.ptr cb)) nd := rfl

theorem copyH_succ (f : Nat) (m : Mem) (a : Nat) :
    copyH (f + 1) m a =
      match m.heap[a]? with
      | none => .error Err.other
      | some nd =>
        match copyKids (copyH f) m.heap.length (alloc m nd).1 nd with
        | .error e => .error e
        | .ok m' => .ok (m', m.heap.length) := rfl

theorem itemsN_cons (rec : Ref → Res (List (Path × Val))) (k : String) (r : Ref) (nd : Node) :
    itemsN rec ((k, r) :: nd) =
      match rec r, itemsN rec nd with
      | .ok a, .ok b => .ok (a.map (fun pv => (k :: pv.1, pv.2)) ++ b)
      | .error e, _ => .error e
      | _, .error e => .error e := rfl

theorem itemsH_val (H : Heap) (f : Nat) (v : Val) : itemsH H f (.val v) = .ok [([], v)] := by cases f <;> rfl

theorem itemsH_succ_ptr (H : Heap) (f a : Nat) :
    itemsH H (f + 1) (.ptr a) =
      match H[a]? with
      | none => .error Err.other
      | some nd => itemsN (itemsH H f) nd := rfl

theorem allocTree_leaf (m : Mem) (v : Val) (hv : ∀ s, v ≠ .dict s) : allocTree m v = (m, .val v) :=
  allocTree.eq_2 m v hv

theorem allocTree_dict (m : Mem) (kvs : List (String × Val)) :
    allocTree m (.dict kvs) =
      ({ (allocKVs m kvs).1 with heap := (allocKVs m kvs).1.heap ++ [(allocKVs m kvs).2] },
        .ptr (allocKVs m kvs).1.heap.length) := rfl

theorem allocKVs_cons (m : Mem) (k : String) (v : Val) (kvs : List (String × Val)) :
    allocKVs m ((k, v) :: kvs) =
      ((allocKVs (allocTree m v).1 kvs).1, (k, (allocTree m v).2) :: (allocKVs (allocTree m v).1 kvs).2) := rfl

theorem readN_cons (rec : Ref → Option Val) (k : String) (r : Ref) (nd : Node) :
    readN rec ((k, r) :: nd) =
      match rec r, readN rec nd with
      | some v, some kvs => some ((k, v) :: kvs)
      | _, _ => none := rfl

theorem readH_val (H : Heap) (f : Nat) (v : Val) : readH H f (.val v) = some v := by cases f <;> rfl

theorem readH_succ_ptr (H : Heap) (f a : Nat) :
    readH H (f + 1) (.ptr a) =
      match H[a]? with
      | none => none
      | some nd => (readN (readH H f) nd).map .dict := rfl

theorem Safe_alloc (n : Nat) (m : Mem) (nd : Node) (hn : n ≤ m.heap.length) : Safe n m (alloc m nd).1 := by
  refine ⟨by rw [alloc_len]; omega, fun x hx => ?_, [], rfl, by simp⟩
  rw [alloc_heap, List.getElem?_append_left (by omega)]

theorem Safe_store (n : Nat) (m : Mem) (a : Nat) (k : String) (r : Ref) (ha : n ≤ a) :
    Safe n m (store m a k r) := by
  exact ⟨by rw [store_len]; omega, fun x hx => store_get_ne m a k r (by omega), [a], rfl, by simpa using ha⟩

theorem node_of_same {m m' : Mem} {x : Nat} (h : m'.heap[x]? = m.heap[x]?) : node m' x = node m x := by
  simp [node, h]

theorem node_ge (m : Mem) (x : Nat) (h : m.heap.length ≤ x) : node m x = [] := by
  simp [node, List.getElem?_eq_none h]

theorem node_alloc (m : Mem) (nd : Node) (x : Nat) :
    node (alloc m nd).1 x = if x = m.heap.length then nd else node m x := by
  simp only [node, alloc_heap]
  by_cases h : x = m.heap.length
  · subst h; simp
  · rw [if_neg h]
    by_cases h2 : x < m.heap.length
    · rw [List.getElem?_append_left h2]
    · rw [List.getElem?_eq_none (by simp; omega), List.getElem?_eq_none (by omega)]

theorem node_store (m : Mem) (a : Nat) (k : String) (r : Ref) (x : Nat) :
    node (store m a k r) x = if x = a ∧ a < m.heap.length then DA.set k r (node m a) else node m x := by
  simp only [node, store, List.getElem?_modify]
  by_cases h : a = x
  · subst h
    by_cases h2 : a < m.heap.length
    · simp [h2]
    · simp [h2]
  · have : ¬ (x = a ∧ a < m.heap.length) := fun hh => h hh.1.symm
    rw [if_neg this]
    cases m.heap[x]? <;> simp [h]

theorem Closed_alloc (n : Nat) (m : Mem) (nd : Node) (h : Closed n m)
    (hnd : ∀ k b, lookup k nd = some (.ptr b) → n ≤ b) : Closed n (alloc m nd).1 := by
  intro x hx k b hl
  rw [node_alloc] at hl
  split at hl
  · exact hnd k b hl
  · exact h x hx k b hl

theorem Closed_store (n : Nat) (m : Mem) (a : Nat) (k : String) (r : Ref) (h : Closed n m)
    (hr : ∀ b, r = .ptr b → n ≤ b) : Closed n (store m a k r) := by
  intro x hx k' b hl
  rw [node_store] at hl
  split at hl
  · next hxa =>
    rw [lookup_set] at hl
    split at hl
    · exact hr b (by simpa using hl)
    · exact h a (hxa.1 ▸ hx) k' b hl
  · exact h x hx k' b hl

theorem setItemH_safe (n : Nat) (v : Val) (ig : List Val) : ∀ (p : Path) (m : Mem) (a : Nat),
    n ≤ m.heap.length → n ≤ a → Closed n m →
    Safe n m (setItemH m a p v ig) ∧ Closed n (setItemH m a p v ig)
  | [], m, a, _, _, hc => ⟨Safe.refl _ _, hc⟩
  | [k], m, a, _, ha, hc => by
      rw [setItemH_single]
      split
      · exact ⟨Safe.refl _ _, hc⟩
      · exact ⟨Safe_store n m a k _ ha, Closed_store n m a k _ hc (fun _ h => nomatch h)⟩
  | k :: k2 :: rest, m, a, hn, ha, hc => by
      rw [setItemH_deep]
      split
      · next b hl => exact setItemH_safe n v ig (k2 :: rest) m b hn (hc a ha k b hl) hc
      · have hc2 : Closed n (store (alloc m []).1 a k (.ptr m.heap.length)) :=
          Closed_store n _ a k _ (Closed_alloc n m [] hc (fun _ _ h => nomatch h))
            (fun b h => (Ref.ptr.inj h) ▸ hn)
        have := setItemH_safe n v ig (k2 :: rest) (store (alloc m []).1 a k (.ptr m.heap.length))
          m.heap.length (by rw [store_len, alloc_len]; exact Nat.le_succ_of_le hn) hn hc2
        exact ⟨((Safe_alloc n m [] hn).trans (Safe_store n _ a k _ ha)).trans this.1, this.2⟩

theorem setItemsH_safe (n : Nat) (c : Nat) (ig : List Val) : ∀ (its : List (Path × Val)) (m : Mem),
    n ≤ m.heap.length → n ≤ c → Closed n m →
    Safe n m (setItemsH m c its ig) ∧ Closed n (setItemsH m c its ig)
  | [], m, _, _, hc => ⟨Safe.refl _ _, hc⟩
  | (p, v) :: its, m, hn, hcn, hc => by
      have h1 := setItemH_safe n v ig p m c hn hcn hc
      have h2 := setItemsH_safe n c ig its (setItemH m c p v ig) (Nat.le_trans hn h1.1.len) hcn h1.2
      exact ⟨h1.1.trans h2.1, h2.2⟩

/-- what a (recursive) copy guarantees: the copy is the first node allocated, nothing older is written,
and the nodes allocated only point to nodes allocated -/
def CopySpec (cp : Mem → Nat → Res (Mem × Nat)) : Prop :=
  ∀ m a m' c, cp m a = .ok (m', c) → c = m.heap.length ∧ Safe c m m' ∧ Closed c m'

/-- The loop of `_tree_copy` over the entries `rest` not yet visited, on the fresh copy `c` of a node.  `j1`: nodes above `c`
(the copies made so far) only point at or above `c`.  `j2`: a pointer of `c`'s node to an old node (below `c`) is an entry
still in `rest`, so when `rest` is used up none is left (as far as a key lookup sees). -/
theorem copyKids_spec (cp : Mem → Nat → Res (Mem × Nat)) (hcp : CopySpec cp) (c : Nat) :
    ∀ (rest : Node) (m m' : Mem), copyKids cp c m rest = .ok m' → c < m.heap.length →
    (∀ x, c < x → ∀ k b, lookup k (node m x) = some (.ptr b) → c ≤ b) →
    (∀ k b, lookup k (node m c) = some (.ptr b) → b < c → (k, Ref.ptr b) ∈ rest) →
    Safe c m m' ∧ Closed c m'
  | [], m, m', h, _, j1, j2 => by
      cases h
      refine ⟨Safe.refl _ _, fun x hx k b hl => ?_⟩
      rcases Nat.lt_or_eq_of_le hx with h | h
      · exact j1 x h k b hl
      · subst h
        exact Nat.le_of_not_lt fun hb => nomatch j2 k b hl hb
  | (k, .val w) :: rest, m, m', h, hc, j1, j2 => by
      exact copyKids_spec cp hcp c rest m m' h hc j1 fun k' b hl hb =>
        (List.mem_cons.1 (j2 k' b hl hb)).resolve_left fun e => nomatch e
  | (k, .ptr b0) :: rest, m, m', h, hc, j1, j2 => by
      rw [copyKids_ptr] at h
      split at h
      · cases h
      · next m1 cb hcpe =>
        obtain ⟨e, hs, hcl⟩ := hcp m b0 m1 cb hcpe
        subst e
        have hc1 : c < m1.heap.length := Nat.lt_of_lt_of_le hc hs.len
        have hnode_c : node m1 c = node m c := node_of_same (hs.same c hc)
        have := copyKids_spec cp hcp c rest (store m1 c k (.ptr m.heap.length)) m' h
          (by rw [store_len]; exact hc1)
          (fun x hx k' b' hl => by
            rw [node_store, if_neg (by omega)] at hl
            by_cases hxl : x < m.heap.length
            · rw [node_of_same (hs.same x hxl)] at hl
              exact j1 x hx k' b' hl
            · have := hcl x (by omega) k' b' hl
              omega)
          (fun k' b' hl hb => by
            rw [node_store, if_pos ⟨rfl, hc1⟩, lookup_set, hnode_c] at hl
            split at hl
            · cases hl; omega
            · next hk => exact (List.mem_cons.1 (j2 k' b' hl hb)).resolve_left fun e => hk (Prod.mk.inj e).1)
        exact ⟨((hs.mono (Nat.le_of_lt hc)).trans (Safe_store c m1 c k _ (Nat.le_refl _))).trans this.1, this.2⟩

theorem copyH_spec : ∀ f, CopySpec (copyH f)
  | 0 => fun _ _ _ _ h => nomatch h
  | f + 1 => by
      intro m a m' c h
      rw [copyH_succ] at h
      split at h
      · cases h
      · next nd _ =>
        split at h
        · cases h
        · next m'' hk =>
          cases h
          have := copyKids_spec (copyH f) (copyH_spec f) m.heap.length nd (alloc m nd).1 m' hk
            (by rw [alloc_len]; omega)
            (fun x hx k b hl => by
              rw [node_ge _ x (by rw [alloc_len]; omega)] at hl
              cases hl)
            (fun k b hl _ => mem_of_lookup k _ nd (by rwa [node_alloc, if_pos rfl] at hl))
          exact ⟨rfl, (Safe_alloc _ m nd (Nat.le_refl _)).trans this.1, this.2⟩

theorem copy_setItems_safe {f : Nat} {m m1 : Mem} {t c : Nat} (hc : copyH f m t = .ok (m1, c))
    (its : List (Path × Val)) (ig : List Val) :
    c = m.heap.length ∧ Safe m.heap.length m (setItemsH m1 c its ig) ∧ Closed m.heap.length (setItemsH m1 c its ig) := by
  obtain ⟨rfl, hs, hcl⟩ := copyH_spec f m t m1 c hc
  have := setItemsH_safe m.heap.length m.heap.length ig its m1 hs.len (Nat.le_refl _) hcl
  exact ⟨rfl, hs.trans this.1, this.2⟩

theorem itemsToTreeH_ok {f : Nat} {m m' : Mem} {its : List (Path × Val)} {t r : Nat} {ig : List Val} :
    itemsToTreeH f m its t ig = .ok (m', r) ↔ (its.map (·.1)).Nodup ∧ its.any (·.1.isEmpty) = false ∧
      ∃ m1, copyH f m t = .ok (m1, r) ∧ m' = setItemsH m1 r its ig := by
  unfold itemsToTreeH
  by_cases h1 : (its.map (·.1)).Nodup
  · by_cases h2 : its.any (·.1.isEmpty) = true
    · simp [h1, h2]
    · cases hc : copyH f m t with
      | error e => simp [h1, h2]
      | ok mc =>
        obtain ⟨m1, c⟩ := mc
        simp only [h1, h2, not_true_eq_false, if_false, Bool.false_eq_true, Except.ok.injEq, Prod.mk.injEq, true_and]
        constructor
        · rintro ⟨rfl, rfl⟩
          exact ⟨m1, ⟨rfl, rfl⟩, rfl⟩
        · rintro ⟨_, ⟨rfl, rfl⟩, rfl⟩
          exact ⟨rfl, rfl⟩
  · simp [h1]

theorem tableToTreeH_ok {f : Nat} {m m' : Mem} {its : List (Path × Val)} {t r : Nat}
    (h : tableToTreeH f m its t = .ok (m', r)) : ∃ m1, copyH f m t = .ok (m1, r) ∧ m' = setItemsH m1 r its [] := by
  rw [tableToTreeH] at h
  split at h
  · cases h
  · split at h
    · cases h
    · next m1 c hc => cases h; exact ⟨m1, hc, rfl⟩

theorem treeUpdateH_ok {f : Nat} {m m' : Mem} {t u r : Nat} {ig : List Val} :
    treeUpdateH f m t u ig = .ok (m', r) ↔
      ∃ its, itemsH m.heap f (.ptr u) = .ok its ∧ itemsToTreeH f m its t ig = .ok (m', r) := by
  unfold treeUpdateH
  cases itemsH m.heap f (.ptr u) with
  | error e => simp
  | ok its => simp

theorem treeUpdateH_safe {f : Nat} {m m' : Mem} {t u r : Nat} {ig : List Val}
    (h : treeUpdateH f m t u ig = .ok (m', r)) :
    r = m.heap.length ∧ Safe m.heap.length m m' ∧ Closed m.heap.length m' := by
  obtain ⟨its, _, h⟩ := treeUpdateH_ok.1 h
  obtain ⟨_, _, m1, hc, rfl⟩ := itemsToTreeH_ok.1 h
  exact copy_setItems_safe hc its ig

theorem readN_mono (g g' : Ref → Option Val) (hg : ∀ r v, g r = some v → g' r = some v) :
    ∀ (nd : Node) (kvs : List (String × Val)), readN g nd = some kvs → readN g' nd = some kvs
  | [], kvs, h => h
  | (k, r) :: nd, kvs, h => by
      rw [readN_cons] at h ⊢
      split at h
      · next v kvs' h1 h2 => rw [hg r v h1, readN_mono g g' hg nd kvs' h2]; exact h
      · cases h

theorem readH_mono (H H' : Heap) (hh : ∀ (x : Nat) (nd : Node), H[x]? = some nd → H'[x]? = some nd) :
    ∀ (f : Nat) (r : Ref) (v : Val), readH H f r = some v → readH H' f r = some v
  | f, .val w, v, h => by rwa [readH_val] at h ⊢
  | 0, .ptr a, v, h => nomatch h
  | f + 1, .ptr a, v, h => by
      rw [readH_succ_ptr] at h ⊢
      cases hn : H[a]? with
      | none => rw [hn] at h; cases h
      | some nd =>
        rw [hn] at h
        obtain ⟨kvs, hk, rfl⟩ := Option.map_eq_some_iff.1 h
        rw [hh a nd hn]
        exact Option.map_eq_some_iff.2 ⟨kvs, readN_mono _ _ (readH_mono H H' hh f) nd kvs hk, rfl⟩

theorem Safe.readH {n : Nat} {m m' : Mem} (h : Safe n m m') (hn : m.heap.length ≤ n)
    (f : Nat) (r : Ref) (v : Val) (hr : readH m.heap f r = some v) : readH m'.heap f r = some v :=
  readH_mono m.heap m'.heap (fun x _ hx =>
    (h.same x (Nat.lt_of_lt_of_le (List.getElem?_some_lt hx) hn)).trans hx) f r v hr

end Pyg.TreeHeap
