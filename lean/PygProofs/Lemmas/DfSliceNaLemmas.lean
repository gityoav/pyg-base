/-
  Lemmas for C13 on NaN: `nona` of the series against the all-NaN rows of the frames built from them.
-/
import PygProofs.Lemmas.DfSliceLemmas

namespace Pyg.Slice

/-- a row that holds a value in some column (not NaN throughout) -/
def live (r : Int × List (Option Int)) : Bool := r.2.any Option.isSome

/-- a frame without its all-NaN rows -/
def Frame.dropNaRows (f : Frame) : Frame := ⟨f.width, f.rows.filter live⟩

theorem Frame.dropNaRows_eq_self {F : Frame} : F.dropNaRows = F ↔ ∀ r ∈ F.rows, live r = true := by
  cases F
  simp only [Frame.dropNaRows, Frame.mk.injEq, true_and, List.filter_eq_self]

theorem nona_column_concatCols (D : List TS) (j : Nat) (hj : j < D.length) (hs : D[j].Sorted) :
    nona (column j (concatCols D)) = nona D[j] := by
  have hcol : column j (concatCols D) = (unionIndex D).map fun t => (t, D[j].get t) := by
    simp only [column, concatCols, List.map_map]
    apply List.map_congr_left
    intro t _
    simp only [Function.comp, List.getElem?_map, List.getElem?_eq_getElem hj, Option.map_some, Option.join_some]
  apply List.pairwise_ext (r := fun x y => x.1 < y.1) (fun _ _ => Int.lt_asymm)
  · rw [hcol]
    refine List.Pairwise.sublist List.filter_sublist ?_
    rw [List.pairwise_map]
    exact unionIndex_sorted D
  · exact sorted_pairwise (filter_sorted hs _)
  · rintro ⟨t, v⟩
    simp only [mem_nona, hcol, List.mem_map, Prod.mk.injEq, mem_unionIndex]
    cases v with
    | none => simp
    | some x =>
      simp only [Option.isSome_some, and_true]
      constructor
      · rintro ⟨t', _, rfl, hg⟩
        exact (get_eq_some_iff hs _ x).mp hg
      · intro hm
        exact ⟨t, ⟨D[j], List.getElem_mem hj, mem_index.mpr ⟨_, hm, rfl⟩⟩, rfl,
          (get_eq_some_iff hs t x).mpr hm⟩

theorem nona_column_framesOf (dfs : List TS) (n : Nat) (i j : Nat) (hj : j < max n 1) (hij : i + j < dfs.length)
    (hs : 1 < n → dfs[i + j].Sorted) (W : Nat) :
    nona (column j (((framesOf dfs n)[i]'(by rw [framesOf_length]; omega)).rows.map fun r => (r.1, padRow W r.2))) =
      nona dfs[i + j] := by
  by_cases hn : 1 < n
  · have hjD : j < ((dfs.drop i).take n).length := by
      simp only [List.length_take, List.length_drop]; omega
    have hDj : ((dfs.drop i).take n)[j] = dfs[i + j] := by
      simp only [List.getElem_take, List.getElem_drop]
    rw [framesOf_getElem_cols dfs n hn, column_pad j W _ (fun r hr => by rw [(mem_concatCols.mp hr).2, List.length_map]; exact hjD),
      nona_column_concatCols _ j hjD (by rw [hDj]; exact hs hn), hDj]
  · have hj0 : j = 0 := by omega
    subst hj0
    rw [framesOf_getElem_series dfs n (by omega) i _ (by omega),
      column_pad 0 W _ (fun r hr => by obtain ⟨_, _, h⟩ := mem_ofTS.mp hr; rw [h]; exact Nat.one_pos),
      column_zero_ofTS]
    rfl

theorem get_nona {s : TS} (hs : s.Sorted) (t : Int) : (nona s).get t = s.get t := by
  cases h : s.get t with
  | some x =>
    have hm := (get_eq_some_iff hs t x).mp h
    exact (get_eq_some_iff (filter_sorted hs _) t x).mpr (List.mem_filter.mpr ⟨hm, rfl⟩)
  | none =>
    cases h' : (nona s).get t with
    | none => rfl
    | some x =>
      have hm := (get_eq_some_iff (filter_sorted hs _) t x).mp h'
      have := (get_eq_some_iff hs t x).mpr (List.mem_filter.mp hm).1
      rw [h] at this; cases this

theorem mem_index_nona {s : TS} (hs : s.Sorted) (t : Int) : t ∈ (nona s).index ↔ (s.get t).isSome = true := by
  simp only [mem_index, mem_nona]
  constructor
  · rintro ⟨p, ⟨hp, hv⟩, rfl⟩
    cases hv' : p.2 with
    | none => simp [hv'] at hv
    | some x =>
      have : (p.1, some x) ∈ s := by rw [← hv']; exact hp
      rw [(get_eq_some_iff hs p.1 x).mpr this]; rfl
  · intro h
    cases hg : s.get t with
    | none => simp [hg] at h
    | some x => exact ⟨(t, some x), ⟨(get_eq_some_iff hs t x).mp hg, rfl⟩, rfl⟩

theorem concatCols_nona (S : List TS) (hs : ∀ s ∈ S, s.Sorted) :
    concatCols (S.map nona) = (concatCols S).filter live := by
  apply List.pairwise_ext (fun _ _ => Int.lt_asymm) (concatCols_sorted _) ((concatCols_sorted S).sublist List.filter_sublist)
  intro x
  have hget : (S.map nona).map (·.get x.1) = S.map (·.get x.1) := by
    rw [List.map_map]
    apply List.map_congr_left
    intro s hsm
    exact get_nona (hs s hsm) x.1
  rw [List.mem_filter, mem_concatCols, mem_concatCols, hget]
  constructor
  · rintro ⟨⟨s', hs', ht⟩, hx⟩
    obtain ⟨s, hsm, rfl⟩ := List.mem_map.mp hs'
    have hsome := (mem_index_nona (hs s hsm) x.1).mp ht
    refine ⟨⟨⟨s, hsm, get_isSome_mem_index hsome⟩, hx⟩, ?_⟩
    simp only [live, hx, List.any_map, List.any_eq_true]
    exact ⟨s, hsm, hsome⟩
  · rintro ⟨⟨_, hx⟩, hl⟩
    refine ⟨?_, hx⟩
    simp only [live, hx, List.any_map, List.any_eq_true] at hl
    obtain ⟨s, hsm, hsome⟩ := hl
    exact ⟨nona s, List.mem_map.mpr ⟨s, hsm, rfl⟩, (mem_index_nona (hs s hsm) x.1).mpr hsome⟩

theorem ofTS_nona (s : TS) : ofTS (nona s) = (ofTS s).filter live := by
  simp only [ofTS, nona, List.filter_map]
  congr 2; funext p; simp [live]

theorem framesOf_nona (dfs : List TS) (n : Nat) (hs : 1 < n → ∀ s ∈ dfs, s.Sorted) :
    framesOf (dfs.map nona) n = (framesOf dfs n).map Frame.dropNaRows :=
  framesOf_map nona Frame.dropNaRows dfs n
    (fun hn D hD => by simp only [Frame.dropNaRows, List.length_map, concatCols_nona D fun s h => hs hn s (hD s h)])
    (fun s _ => by simp only [Frame.dropNaRows, ofTS_nona])

theorem cut_dropNaRows (l u : Bool) (x : Frame × Option Int × Option Int) :
    cut l u (x.1.dropNaRows, x.2) = (cut l u x).dropNaRows := by
  simp only [cut, Frame.dropNaRows, List.filter_filter]
  congr 2; funext r; exact Bool.and_comm _ _

theorem assemble_dropNaRows (P : List Frame) :
    assemble (P.map Frame.dropNaRows) = (assemble P).map Frame.dropNaRows := by
  match P with
  | [] => rfl
  | [x] => rfl
  | a :: b :: rest =>
    have h2 : 2 ≤ (a :: b :: rest).length := by simp
    rw [assemble_many _ h2, assemble_many _ (by simp), List.foldl_map]
    simp only [Option.map_some, Frame.dropNaRows, Option.some.injEq, Frame.mk.injEq, true_and]
    rw [List.flatMap_map, List.filter_flatMap]
    congr 1; funext f
    simp only [List.filter_map]
    congr 1
    apply List.filter_congr
    intro r _
    simp [live, padRow, List.any_append, List.any_replicate]

theorem slice_column (dfs : List TS) (ub : List Int) (h : Aligned dfs ub) (n : Nat) (hs : 1 < n → ∀ s ∈ dfs, s.Sorted)
    (F : Frame) (hF : stitch dfs Option.none (some ub) (some ['(', ']']) n = .ok (some F)) (i j : Nat) (hj : j < max n 1)
    (hij : i + j < ub.length) :
    nona (column j (F.rows.filter fun r => inWindow false true (loBound ub i) (.date (ub[i]'(by omega))) r.1)) =
      (nona (dfs[i + j]'(by rw [h.len]; exact hij))).filter fun p =>
        inWindow false true (loBound ub i) (.date (ub[i]'(by omega))) p.1 := by
  have hpl := h.pieces_length n false true
  have hfl := framesOf_length dfs n
  have hlen := h.len
  have hi : i < ub.length := by omega
  rw [slices_eq dfs ub h n F hF i hi, pieces_getElem dfs ub n false true i (by omega) hi (by omega),
    framesOf_getElem_filter dfs n (fun t => inWindow false true (loBound ub i) (.date ub[i]) t) i (by omega),
    nona_column_framesOf _ n i j hj (by rw [List.length_map]; omega)
      (fun hn => by rw [List.getElem_map]; exact filter_sorted (hs hn _ (List.getElem_mem _)) _),
    List.getElem_map, nona_filter]

theorem unslice_entries (dfs : List TS) (ub : List Int) (h : Aligned dfs ub) (hstrict : ub.Pairwise (· < ·))
    (n : Nat) (hs : 1 < n → ∀ s ∈ dfs, s.Sorted) (F : Frame)
    (hF : stitch dfs Option.none (some ub) (some ['(', ']']) n = .ok (some F)) (k : Nat) (hk : k < ub.length) :
    nona (((rsOf F ub).filter (·.1 == ub[k])).flatMap (·.2)) =
      ub.zipIdx.flatMap fun x => if x.2 ≤ k ∧ k < x.2 + F.width then
        (nona (dfs[k]'(by rw [h.len]; exact hk))).filter fun p => inWindow false true (loBound ub x.2) (.date x.1) p.1
      else [] := by
  have hW := (stitch_frame dfs ub h _ n false true rfl F hF).1
  rw [entries_rsOf F hstrict k hk]
  rw [nona_flatMap]
  apply List.flatMap_congr
  rintro ⟨u, i⟩ hx
  obtain ⟨hi, hu⟩ := List.mem_zipIdx_getElem.mp hx
  simp only at hi hu
  subst hu
  split
  · rename_i hc
    obtain ⟨j, rfl⟩ := Nat.exists_eq_add_of_le hc.1
    rw [Nat.add_sub_cancel_left]
    exact slice_column dfs ub h n hs F hF i j (by omega) hk
  · rfl

theorem unslice_entry_window (dfs : List TS) (ub : List Int) (h : Aligned dfs ub) (hstrict : ub.Pairwise (· < ·)) (n : Nat)
    (hs : 1 < n → ∀ s ∈ dfs, s.Sorted) (F : Frame)
    (hF : stitch dfs Option.none (some ub) (some ['(', ']']) n = .ok (some F)) (i j : Nat) (hj : j < max n 1)
    (hij : i + j < ub.length) :
    ((nona (((rsOf F ub).filter (·.1 == ub[i + j])).flatMap (·.2))).filter fun p =>
        inWindow false true (loBound ub i) (.date (ub[i]'(by omega))) p.1) =
      (nona (dfs[i + j]'(by rw [h.len]; exact hij))).filter fun p =>
        inWindow false true (loBound ub i) (.date (ub[i]'(by omega))) p.1 := by
  have hi : i < ub.length := by omega
  have hW := (stitch_frame dfs ub h _ n false true rfl F hF).1
  have hL : i < ub.zipIdx.length := by rw [List.length_zipIdx]; exact hi
  rw [unslice_entries dfs ub h hstrict n hs F hF (i + j) hij]
  refine (List.filter_flatMap_getElem _ _ _ i hL ?_ ?_).trans ?_
  · intro x hx
    rw [List.getElem_zipIdx, Nat.zero_add] at hx
    split at hx
    · exact (List.mem_filter.mp hx).2
    · cases hx
  · intro k hk hki x hx
    rw [List.length_zipIdx] at hk
    rw [List.getElem_zipIdx, Nat.zero_add] at hx
    split at hx
    · exact windows_disjoint h.sorted hk hi hki (List.mem_filter.mp hx).2
    · cases hx
  · rw [List.getElem_zipIdx, Nat.zero_add, if_pos ⟨by omega, by omega⟩]

theorem unslice_restitch_general (dfs : List TS) (ub : List Int) (h : Aligned dfs ub) (hstrict : ub.Pairwise (· < ·))
    (n : Nat) (hs : 1 < n → ∀ s ∈ dfs, s.Sorted) :
    ∃ F U, stitch dfs Option.none (some ub) (some ['(', ']']) n = .ok (some F) ∧ unslice F ub = .ok U ∧
      U.map (·.1) = ub ∧ stitch (U.map (·.2)) Option.none (some ub) (some ['(', ']']) n =
        stitch (dfs.map nona) Option.none (some ub) (some ['(', ']']) n := by
  obtain ⟨F, hF⟩ : ∃ F, stitch dfs Option.none (some ub) (some ['(', ']']) n = .ok (some F) := by
    rw [h.stitch_eq _ n false true rfl, h.assemble n false true]
    exact ⟨_, rfl⟩
  have hW := (stitch_frame dfs ub h _ n false true rfl F hF).1
  have hpos := List.length_pos_iff.mpr h.ne_nil
  have sN : Aligned (dfs.map nona) ub := ⟨by rw [List.length_map, h.len], h.ne_nil, h.inc⟩
  refine ⟨F, ub.map fun u => (u, nona (((rsOf F ub).filter (·.1 == u)).flatMap (·.2))), hF, ?_, ?_, ?_⟩
  · exact unslice_of_strict F ub hstrict (by omega)
  · rw [List.map_map]
    exact List.map_id ub
  · have sU : Aligned ((ub.map fun u => (u, nona (((rsOf F ub).filter (·.1 == u)).flatMap (·.2)))).map (·.2)) ub :=
      ⟨by rw [List.length_map, List.length_map], h.ne_nil, h.inc⟩
    rw [sU.stitch_eq _ n false true rfl, sN.stitch_eq _ n false true rfl, pieces_congr sU sN n false true]
    intro i j hj hij
    rw [List.getElem_map, List.getElem_map, List.getElem_map]
    exact unslice_entry_window dfs ub h hstrict n hs F hF i j hj hij

/-- sortedness is asked only side by side (`n > 1`), where `pd.concat(axis=1)` merges the indexes -/
theorem stitch_map_nona (dfs : List TS) (n : Nat) (hs : 1 < n → ∀ s ∈ dfs, s.Sorted) (lb ub : Option (List Int))
    (oc : Option (List Char)) (l u : Bool) (hb : brackets oc = .ok (l, u)) :
    stitch (dfs.map nona) lb ub oc n = (stitch dfs lb ub oc n).map (Option.map Frame.dropNaRows) := by
  unfold stitch
  rw [normalise_map]
  cases hn : normalise dfs lb ub with
  | error e => rfl
  | ok x =>
    obtain ⟨d, lbs, ubs⟩ := x
    have hs' : 1 < n → ∀ s ∈ d, s.Sorted := fun h1 s h => hs h1 s (normalise_members dfs lb ub d lbs ubs hn s h)
    simp only [Except.map, bind, Except.bind]
    rw [framesOf_nona d n hs', zipper3_map_left]
    cases hz : zipper3 (framesOf d n) lbs ubs with
    | error e => rfl
    | ok dlu =>
      simp only [Except.map, cutAll_eq _ oc l u hb, pure, Except.pure, Except.ok.injEq]
      rw [List.map_map]
      have : (cut l u ∘ fun x : Frame × Option Int × Option Int => (x.1.dropNaRows, x.2)) = Frame.dropNaRows ∘ cut l u := by
        funext x; exact cut_dropNaRows l u x
      rw [this, ← List.map_map, assemble_dropNaRows]

/-- the round trip for at least ONE series and any values: what comes back stitches to the frame without its all-NaN rows -/
theorem unslice_restitch_dropNaRows (dfs : List TS) (ub : List Int) (h : Aligned dfs ub) (hstrict : ub.Pairwise (· < ·))
    (n : Nat) (hs : 1 < n → ∀ s ∈ dfs, s.Sorted) :
    ∃ F U, stitch dfs Option.none (some ub) (some ['(', ']']) n = .ok (some F) ∧ unslice F ub = .ok U ∧
      U.map (·.1) = ub ∧
      stitch (U.map (·.2)) Option.none (some ub) (some ['(', ']']) n = .ok (some F.dropNaRows) := by
  obtain ⟨F, U, h1, h2, h3, h4⟩ := unslice_restitch_general dfs ub h hstrict n hs
  refine ⟨F, U, h1, h2, h3, ?_⟩
  rw [h4, stitch_map_nona dfs n hs _ _ _ false true rfl, h1]
  rfl

end Pyg.Slice
