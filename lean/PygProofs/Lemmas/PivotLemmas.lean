/-
  `pivot`: `cmp` of `(x.., y)` key tuples splits into the x part and the y part, so the x-groups and the y-groups are the key
  classes of the rows, and a cell of the result is `aggCell` of the rows in both classes (`pivotCell_spec`).
-/
import PygModel.Group
import PygProofs.Lemmas.GroupLemmas
import PygProofs.Lemmas.UnlistLemmas
import PygProofs.Lemmas.JoinCols

namespace Pyg

theorem cmp_tuple_snoc (xs xs' : List Val) (y y' : Val) (h : xs.length = xs'.length) :
    cmp (.tuple (xs ++ [y])) (.tuple (xs' ++ [y'])) = .eq ↔
      cmp (.tuple xs) (.tuple xs') = .eq ∧ cmp (.tuple [y]) (.tuple [y']) = .eq := by
  simp only [cmp_tuple, lexArr_append cmp xs xs' [y] [y'] h, List.length_append, h, Nat.compare_eq_eq.2 rfl,
    Ordering.eq_then, Ordering.then_eq_eq, List.length_singleton]

/-- the `(x.., y)` keys of `n` rows whose x cells are `xp i` and whose y cell is `yc i` -/
def xyKeys (n : Nat) (xp : Nat → List Val) (yc : Nat → Val) : List Val :=
  (List.range n).map fun i => .tuple (xp i ++ [yc i])

theorem xyKeys_get {n : Nat} {xp : Nat → List Val} {yc : Nat → Val} {i : Nat} (hi : i < n) :
    keyAt (xyKeys n xp yc) i = .tuple (xp i ++ [yc i]) := by
  rw [xyKeys, keyAt_map _ _ (by rwa [List.length_range]), List.getElem_range]

theorem xyKeys_length (n : Nat) (xp : Nat → List Val) (yc : Nat → Val) : (xyKeys n xp yc).length = n := by
  simp [xyKeys]

theorem xPart_snoc (xs : List Val) (y : Val) : xPart xs.length (.tuple (xs ++ [y])) = .tuple xs := by
  simp [xPart]

theorem tupleGet_snoc (xs : List Val) (y : Val) : tupleGet xs.length (.tuple (xs ++ [y])) = y := by
  simp [tupleGet, List.getD_eq_getElem?_getD]

/-- the rows whose x key `kx i` is in the class of `a` and whose y key `ky i` is in the class of `b` -/
def matchRows (n : Nat) (kx ky : Nat → Val) (a b : Val) : List Nat :=
  (List.range n).filter fun i => cmp (kx i) a == .eq && cmp (ky i) b == .eq

theorem mem_matchRows {n : Nat} {kx ky : Nat → Val} {a b : Val} {i : Nat} :
    i ∈ matchRows n kx ky a b ↔ i < n ∧ cmp (kx i) a = .eq ∧ cmp (ky i) b = .eq := by
  simp only [matchRows, List.mem_filter, List.mem_range, Bool.and_eq_true, beq_iff_eq]

theorem matchRows_congr (n : Nat) (kx ky : Nat → Val) {a a' b b' : Val}
    (hx : cmp a a' = .eq) (hy : cmp b b' = .eq) :
    matchRows n kx ky a b = matchRows n kx ky a' b' := by
  apply List.filter_congr
  intro i _
  rw [cmp_congr (cmp_self _) hx, cmp_congr (cmp_self _) hy]

/-- the cell `pivot` makes of the rows `rows` -/
def aggCell (agg : Agg) (zs : List Cell) (rows : List Nat) : Val :=
  if rows = [] then .cell .none else agg.apply (rows.map fun i => zs.getD i .none)

/-- the groups `pivot` works with: those of the `(x.., y)` keys of the rows -/
def xyGroups (n : Nat) (xp : Nat → List Val) (yc : Nat → Val) : List Grp := listbyG (xyKeys n xp yc)
/-- … those of the x parts of these keys: the rows of the result -/
def xGroups (n nx : Nat) (xp : Nat → List Val) (yc : Nat → Val) : List Grp :=
  listbyG ((xyGroups n xp yc).map fun g => xPart nx g.1)
/-- … and those of their y values: its label columns -/
def yGroups (n nx : Nat) (xp : Nat → List Val) (yc : Nat → Val) : List Grp :=
  listbyG (((xyGroups n xp yc).map fun g => tupleGet nx g.1).map fun v => .tuple [v])

theorem xy_classes {n : Nat} (xp : Nat → List Val) (yc : Nat → Val) (hn : n ≠ 0) :
    KeyClasses n (fun i => .tuple (xp i ++ [yc i])) (xyGroups n xp yc) := by
  have h := listbyG_classes (keys := xyKeys n xp yc) fun h =>
    hn (by rw [← xyKeys_length n xp yc, h, List.length_nil])
  rw [xyKeys_length] at h
  exact ⟨h.sorted, fun i hi => xyKeys_get hi ▸ h.covers i hi,
    fun g hg => have ⟨l, hl, e⟩ := h.rep g hg; ⟨l, hl, xyKeys_get hl ▸ e⟩⟩

theorem xyg_rows {n nx : Nat} (xp : Nat → List Val) (yc : Nat → Val) (hn : n ≠ 0)
    (hxp : ∀ i, (xp i).length = nx) (g : Grp) (hg : g ∈ xyGroups n xp yc) :
    ∃ l, l < n ∧ xPart nx g.1 = .tuple (xp l) ∧ tupleGet nx g.1 = yc l ∧
      g.2 = matchRows n (fun i => .tuple (xp i)) (fun i => .tuple [yc i]) (.tuple (xp l)) (.tuple [yc l]) := by
  obtain ⟨l, hl, hrep⟩ := (xy_classes xp yc hn).rep g hg
  refine ⟨l, hl, ?_, ?_, ?_⟩
  · rw [hrep, ← hxp l]
    exact xPart_snoc _ _
  · rw [hrep, ← hxp l]
    exact tupleGet_snoc _ _
  · rw [group_eq_filter hg, xyKeys_length]
    apply List.filter_congr
    intro i hi
    rw [xyKeys_get (List.mem_range.1 hi), hrep, Bool.eq_iff_iff, Bool.and_eq_true, beq_iff_eq,
      beq_iff_eq, beq_iff_eq]
    exact cmp_tuple_snoc _ _ _ _ (by rw [hxp, hxp])

theorem pivotCell_spec (n nx : Nat) (xp : Nat → List Val) (yc : Nat → Val) (zs : List Cell)
    (agg : Agg) (hn : n ≠ 0) (hxp : ∀ i, (xp i).length = nx)
    (gx gy : Grp) (hgx : gx ∈ xGroups n nx xp yc) :
    pivotCell (xyGroups n xp yc) nx zs agg gx.2 gy.1 =
      aggCell agg zs (matchRows n (fun i => .tuple (xp i)) (fun i => .tuple [yc i]) gx.1 gy.1) := by
  simp only [xGroups, xyGroups, aggCell] at hgx ⊢
  generalize hxyg : listbyG (xyKeys n xp yc) = xyg at hgx ⊢
  have hmem : ∀ g ∈ xyg, g ∈ listbyG (xyKeys n xp yc) := fun g h => hxyg ▸ h
  have hget : ∀ j (hj : j < xyg.length), xyg.getD j (.cell .none, []) = xyg[j] := fun j hj => by
    rw [List.getD_eq_getElem?_getD, List.getElem?_eq_getElem hj, Option.getD_some]
  have hsel : ∀ j (hj : j < xyg.length) l, xPart nx xyg[j].1 = .tuple (xp l) → tupleGet nx xyg[j].1 = yc l →
      ((j ∈ gx.2 ∧ cmp (.tuple [tupleGet nx (xyg.getD j (.cell .none, [])).1]) gy.1 = .eq) ↔
        cmp (.tuple (xp l)) gx.1 = .eq ∧ cmp (.tuple [yc l]) gy.1 = .eq) := by
    intro j hj l hxl hyl
    rw [mem_group_iff hgx, List.length_map, keyAt_map _ _ hj, hget j hj, hxl, hyl]
    exact and_congr_left fun _ => and_iff_right hj
  unfold pivotCell
  split
  · next hnone =>
    rw [if_pos]
    apply List.eq_nil_iff_forall_not_mem.2
    intro i hi
    obtain ⟨hin, hix, hiy⟩ := mem_matchRows.1 hi
    obtain ⟨g, hg, hig⟩ := mem_listbyG.2 ((xyKeys_length n xp yc).symm ▸ hin)
    rw [hxyg] at hg
    obtain ⟨j, hj, rfl⟩ := List.getElem_of_mem hg
    obtain ⟨l, _, hxl, hyl, hrows⟩ := xyg_rows xp yc hn hxp xyg[j] (hmem _ hg)
    obtain ⟨_, hil, hiyl⟩ := mem_matchRows.1 (hrows ▸ hig)
    have hjm := (hsel j hj l hxl hyl).2
      ⟨Std.TransCmp.eq_trans (Std.OrientedCmp.eq_symm hil) hix, Std.TransCmp.eq_trans (Std.OrientedCmp.eq_symm hiyl) hiy⟩
    have : j ∈ gx.2.filter fun j =>
        cmp (.tuple [tupleGet nx (xyg.getD j (.cell .none, [])).1]) gy.1 == .eq :=
      List.mem_filter.2 ⟨hjm.1, beq_iff_eq.2 hjm.2⟩
    rw [List.getLast?_eq_none_iff.1 hnone] at this
    cases this
  · next j hsome =>
    have hjm := List.mem_filter.1 (List.mem_of_getLast? hsome)
    have hj : j < xyg.length := by
      have := ((mem_group_iff hgx).1 hjm.1).1
      rwa [List.length_map] at this
    obtain ⟨l, hl, hxl, hyl, hrows⟩ := xyg_rows xp yc hn hxp xyg[j] (hmem _ (List.getElem_mem hj))
    obtain ⟨hx, hy⟩ := (hsel j hj l hxl hyl).1 ⟨hjm.1, beq_iff_eq.1 hjm.2⟩
    rw [hget j hj, hrows, matchRows_congr n _ _ hx hy,
      if_neg (List.ne_nil_of_mem (mem_matchRows.2 ⟨hl, hx, hy⟩))]

/-- the x cells of row `i` -/
def xCells (t : Table) (x : List String) (i : Nat) : List Val := x.map fun k => .cell (t.jcellAt k i)
/-- the y cell of row `i` -/
def yCell (t : Table) (y : String) (i : Nat) : Val := .cell (t.jcellAt y i)

theorem xCells_length (t : Table) (x : List String) (i : Nat) : (xCells t x i).length = x.length :=
  List.length_map _

theorem keysOf_xy (t : Table) (x : List String) (y : String)
    (h : ∀ k ∈ x ++ [y], (t.col? k).isSome = true) :
    t.keysOf ((x ++ [y]).map .col) = .ok (xyKeys t.nrows (xCells t x) (yCell t y)) := by
  rw [keysOf_named fun k hk => Table.mem_cols_of_col? (Option.get_mem (h k hk))]
  simp [Table.rowKeys, Table.keyCells, xyKeys, xCells, yCell]

section
variable {n nx : Nat} (xp : Nat → List Val) (yc : Nat → Val) (hn : n ≠ 0) (hxp : ∀ i, (xp i).length = nx)
include hn hxp

theorem x_classes : KeyClasses n (fun i => .tuple (xp i)) (xGroups n nx xp yc) := by
  have hx : ∀ i, xPart nx (.tuple (xp i ++ [yc i])) = .tuple (xp i) := fun i => hxp i ▸ xPart_snoc _ _
  have h := (xy_classes xp yc hn).regroup hn (xPart nx) fun i l _ _ he => by
    rw [hx, hx]
    exact ((cmp_tuple_snoc _ _ _ _ (by rw [hxp, hxp])).1 he).1
  simp only [hx] at h
  exact h

theorem y_classes : KeyClasses n (fun i => .tuple [yc i]) (yGroups n nx xp yc) := by
  have hy : ∀ i, tupleGet nx (.tuple (xp i ++ [yc i])) = yc i := fun i => hxp i ▸ tupleGet_snoc _ _
  have h := (xy_classes xp yc hn).regroup hn (fun v => .tuple [tupleGet nx v])
    fun i l _ _ he => by
      rw [hy, hy]
      exact ((cmp_tuple_snoc _ _ _ _ (by rw [hxp, hxp])).1 he).2
  simp only [hy] at h
  rw [yGroups, List.map_map]
  exact h

end

end Pyg
