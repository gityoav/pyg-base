/-
  Cleaning a text before dateutil sees it (C04): `strip`, `slashes` (the model of `ambiguity.sub(r'\1/\2/\3', t)`, compared both ways with
  the declarative description `MatchesPadded` of the texts the regex matches) and `squeeze` (blanks around the separators).
-/
import PygProofs.Lemmas.DateTextLemmas
namespace Pyg.DateParse
open Pyg Pyg.Bump Pyg.Gen Pyg.Greg

def AllWs (l : List Char) : Prop := ∀ c ∈ l, isWs c = true

theorem ws_not_digit_alpha (c : Char) (h : isWs c = true) : c.isDigit = false ∧ c.isAlpha = false := by
  simp only [isWs, Bool.or_eq_true, decide_eq_true_eq] at h
  rcases h with ((((rfl | rfl) | rfl) | rfl) | rfl) | rfl <;> decide

theorem notWs_of_digit (c : Char) (h : c.isDigit = true) : isWs c = false :=
  Bool.eq_false_iff.mpr fun hw => Bool.noConfusion ((ws_not_digit_alpha c hw).1.symm.trans h)

theorem notWs_of_alpha (c : Char) (h : c.isAlpha = true) : isWs c = false :=
  Bool.eq_false_iff.mpr fun hw => Bool.noConfusion ((ws_not_digit_alpha c hw).2.symm.trans h)

theorem strip_ends (cs : List Char) (hh : ∀ c, cs.head? = some c → isWs c = false) (hl : ∀ c, cs.getLast? = some c → isWs c = false) :
    strip cs = cs := by
  unfold strip
  rw [List.dropWhile_eq_self_of_head? _ cs hh, List.dropWhile_eq_self_of_head? _ cs.reverse (by rw [List.head?_reverse]; exact hl), List.reverse_reverse]

theorem strip_wrapped (ws1 ws2 cs : List Char) (h1 : AllWs ws1) (h2 : AllWs ws2) (hne : cs ≠ [])
    (hh : ∀ c, cs.head? = some c → isWs c = false) (hl : ∀ c, cs.getLast? = some c → isWs c = false) :
    strip (ws1 ++ cs ++ ws2) = cs := by
  have e1 : (ws1 ++ cs ++ ws2).dropWhile isWs = cs ++ ws2 := by
    rw [List.append_assoc, List.dropWhile_append_of_pos h1, List.dropWhile_eq_self_of_head?]
    cases cs with
    | nil => exact absurd rfl hne
    | cons c0 r => exact hh
  have e2 : (cs ++ ws2).reverse.dropWhile isWs = cs.reverse := by
    rw [List.reverse_append, List.dropWhile_append_of_pos (fun c hc => h2 c (List.mem_reverse.mp hc)), List.dropWhile_eq_self_of_head?]
    intro c hc; rw [List.head?_reverse] at hc; exact hl c hc
  unfold strip; rw [e1, e2, List.reverse_reverse]

/-- the text ends in a digit: every spelling does, with or without its time of day -/
def EndsDigit (cs : List Char) : Prop := ∃ c, cs.getLast? = some c ∧ c.isDigit = true

theorem EndsDigit.append {cs : List Char} (pre : List Char) (h : EndsDigit cs) : EndsDigit (pre ++ cs) := by
  obtain ⟨c, hc, hd⟩ := h
  exact ⟨c, by rw [List.getLast?_append, hc]; rfl, hd⟩

theorem EndsDigit.cons {cs : List Char} (c : Char) (h : EndsDigit cs) : EndsDigit (c :: cs) := h.append [c]

theorem EndsDigit.ne_nil {cs : List Char} (h : EndsDigit cs) : cs ≠ [] := by
  rintro rfl; obtain ⟨c, hc, _⟩ := h; cases hc

theorem EndsDigit.notWs {cs : List Char} (h : EndsDigit cs) : ∀ c, cs.getLast? = some c → isWs c = false := by
  obtain ⟨c, hc, hd⟩ := h
  intro c' hc'
  rw [hc] at hc'; cases hc'
  exact notWs_of_digit c hd

theorem IsNumeral.endsDigit {k : Nat} {cs : List Char} (h : IsNumeral k cs) : EndsDigit cs := by
  cases e : cs.getLast? with
  | none => exact absurd (List.getLast?_eq_none_iff.mp e) h.1
  | some c => exact ⟨c, e, h.2.2 c (List.mem_of_getLast? e)⟩

theorem TimeText.endsDigit {tm : List Char} {a b : Int} (h : TimeText tm a b) {k : Nat} {n : List Char} (hn : IsNumeral k n) :
    EndsDigit (n ++ tm) := by
  cases h with
  | none => rw [List.append_nil]; exact hn.endsDigit
  | hm l hh mm _ _ h2 _ _ => exact (((h2.endsDigit.cons ':').append hh).cons l).append n
  | hms l hh mm ss _ _ _ h3 _ _ _ => exact (((((h3.endsDigit.cons ':').append mm).cons ':').append hh).cons l).append n
  | frac l hh mm ss fr _ _ _ _ h4 _ _ _ =>
    exact (((((((h4.endsDigit.cons '.').append ss).cons ':').append mm).cons ':').append hh).cons l).append n

theorem IsNumeral.head_notWs {k : Nat} {cs : List Char} (h : IsNumeral k cs) (rest : List Char) :
    ∀ c, (cs ++ rest).head? = some c → isWs c = false := by
  obtain ⟨c0, r, rfl, h0⟩ := h.cons
  intro c hc; cases Option.some.inj hc; exact notWs_of_digit c0 h0

theorem IsMonthName.head_notWs {m : Nat} {w : List Char} (h : IsMonthName m w) (rest : List Char) :
    ∀ c, (w ++ rest).head? = some c → isWs c = false := by
  obtain ⟨_, hne, hw, _⟩ := h
  cases w with
  | nil => exact absurd rfl hne
  | cons c0 r => intro c hc; cases Option.some.inj hc; exact notWs_of_alpha c0 (hw c0 (by simp))

/-- a character `squeeze` copies without looking at its neighbours: not a blank, not `/`, not `-` -/
def Plain (c : Char) : Prop := c ≠ ' ' ∧ c ≠ '/' ∧ c ≠ '-'

theorem IsNumeral.plain {k : Nat} {cs : List Char} (h : IsNumeral k cs) : ∀ x ∈ cs, Plain x := fun x hx => by
  refine ⟨?_, ?_, ?_⟩ <;> rintro rfl <;> exact absurd (h.2.2 _ hx) (by decide)

theorem IsMonthName.plain {m : Nat} {w : List Char} (h : IsMonthName m w) : ∀ x ∈ w, Plain x := fun x hx => by
  refine ⟨?_, ?_, ?_⟩ <;> rintro rfl <;> exact absurd (h.2.2.1 _ hx) (by decide)

theorem squeeze_run {ds : List Char} (h : ∀ c ∈ ds, Plain c) (rest : List Char) : squeeze (ds ++ rest) = ds ++ squeeze rest := by
  unfold squeeze
  induction ds with
  | nil => rfl
  | cons c r ih =>
    obtain ⟨h0, h1, h2⟩ := h c (by simp)
    simp only [List.cons_append, squeezeGo, h0, h1, h2, if_false, decide_false, Bool.or_false, Bool.false_and, Bool.false_eq_true]
    rw [ih (fun x hx => h x (by simp [hx]))]

theorem squeeze_cons {c : Char} (h : Plain c) (rest : List Char) : squeeze (c :: rest) = c :: squeeze rest :=
  squeeze_run (ds := [c]) (fun x hx => by rw [List.mem_singleton.mp hx]; exact h) rest

theorem squeeze_plain {ds : List Char} (h : ∀ c ∈ ds, Plain c) : squeeze ds = ds := by
  have := squeeze_run h []
  rwa [List.append_nil, show squeeze [] = [] from rfl, List.append_nil] at this

theorem squeezeGo_plain (after pending : Bool) {ds : List Char} (hne : ds ≠ []) (h : ∀ x ∈ ds, Plain x) (rest : List Char) :
    squeezeGo after pending (ds ++ rest) = (if pending && !after then [' '] else []) ++ (ds ++ squeeze rest) := by
  obtain ⟨c, ds, rfl⟩ := List.exists_cons_of_ne_nil hne
  obtain ⟨h0, h1, h2⟩ := h c (by simp)
  have hr := squeeze_run (ds := ds) (fun x hx => h x (by simp [hx])) rest
  unfold squeeze at hr
  simp only [List.cons_append, squeezeGo, h0, h1, h2, if_false, decide_false, Bool.or_false, Bool.not_false, Bool.and_true]
  rw [hr]
  cases pending <;> cases after <;> rfl

theorem squeezeGo_blanks (after pending : Bool) (l rest : List Char) (h : ∀ c ∈ l, c = ' ') :
    squeezeGo after pending (l ++ rest) = squeezeGo after (pending || !l.isEmpty) rest := by
  induction l generalizing pending with
  | nil => simp
  | cons c r ih =>
    have hc : c = ' ' := h c (by simp)
    subst hc
    simp only [List.cons_append, squeezeGo, if_true]
    rw [ih true (fun x hx => h x (by simp [hx]))]
    simp

theorem squeezeGo_sep (after pending : Bool) (s : Char) (rest : List Char) (hs : s = '/' ∨ s = '-') :
    squeezeGo after pending (s :: rest) = s :: squeezeGo true false rest := by
  rcases hs with rfl | rfl <;> cases pending <;> cases after <;> simp [squeezeGo]

/-- a separator of the quantifier's set that `squeeze` handles (the `.` is left alone: dateutil does not read blanks around it
as the tight text) -/
def IsSqSep (s : Char) : Prop := s = '/' ∨ s = '-' ∨ s = ' '

theorem IsSqSep.isDateSep {s : Char} (h : IsSqSep s) : isDateSep s = true := by
  rcases h with rfl | rfl | rfl <;> decide

theorem squeeze_padded_sep {s : Char} (hs : IsSqSep s) {l r : List Char} (hl : ∀ c ∈ l, c = ' ') (hr : ∀ c ∈ r, c = ' ')
    {ds : List Char} (hne : ds ≠ []) (h : ∀ x ∈ ds, Plain x) (rest : List Char) :
    squeeze (l ++ s :: (r ++ (ds ++ rest))) = s :: (ds ++ squeeze rest) := by
  unfold squeeze
  rcases hs with hs | hs | rfl
  · rw [squeezeGo_blanks _ _ l _ hl, squeezeGo_sep _ _ s _ (Or.inl hs), squeezeGo_blanks _ _ r _ hr, squeezeGo_plain _ _ hne h rest]
    simp [squeeze]
  · rw [squeezeGo_blanks _ _ l _ hl, squeezeGo_sep _ _ s _ (Or.inr hs), squeezeGo_blanks _ _ r _ hr, squeezeGo_plain _ _ hne h rest]
    simp [squeeze]
  · have hb : ∀ x ∈ l ++ ' ' :: r, x = ' ' := List.forall_mem_append.2 ⟨hl, List.forall_mem_cons.2 ⟨rfl, hr⟩⟩
    have e : l ++ ' ' :: (r ++ (ds ++ rest)) = (l ++ ' ' :: r) ++ (ds ++ rest) := by simp
    rw [e, squeezeGo_blanks _ _ _ _ hb, squeezeGo_plain _ _ hne h rest]
    simp [squeeze]

theorem squeeze_sep_run {s : Char} (hs : isDateSep s = true) {ds : List Char} (hne : ds ≠ []) (h : ∀ x ∈ ds, Plain x) (rest : List Char) :
    squeeze (s :: (ds ++ rest)) = s :: (ds ++ squeeze rest) := by
  have nil : ∀ c ∈ ([] : List Char), c = ' ' := fun _ hc => nomatch hc
  rcases sep_cases s hs with (rfl | rfl | rfl) | rfl
  · exact squeeze_padded_sep (Or.inr (Or.inl rfl)) nil nil hne h rest
  · exact squeeze_padded_sep (Or.inl rfl) nil nil hne h rest
  · rw [squeeze_cons (by unfold Plain; decide), squeeze_run h]
  · exact squeeze_padded_sep (Or.inr (Or.inr rfl)) nil nil hne h rest

theorem TimeText.squeeze_id {tm : List Char} {a b : Int} (h : TimeText tm a b) : squeeze tm = tm := by
  have colon : Plain ':' := by unfold Plain; decide
  have dot : Plain '.' := by unfold Plain; decide
  have lead : ∀ {l : Char} {ds : List Char}, IsLead l → ds ≠ [] → (∀ x ∈ ds, Plain x) → ∀ rest,
      squeeze (l :: (ds ++ rest)) = l :: (ds ++ squeeze rest) := by
    intro l ds hl hne hp rest
    rcases hl with rfl | rfl
    · exact squeeze_sep_run (by decide) hne hp rest
    · rw [squeeze_cons (by unfold Plain; decide), squeeze_run hp]
  cases h with
  | none => rfl
  | hm l hh mm hl h1 h2 _ _ => rw [lead hl h1.1 h1.plain, squeeze_cons colon, squeeze_plain h2.plain]
  | hms l hh mm ss hl h1 h2 h3 _ _ _ =>
    rw [lead hl h1.1 h1.plain, squeeze_cons colon, squeeze_run h2.plain, squeeze_cons colon, squeeze_plain h3.plain]
  | frac l hh mm ss fr hl h1 h2 h3 h4 _ _ _ =>
    rw [lead hl h1.1 h1.plain, squeeze_cons colon, squeeze_run h2.plain, squeeze_cons colon, squeeze_run h3.plain, squeeze_cons dot,
      squeeze_plain h4.plain]

theorem squeeze_padded_seps (a b yy tm : List Char) (s1 s2 : Char) (l1 r1 l2 r2 : List Char) (hms us : Int)
    (ha : IsNumeral 2 a) (hb : IsNumeral 2 b) (hy : IsNumeral 4 yy) (h1 : IsSqSep s1) (h2 : IsSqSep s2)
    (bl1 : ∀ c ∈ l1, c = ' ') (br1 : ∀ c ∈ r1, c = ' ') (bl2 : ∀ c ∈ l2, c = ' ') (br2 : ∀ c ∈ r2, c = ' ') (ht : TimeText tm hms us) :
    squeeze (a ++ (l1 ++ s1 :: (r1 ++ (b ++ (l2 ++ s2 :: (r2 ++ (yy ++ tm))))))) = a ++ s1 :: (b ++ s2 :: (yy ++ tm)) := by
  rw [squeeze_run ha.plain, squeeze_padded_sep h1 bl1 br1 hb.1 hb.plain, squeeze_padded_sep h2 bl2 br2 hy.1 hy.plain, ht.squeeze_id]

/-- `\s*SEP\s*` with SEP one of dash, slash, blank, dot (an independent description: a decomposition of the text) -/
def IsSepZone (z : List Char) : Prop := ∃ l r : List Char, ∃ s : Char, z = l ++ s :: r ∧ AllWs l ∧ AllWs r ∧ isDateSep s = true

/-- the texts `ambiguity` matches (regex semantics, written as a decomposition of the text; what follows is arbitrary) -/
def MatchesPadded (cs : List Char) : Prop :=
  ∃ a z1 b z2 y rest : List Char, cs = a ++ (z1 ++ (b ++ (z2 ++ (y ++ rest))))
    ∧ IsNumeral 2 a ∧ IsSepZone z1 ∧ IsNumeral 2 b ∧ IsSepZone z2
    ∧ (2 ≤ y.length ∧ y.length ≤ 4 ∧ ∀ c ∈ y, c.isDigit = true)

theorem takeNum2_numeral (a rest : List Char) (ha : IsNumeral 2 a) (hr : NonDigitHead rest) : takeNum2 (a ++ rest) = some (a, rest) := by
  have sp := spanDigits_prefix a rest ha.2.2 hr
  have := ha.len_pos; have := ha.2.1
  unfold takeNum2; simp only [sp]; rw [if_pos ⟨by omega, by omega⟩]

theorem takeNum2_of_ndh {cs : List Char} (h : NonDigitHead cs) : takeNum2 cs = none := by
  have sp := spanDigits_prefix [] cs nofun h
  unfold takeNum2
  rw [List.nil_append] at sp
  simp only [sp]
  rfl

theorem IsSepZone.ndh {z : List Char} (h : IsSepZone z) (rest : List Char) : NonDigitHead (z ++ rest) := by
  obtain ⟨l, r, s, rfl, hl, _, hs⟩ := h
  cases l with
  | nil => exact ndh_cons _ _ (sep_not_digit_alpha s hs).1
  | cons c cs => exact ndh_cons _ _ (ws_not_digit_alpha c (hl c (by simp))).1

theorem sepZone_zone (z : List Char) (h : IsSepZone z) (d : Char) (more : List Char) (dw : isWs d = false)
    (dn : ¬ (d = '-' ∨ d = '/' ∨ d = '.')) :
    sepZone (z ++ d :: more) = some (d :: more) := by
  obtain ⟨l, r, s, rfl, hl, hr, hs⟩ := h
  unfold sepZone
  rcases sep_cases s hs with hs3 | rfl
  · -- the separator is written: white space, the separator, white space
    have sw : isWs s = false := by rcases hs3 with rfl | rfl | rfl <;> decide
    rw [List.append_assoc, List.dropWhile_append_of_pos hl]
    simp only [List.cons_append, List.dropWhile_cons, sw, Bool.false_eq_true, if_false]
    rw [if_pos hs3, List.dropWhile_append_of_pos hr]
    simp only [List.dropWhile_cons, dw, Bool.false_eq_true, if_false]
  · -- the separator is a blank: the whole zone is white space that contains one
    have hz : AllWs (l ++ ' ' :: r) := List.forall_mem_append.2 ⟨hl, List.forall_mem_cons.2 ⟨by decide, hr⟩⟩
    rw [List.dropWhile_append_of_pos hz, List.takeWhile_append_of_pos hz]
    simp only [List.dropWhile_cons, dw, Bool.false_eq_true, if_false, List.takeWhile_cons, List.append_nil]
    rw [if_neg dn, if_pos (by simp)]

theorem sepZone_zone_digit (z : List Char) (h : IsSepZone z) (d : Char) (more : List Char) (hd : d.isDigit = true) :
    sepZone (z ++ d :: more) = some (d :: more) :=
  sepZone_zone z h d more (notWs_of_digit d hd) (by rintro (rfl | rfl | rfl) <;> exact absurd hd (by decide))

theorem slashes_of_stages {cs a r1 r2 b r3 r4 : List Char} (e1 : takeNum2 cs = some (a, r1)) (e2 : sepZone r1 = some r2)
    (e3 : takeNum2 r2 = some (b, r3)) (e4 : sepZone r3 = some r4) (e5 : 2 ≤ (spanDigits r4).1.length) :
    slashes cs = a ++ '/' :: (b ++ '/' :: r4) := by
  unfold slashes
  simp only [e1, e2, e3, e4, if_pos e5]

/-- the two faces of `slashes`: the text is left alone, or all five stages of the regex succeed (and `slashes_of_stages` says what is written) -/
theorem slashes_cases (cs : List Char) : slashes cs = cs ∨ ∃ a r1 r2 b r3 r4, takeNum2 cs = some (a, r1) ∧ sepZone r1 = some r2 ∧
    takeNum2 r2 = some (b, r3) ∧ sepZone r3 = some r4 ∧ 2 ≤ (spanDigits r4).1.length := by
  unfold slashes
  split
  · exact Or.inl rfl
  · next a r1 e1 =>
    split
    · exact Or.inl rfl
    · next r2 e2 =>
      split
      · exact Or.inl rfl
      · next b r3 e3 =>
        split
        · exact Or.inl rfl
        · next r4 e4 =>
          split
          · next hy => exact Or.inr ⟨a, r1, r2, b, r3, r4, e1, e2, e3, e4, hy⟩
          · exact Or.inl rfl

theorem slashes_of_takeNum2_none {cs : List Char} (h : takeNum2 cs = none) : slashes cs = cs := by
  unfold slashes
  rw [h]

theorem slashes_nondigit (cs : List Char) (h : NonDigitHead cs) : slashes cs = cs :=
  slashes_of_takeNum2_none (takeNum2_of_ndh h)

theorem slashes_long_numeral (yy rest : List Char) (hy : ∀ c ∈ yy, c.isDigit = true) (hl : 3 ≤ yy.length) (hr : NonDigitHead rest) :
    slashes (yy ++ rest) = yy ++ rest := by
  apply slashes_of_takeNum2_none
  unfold takeNum2
  simp only [spanDigits_prefix yy rest hy hr]
  rw [if_neg (by omega)]

theorem slashes_of_parts (a z1 b z2 y rest : List Char) (ha : IsNumeral 2 a) (h1 : IsSepZone z1) (hb : IsNumeral 2 b) (h2 : IsSepZone z2)
    (hy : 2 ≤ y.length ∧ ∀ c ∈ y, c.isDigit = true) :
    slashes (a ++ (z1 ++ (b ++ (z2 ++ (y ++ rest))))) = a ++ '/' :: (b ++ '/' :: (y ++ rest)) := by
  obtain ⟨b0, bs, rfl, hb0⟩ := hb.cons
  match y, hy with
  | y0 :: y1 :: ys, hy =>
    have hy0 : y0.isDigit = true := hy.2 y0 (by simp)
    have hy1 : y1.isDigit = true := hy.2 y1 (by simp)
    have e1 := takeNum2_numeral a (z1 ++ (b0 :: bs ++ (z2 ++ (y0 :: y1 :: ys ++ rest)))) ha (h1.ndh _)
    have e2 := sepZone_zone_digit z1 h1 b0 (bs ++ (z2 ++ (y0 :: y1 :: ys ++ rest))) hb0
    have e3 := takeNum2_numeral (b0 :: bs) (z2 ++ (y0 :: y1 :: ys ++ rest)) hb (h2.ndh _)
    have e4 := sepZone_zone_digit z2 h2 y0 (y1 :: ys ++ rest) hy0
    have e5 : 2 ≤ (spanDigits (y0 :: y1 :: (ys ++ rest))).1.length := by simp [spanDigits, hy0, hy1]
    exact slashes_of_stages e1 e2 e3 e4 e5

theorem slashes_of_match (cs : List Char) (h : MatchesPadded cs) :
    ∃ a b tail z1 z2, cs = a ++ (z1 ++ (b ++ (z2 ++ tail))) ∧ IsNumeral 2 a ∧ IsNumeral 2 b ∧ IsSepZone z1 ∧ IsSepZone z2
      ∧ slashes cs = a ++ '/' :: (b ++ '/' :: tail) := by
  obtain ⟨a, z1, b, z2, y, rest, rfl, ha, h1, hb, h2, hy⟩ := h
  exact ⟨a, b, y ++ rest, z1, z2, rfl, ha, hb, h1, h2, slashes_of_parts a z1 b z2 y rest ha h1 hb h2 ⟨hy.1, hy.2.2⟩⟩

theorem takeNum2_inv (cs a r : List Char) (h : takeNum2 cs = some (a, r)) : cs = a ++ r ∧ IsNumeral 2 a := by
  unfold takeNum2 at h
  simp only [] at h
  split at h
  · next hc =>
    simp only [Option.some.injEq] at h
    have sp := spanDigits_spec cs
    rw [h] at sp hc
    simp only at sp hc
    refine ⟨sp.1, ?_, hc.2, sp.2.1⟩
    intro e; rw [e] at hc; simp at hc
  · exact absurd h (by simp)

theorem allWs_takeWhile (cs : List Char) : AllWs (cs.takeWhile isWs) :=
  fun c hc => List.all_eq_true.mp List.all_takeWhile c hc

theorem sepZone_inv (cs r : List Char) (h : sepZone cs = some r) : ∃ z, cs = z ++ r ∧ IsSepZone z := by
  unfold sepZone at h
  have split := (List.takeWhile_append_dropWhile (p := isWs) (l := cs)).symm
  generalize hd : cs.dropWhile isWs = dr at h split
  cases dr with
  | nil => simp at h
  | cons c r1 =>
    simp only [] at h
    split at h
    · next hc =>
      simp only [Option.some.injEq] at h
      have split2 := (List.takeWhile_append_dropWhile (p := isWs) (l := r1)).symm
      rw [h] at split2
      refine ⟨cs.takeWhile isWs ++ c :: r1.takeWhile isWs, ?_, cs.takeWhile isWs, r1.takeWhile isWs, c, rfl, allWs_takeWhile cs,
        allWs_takeWhile r1, ?_⟩
      · refine split.trans ?_
        simp only [List.append_assoc, List.cons_append]; rw [← split2]
      · rcases hc with rfl | rfl | rfl <;> decide
    · split at h
      · next hn hb =>
        simp only [Option.some.injEq] at h
        -- the white space contains a blank: split it there
        have hm : ' ' ∈ cs.takeWhile isWs := by simpa using hb
        obtain ⟨l, r2, e⟩ := List.append_of_mem hm
        have hw := List.forall_mem_append.1 (e ▸ allWs_takeWhile cs)
        refine ⟨cs.takeWhile isWs, ?_, l, r2, ' ', e, hw.1, (List.forall_mem_cons.1 hw.2).2, by decide⟩
        rw [← h]; exact split
      · exact absurd h (by simp)

theorem slashes_no_match (cs : List Char) (h : ¬ MatchesPadded cs) : slashes cs = cs := by
  rcases slashes_cases cs with e | ⟨a, r1, r2, b, r3, r4, e1, e2, e3, e4, hy⟩
  · exact e
  · exfalso; apply h
    obtain ⟨c1, na⟩ := takeNum2_inv _ _ _ e1
    obtain ⟨z1, c2, hz1⟩ := sepZone_inv _ _ e2
    obtain ⟨c3, nb⟩ := takeNum2_inv _ _ _ e3
    obtain ⟨z2, c4, hz2⟩ := sepZone_inv _ _ e4
    have sp := spanDigits_spec r4
    -- the first two digits of the year
    generalize hsd : (spanDigits r4).1 = ys at hy sp
    match ys, hy with
    | y0 :: y1 :: yt, _ =>
      refine ⟨a, z1, b, z2, [y0, y1], yt ++ (spanDigits r4).2, ?_, na, hz1, nb, hz2, by simp, by simp, ?_⟩
      · rw [c1, c2, c3, c4]; congr 4
        simpa using sp.1
      · intro c hc; simp only [List.mem_cons, List.not_mem_nil, or_false] at hc
        rcases hc with rfl | rfl
        · exact sp.2.1 _ (by simp)
        · exact sp.2.1 _ (by simp)

/-- 1-2 digits, one separator character, then a word (a month name): left alone, the regex wants a digit after the separator -/
theorem slashes_num_word (dd w rest : List Char) (s : Char) (hd : IsNumeral 2 dd) (hs : s = ' ' ∨ s = '-') (hne : w ≠ [])
    (hw : ∀ c ∈ w, c.isAlpha = true) : slashes (dd ++ s :: (w ++ rest)) = dd ++ s :: (w ++ rest) := by
  obtain ⟨c, w, rfl⟩ := List.exists_cons_of_ne_nil hne
  have hc : c.isAlpha = true := hw c (by simp)
  have sep : isDateSep s = true := by rcases hs with rfl | rfl <;> decide
  have e1 := takeNum2_numeral dd (s :: (c :: w ++ rest)) hd (ndh_cons _ _ (sep_not_digit_alpha s sep).1)
  have e2 := sepZone_zone [s] ⟨[], [], s, rfl, nofun, nofun, sep⟩ c (w ++ rest) (notWs_of_alpha c hc)
    (by rintro (rfl | rfl | rfl) <;> exact absurd hc (by decide))
  have e3 : takeNum2 (c :: w ++ rest) = none := takeNum2_of_ndh (ndh_cons _ _ (Char.isAlpha_not_digit c hc))
  rcases slashes_cases (dd ++ s :: (c :: w ++ rest)) with e | ⟨a, r1, r2, b, r3, r4, f1, f2, f3, _, _⟩
  · exact e
  · rw [e1] at f1; cases f1
    rw [show s :: (c :: w ++ rest) = [s] ++ c :: (w ++ rest) from rfl, e2] at f2; cases f2
    rw [show c :: (w ++ rest) = c :: w ++ rest from rfl, e3] at f3; cases f3

theorem dtStr_ofList (uk : Bool) (cs : List Char) : dtStr uk (String.ofList cs) = dtCs uk (squeeze (slashes (strip cs))) := by
  unfold dtStr; rw [String.toList_ofList]

theorem pre_iso_any (yy mm dd tm : List Char) (s1 s2 : Char) (hms us : Int) (hy : IsNumeral 4 yy) (hy4 : yy.length = 4)
    (hm : IsNumeral 2 mm) (hd : IsNumeral 2 dd) (h1 : isDateSep s1 = true) (h2 : isDateSep s2 = true) (ht : TimeText tm hms us) :
    squeeze (slashes (strip (yy ++ s1 :: (mm ++ s2 :: (dd ++ tm))))) = yy ++ s1 :: (mm ++ s2 :: (dd ++ tm)) := by
  rw [strip_ends _ (hy.head_notWs _) ((((ht.endsDigit hd).cons s2).append mm).cons s1 |>.append yy).notWs,
    slashes_long_numeral yy _ hy.2.2 (by omega) (ndh_cons _ _ (sep_not_digit_alpha s1 h1).1),
    squeeze_run hy.plain, squeeze_sep_run h1 hm.1 hm.plain, squeeze_sep_run h2 hd.1 hd.plain, ht.squeeze_id]

theorem pre_compact (y m d : Nat) :
    squeeze (slashes (strip (pad4 y ++ pad2 m ++ pad2 d))) = pad4 y ++ pad2 m ++ pad2 d := by
  have hn : IsNumeral 8 (pad4 y ++ pad2 m ++ pad2 d) := compact_isNumeral y m d
  have hs := slashes_long_numeral _ [] hn.2.2 (by simp [pad4, pad2]) ndh_nil
  rw [List.append_nil] at hs
  have hh := hn.head_notWs []
  rw [List.append_nil] at hh
  rw [strip_ends _ hh hn.endsDigit.notWs, hs, squeeze_plain hn.plain]

theorem PlainText.ends {cs : List Char} {y m d : Nat} {hms us : Int} (h : PlainText cs y m d hms us) :
    (∀ c, cs.head? = some c → isWs c = false) ∧ EndsDigit cs := by
  cases h with
  | iso hyy _ _ hdd _ _ _ ht => exact ⟨hyy.head_notWs _, (((ht.endsDigit hdd).cons _).append _).cons _ |>.append _⟩
  | dMy _ hdd _ hyy _ ht => exact ⟨hdd.head_notWs _, (((ht.endsDigit hyy).cons _).append _).cons _ |>.append _⟩
  | Mdy_comma _ hw hyy _ ht => exact ⟨hw.head_notWs _, ((((ht.endsDigit hyy).cons _).cons _).append _).cons _ |>.append _⟩
  | Mdy _ hw hyy _ ht => exact ⟨hw.head_notWs _, (((ht.endsDigit hyy).cons _).append _).cons _ |>.append _⟩
  | compact _ _ _ =>
    have hn := compact_isNumeral y m d
    have hh := hn.head_notWs []
    rw [List.append_nil] at hh
    exact ⟨hh, hn.endsDigit⟩

theorem PlainText.clean {cs : List Char} {y m d : Nat} {hms us : Int} (h : PlainText cs y m d hms us) :
    squeeze (slashes (strip cs)) = cs := by
  have e := h.ends
  cases h with
  | iso hy hy4 hm hd h1 h2 _ ht => exact pre_iso_any _ _ _ _ _ _ _ _ hy hy4 hm hd h1 h2 ht
  | @dMy m dd w yy tm s _ _ hs hd hw hy _ ht =>
    have sep : isDateSep s = true := by rcases hs with rfl | rfl <;> decide
    rw [strip_ends _ e.1 e.2.notWs, slashes_num_word dd w _ s hd hs hw.2.1 hw.2.2.1,
      squeeze_run hd.plain, squeeze_sep_run sep hw.2.1 hw.plain, squeeze_sep_run sep hy.1 hy.plain, ht.squeeze_id]
  | Mdy_comma hd hw hy _ ht =>
    rw [strip_ends _ e.1 e.2.notWs, slashes_nondigit _ (hw.ndh _),
      squeeze_run hw.plain, squeeze_sep_run (by decide) hd.1 hd.plain, squeeze_cons (by unfold Plain; decide),
      squeeze_sep_run (by decide) hy.1 hy.plain, ht.squeeze_id]
  | Mdy hd hw hy _ ht =>
    rw [strip_ends _ e.1 e.2.notWs, slashes_nondigit _ (hw.ndh _),
      squeeze_run hw.plain, squeeze_sep_run (by decide) hd.1 hd.plain, squeeze_sep_run (by decide) hy.1 hy.plain, ht.squeeze_id]
  | compact _ _ _ => exact pre_compact _ _ _

theorem PlainText.dtStr {cs : List Char} {y m d : Nat} {hms us : Int} (h : PlainText cs y m d hms us) (uk : Bool) :
    dtStr uk (String.ofList cs) = some (readAs y m d (hms + us)) := by
  rw [dtStr_ofList, h.clean]
  exact h.dtCs uk

/-- `dt(<string>)` of a numeric triple whose two separators each have any white space around them, with any white space around the text:
the `ambiguity` rewrite hands dateutil the triple with `/` in place of both zones -/
theorem dtStr_zones (uk : Bool) (ws1 ws2 a z1 b z2 yy tm : List Char) (hms us : Int) (ha : IsNumeral 2 a) (hb : IsNumeral 2 b)
    (hyy : IsNumeral 4 yy) (hy4 : yy.length = 4) (h1 : IsSepZone z1) (h2 : IsSepZone z2) (ht : TimeText tm hms us)
    (w1 : AllWs ws1) (w2 : AllWs ws2) :
    dtStr uk (String.ofList (ws1 ++ (a ++ (z1 ++ (b ++ (z2 ++ (yy ++ tm))))) ++ ws2)) = some
      (if uk then readAs (digitsVal yy) (digitsVal b) (digitsVal a) (hms + us) else readAs (digitsVal yy) (digitsVal a) (digitsVal b) (hms + us)) := by
  have he := ((((ht.endsDigit hyy).append z2).append b).append z1).append a
  have sq : squeeze (a ++ '/' :: (b ++ '/' :: (yy ++ tm))) = a ++ '/' :: (b ++ '/' :: (yy ++ tm)) :=
    squeeze_padded_seps a b yy tm '/' '/' [] [] [] [] hms us ha hb hyy (Or.inl rfl) (Or.inl rfl) (by simp) (by simp) (by simp) (by simp) ht
  rw [dtStr_ofList, strip_wrapped ws1 ws2 _ w1 w2 he.ne_nil (ha.head_notWs _) he.notWs,
    slashes_of_parts a z1 b z2 yy tm ha h1 hb h2 ⟨by omega, hyy.2.2⟩, sq, dtCs_triple uk a b yy tm '/' '/' hms us ha hb hyy hy4 (by decide) (by decide) ht]

end Pyg.DateParse
