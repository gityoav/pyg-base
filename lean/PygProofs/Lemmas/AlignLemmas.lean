/-
  What the functions of PygModel/Align.lean on one index, one column, one member do (C03; the index lemmas also serve C08).
-/
import PygModel.Align
import PygProofs.Lemmas.Basics

namespace Pyg.Align
open Pyg Pyg.Fill

abbrev SortedL (l : List Int) : Prop := l.Pairwise (· < ·)

/-- the value a series `(idx, c)` holds at label `t` (`none`: no such label, or NaN there) -/
def valueAt (idx : List Int) (c : Col) (t : Int) : Option Int := (posOf idx t).bind fun i => (c[i]?).join

theorem mem_inter (a b : List Int) (t : Int) : t ∈ inter a b ↔ t ∈ a ∧ t ∈ b := by
  simp [inter, List.mem_filter]

theorem sorted_inter (a b : List Int) (h : SortedL a) : SortedL (inter a b) :=
  List.Pairwise.sublist List.filter_sublist h

theorem ins_eq (t : Int) (l : List Int) : ins t l = List.insLt t l := by
  induction l with
  | nil => rfl
  | cons x xs ih => rw [ins, List.insLt, ih]

theorem mem_ins (t s : Int) (l : List Int) : t ∈ ins s l ↔ t = s ∨ t ∈ l :=
  ins_eq s l ▸ List.mem_insLt t s l

theorem sorted_ins (s : Int) (l : List Int) (h : SortedL l) : SortedL (ins s l) :=
  ins_eq s l ▸ List.sorted_insLt (fun _ _ _ => Int.lt_trans) (fun _ _ h1 h2 => by omega) s l h

theorem mem_union (a b : List Int) (t : Int) : t ∈ union a b ↔ t ∈ a ∨ t ∈ b := by
  unfold union
  induction b generalizing a with
  | nil => simp
  | cons x xs ih =>
    simp only [List.foldl_cons]
    rw [ih, mem_ins]
    simp only [List.mem_cons]
    constructor
    · rintro ((h | h) | h) <;> simp [h]
    · rintro (h | h | h) <;> simp [h]

theorem sorted_union (a b : List Int) (h : SortedL a) : SortedL (union a b) :=
  List.foldl_preserves (op := fun acc t => ins t acc) (fun acc t _ hacc => sorted_ins t acc hacc) h

theorem mem_interS (a b : List String) (c : String) : c ∈ interS a b ↔ c ∈ a ∧ c ∈ b := by
  simp [interS, List.mem_filter]

theorem mem_unionS (a b : List String) (c : String) : c ∈ unionS a b ↔ c ∈ a ∨ c ∈ b := by
  simp only [unionS, List.mem_append, List.mem_filter]
  constructor
  · rintro (h | ⟨h, _⟩) <;> simp [h]
  · rintro (h | h)
    · exact Or.inl h
    · by_cases ha : c ∈ a
      · exact Or.inl ha
      · exact Or.inr ⟨h, by simpa using ha⟩

theorem nodup_interS (a b : List String) (h : a.Nodup) : (interS a b).Nodup :=
  List.Pairwise.sublist List.filter_sublist h

theorem nodup_unionS (a b : List String) (ha : a.Nodup) (hb : b.Nodup) : (unionS a b).Nodup := by
  unfold unionS
  rw [List.nodup_append]
  refine ⟨ha, List.Pairwise.sublist List.filter_sublist hb, ?_⟩
  intro x hx y hy e
  subst e
  simp [List.mem_filter] at hy
  exact hy.2 hx

theorem sorted_getElem?_lt {ix : List Int} (hs : SortedL ix) {i j : Nat} {a b : Int} (hij : i < j)
    (hi : ix[i]? = some a) (hj : ix[j]? = some b) : a < b := by
  obtain ⟨hil, rfl⟩ := List.getElem?_eq_some_iff.mp hi
  obtain ⟨hjl, rfl⟩ := List.getElem?_eq_some_iff.mp hj
  exact List.pairwise_iff_getElem.mp hs i j hil hjl hij

theorem posOf_some (idx : List Int) (t : Int) (i : Nat) (h : posOf idx t = some i) :
    idx[i]? = some t ∧ ∀ j, j < i → idx[j]? ≠ some t := by
  obtain ⟨⟨s, h1, h2⟩, h3⟩ := List.findIdx?_pos _ idx i h
  cases eq_of_beq h2
  exact ⟨h1, fun j hj hc => by have := h3 j _ hj hc; simp at this⟩

theorem posOf_none (idx : List Int) (t : Int) : posOf idx t = Option.none ↔ t ∉ idx := by
  unfold posOf
  rw [List.findIdx?_eq_none_iff]
  constructor
  · intro h hc; have := h t hc; simp at this
  · intro h x hx; simp; intro e; subst e; exact h hx

theorem posOf_of_mem (idx : List Int) (t : Int) (h : t ∈ idx) : ∃ i, posOf idx t = some i := by
  cases hp : posOf idx t with
  | none => exact ((posOf_none idx t).mp hp h).elim
  | some i => exact ⟨i, rfl⟩

theorem posOf_sorted {ix : List Int} (hs : SortedL ix) {i : Nat} {t : Int} (h : ix[i]? = some t) : posOf ix t = some i := by
  obtain ⟨j, hj⟩ := posOf_of_mem ix t (List.mem_of_getElem? h)
  obtain ⟨hjl, e1⟩ := List.getElem?_eq_some_iff.mp (posOf_some ix t j hj).1
  obtain ⟨hil, e2⟩ := List.getElem?_eq_some_iff.mp h
  rw [hj, List.sorted_getElem_inj Int.lt_irrefl hs hjl hil (e1.trans e2.symm)]

theorem bind_posOf_map {β : Type} (ix : List Int) (g : Int → Option β) (t : Int) (h : t ∈ ix) :
    ((posOf ix t).bind fun i => ((ix.map g)[i]?).join) = g t := by
  obtain ⟨i, hi⟩ := posOf_of_mem ix t h
  rw [hi, Option.bind_some, List.getElem?_map, (posOf_some ix t i hi).1]
  rfl

theorem posAsOf_lt (l : List Int) (t : Int) (p : Nat) (h : posAsOf l t = some p) : p < l.length := by
  induction l generalizing p with
  | nil => cases h
  | cons x xs ih =>
    simp only [posAsOf] at h
    split at h
    · cases hp : posAsOf xs t with
      | none => rw [hp] at h; cases h; exact Nat.succ_pos _
      | some q => rw [hp] at h; cases h; exact Nat.succ_lt_succ (ih q hp)
    · cases h

theorem posAsOf_none (idx : List Int) (hs : SortedL idx) (t : Int) (h : posAsOf idx t = Option.none) :
    ∀ s ∈ idx, t < s := by
  cases idx with
  | nil => exact fun _ hs' => nomatch hs'
  | cons x xs =>
    have hx := List.pairwise_cons.mp hs
    simp only [posAsOf] at h
    split at h
    · cases h' : posAsOf xs t <;> rw [h'] at h <;> cases h
    · rename_i hxt
      intro s hs'
      rcases List.mem_cons.mp hs' with rfl | hs'
      · exact Int.not_le.mp hxt
      · exact Int.lt_trans (Int.not_le.mp hxt) (hx.1 s hs')

theorem posAsOf_some (idx : List Int) (hs : SortedL idx) (t : Int) (p : Nat) (h : posAsOf idx t = some p) :
    (∃ s, idx[p]? = some s ∧ s ≤ t) ∧ ∀ q s, p < q → idx[q]? = some s → t < s := by
  induction idx generalizing p with
  | nil => cases h
  | cons x xs ih =>
    have hx := List.pairwise_cons.mp hs
    simp only [posAsOf] at h
    split at h
    · rename_i hxt
      cases hp : posAsOf xs t with
      | some p' =>
        rw [hp] at h; cases h
        obtain ⟨h1, h2⟩ := ih hx.2 p' hp
        refine ⟨h1, fun q s hq hqs => ?_⟩
        cases q with
        | zero => exact absurd hq (Nat.not_lt_zero _)
        | succ q => exact h2 q s (Nat.lt_of_succ_lt_succ hq) hqs
      | none =>
        rw [hp] at h; cases h
        refine ⟨⟨x, rfl, hxt⟩, fun q s hq hqs => ?_⟩
        cases q with
        | zero => exact absurd hq (Nat.lt_irrefl 0)
        | succ q => exact posAsOf_none xs hx.2 t hp s (List.mem_of_getElem? hqs)
    · cases h

theorem posNext_eq (idx : List Int) (t : Int) : posNext idx t = idx.findIdx? fun x => decide (t ≤ x) := by
  induction idx with
  | nil => rfl
  | cons x xs ih => simp only [posNext, List.findIdx?_cons, ih, decide_eq_true_eq]

theorem posNext_some (idx : List Int) (t : Int) (p : Nat) (h : posNext idx t = some p) :
    (∃ s, idx[p]? = some s ∧ t ≤ s) ∧ ∀ q s, q < p → idx[q]? = some s → s < t := by
  obtain ⟨⟨s, h1, h2⟩, h3⟩ := List.findIdx?_pos _ idx p (posNext_eq idx t ▸ h)
  exact ⟨⟨s, h1, of_decide_eq_true h2⟩, fun q s hq hqs => Int.not_le.mp (of_decide_eq_false (h3 q s hq hqs))⟩

theorem posNext_none (idx : List Int) (t : Int) (h : posNext idx t = Option.none) : ∀ s ∈ idx, s < t := fun s hs =>
  Int.not_le.mp (of_decide_eq_false (List.findIdx?_eq_none_iff.mp (posNext_eq idx t ▸ h) s hs))

theorem alignArr_of_lt {n : Nat} {xs : Col} (h : n < xs.length) : alignArr n xs = xs.drop (xs.length - n) := if_pos h

theorem alignArr_of_le {n : Nat} {xs : Col} (h : xs.length ≤ n) :
    alignArr n xs = List.replicate (n - xs.length) Option.none ++ xs := if_neg (Nat.not_lt.mpr h)

theorem alignArr_length (n : Nat) (xs : Col) : (alignArr n xs).length = n := by
  rcases Nat.lt_or_ge n xs.length with h | h
  · rw [alignArr_of_lt h, List.length_drop, Nat.sub_sub_self (Nat.le_of_lt h)]
  · rw [alignArr_of_le h, List.length_append, List.length_replicate, Nat.sub_add_cancel h]

theorem alignArr_suffix (n : Nat) (xs : Col) (k : Nat) (hk : k < n) (hk' : k < xs.length) :
    (alignArr n xs)[n - 1 - k]? = xs[xs.length - 1 - k]? := by
  rw [Nat.sub_sub, Nat.sub_sub, Nat.add_comm 1 k]
  rcases Nat.lt_or_ge n xs.length with h | h
  · rw [alignArr_of_lt h, List.getElem?_drop, Nat.sub_add_sub_cancel (Nat.le_of_lt h) hk]
  · obtain ⟨p, rfl⟩ : ∃ p, n = xs.length + p := ⟨n - xs.length, (Nat.add_sub_cancel' h).symm⟩
    rw [alignArr_of_le h, Nat.add_sub_cancel_left, Nat.add_comm xs.length p, Nat.add_sub_assoc hk',
      List.getElem?_append_right (by rw [List.length_replicate]; exact Nat.le_add_right _ _),
      List.length_replicate, Nat.add_sub_cancel_left]

theorem alignArr_pad (n : Nat) (xs : Col) (i : Nat) (hi : i + xs.length < n) :
    (alignArr n xs)[i]? = some Option.none := by
  have hlt : i < n - xs.length := Nat.lt_sub_of_add_lt hi
  rw [alignArr_of_le (Nat.le_of_lt (Nat.lt_of_le_of_lt (Nat.le_add_left _ _) hi)),
    List.getElem?_append_left (by rw [List.length_replicate]; exact hlt), List.getElem?_replicate, if_pos hlt]

/-- the value at the last label `≤ t` -/
def asOfValue (idx : List Int) (c : Col) (t : Int) : Option Int := (posAsOf idx t).bind fun i => (c[i]?).join

/-- the value at the first label `≥ t` -/
def nextValue (idx : List Int) (c : Col) (t : Int) : Option Int := (posNext idx t).bind fun i => (c[i]?).join

/-- the rows `_nona` keeps: those holding a non-NaN cell -/
def nonaFrame (f : Frame) : Frame := f.gather ((List.range f.nrows).filter f.rowValid)

theorem reindexFrame_none (f : Frame) (idx : List Int) :
    reindexFrame f idx Option.none = ⟨idx, f.cols.map fun c => (c.1, idx.map (valueAt f.idx c.2))⟩ := by
  simp [reindexFrame, gatherOpt, valueAt, List.map_map, Function.comp_def]

theorem reindexFrame_colwise (f : Frame) (idx : List Int) (m : Option Dir) :
    ∃ g : Col → Col, (∀ c, (g c).length = idx.length) ∧ reindexFrame f idx m = ⟨idx, f.cols.map fun c => (c.1, g c.2)⟩ := by
  cases m with
  | none => exact ⟨_, fun _ => List.length_map _, reindexFrame_none f idx⟩
  | some d => exact ⟨fun c => asofCol d f.idx c idx, fun _ => List.length_map _, rfl⟩

theorem colwise_wf (f : Frame) (idx : List Int) (g : Col → Col) (hg : ∀ c, (g c).length = idx.length) :
    (Frame.mk idx (f.cols.map fun c => (c.1, g c.2))).names = f.names ∧ (Frame.mk idx (f.cols.map fun c => (c.1, g c.2))).Rect := by
  refine ⟨by simp only [Frame.names, List.map_map, Function.comp_def], fun c hc => ?_⟩
  obtain ⟨c', _, rfl⟩ := List.mem_map.mp hc
  exact hg c'.2

theorem reindexFrame_idx (f : Frame) (idx : List Int) (m : Option Dir) : (reindexFrame f idx m).idx = idx := by
  obtain ⟨g, _, e⟩ := reindexFrame_colwise f idx m
  rw [e]

theorem cols_map_cell {F f : Frame} {idx : List Int} {φ : Col → Int → Option Int}
    (h : F.cols = f.cols.map fun c => (c.1, idx.map (φ c.2))) {j k : Nat} {c : String × Col} {t : Int}
    (hc : f.cols[j]? = some c) (hk : idx[k]? = some t) :
    ∃ r, F.cols[j]? = some (c.1, r) ∧ r.length = idx.length ∧ r[k]? = some (φ c.2 t) :=
  ⟨idx.map (φ c.2), by rw [h, List.getElem?_map, hc]; rfl, List.length_map _, by rw [List.getElem?_map, hk]; rfl⟩

theorem isMulti_reindexFrame (f : Frame) (idx : List Int) (m : Option Dir) : isMulti (reindexFrame f idx m) = isMulti f := by
  obtain ⟨g, _, e⟩ := reindexFrame_colwise f idx m
  simp only [e, isMulti, List.length_map]

theorem recolumnLeaf_ok (cols : Option (List String)) (l l' : Leaf) (h : recolumnLeaf cols l = .ok l') :
    l' = l ∨ ∃ f g, l = .ts false f ∧ l' = .ts false g ∧ g.idx = f.idx := by
  unfold recolumnLeaf at h
  split at h
  · split at h
    · split at h
      · cases h; exact Or.inr ⟨_, _, rfl, rfl, rfl⟩
      · cases h; exact Or.inl rfl
    · cases h; exact Or.inl rfl
  · cases h; exact Or.inl rfl

theorem reindexLeaf_arr_len (n : Nat) (m : Option Dir) (xs : Col) :
    reindexLeaf (.len n) m (.arr xs) = .ok (.arr (match m with
      | Option.none => alignArr n xs
      | some .ffill => ffill Option.none (alignArr n xs)
      | some .bfill => bfill Option.none (alignArr n xs))) := by
  cases m with
  | none => rfl
  | some d => cases d <;> rfl

theorem reindexLeaf_ts (ix : List Int) (m : Option Dir) (l : Leaf) (s : Bool) (f : Frame)
    (h : reindexLeaf (.times ix) m l = .ok (.ts s f)) : f.idx = ix := by
  cases l with
  | ts s0 f0 => cases h; exact reindexFrame_idx _ _ _
  | arr xs => simp only [reindexLeaf] at h; split at h <;> cases h
  | other v => cases h

end Pyg.Align
