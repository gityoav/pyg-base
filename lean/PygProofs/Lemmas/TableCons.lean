/-
  The dict-level operations of the dictable model (`set`, `ofPairs`, `dictConcat`, `ofRows`) and the constructor's tail.
-/
import PygProofs.Lemmas.TableRows

namespace Pyg
namespace Table

theorem cols_set (t : Table) (k : String) (v : List Cell) :
    (t.set k v).cols = if k ∈ t.cols then t.cols else t.cols ++ [k] :=
  List.keys_setKey t k v

theorem mem_cols_set (t : Table) (k : String) (v : List Cell) : k ∈ (t.set k v).cols := by
  rw [cols_set]
  split
  · assumption
  · exact List.mem_append_right _ List.mem_cons_self

theorem set_nodup {t : Table} (k : String) (v : List Cell) (h : t.cols.Nodup) : (t.set k v).cols.Nodup :=
  List.nodup_keys_setKey h k v

theorem foldl_set_nodup (kvs : List (String × List Cell)) (t : Table) (h : t.cols.Nodup) :
    (kvs.foldl (fun t kv => t.set kv.1 kv.2) t).cols.Nodup :=
  List.foldl_preserves (P := fun t : Table => t.cols.Nodup) (fun _ _ _ hb => set_nodup _ _ hb) h

theorem ofPairs_nodup (kvs : List (String × List Cell)) : (ofPairs kvs).cols.Nodup :=
  foldl_set_nodup kvs [] (by simp [cols])

theorem ofPairs_of_nodup (kvs : List (String × List Cell)) (hn : (kvs.map (·.1)).Nodup) :
    ofPairs kvs = kvs :=
  (List.foldl_setKey_of_nodup kvs [] hn).trans (List.nil_append kvs)

theorem col?_set (t : Table) (k : String) (v : List Cell) (k' : String) :
    (t.set k v).col? k' = if k' = k then some v else t.col? k' := by
  rw [col?_eq_lookup, col?_eq_lookup, set_eq_setKey, List.lookup_setKey]

theorem ofPairs_append (kvs : List (String × List Cell)) (kv : String × List Cell) :
    ofPairs (kvs ++ [kv]) = (ofPairs kvs).set kv.1 kv.2 := by
  simp [ofPairs, List.foldl_append]

theorem cols_ofPairs (kvs : List (String × List Cell)) : (ofPairs kvs).cols = dedupKeys (kvs.map (·.1)) := by
  induction kvs using List.rev_induction with
  | nil => rfl
  | snoc kvs kv ih =>
    rw [ofPairs_append, List.map_append, List.map_cons, List.map_nil, dedupKeys_append_singleton]
    rw [cols_set, ih]
    simp only [mem_dedupKeys]

theorem ofPairs_ne_nil {kvs : List (String × List Cell)} (hne : kvs ≠ []) : ofPairs kvs ≠ [] := by
  obtain ⟨kv, kvs', rfl⟩ := List.exists_cons_of_ne_nil hne
  intro h
  have : kv.1 ∈ (ofPairs (kv :: kvs')).cols := by
    rw [cols_ofPairs, mem_dedupKeys]
    exact List.mem_cons_self
  rw [h] at this
  cases this

theorem col?_ofPairs (kvs : List (String × List Cell)) (k : String) :
    (ofPairs kvs).col? k = (kvs.reverse.find? (·.1 == k)).map (·.2) := by
  rw [col?_eq_lookup, List.find?_key_map_snd]
  exact (List.lookup_foldl_setKey kvs [] k).trans Option.or_none

theorem cols_dictConcat (rs : List (List (String × Cell))) :
    (dictConcat rs).cols = dedupKeys (rs.flatMap fun r => r.map (·.1)) :=
  (cols_map _ _).trans (List.map_id' _)

theorem dictConcat_rect (rs : List (List (String × Cell))) : (dictConcat rs).Rect rs.length := by
  intro c hc
  unfold dictConcat at hc
  obtain ⟨k, _, rfl⟩ := List.mem_map.1 hc
  simp

theorem updateWith_nil (u : Table) : Table.updateWith [] u = ofPairs u := rfl

theorem col?_of_mem_nodup {t : Table} (hn : t.cols.Nodup) {e : String × List Cell} (he : e ∈ t) :
    t.col? e.1 = some e.2 :=
  (col?_eq_lookup t e.1).trans (List.lookup_of_mem_nodup hn he)

/-- the `columns` restriction of `dictable.__init__` with `columns` = the dict's own keys changes nothing -/
theorem restrict_self {t : Table} (hn : t.cols.Nodup) :
    ofPairs (t.cols.map fun k => (k, (t.col? k).getD [Cell.none])) = t := by
  have h1 : (t.cols.map fun k => (k, (t.col? k).getD [Cell.none])) = t := by
    unfold cols
    rw [List.map_map]
    calc t.map ((fun k => (k, (t.col? k).getD [Cell.none])) ∘ fun c => c.1) = t.map (fun c => c) := by
          apply List.map_congr_left
          intro e he
          simp [Function.comp, col?_of_mem_nodup hn he]
      _ = t := by simp
  rw [h1]
  exact ofPairs_of_nodup t hn

/-- the restriction, `lens` and broadcast at the end of `dictable.__init__` change nothing on a rectangular keyed reading with distinct keys -/
theorem construct_of_dataCols {data : Data} {columns : Option (List String)} {dk : Table} {n : Nat}
    (hdc : dataCols data columns = some (.ok dk)) (hnd : dk.cols.Nodup) (hr : dk.Rect n)
    (hc : ∀ cs, columns = some cs → cs = dk.cols ∧ dk ≠ []) :
    construct data columns [] = some (.ok dk) := by
  rw [construct_of_dataCols_ok [] hdc, List.map_nil, show ofPairs [] = [] from rfl, updateWith_nil,
    ofPairs_of_nodup _ hnd]
  cases columns with
  | none => rw [restrict, finish_rect hr]
  | some cs =>
    obtain ⟨rfl, hne⟩ := hc cs rfl
    rw [restrict, if_pos (List.length_pos_iff.2 hne), restrict_self hnd, finish_rect hr]

theorem ofRows_cols (cs : List String) (rs : List (List Cell)) : (ofRows cs rs).cols = cs := by
  unfold ofRows cols
  rw [List.map_map]
  have : ((fun c : String × List Cell => c.1) ∘ fun (x : String × Nat) => (x.1, rs.map fun r => r.getD x.2 .none))
      = Prod.fst := by funext x; rfl
  rw [this, List.zipIdx_map_fst]

theorem ofRows_rect (cs : List String) (rs : List (List Cell)) : (ofRows cs rs).Rect rs.length := by
  intro c hc
  unfold ofRows at hc
  obtain ⟨x, _, rfl⟩ := List.mem_map.1 hc
  simp

theorem ofRows_eq_zip (cs : List String) (rs : List (List Cell)) :
    ofRows cs rs = cs.zip ((List.range cs.length).map fun j => rs.map fun r => r.getD j .none) := by
  unfold ofRows
  rw [List.zipIdx_eq_zip_range', List.zip_map_right, ← List.range_eq_range']
  apply List.map_congr_left
  intro x _
  rfl

theorem ofRows_rows (cs : List String) (rs : List (List Cell)) (hk : cs ≠ [])
    (hrs : ∀ r ∈ rs, r.length = cs.length) : (ofRows cs rs).rows = rs := by
  have hne : ofRows cs rs ≠ [] := by
    intro he
    have := ofRows_cols cs rs
    rw [he] at this
    exact hk this.symm
  rw [rows_of_rect (ofRows_rect cs rs) hne]
  apply List.ext_getElem
  · simp
  · intro i h1 h2
    simp only [List.getElem_map, List.getElem_range]
    have hi : i < rs.length := by simpa using h1
    have hlen := hrs rs[i] (List.getElem_mem hi)
    unfold row ofRows
    rw [List.map_map]
    apply List.ext_getElem
    · simp [hlen]
    · intro j hj1 hj2
      simp [List.getD_eq_getElem?_getD, hi, hj2]

end Table
end Pyg
