/-
  C05 — Calendar business-day arithmetic agrees with day-by-day counting.
  Days are day numbers; `c.bd a b` is the increasing list of business days in `[a, b]`, `cnt c a b` its length, `K c x` the number of
  business days of the calendar before `x`.  The guard `InRange c s n` is exactly "the lookup does not raise `KeyError`" on the table
  path `|n| ≥ 2` (`add_table_ok_iff`); on the loop path `|n| ≤ 1` the code never raises and the guard is only sufficient
  (`add_one_total`, `add_paths_split`).  Theorems hold for every holiday list, weekend, range, convention and month function unless
  they say otherwise.
-/
import PygProofs.Lemmas.CalendarObj
import PygProofs.Lemmas.CivilLemmas
import PygProofs.Lemmas.ResDec

namespace Pyg.Props.C05
open Pyg Pyg.Calendar
open Pyg.Civil (wd)

/-- `is_bday(t)` holds exactly when `t` is neither a weekend day nor a listed holiday -/
theorem isB_spec (c : Cal) (t : Int) : c.isB t = true ↔ wd t ∉ c.weekend ∧ t ∉ c.hol := by
  simp [Cal.isB]

/-- `is_holiday` is the negation of `is_bday` (so a weekend day counts as a holiday) -/
theorem isHol_spec (c : Cal) (t : Int) : c.isHol t = !c.isB t := isHol_eq_not_isB c t

/-- `adjust(t,'f')` steps forward over non-business days only; when a business day exists in `[t, t1]` the result is the nearest
one on or after `t` -/
theorem adjust_f_least (c : Cal) (t : Int) :
    t ≤ c.adjust .f t ∧ (∀ s, t ≤ s → s < c.adjust .f t → c.isB s = false) ∧
    ((∃ b, t ≤ b ∧ b ≤ c.t1 ∧ c.isB b = true) →
      c.isB (c.adjust .f t) = true ∧ c.adjust .f t ≤ c.t1 ∧ ∀ b, t ≤ b → c.isB b = true → c.adjust .f t ≤ b) := by
  have h := adjF_spec c t
  refine ⟨h.1, h.2.1, fun ⟨b, hb1, hb2, hb3⟩ => ?_⟩
  have hle := Int.le_trans (adjF_le c t b hb1 hb3) hb2
  exact ⟨h.2.2 hle, hle, adjF_le c t⟩

/-- `adjust(t,'p')` steps backward over non-business days only; when a business day exists in `[t0, t]` the result is the nearest
one on or before `t` -/
theorem adjust_p_greatest (c : Cal) (t : Int) :
    c.adjust .p t ≤ t ∧ (∀ s, s ≤ t → c.adjust .p t < s → c.isB s = false) ∧
    ((∃ b, b ≤ t ∧ c.t0 ≤ b ∧ c.isB b = true) →
      c.isB (c.adjust .p t) = true ∧ c.t0 ≤ c.adjust .p t ∧ ∀ b, b ≤ t → c.isB b = true → b ≤ c.adjust .p t) := by
  have h := adjP_spec c t
  refine ⟨h.1, h.2.1, fun ⟨b, hb1, hb2, hb3⟩ => ?_⟩
  have hle := Int.le_trans hb2 (le_adjP c t b hb1 hb3)
  exact ⟨h.2.2 hle, hle, le_adjP c t⟩

theorem adjust_m (c : Cal) (t : Int) :
    c.adjust .m t = if c.month (c.adjust .f t) = c.month t then c.adjust .f t else c.adjust .p t :=
  ite_not ..

/-- `adjust(t,'m')`, for every month function: it equals `adjust(t,'f')` exactly when the following business day has `t`'s month, and
equals `adjust(t,'p')` otherwise.  (In the second case it differs from `'f'`: `'p' ≤ t ≤ 'f'`, so equality would force `'f' = t`, which
has `t`'s month.) -/
theorem adjust_m_iff (c : Cal) (t : Int) :
    (c.adjust .m t = c.adjust .f t ↔ c.month (c.adjust .f t) = c.month t) ∧
    (c.month (c.adjust .f t) ≠ c.month t → c.adjust .m t = c.adjust .p t) := by
  rw [adjust_m]
  by_cases hm : c.month (c.adjust .f t) = c.month t
  · rw [if_pos hm]
    exact ⟨⟨fun _ => hm, fun _ => rfl⟩, fun h => absurd hm h⟩
  · rw [if_neg hm]
    refine ⟨⟨fun h => ?_, fun h => absurd h hm⟩, fun _ => rfl⟩
    have hf : t ≤ c.adjust .f t := (adjF_spec c t).1
    have hp : c.adjust .p t ≤ t := (adjP_spec c t).1
    rw [show c.adjust .f t = t by omega] at hm
    exact absurd rfl hm

theorem civil_month_range (n : Int) : 1 ≤ Civil.month n ∧ Civil.month n ≤ 12 :=
  ⟨(Civil.ord_ymd n).1.1, (Civil.ord_ymd n).1.2.1⟩

/-- "month" has its calendar meaning in the model the check runs: the driver's month function `ymKey` takes the same
value on two days exactly when they lie in the same month of the same year -/
theorem ymKey_eq_iff (a b : Int) :
    ymKey a = ymKey b ↔ Civil.year a = Civil.year b ∧ Civil.month a = Civil.month b := by
  have ha := civil_month_range a
  have hb := civil_month_range b
  unfold ymKey
  constructor
  · intro h; omega
  · intro ⟨h1, h2⟩; rw [h1, h2]

/-- `adjust_m_iff` for the calendars the driver builds (`month = ymKey`) -/
theorem adjust_m_calendar_month (c : Cal) (hm : c.month = ymKey) (t : Int) :
    (c.adjust .m t = c.adjust .f t ↔
      Civil.year (c.adjust .f t) = Civil.year t ∧ Civil.month (c.adjust .f t) = Civil.month t) ∧
    (¬ (Civil.year (c.adjust .f t) = Civil.year t ∧ Civil.month (c.adjust .f t) = Civil.month t) →
      c.adjust .m t = c.adjust .p t) := by
  have h := adjust_m_iff c t
  rw [hm, ymKey_eq_iff] at h
  exact ⟨h.1, fun hn => h.2 (by rw [ne_eq, ymKey_eq_iff]; exact hn)⟩

/-- only Sunday is a working day and the 53 Sundays 2020-01-19 … 2021-01-17 are holidays: a calendar (2019-01-01 … 2022-01-01) with a
holiday run longer than 12 months, with the month number alone (`t.month`) as month function: the comparison that is not enough
(defect C05-D1; the library compares `(year, month)`) -/
def sundayHols : List Int := (List.range 53).map fun (i : Nat) => 737443 + 7 * (i : Int)
def sundaysByNumber : Cal :=
  { t0 := 737060, t1 := 738156, weekend := [0, 1, 2, 3, 4, 5], hol := sundayHols, adj := .m, month := Civil.month }

/-- the walk over the 53 weeks of holidays, Sun 2020-01-19 to Sun 2021-01-24: the one long evaluation, which both theorems below share -/
theorem sundaysByNumber.adjF_eq : sundaysByNumber.adjF 737443 = 737814 := by decide +kernel

/-- in `sundaysByNumber` (`month = Civil.month`) the following business day of Sun 2020-01-19 is Sun 2021-01-24, another year, and `'m'`
keeps it -/
theorem month_number_keeps_next_year :
    Civil.year (sundaysByNumber.adjust .f 737443) ≠ Civil.year 737443 ∧
    sundaysByNumber.adjust .m 737443 = sundaysByNumber.adjust .f 737443 := by
  have hf : sundaysByNumber.adjust .f 737443 = 737814 := sundaysByNumber.adjF_eq
  rw [(adjust_m_iff _ _).1, hf]
  decide +kernel

/-- `sundaysByNumber` with the year-month key `ymKey` as month function: `adjust(Sun 2020-01-19, 'm')` falls back to the previous business
day, Sun 2020-01-12 -/
theorem ymKey_falls_back :
    ({ sundaysByNumber with month := ymKey } : Cal).adjust .m 737443 = 737436 ∧
    ({ sundaysByNumber with month := ymKey } : Cal).adjust .p 737443 = 737436 := by
  -- `adjF` does not read `month`
  have hf : ({ sundaysByNumber with month := ymKey } : Cal).adjust .f 737443 = 737814 := sundaysByNumber.adjF_eq
  rw [(adjust_m_iff _ _).2 (by rw [hf]; decide +kernel)]
  decide +kernel

/-! ### adjust at the ends of the range

The first pair of loops of `adjust` stops at `t1` (`t0`); the second pair only steps over weekend days beyond it and never looks at the
holiday list.  With every listed holiday inside the range (the class docstring: "Calendar is restricted to operate between cal.t0 and
cal.t1") the result is the nearest business day; otherwise it can be a holiday the caller listed beyond the range. -/

/-- holidays inside the range, some weekday not a weekend day: `adjust(t,'f')` is the nearest business day on or after `t`, with no
existence guard -/
theorem adjust_f_nearest (c : Cal) (hnd : NonDeg c) (hin : ∀ h ∈ c.hol, h ≤ c.t1) (t : Int) :
    c.isB (c.adjust .f t) = true ∧ t ≤ c.adjust .f t ∧ ∀ b, t ≤ b → c.isB b = true → c.adjust .f t ≤ b := by
  obtain ⟨h1, _, h3⟩ := adjF_spec c t
  rw [adjust_f]
  refine ⟨?_, h1, adjF_le c t⟩
  by_cases hle : c.adjF t ≤ c.t1
  · exact h3 hle
  · exact (isB_spec c _).2 ⟨(adjF_beyond c hnd t).1 (Int.not_le.1 hle), fun hm => hle (hin _ hm)⟩

theorem adjust_p_nearest (c : Cal) (hnd : NonDeg c) (hin : ∀ h ∈ c.hol, c.t0 ≤ h) (t : Int) :
    c.isB (c.adjust .p t) = true ∧ c.adjust .p t ≤ t ∧ ∀ b, b ≤ t → c.isB b = true → b ≤ c.adjust .p t := by
  obtain ⟨h1, _, h3⟩ := adjP_spec c t
  rw [adjust_p]
  refine ⟨?_, h1, le_adjP c t⟩
  by_cases hle : c.t0 ≤ c.adjP t
  · exact h3 hle
  · exact (isB_spec c _).2 ⟨(adjP_beyond c hnd t).1 (Int.not_le.1 hle), fun hm => hle (hin _ hm)⟩

/-- no business day left in `[t, t1]`: the result is the first non-weekend day after the range, whatever the holiday list says about
it -/
theorem adjust_f_outside (c : Cal) (hnd : NonDeg c) (t : Int) (h : ∀ b, t ≤ b → b ≤ c.t1 → c.isB b = false) :
    c.t1 < c.adjust .f t ∧ wd (c.adjust .f t) ∉ c.weekend ∧
    ∀ s, t ≤ s → c.t1 < s → s < c.adjust .f t → wd s ∈ c.weekend := by
  obtain ⟨h1, _, h3⟩ := adjF_spec c t
  obtain ⟨hb, hs⟩ := adjF_beyond c hnd t
  rw [adjust_f]
  have hgt : c.t1 < c.adjF t := Int.not_le.1 fun hle => by
    have := h _ h1 hle; rw [h3 hle] at this; cases this
  exact ⟨hgt, hb hgt, hs⟩

theorem adjust_p_outside (c : Cal) (hnd : NonDeg c) (t : Int) (h : ∀ b, b ≤ t → c.t0 ≤ b → c.isB b = false) :
    c.adjust .p t < c.t0 ∧ wd (c.adjust .p t) ∉ c.weekend ∧
    ∀ s, s ≤ t → s < c.t0 → c.adjust .p t < s → wd s ∈ c.weekend := by
  obtain ⟨h1, _, h3⟩ := adjP_spec c t
  obtain ⟨hb, hs⟩ := adjP_beyond c hnd t
  rw [adjust_p]
  have hgt : c.adjP t < c.t0 := Int.not_le.1 fun hle => by
    have := h _ h1 hle; rw [h3 hle] at this; cases this
  exact ⟨hgt, hb hgt, hs⟩

/-- January 2000 (Sat 2000-01-01 = 730120 … Mon 2000-01-31 = 730150), Sat-Sun weekend, holidays Mon 31 Jan and
Tue 1 Feb - the second one listed beyond the range -/
def janEnd : Cal := { t0 := 730120, t1 := 730150, weekend := [5, 6], hol := [730150, 730151], adj := .f, month := ymKey }

theorem janEnd_nonDeg : NonDeg janEnd := ⟨0, by decide, by decide, by decide⟩

/-- a holiday listed beyond the range can be returned (the witness is `janEnd`): `adjust(2000-01-31,'f')` = 2000-02-01 = 730151 and `is_bday`
of it is false -/
theorem adjust_f_outside_holiday :
    ∃ c t, NonDeg c ∧ c.t0 ≤ t ∧ t ≤ c.t1 ∧ c.adjust .f t = 730151 ∧ c.isB (c.adjust .f t) = false :=
  ⟨janEnd, 730150, janEnd_nonDeg, by decide +kernel⟩

/-- backwards: `janEnd` starting on Mon 3 Jan 2000, with holidays Mon 3 Jan and Fri 31 Dec 1999 (listed before the range);
`adjust(2000-01-03,'p')` is no business day (the statement does not name the value, 1999-12-31) -/
theorem adjust_p_outside_holiday :
    ∃ c t, NonDeg c ∧ c.t0 ≤ t ∧ t ≤ c.t1 ∧ c.isB (c.adjust .p t) = false :=
  ⟨{ janEnd with t0 := 730122, hol := [730119, 730122] }, 730122, ⟨0, by decide, by decide, by decide⟩,
    by decide +kernel⟩

/-- a business day of the calendar's range is a fixed point of every convention (the range hypotheses are not used: `Calendar.adjust_bday`
is the same without them) -/
theorem adjust_bday (c : Cal) (a : Adj) (t : Int) (h0 : c.t0 ≤ t) (h1 : t ≤ c.t1) (hB : c.isB t = true) :
    c.adjust a t = t := Calendar.adjust_bday c a t hB

theorem mem_bdays (c : Cal) (x : Int) : x ∈ c.bdays ↔ c.t0 ≤ x ∧ x ≤ c.t1 ∧ c.isB x = true := Cal.mem_bdays

theorem bdays_increasing (c : Cal) : c.bdays.Pairwise (· < ·) := pairwise_bd c _ _

/-- the next entry of the table is the least business day after the current one -/
theorem table_next (c : Cal) (a : Int) (i : Nat) (hi : c.bdays[i]? = some a) (hn : i + 1 < c.bdays.length) :
    ∃ r, c.bdays[i + 1]? = some r ∧ c.isB r = true ∧ a < r ∧
      ∀ b, a < b → c.isB b = true → b ≤ c.t1 → r ≤ b := by
  obtain ⟨ha, aK⟩ := (bdays_get_iff c i a).1 hi
  obtain ⟨hr, rK⟩ := (bdays_get_iff c (i + 1) _).1 (List.getElem?_eq_getElem hn)
  obtain ⟨a0, -, aB⟩ := Cal.mem_bdays.1 ha
  obtain ⟨r0, -, rB⟩ := Cal.mem_bdays.1 hr
  refine ⟨c.bdays[i + 1], List.getElem?_eq_getElem hn, rB, (K_lt_iff c a _ a0 r0 aB).1 (by omega), fun b hb bB _ => ?_⟩
  -- a business day strictly between would have a count strictly between `i` and `i + 1`
  have h1 := K_lt c a b a0 hb aB
  have h2 := K_lt_iff c b c.bdays[i + 1] (by omega) r0 bB
  omega

/-- `add(t, n)` is the `n`-th business day counted from `s = adjust(t)`: a business day `r ≥ s` with exactly `n` business days in
`(s, r]`, whichever of the two code paths computes it -/
theorem add_nth_fwd (c : Cal) (a : Adj) (t : Int) (n : Nat) (h : InRange c (c.adjust a t) n) :
    ∃ r, c.add a t n = .ok r ∧ c.isB r = true ∧ c.adjust a t ≤ r ∧ r ≤ c.t1 ∧ cnt c (c.adjust a t + 1) r = n := by
  obtain ⟨r, hr, rM, rK⟩ := add_spec c a t n h
  obtain ⟨r0, r1, rB⟩ := Cal.mem_bdays.1 rM
  obtain ⟨s0, _, sB, _, _⟩ := h
  have hle : c.adjust a t ≤ r := by
    have := K_lt_iff c r (c.adjust a t) r0 s0 rB
    omega
  refine ⟨r, hr, rB, hle, r1, ?_⟩
  have e := K_add c (c.adjust a t + 1) (r + 1) (by omega) (by omega)
  rw [K_succ c r r0 rB, K_succ c _ s0 sB, show r + 1 - 1 = r by omega] at e
  omega

theorem add_nth_bwd (c : Cal) (a : Adj) (t : Int) (n : Nat) (h : InRange c (c.adjust a t) (-(n : Int))) :
    ∃ r, c.add a t (-(n : Int)) = .ok r ∧ c.isB r = true ∧ r ≤ c.adjust a t ∧ c.t0 ≤ r ∧ cnt c r (c.adjust a t - 1) = n := by
  obtain ⟨r, hr, rM, rK⟩ := add_spec c a t _ h
  obtain ⟨r0, -, rB⟩ := Cal.mem_bdays.1 rM
  obtain ⟨s0, _, sB, _, _⟩ := h
  have hle : r ≤ c.adjust a t := by
    have := K_lt_iff c (c.adjust a t) r s0 r0 sB
    omega
  have e := K_add c r (c.adjust a t) r0 hle
  exact ⟨r, hr, rB, hle, r0, by omega⟩

/-- "the n-th business day from `s`" is unique -/
theorem nth_unique (c : Cal) (s r r' : Int) (hr : s ≤ r) (hr' : s ≤ r') (rB : c.isB r = true) (rB' : c.isB r' = true)
    (h : cnt c (s + 1) r = cnt c (s + 1) r') : r = r' := by
  rcases Int.lt_trichotomy r r' with h1 | h1 | h1
  · have := cnt_lt c (s + 1) r r' r' (by omega) h1 (Int.le_refl _) rB'; omega
  · exact h1
  · have := cnt_lt c (s + 1) r' r r (by omega) h1 (Int.le_refl _) rB; omega

/-- `add(add(t, x), y) == add(t, x + y)`, any signs, any convention for the second step (its argument is a business day) -/
theorem add_add (c : Cal) (a a' : Adj) (t x y : Int)
    (hx : InRange c (c.adjust a t) x) (hxy : InRange c (c.adjust a t) (x + y)) :
    ∃ r, c.add a t x = .ok r ∧ c.add a' r y = c.add a t (x + y) := by
  obtain ⟨r1, h1, r1M, r1K⟩ := add_spec c a t x hx
  refine ⟨r1, h1, ?_⟩
  have hfix := adjust_mem a' r1M
  obtain ⟨r3, h3, r3M, r3K⟩ := add_spec c a t (x + y) hxy
  -- the target of the whole step is `y` places on from `r1`
  have hin : InRange c (c.adjust a' r1) y := by
    rw [hfix]; exact (inRange_iff c r1 y).2 ⟨r1M, r3, r3M, by omega⟩
  obtain ⟨r2, h2, r2M, r2K⟩ := add_spec c a' r1 y hin
  rw [hfix] at r2K
  rw [h2, h3, K_inj r2M r3M (by omega)]

/-- the single-step path and the indexed path agree: `add(add(t, 1), 1) == add(t, 2)` -/
theorem add_paths_agree (c : Cal) (a a' : Adj) (t : Int) (h : InRange c (c.adjust a t) 2) :
    ∃ r, c.add a t 1 = .ok r ∧ c.add a' r 1 = c.add a t 2 := by
  have h1 : InRange c (c.adjust a t) 1 := ⟨h.1, h.2.1, h.2.2.1, by omega, by have := h.2.2.2.2; omega⟩
  exact add_add c a a' t 1 1 h1 h

theorem add_paths_agree_bwd (c : Cal) (a a' : Adj) (t : Int) (h : InRange c (c.adjust a t) (-2)) :
    ∃ r, c.add a t (-1) = .ok r ∧ c.add a' r (-1) = c.add a t (-2) := by
  have hK := K_lt_length h.mem
  have h1 : InRange c (c.adjust a t) (-1) := ⟨h.1, h.2.1, h.2.2.1, by have := h.2.2.2.1; omega, by omega⟩
  exact add_add c a a' t (-1) (-1) h1 h

/-- without `InRange` the two paths can differ: some calendar and day have two successful single steps while the table lookup `add(t, 2)`
raises `KeyError`.  The witness is the end of `janEnd`: the single steps go on past `t1` (Thu 27 Jan → Fri 28 Jan → Wed 2 Feb). -/
theorem add_paths_split :
    ∃ (c : Cal) (t : Int), (∃ r, c.add .f t 1 = .ok r ∧ ∃ r', c.add .f r 1 = .ok r') ∧ c.add .f t 2 = .error .key :=
  ⟨janEnd, 730146, ⟨730147, by decide +kernel, 730152, by decide +kernel⟩, by decide +kernel⟩

/-- the single-step path never raises.  (`add(t, 0)` returns `adjust(t)` in the model, `Cal.add_zero_eq`; the real loop of `add(t, 0)`
does not end on a non-business adjusted day, which the driver refuses.) -/
theorem add_one_total (c : Cal) (a : Adj) (t : Int) :
    (∃ r, c.add a t 1 = .ok r ∧ c.adjust a t < r) ∧ (∃ r, c.add a t (-1) = .ok r ∧ r < c.adjust a t) := by
  refine ⟨⟨_, Cal.add_one_eq c a t, ?_⟩, ⟨_, Cal.add_neg_one_eq c a t, ?_⟩⟩
  · have := loopUp_ge c.isHol c.addFuel (c.adjust a t + 1); omega
  · have := loopDown_le c.isHol c.addFuel (c.adjust a t - 1); omega

/-! ### the single-step path returns the next / previous business day, unguarded -/

/-- pigeonhole: among `x, x+7, …, x+7n` one day is not in a list of `n` days -/
theorem exists_week_not_mem (x : Int) : ∀ (n : Nat) (l : List Int), l.length = n → ∃ i : Nat, i ≤ n ∧ x + 7 * (i : Int) ∉ l :=
  List.exists_not_mem_of_length (fun i : Nat => x + 7 * (i : Int)) fun i j e => by omega

/-- the bound behind `Cal.addFuel`: a business day within `7·(#holidays + 1)` days -/
theorem exists_isB_after (c : Cal) (hnd : NonDeg c) (r : Int) :
    ∃ b, r ≤ b ∧ b < r + 7 * (c.hol.length + 1) ∧ c.isB b = true := by
  obtain ⟨d, d0, d7, hd⟩ := hnd
  obtain ⟨b0, h1, h2, h3⟩ := wd_hit_up r d d0 d7
  obtain ⟨i, hi, hni⟩ := exists_week_not_mem b0 c.hol.length c.hol rfl
  refine ⟨b0 + 7 * (i : Int), by omega, by omega, ?_⟩
  have hw : wd (b0 + 7 * (i : Int)) = d := by unfold wd at *; omega
  simp [Cal.isB, hw, hd, hni]

theorem exists_isB_before (c : Cal) (hnd : NonDeg c) (r : Int) :
    ∃ b, b ≤ r ∧ r < b + 7 * (c.hol.length + 1) ∧ c.isB b = true := by
  obtain ⟨b, h1, h2, hB⟩ := exists_isB_after c hnd (r - 7 * (c.hol.length + 1) + 1)
  exact ⟨b, by omega, by omega, hB⟩

/-- `add(t, 1)` is the next business day after `adjust(t)`, inside or beyond the calendar's range, with no `InRange` guard (`NonDeg`:
without a weekday outside the weekend the real loop never ends) -/
theorem add_one_next (c : Cal) (hnd : NonDeg c) (a : Adj) (t : Int) :
    ∃ r, c.add a t 1 = .ok r ∧ c.isB r = true ∧ c.adjust a t < r ∧
      ∀ b, c.adjust a t < b → b < r → c.isB b = false := by
  obtain ⟨b, b1, b2, bB⟩ := exists_isB_after c hnd (c.adjust a t + 1)
  obtain ⟨rB, hlt, _, hsk⟩ := loopUp_isHol c c.addFuel (c.adjust a t) b (by omega) (by unfold Cal.addFuel; omega) bB
  exact ⟨_, Cal.add_one_eq c a t, rB, hlt, hsk⟩

theorem add_one_prev (c : Cal) (hnd : NonDeg c) (a : Adj) (t : Int) :
    ∃ r, c.add a t (-1) = .ok r ∧ c.isB r = true ∧ r < c.adjust a t ∧
      ∀ b, r < b → b < c.adjust a t → c.isB b = false := by
  obtain ⟨b, b1, b2, bB⟩ := exists_isB_before c hnd (c.adjust a t - 1)
  obtain ⟨rB, hlt, _, hsk⟩ := loopDown_isHol c c.addFuel (c.adjust a t) b (by omega) (by unfold Cal.addFuel; omega) bB
  exact ⟨_, Cal.add_neg_one_eq c a t, rB, hlt, hsk⟩

/-- the next business day after `s` is unique: a business day `r > s` with none strictly between `s` and `r` (what `add_one_next` says of
`add(t, 1)`) -/
theorem next_bday_unique (c : Cal) (s r r' : Int) (hr : c.isB r = true) (hr' : c.isB r' = true) (h : s < r) (h' : s < r')
    (hn : ∀ b, s < b → b < r → c.isB b = false) (hn' : ∀ b, s < b → b < r' → c.isB b = false) : r = r' := by
  rcases Int.lt_trichotomy r r' with hlt | heq | hgt
  · have := hn' r h hlt; rw [hr] at this; cases this
  · exact heq
  · have := hn r' h' hgt; rw [hr'] at this; cases this

/-- the hypothesis of `add_one_next` / `add_one_prev` -/
example : NonDeg janEnd := janEnd_nonDeg
/-- beyond the range end: in `janEnd` the single step from Fri 28 Jan 2000 lands on Wed 2 Feb 2000, past `t1` -/
example : janEnd.add .f 730147 1 = .ok 730152 ∧ janEnd.isB 730152 = true := by decide +kernel

/-! ### the guard is exact on the table path, and what it says by day-by-day counting -/

/-- the converse of `add_spec` on the table path: for `|n| ≥ 2` the guard of `add_nth_fwd`, `bdays_add`, `add_add`, `add_inverse` is
not stronger than "the lookup does not raise `KeyError`" -/
theorem add_table_ok_iff (c : Cal) (a : Adj) (t n : Int) (hn : 2 ≤ n.natAbs) :
    (∃ r, c.add a t n = .ok r) ↔ InRange c (c.adjust a t) n := by
  simp only [add_table_eq_ok_iff c a t n _ (by omega), inRange_iff, exists_and_left]

theorem add_table_error_key (c : Cal) (a : Adj) (t n : Int) (hn : 2 ≤ n.natAbs)
    (h : ¬ InRange c (c.adjust a t) n) : c.add a t n = .error .key := by
  cases hr : c.add a t n with
  | ok r => exact absurd ((add_table_ok_iff c a t n hn).1 ⟨r, hr⟩) h
  | error e => rw [add_table_error c a t n e (by omega) hr]

-- in `janEnd` the lookup two on from Thu 27 Jan fails, two on from Tue 25 Jan succeeds
example : (2 : Nat) ≤ (2 : Int).natAbs ∧ ¬ InRange janEnd (janEnd.adjust .f 730146) 2 ∧ InRange janEnd (janEnd.adjust .f 730144) 2 := by
  unfold InRange; decide +kernel

/-- `bdays(t, add(t, n)) == n` -/
theorem bdays_add (c : Cal) (a : Adj) (t n : Int) (h : InRange c (c.adjust a t) n) :
    ∃ r, c.add a t n = .ok r ∧ c.bdaysBetween a t r = .ok n := by
  obtain ⟨r, hr, rM, rK⟩ := add_spec c a t n h
  refine ⟨r, hr, ?_⟩
  rw [bdaysBetween_bdays c a t r h.mem (by rwa [adjust_mem a rM]), adjust_mem a rM]
  congr 1; omega

/-- `add(add(t, n), -n) == t` for a business day `t` -/
theorem add_inverse (c : Cal) (a a' : Adj) (t n : Int) (t0 : c.t0 ≤ t) (t1 : t ≤ c.t1) (tB : c.isB t = true)
    (h : InRange c t n) : ∃ r, c.add a t n = .ok r ∧ c.add a' r (-n) = .ok t := by
  have hfix := Calendar.adjust_bday c a t tB
  have hK := K_lt_length h.mem
  obtain ⟨r, hr, hc⟩ := add_add c a a' t n (-n) (by rw [hfix]; exact h)
    (by rw [hfix]; exact ⟨t0, t1, tB, by omega, by omega⟩)
  exact ⟨r, hr, by rw [hc, show n + -n = 0 by omega, Cal.add_zero_eq, hfix]⟩

/-- `Calendar.drange(x, y, '1b')` is `bd` of the adjusted endpoints, both being keys of the table.  That `bd` is exactly the business
days between them, in increasing order, is `mem_bd` and `pairwise_bd`. -/
theorem drange_1b (c : Cal) (x y : Int)
    (hx : c.t0 ≤ c.adjust c.adj x ∧ c.adjust c.adj x ≤ c.t1 ∧ c.isB (c.adjust c.adj x) = true)
    (hy : c.t0 ≤ c.adjust c.adj y ∧ c.adjust c.adj y ≤ c.t1 ∧ c.isB (c.adjust c.adj y) = true) :
    c.drangeB x y 1 = .ok (c.bd (c.adjust c.adj x) (c.adjust c.adj y)) := by
  refine (drangeB_eq_ok_iff c x y 1 _).2 ⟨Cal.mem_bdays.2 hx, Cal.mem_bdays.2 hy, by omega, ?_, fun i hi => ?_⟩
  · rw [pyRangeLen_one]
    by_cases hle : c.adjust c.adj x ≤ c.adjust c.adj y
    · have e := K_add c _ (c.adjust c.adj y + 1) hx.1 (by omega)
      rw [K_succ c _ hy.1 hy.2.2, Int.add_sub_cancel] at e
      unfold cnt at e; omega
    · have := K_lt c (c.adjust c.adj y) (c.adjust c.adj x) hy.1 (by omega) hy.2.2
      rw [bd_empty c _ _ (by omega), List.length_nil]; omega
  · rw [getElem?_bd c _ _ i hx.1 hy.2.1 hi]
    exact ⟨by omega, by congr 1; omega⟩

/-- a calendar fetched by key reflects the holidays (and weekend, range) it was last registered with: after `calendar(k, args)`, any
history of calls that fetch `k` or register other keys leaves `calendar(k)` returning the calendar built from `args` -/
theorem registry_last (month : Int → Int) (r : Registry) (k : String) (a : CalArgs)
    (hreg : a.isDefault = false ∨ r.get? k = none)
    (ops : List (String × CalArgs)) (hops : ∀ op ∈ ops, op.1 = k → op.2.isDefault = true) :
    let r' := runReg month ((r.calendar month k a).1) ops
    (r'.calendar month k ⟨none, none, none, none⟩).2 = mkCal month a ∧
    (r'.calendar month k ⟨none, none, none, none⟩).2.hol = a.hol.getD [] := by
  have hfin : (runReg month ((r.calendar month k a).1) ops).get? k = some (mkCal month a) :=
    List.foldl_preserves (P := fun r : Registry => r.get? k = some (mkCal month a)) (l := ops)
      (fun r0 op hop h => calendar_frame month r0 k op.1 op.2 _ h (hops op hop)) (calendar_register month r k a hreg)
  simp only
  rw [calendar_fetch month _ k _ hfin]
  exact ⟨rfl, rfl⟩

/-- 2020-01-01 (day 737425, a Wednesday) to 2020-02-15: New Year and Fri 31 Jan are holidays, Sat-Sun weekend -/
def jan : Cal := { t0 := 737425, t1 := 737470, weekend := [5, 6], hol := [737425, 737455], adj := .m, month := ymKey }

example : jan.adjust .f 737455 = 737458 ∧ jan.adjust .p 737455 = 737454 ∧ jan.adjust .m 737455 = 737454 := by decide +kernel
example : jan.isB 737454 = true ∧ jan.isB 737455 = false ∧ jan.isB 737456 = false := by decide +kernel
/-- the guard of `add_nth_fwd` / `add_paths_agree` / `bdays_add`: Fri 31 Jan adjusts (modified following) to Thu 30 Jan, two business
days on is Tue 4 Feb -/
example : InRange jan (jan.adjust .m 737455) 2 := by unfold InRange; decide +kernel
example : jan.add .m 737455 2 = .ok 737459 ∧ jan.add .m 737455 1 = .ok 737458 ∧ jan.add .m 737458 1 = .ok 737459 :=
  by decide +kernel
/-- a backward guard (`add_nth_bwd`; `add_inverse` with `t` = Mon 3 Feb, `n = -3`) -/
example : InRange jan 737458 (-3) := by unfold InRange; decide +kernel
/-- an instance of `drange_1b`: the call answers, so both adjusted endpoints are keys of the table (`drange_1b_ok_iff`) -/
example : jan.drangeB 737455 737461 1 = .ok [737454, 737458, 737459, 737460, 737461] := by decide +kernel
/-- the hypotheses of `table_next` -/
example : jan.bdays[20]? = some 737454 ∧ 20 + 1 < jan.bdays.length := by decide +kernel
/-- the hypotheses of `adjust_f_nearest` / `adjust_p_nearest` / `adjust_m_calendar_month` -/
example : NonDeg jan ∧ (∀ h ∈ jan.hol, h ≤ jan.t1) ∧ (∀ h ∈ jan.hol, jan.t0 ≤ h) ∧ jan.month = ymKey :=
  ⟨⟨0, by decide, by decide, by decide⟩, by decide +kernel, by decide +kernel, rfl⟩
/-- the hypothesis of `adjust_f_outside`: no business day from Mon 31 Jan 2000 to the end of `janEnd` -/
example : ∀ b, 730150 ≤ b → b ≤ janEnd.t1 → janEnd.isB b = false := by
  intro b h1 h2
  have : b = 730150 := by simp [janEnd] at h2; omega
  subst this; decide +kernel
/-- the hypothesis of `adjust_p_outside`: no business day from the start of `jan` to Wed 1 Jan 2020 -/
example : ∀ b, b ≤ 737425 → jan.t0 ≤ b → jan.isB b = false := by
  intro b h1 h2
  have : b = 737425 := by simp [jan] at h2; omega
  subst this; decide +kernel
/-- the hypotheses of `registry_last` -/
example : (CalArgs.mk (some [737455]) none none none).isDefault = false ∧
    ∀ op ∈ [("UK", CalArgs.mk none none none none), ("US", CalArgs.mk (some []) none none none)],
      op.1 = "UK" → op.2.isDefault = true := by decide

/-! ### Calendar.drange(t0, t1, 'kb') for other k (the property text names '1b') -/

/-- any `k ≠ 0`: as many entries as python's `range(i0, i1 + k, k)`, the `i`-th one the table entry at position `i0 + k·i` -/
theorem drange_kb (c : Cal) (x y k : Int) (lk : List Int) (h : c.drangeB x y k = .ok lk) :
    ∃ i0 i1 : Nat, c.bdays[i0]? = some (c.adjust c.adj x) ∧ c.bdays[i1]? = some (c.adjust c.adj y) ∧ k ≠ 0 ∧
      lk.length = pyRangeLen i0 (i1 + k) k ∧
      ∀ i : Nat, i < lk.length → 0 ≤ (i0 : Int) + i * k ∧ lk[i]? = c.bdays[((i0 : Int) + i * k).toNat]? := by
  obtain ⟨hx, hy, hk, len, get⟩ := (drangeB_eq_ok_iff c x y k lk).1 h
  exact ⟨_, _, (bdays_get_iff c _ _).2 ⟨hx, rfl⟩, (bdays_get_iff c _ _).2 ⟨hy, rfl⟩, hk, len, get⟩

/-- every k-th business day (the `'kb'` list may have one more entry, `drange_kb_overshoot`) -/
theorem drange_kb_every_kth (c : Cal) (x y k : Int) (lk l1 : List Int) (hk : 1 ≤ k)
    (hK : c.drangeB x y k = .ok lk) (h1 : c.drangeB x y 1 = .ok l1) :
    ∀ i : Nat, k.toNat * i < l1.length → lk[i]? = l1[k.toNat * i]? := by
  obtain ⟨_, _, _, len, get⟩ := (drangeB_eq_ok_iff c x y k lk).1 hK
  obtain ⟨_, _, _, len1, get1⟩ := (drangeB_eq_ok_iff c x y 1 l1).1 h1
  intro i hi
  have e : ((k.toNat * i : Nat) : Int) = (i : Int) * k := by
    rw [Int.natCast_mul, Int.toNat_of_nonneg (by omega), Int.mul_comm]
  have hlt : i < lk.length := by
    rw [len1, pyRangeLen_one] at hi
    rw [len, pyRangeLen, if_pos (by omega)]
    have : (i : Int) + 1 ≤ (K c (c.adjust c.adj y) + k - K c (c.adjust c.adj x) + k - 1) / k := by
      rw [Int.le_ediv_iff_mul_le (by omega), Int.add_mul]
      omega
    omega
  rw [(get i hlt).2, (get1 _ hi).2, e, Int.mul_one]

theorem drange_neg1b_reverse (c : Cal) (x y : Int) (lr l1 : List Int)
    (hR : c.drangeB x y (-1) = .ok lr) (h1 : c.drangeB y x 1 = .ok l1) : lr = l1.reverse := by
  obtain ⟨_, _, _, len, get⟩ := (drangeB_eq_ok_iff c x y (-1) lr).1 hR
  obtain ⟨_, _, _, len1, get1⟩ := (drangeB_eq_ok_iff c y x 1 l1).1 h1
  rw [pyRangeLen_neg_one] at len
  rw [pyRangeLen_one] at len1
  generalize K c (c.adjust c.adj x) = i0 at *
  generalize K c (c.adjust c.adj y) = i1 at *
  have hlen : lr.length = l1.length := by omega
  apply List.ext_getElem?
  intro i
  by_cases hi : i < lr.length
  · have hl : (l1.length : Int) = i0 + 1 - i1 := by omega
    clear len len1
    rw [List.getElem?_reverse (by omega), (get i hi).2, (get1 _ (by omega)).2,
      show (i0 : Int) + i * -1 = i1 + (l1.length - 1 - i : Nat) * 1 by omega]
  · rw [List.getElem?_eq_none (by omega), List.getElem?_eq_none (by rw [List.length_reverse]; omega)]

/-- for k > 1 the list can end after the adjusted right endpoint (`range(i0, i1 + k, k)` overshoots when `k` does not divide
`i1 - i0`): in `jan`, `drange(Mon 6 Jan, Thu 9 Jan, '2b')` = [6 Jan, 8 Jan, 10 Jan] -/
theorem drange_kb_overshoot :
    jan.drangeB 737430 737433 2 = .ok [737430, 737432, 737434] ∧ jan.adjust jan.adj 737433 = 737433 := by decide +kernel

/-- the hypotheses of `drange_kb_every_kth` / `drange_neg1b_reverse` -/
example : jan.drangeB 737430 737440 3 = .ok [737430, 737433, 737438, 737441] ∧
    jan.drangeB 737430 737440 1 = .ok [737430, 737431, 737432, 737433, 737434, 737437, 737438, 737439, 737440] :=
  by decide +kernel
example : jan.drangeB 737440 737430 (-1) = .ok [737440, 737439, 737438, 737437, 737434, 737433, 737432, 737431, 737430] := by decide +kernel

/-! ### the guard `InRange` by day-by-day counts of business days on either side of `s` -/

theorem bdays_length_split (c : Cal) (s : Int) (h0 : c.t0 ≤ s) (h1 : s ≤ c.t1) (hB : c.isB s = true) :
    c.bdays.length = cnt c c.t0 (s - 1) + 1 + cnt c (s + 1) c.t1 := length_bdays (Cal.mem_bdays.2 ⟨h0, h1, hB⟩)

/-- at least `n` business days follow `s` up to `t1` (binding for `n > 0`) and at least `-n` precede it from `t0` (binding for `n < 0`) -/
theorem inRange_iff_margin (c : Cal) (s n : Int) :
    InRange c s n ↔ c.t0 ≤ s ∧ s ≤ c.t1 ∧ c.isB s = true ∧ n ≤ cnt c (s + 1) c.t1 ∧ -n ≤ cnt c c.t0 (s - 1) := by
  unfold InRange
  refine and_congr_right fun h0 => and_congr_right fun h1 => and_congr_right fun hB => ?_
  have := bdays_length_split c s h0 h1 hB
  unfold K
  omega

theorem inRange_of_margin (c : Cal) (s n : Int) (hs : c.t0 ≤ s ∧ s ≤ c.t1 ∧ c.isB s = true)
    (h : n.natAbs ≤ cnt c (s + 1) c.t1 ∧ n.natAbs ≤ cnt c c.t0 (s - 1)) : InRange c s n :=
  (inRange_iff_margin c s n).2 ⟨hs.1, hs.2.1, hs.2.2, by omega, by omega⟩

theorem inRange_of_margin_fwd (c : Cal) (s : Int) (n : Nat) (hs : c.t0 ≤ s ∧ s ≤ c.t1 ∧ c.isB s = true)
    (h : n ≤ cnt c (s + 1) c.t1) : InRange c s n :=
  (inRange_iff_margin c s n).2 ⟨hs.1, hs.2.1, hs.2.2, by omega, by omega⟩

theorem inRange_of_margin_bwd (c : Cal) (s : Int) (n : Nat) (hs : c.t0 ≤ s ∧ s ≤ c.t1 ∧ c.isB s = true)
    (h : n ≤ cnt c c.t0 (s - 1)) : InRange c s (-(n : Int)) :=
  (inRange_iff_margin c s _).2 ⟨hs.1, hs.2.1, hs.2.2, by omega, by omega⟩

-- in `jan`, Thu 30 Jan (737454) has 10 business days after it and 20 before it
example : jan.t0 ≤ 737454 ∧ (737454 : Int) ≤ jan.t1 ∧ jan.isB 737454 = true ∧
    (2 : Int).natAbs ≤ cnt jan (737454 + 1) jan.t1 ∧ (2 : Int).natAbs ≤ cnt jan jan.t0 (737454 - 1) := by decide +kernel

/-- `add_nth_fwd` with the guard spelt out: `n` business days follow `s = adjust(t)` inside the range -/
theorem add_nth_fwd_of_margin (c : Cal) (a : Adj) (t : Int) (n : Nat)
    (hs : c.t0 ≤ c.adjust a t ∧ c.adjust a t ≤ c.t1 ∧ c.isB (c.adjust a t) = true) (h : n ≤ cnt c (c.adjust a t + 1) c.t1) :
    ∃ r, c.add a t n = .ok r ∧ c.isB r = true ∧ c.adjust a t ≤ r ∧ r ≤ c.t1 ∧ cnt c (c.adjust a t + 1) r = n :=
  add_nth_fwd c a t n (inRange_of_margin_fwd c _ n hs h)

theorem add_nth_bwd_of_margin (c : Cal) (a : Adj) (t : Int) (n : Nat)
    (hs : c.t0 ≤ c.adjust a t ∧ c.adjust a t ≤ c.t1 ∧ c.isB (c.adjust a t) = true) (h : n ≤ cnt c c.t0 (c.adjust a t - 1)) :
    ∃ r, c.add a t (-(n : Int)) = .ok r ∧ c.isB r = true ∧ r ≤ c.adjust a t ∧ c.t0 ≤ r ∧ cnt c r (c.adjust a t - 1) = n :=
  add_nth_bwd c a t n (inRange_of_margin_bwd c _ n hs h)

theorem add_table_ok_iff_margin (c : Cal) (a : Adj) (t n : Int) (hn : 2 ≤ n.natAbs) :
    (∃ r, c.add a t n = .ok r) ↔
      c.t0 ≤ c.adjust a t ∧ c.adjust a t ≤ c.t1 ∧ c.isB (c.adjust a t) = true ∧
      n ≤ cnt c (c.adjust a t + 1) c.t1 ∧ -n ≤ cnt c c.t0 (c.adjust a t - 1) := by
  rw [add_table_ok_iff c a t n hn, inRange_iff_margin]

/-! ### the object boundary: holidays and range endpoints arrive as objects with a time of day and
`Calendar.__init__` floors them with `ymd` (defects C05-D2, C05-D3).  The driver builds every calendar through
`mkCalT`; the theorems state the flooring through membership / intervals, not through `floorDay` itself. -/

theorem floorDay_iff (us d : Int) : floorDay us = d ↔ d * DAYUS ≤ us ∧ us < (d + 1) * DAYUS := by
  unfold floorDay DAYUS; omega

theorem mkCal_floors (month : Int → Int) (raw we : List Int) (r0 r1 : Int) :
    let c := mkCalT month { hol := some raw, weekend := some we, t0 := some r0, t1 := some r1 }
    (∀ d, d ∈ c.hol ↔ ∃ x ∈ raw, d * DAYUS ≤ x ∧ x < (d + 1) * DAYUS)
    ∧ (c.t0 * DAYUS ≤ r0 ∧ r0 < (c.t0 + 1) * DAYUS) ∧ (c.t1 * DAYUS ≤ r1 ∧ r1 < (c.t1 + 1) * DAYUS)
    ∧ c.weekend = we ∧ c.hol.length = raw.length := by
  intro c
  refine ⟨fun d => ?_, (floorDay_iff r0 _).mp rfl, (floorDay_iff r1 _).mp rfl, rfl, ?_⟩
  · show d ∈ raw.map floorDay ↔ _
    simp only [List.mem_map]
    constructor
    · rintro ⟨x, hx, e⟩; exact ⟨x, hx, (floorDay_iff x d).mp e⟩
    · rintro ⟨x, hx, e⟩; exact ⟨x, hx, (floorDay_iff x d).mpr e⟩
  · show (raw.map floorDay).length = _
    simp

/-- the time of day of a holiday / of a range endpoint does not matter (C05-D2, C05-D3) -/
theorem mkCalT_tod_irrelevant (month : Int → Int) (we days tods tods' : List Int) (d0 d1 s0 s1 s0' s1' : Int)
    (hl : tods.length = days.length) (hl' : tods'.length = days.length)
    (ht : ∀ s ∈ tods, 0 ≤ s ∧ s < DAYUS) (ht' : ∀ s ∈ tods', 0 ≤ s ∧ s < DAYUS)
    (h0 : 0 ≤ s0 ∧ s0 < DAYUS) (h1 : 0 ≤ s1 ∧ s1 < DAYUS) (h0' : 0 ≤ s0' ∧ s0' < DAYUS) (h1' : 0 ≤ s1' ∧ s1' < DAYUS) :
    mkCalT month { hol := some (List.zipWith (fun d s => d * DAYUS + s) days tods), weekend := some we, t0 := some (d0 * DAYUS + s0), t1 := some (d1 * DAYUS + s1) }
    = mkCalT month { hol := some (List.zipWith (fun d s => d * DAYUS + s) days tods'), weekend := some we, t0 := some (d0 * DAYUS + s0'), t1 := some (d1 * DAYUS + s1') }
    ∧ mkCalT month { hol := some (List.zipWith (fun d s => d * DAYUS + s) days tods), weekend := some we, t0 := some (d0 * DAYUS + s0), t1 := some (d1 * DAYUS + s1) }
    = mkCal month { hol := some days, weekend := some we, t0 := some d0, t1 := some d1 } := by
  have fl : ∀ d s : Int, 0 ≤ s ∧ s < DAYUS → floorDay (d * DAYUS + s) = d := fun d s h => (floorDay_iff _ d).mpr (by unfold DAYUS at *; omega)
  have key : ∀ (days tods : List Int), tods.length = days.length → (∀ s ∈ tods, 0 ≤ s ∧ s < DAYUS) →
      (List.zipWith (fun d s => d * DAYUS + s) days tods).map floorDay = days := by
    intro days
    induction days with
    | nil => intro tods _ _; simp
    | cons d ds ih =>
      intro tods hl ht
      match tods, hl, ht with
      | s :: ss, hl, ht =>
        simp only [List.zipWith_cons_cons, List.map_cons, List.cons.injEq]
        exact ⟨fl d s (ht s (by simp)), ih ss (by simpa using hl) (fun x hx => ht x (by simp [hx]))⟩
  have e : ∀ tods s0 s1, tods.length = days.length → (∀ s ∈ tods, 0 ≤ s ∧ s < DAYUS) → (0 ≤ s0 ∧ s0 < DAYUS) → (0 ≤ s1 ∧ s1 < DAYUS) →
      mkCalT month { hol := some (List.zipWith (fun d s => d * DAYUS + s) days tods), weekend := some we, t0 := some (d0 * DAYUS + s0), t1 := some (d1 * DAYUS + s1) }
      = mkCal month { hol := some days, weekend := some we, t0 := some d0, t1 := some d1 } := by
    intro tods s0 s1 hl ht h0 h1
    simp only [mkCalT, CalArgs.floor, Option.map_some, key days tods hl ht, fl d0 s0 h0, fl d1 s1 h1]
  exact ⟨(e tods s0 s1 hl ht h0 h1).trans (e tods' s0' s1' hl' ht' h0' h1').symm, e tods s0 s1 hl ht h0 h1⟩

/-- on a calendar built from objects with a time of day, `t` is a business day iff it is no weekend day and no holiday instant lies
anywhere in the day `t` (C05-D2), and the business-day table runs from the day of `t0` to the day of `t1` (C05-D3) -/
theorem isB_of_instants (month : Int → Int) (raw we : List Int) (r0 r1 t : Int) :
    let c := mkCalT month { hol := some raw, weekend := some we, t0 := some r0, t1 := some r1 }
    (c.isB t = true ↔ wd t ∉ we ∧ ∀ x ∈ raw, ¬ (t * DAYUS ≤ x ∧ x < (t + 1) * DAYUS))
    ∧ (t ∈ c.bdays ↔ (t + 1) * DAYUS > r0 ∧ t * DAYUS ≤ r1 ∧ c.isB t = true) := by
  intro c
  have hf := mkCal_floors month raw we r0 r1
  constructor
  · rw [isB_spec, hf.1 t]
    constructor
    · rintro ⟨h1, h2⟩; exact ⟨h1, fun x hx hh => h2 ⟨x, hx, hh⟩⟩
    · rintro ⟨h1, h2⟩; exact ⟨h1, fun ⟨x, hx, hh⟩ => h2 x hx hh⟩
  · rw [mem_bdays]
    show r0 / DAYUS ≤ t ∧ t ≤ r1 / DAYUS ∧ _ ↔ _
    rw [← Int.lt_add_one_iff, Int.ediv_lt_iff_lt_mul (by decide), Int.le_ediv_iff_mul_le (by decide)]

-- a holiday handed over at 09:30 / as the last microsecond of its day, a range that starts at 09:00
example :
    let c := mkCalT ymKey { hol := some [737425 * DAYUS + 34200000000, 737426 * DAYUS + (DAYUS - 1)], weekend := some [5, 6],
                            t0 := some (737394 * DAYUS + 32400000000), t1 := some (737456 * DAYUS + 63000000000) }
    c.hol = [737425, 737426] ∧ c.t0 = 737394 ∧ c.t1 = 737456 ∧ c.isB 737425 = false ∧ c.isB 737427 = true := by decide +kernel

/-! ### the converse of `drange_1b` (KeyError), and `Calendar.clock` -/

/-- "`s` is a key of the business-day table": a business day of the calendar's range -/
def InTable (c : Cal) (s : Int) : Prop := c.t0 ≤ s ∧ s ≤ c.t1 ∧ c.isB s = true

/-- the look-up `dt2int[s]` raises `KeyError` exactly when `s` is not a business day of the calendar's range -/
theorem clockOf_error_iff (c : Cal) (s : Int) : clockOfT c.bdays s = .error .key ↔ ¬ InTable c s := by
  rw [clockOfT_bdays]
  split
  · next h => exact ⟨fun e => (nomatch e), fun hn => absurd (Cal.mem_bdays.1 h) hn⟩
  · next h => exact ⟨fun _ hs => h (Cal.mem_bdays.2 hs), fun _ => rfl⟩

/-- the converse of `drange_1b`, for every step `k`: the look-ups come before the step is used, also before the `ValueError` of
`range(.., 0)` -/
theorem drange_kb_error (c : Cal) (x y k : Int)
    (h : ¬ InTable c (c.adjust c.adj x) ∨ ¬ InTable c (c.adjust c.adj y)) : c.drangeB x y k = .error .key := by
  rw [drangeB_bdays, if_neg]
  intro ⟨hx, hy⟩
  exact h.elim (· (Cal.mem_bdays.1 hx)) (· (Cal.mem_bdays.1 hy))

theorem drange_1b_error (c : Cal) (x y : Int)
    (h : ¬ InTable c (c.adjust c.adj x) ∨ ¬ InTable c (c.adjust c.adj y)) : c.drangeB x y 1 = .error .key :=
  drange_kb_error c x y 1 h

theorem drange_1b_ok_iff (c : Cal) (x y : Int) :
    (∃ l, c.drangeB x y 1 = .ok l) ↔ InTable c (c.adjust c.adj x) ∧ InTable c (c.adjust c.adj y) := by
  refine ⟨fun ⟨l, hl⟩ => ?_, fun ⟨hx, hy⟩ => ⟨_, drange_1b c x y hx hy⟩⟩
  have h := (drangeB_eq_ok_iff c x y 1 l).1 hl
  exact ⟨Cal.mem_bdays.1 h.1, Cal.mem_bdays.1 h.2.1⟩

-- in `jan`, Thu 6 Feb is in the table; a day after the range's end adjusts to a day beyond the range
example : InTable jan (jan.adjust jan.adj 737461) ∧ ¬ InTable jan (jan.adjust jan.adj 737475) ∧
    jan.drangeB 737461 737475 1 = .error .key := by
  unfold InTable; decide +kernel

/-- `Calendar.clock(t)`, read literally in the model (`dt2int.get(t, dt2int[adjust(t)])`, default evaluated first), is the table
position of `adjust(t)`: a table key is its own adjustment -/
theorem clock_eq (c : Cal) (t : Int) : c.clock t = clockOfT c.bdays (c.adjust c.adj t) := by
  rw [clock_bdays, clockOfT_bdays]

/-- `clock(t)` is the number of business days of the range strictly before `adjust(t)` -/
theorem clock_counts (c : Cal) (t : Int) (h : InTable c (c.adjust c.adj t)) :
    c.clock t = .ok (cnt c c.t0 (c.adjust c.adj t - 1)) := by
  rw [clock_bdays, if_pos (Cal.mem_bdays.2 h)]; rfl

theorem clock_ok_iff (c : Cal) (t : Int) : (∃ i, c.clock t = .ok i) ↔ InTable c (c.adjust c.adj t) := by
  rw [clock_bdays]
  split
  · next h => exact ⟨fun _ => Cal.mem_bdays.1 h, fun _ => ⟨_, rfl⟩⟩
  · next h => exact ⟨fun ⟨_, e⟩ => (nomatch e), fun hs => absurd (Cal.mem_bdays.2 hs) h⟩

theorem clock_error (c : Cal) (t : Int) (h : ¬ InTable c (c.adjust c.adj t)) : c.clock t = .error .key := by
  rw [clock_bdays, if_neg (mt Cal.mem_bdays.1 h)]

/-- `int2dt[clock(t)] == adjust(t)` -/
theorem clock_inverse (c : Cal) (t : Int) (i : Nat) (h : c.clock t = .ok i) : c.bdays[i]? = some (c.adjust c.adj t) := by
  rw [clock_eq] at h
  exact clockOfT_getElem? _ _ _ h

/-- `clock(add(t, n)) - clock(t) == n` (the harness law `clock`) -/
theorem clock_add (c : Cal) (t n : Int) (h : InRange c (c.adjust c.adj t) n) :
    ∃ r i j, c.add c.adj t n = .ok r ∧ c.clock t = .ok i ∧ c.clock r = .ok j ∧ (j : Int) - (i : Int) = n := by
  obtain ⟨r, hr, rM, rK⟩ := add_spec c c.adj t n h
  refine ⟨r, K c (c.adjust c.adj t), K c r, hr, ?_, ?_, by omega⟩
  · rw [clock_bdays, if_pos h.mem]
  · rw [clock_bdays, adjust_mem _ rM, if_pos rM]

/-- `clock` is strictly increasing on the keys of the table (`a`, `b` business days of the range; other days are adjusted first and may
share a position) -/
theorem clock_strict_mono (c : Cal) (a b : Int) (ha : InTable c a) (hb : InTable c b) (hab : a < b) :
    ∃ i j, c.clock a = .ok i ∧ c.clock b = .ok j ∧ i < j := by
  have ha' := Cal.mem_bdays.2 ha
  have hb' := Cal.mem_bdays.2 hb
  refine ⟨K c a, K c b, ?_, ?_, K_lt c a b ha.1 hab ha.2.2⟩
  · rw [clock_bdays, adjust_mem _ ha', if_pos ha']
  · rw [clock_bdays, adjust_mem _ hb', if_pos hb']

-- Fri 31 Jan 2020 (a holiday of `jan`) adjusts to Thu 30 Jan, the 21st business day of the range (position 20)
example : jan.clock 737455 = .ok 20 ∧ jan.clock 737454 = .ok 20 ∧ jan.clock 737458 = .ok 21 ∧ jan.clock 737480 = .error .key :=
  by decide +kernel

/-! ### registry histories with table-building operations

The registry holds objects whose business-day table is built once, by the first `add(|n| ≥ 2)` / `bdays` / `drange` / `clock`, and kept
(`CalObj`, `ObjRegistry`).  The histories below may contain any such operation, on any key, between the `calendar(k, args)` calls. -/

/-- the invariant of every history that does not re-register `k`: the object under `k` has the registered configuration and its
table — built or not — is not stale -/
theorem registry_object_invariant (month : Int → Int) (k : String) (c : Cal) (ops : List RegOp)
    (hops : ∀ op ∈ ops, ∀ a', op = .call k a' → a'.isDefault = true) :
    ∀ (r0 : ObjRegistry), (∃ o, r0.get? k = some o ∧ o.cal = c ∧ o.WF) →
      ∃ o, (runObj month r0 ops).get? k = some o ∧ o.cal = c ∧ o.WF := by
  refine fun r0 => List.foldl_preserves (P := fun r : ObjRegistry => ∃ o, r.get? k = some o ∧ o.cal = c ∧ o.WF) fun r0 op hop ⟨o, hg, hc, hw⟩ => ?_
  cases op with
  | call k' a' =>
    exact ⟨o, ocalendar_frame month r0 k k' a' o hg (fun e => hops _ hop a' (by rw [e])), hc, hw⟩
  | use k' u =>
    simp only [ObjRegistry.step, ObjRegistry.useAt]
    by_cases e : k' = k
    · subst e
      rw [ocalendar_fetch month r0 k' o hg]
      exact ⟨(o.use u).1, oget?_set_same _ _ _, by rw [CalObj.use_cal, hc], CalObj.use_wf o hw u⟩
    · refine ⟨o, ?_, hc, hw⟩
      rw [oget?_set_other _ k k' _ e]
      exact ocalendar_frame month r0 k k' _ o hg (fun e' => absurd e' e)

/-- `registry_last` through every operation: after `calendar(k, args)`, let the history contain fetches, registrations of other keys and
`is_bday / adjust / add / bdays / drange / clock` on the calendars fetched under any key (`k` included: its table gets built on the
way).  Then `calendar(k)` is the calendar built from `args`, and every operation on it answers from that calendar's own table: no table
built for an earlier registration or another key is ever read. -/
theorem registry_last_objects (month : Int → Int) (r : ObjRegistry) (k : String) (a : CalArgs)
    (hreg : a.isDefault = false ∨ r.get? k = none)
    (ops : List RegOp) (hops : ∀ op ∈ ops, ∀ a', op = .call k a' → a'.isDefault = true) (u : Use) :
    let r' := runObj month ((r.calendar month k a).1) ops
    (r'.calendar month k ⟨none, none, none, none⟩).2.cal = mkCal month a ∧
    (r'.calendar month k ⟨none, none, none, none⟩).2.cal.hol = a.hol.getD [] ∧
    (r'.useAt month k u).2 = (mkCal month a).use u := by
  obtain ⟨o, hg, hc, hw⟩ := registry_object_invariant month k (mkCal month a) ops hops _
    ⟨_, ocalendar_register month r k a hreg, rfl, CalObj.fresh_wf _⟩
  simp only
  rw [ocalendar_fetch month _ k o hg]
  refine ⟨hc, by rw [hc]; rfl, ?_⟩
  simp only [ObjRegistry.useAt]
  rw [ocalendar_fetch month _ k o hg, CalObj.use_ans o hw u, hc]

/-- the hypotheses of `registry_last_objects`: register UK with a holiday, build its table (`add 2`), register US, use it, fetch UK -/
example : (CalArgs.mk (some [737455]) none none none).isDefault = false ∧
    ∀ op ∈ [RegOp.use "UK" (.add .m 737455 2), .call "US" (CalArgs.mk (some []) none none none), .use "US" (.bdays .m 737455 737460),
            .call "UK" (CalArgs.mk none none none none), .use "UK" (.clock 737455)],
      ∀ a', op = .call "UK" a' → a'.isDefault = true := by
  refine ⟨by decide, fun op hop a' h => ?_⟩
  subst h
  -- the only `call "UK" _` in the list is the fetch
  simp at hop
  rw [hop]; rfl

end Pyg.Props.C05
