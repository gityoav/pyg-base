/-
  C20 — perdictable evaluates a function once per row of the keyed join of its inputs.
  `join_keys` and `join_returns` are both read off `Pyg.pdJoin_sem` ("`join` returns, and what it returns").

  The lifted function `f : List Cell → Val` is arbitrary; the model returns the result and the log of
  the calls of `f` (argument lists, in call order).
-/
import PygModel.PerDict
import PygProofs.Lemmas.PerDictItem
import PygProofs.Lemmas.PerDictJoin

namespace Pyg.Props.C20
open Pyg

/-- the defaults `perdictable` hands to `join`: the caller's, then `data → None`, `expiry → None` unless named -/
def fullDefaults (defaults : List (String × Cell)) : List (String × Cell) :=
  defaults ++ (if (defaults.map (·.1)).contains "data" then [] else [("data", Cell.none)]) ++
    (if (defaults.map (·.1)).contains "expiry" then [] else [("expiry", Cell.none)])

theorem dfltOf_fullDefaults_expiry (defaults : List (String × Cell)) (v : Cell)
    (h : dfltOf (fullDefaults defaults) "expiry" = some v) : v = .none ∨ dfltOf defaults "expiry" = some v := by
  have hdata : dfltOf (if (defaults.map (·.1)).contains "data" then [] else [("data", Cell.none)])
      "expiry" = none := by split <;> rfl
  rw [fullDefaults, dfltOf_append, dfltOf_append, hdata] at h
  split at h
  · exact .inr h
  · exact .inl (Option.some.inj h).symm

/-- a lifted function that returns its arguments, for the examples and tests -/
def fEx (args : List Cell) : Val := .tuple (args.map .cell)
/-- a table keyed by `k` with the value column `a` (keys 3, 1, 2), for the examples and tests -/
def tA : Table := [("k", [.int 3, .int 1, .int 2]), ("a", [.int 30, .int 10, .int 20])]
/-- a table keyed by `k` with the value column `b` (keys 2, 3, 4) -/
def tB : Table := [("k", [.int 2, .int 3, .int 4]), ("b", [.str "x", .str "y", .str "z"])]

/-- **scalar passthrough**: when every input (and `expiry`) is a scalar the lifted function returns
`f(...)` itself, after exactly one call of `f` on the given values — whatever `on`, the defaults
and the expiry are -/
theorem scalar_passthrough (f : List Cell → Val) (params on : List String)
    (defaults : List (String × Cell)) (inputs : List (String × Cell)) (e : Cell) (today : Int)
    (ifNone : Bool) :
    let args := params.map (argOf (inputs ++ [("expiry", e)]))
    perdictable f params on defaults (inputs.map fun kv => (kv.1, .scalar kv.2)) (.scalar e) today ifNone
      = some (.ok (.value (f args), [args])) := by
  intro args
  have hm : ((inputs.map fun kv => (kv.1, PInput.scalar kv.2)) ++ [("expiry", PInput.scalar e)])
      = (inputs ++ [("expiry", e)]).map fun kv => (kv.1, PInput.scalar kv.2) := by simp
  have hn : Table.nrows ((inputs ++ [("expiry", e)]).map fun kv => (kv.1, [kv.2])) = 1 := by
    cases inputs <;> simp [Table.nrows]
  have hany : ((inputs.map fun kv => (kv.1, PInput.scalar kv.2)) ++ [("expiry", PInput.scalar e)]).any
      (fun kv => kv.2.isTable) = false := by
    simp [List.any_map, PInput.isTable, Function.comp_def]
  have hargs : rowArgs ((inputs ++ [("expiry", e)]).map fun kv => (kv.1, [kv.2])) params 0 = args :=
    List.map_congr_left fun p _ => jcellAt_scalars _ p
  rw [perdictable_of_join f params on defaults _ (.scalar e) today ifNone _
      (by rw [hm]; exact pdJoin_scalars _ on _),
    if_neg (by rw [hn]; exact Nat.one_ne_zero), hn, hany,
    if_pos (show (decide (1 = 1) && !false) = true from rfl), hargs]

/-- **values are f, computed once**: when the joined table `ds` has rows and some input is a table,
the result holds the `on` columns of `ds` and, for every row, either `f` of that row's parameter
values or the supplied previous value; the log of calls is exactly the list of rows that are to be
computed — each such row once, in row order, no other call. -/
theorem table_result (f : List Cell → Val) (params on : List String)
    (defaults : List (String × Cell)) (inputs : List (String × PInput)) (expiry : PInput)
    (today : Int) (ds keyCols : Table)
    (hj : pdJoin (inputs ++ [("expiry", expiry)]) on
      (defaults ++ (if (defaults.map (·.1)).contains "data" then [] else [("data", Cell.none)]) ++
        (if (defaults.map (·.1)).contains "expiry" then [] else [("expiry", Cell.none)]))
      = some (.ok ds))
    (hn : ds.nrows ≠ 0) (ht : (inputs ++ [("expiry", expiry)]).any (fun kv => kv.2.isTable) = true)
    (hon : on ≠ []) (hk : ds.select on = .ok keyCols) (ifNone : Bool) :
    let runs := rowRuns ifNone ds (ds.cols.contains "data") today
    perdictable f params on defaults inputs expiry today ifNone = some (.ok (
      .table (keyCols.toV ++ [("data", (List.range ds.nrows).map fun i =>
        if runs i then f (rowArgs ds params i) else .cell (ds.jcellAt "data" i))]),
      ((List.range ds.nrows).filter runs).map (rowArgs ds params))) := by
  intro runs
  rw [perdictable_of_join f params on defaults inputs expiry today ifNone ds hj, if_neg hn, ht,
    Bool.not_true, Bool.and_false, if_neg Bool.false_ne_true]
  dsimp only
  rw [evalRows_eq, if_neg (by simpa using hon), hk]

/-- an expiry `None` recomputes -/
theorem runExpiry_none (today : Int) : runExpiry today .none = true := rfl

/-- an expiry cell that spells an instant (`expiryDate`) recomputes iff that instant is not before today -/
theorem runExpiry_of_date (today : Int) (c : Cell) (us : Int) (h : expiryDate c = some us) :
    runExpiry today c = decide (us ≥ today) := by
  cases c with
  | none => cases h
  | _ => simp only [runExpiry, h]

/-- **`row_kept_iff` for every spelling of the expiry that `dt()` accepts** (the code reads `not dt(value) < today`):
the expiry cell is `None` or spells an instant - a datetime, a date string such as `'2000-01-01'` /
`'20000101'`, a number such as `20000101` - where "spells" is the model of `dt` of property C04 (`expiryDate` =
`DateParse.dtStr` / `num2dtQ`, the subject of Props/C04), which does not depend on `perdictable`.  The row is kept
exactly when a previous value column exists, the spelled instant is strictly before today and, with `if_none = True`, the previous value is not `None`. -/
theorem row_kept_iff_spelled (ifNone : Bool) (ds : Table) (hasData : Bool) (today : Int) (i : Nat)
    (hc : expiryCovered (ds.jcellAt "expiry" i) = true) :
    rowRuns ifNone ds hasData today i = false ↔
      hasData = true ∧ (ifNone = true → ds.jcellAt "data" i ≠ .none) ∧
        ∃ us, expiryDate (ds.jcellAt "expiry" i) = some us ∧ us < today := by
  have hnone : (ds.jcellAt "data" i).isNone = false ↔ ds.jcellAt "data" i ≠ .none := by
    cases ds.jcellAt "data" i <;> simp [Cell.isNone]
  simp only [expiryCovered, Bool.or_eq_true, beq_iff_eq, Option.isSome_iff_exists] at hc
  rcases hc with (h | h) | ⟨us, h⟩
  · simp [rowRuns, h, runExpiry, expiryDate_none]
  · have hd : expiryDate (.str "NaT") = none := by decide
    simp [rowRuns, h, runExpiry, hd]
  · -- `rowRuns` is `!hasData || (ifNone && data.isNone) || decide (us ≥ today)`: false iff all three disjuncts are
    simp only [rowRuns, runExpiry_of_date today _ us h, h, Bool.or_eq_false_iff, Bool.not_eq_false',
      decide_eq_false_iff_not, Int.not_le, Option.some.injEq, exists_eq_left', Bool.and_eq_false_imp,
      hnone, and_assoc]

/-- a row is *kept* (not computed) exactly when a previous value column exists, the row's expiry
is a date strictly before today — `None` or a date from today on means (re)compute — and, with
`if_none = True`, the previous value is not `None` -/
theorem row_kept_iff (ifNone : Bool) (ds : Table) (hasData : Bool) (today : Int) (i : Nat)
    (hc : ds.jcellAt "expiry" i = .none ∨ ∃ us, ds.jcellAt "expiry" i = .dt us) :
    rowRuns ifNone ds hasData today i = false ↔
      hasData = true ∧ (ifNone = true → ds.jcellAt "data" i ≠ .none) ∧
        ∃ us, ds.jcellAt "expiry" i = .dt us ∧ us < today := by
  have hcov := expiryCovered_of_none_or_dt hc
  rw [row_kept_iff_spelled ifNone ds hasData today i hcov]
  -- for a cell that is `None` or a datetime, `expiryDate` is `some us` exactly on the datetime `.dt us`
  rcases hc with h | ⟨us, h⟩
  · simp [h, expiryDate_none]
  · simp [h, expiryDate_dt]

/-- these spellings denote 2000-01-01 00:00 (730119 days after 0001-01-01) -/
example : expiryDate (.str "2000-01-01") = some (730119 * 86400000000) ∧ expiryDate (.str "20000101") = some (730119 * 86400000000) ∧
    expiryDate (.int 20000101) = some (730119 * 86400000000) ∧ expiryDate (.int 1) = none ∧ expiryDate (.bool true) = none := by
  decide

/-- **calls once**: over the rows `0 .. n-1` the log has as many entries as there are rows with `rowRuns`, and there is
one value per row -/
theorem calls_once (ifNone : Bool) (f : List Cell → Val) (params : List String) (ds : Table)
    (hasData : Bool) (today : Int) (n : Nat) :
    (evalRows ifNone f params ds hasData today (List.range n)).2.length =
      ((List.range n).filter (rowRuns ifNone ds hasData today)).length ∧
    (evalRows ifNone f params ds hasData today (List.range n)).1.length = n := by
  rw [evalRows_eq]
  simp

/-- no key survives the join: `f` is never called and the supplied `data` (or `None`) is returned -/
theorem no_rows (f : List Cell → Val) (params on : List String)
    (defaults : List (String × Cell)) (inputs : List (String × PInput)) (expiry : PInput)
    (today : Int) (ds : Table)
    (hj : pdJoin (inputs ++ [("expiry", expiry)]) on
      (defaults ++ (if (defaults.map (·.1)).contains "data" then [] else [("data", Cell.none)]) ++
        (if (defaults.map (·.1)).contains "expiry" then [] else [("expiry", Cell.none)]))
      = some (.ok ds))
    (hn : ds.nrows = 0) (ifNone : Bool) :
    perdictable f params on defaults inputs expiry today ifNone =
      some (.ok (.noRows ((inputs.find? (·.1 == "data")).map (·.2)), [])) := by
  rw [perdictable_of_join f params on defaults inputs expiry today ifNone ds hj, if_pos hn]

/-- **sorted by key**: the final `sort` of `join` returns the rows of its argument gathered along `sortIdx keys` for a
list `keys` with one entry per row: a permutation of the rows along which `keys` is non-decreasing under `cmp`.  That
`keys` are the row keys (the dict of the `on` cells) is said by `JoinSpec.sorted`, through `sortKey` (`finish_sem`). -/
theorem sorted_by_key (t t' : Table) (on : List String) (hn : t.nrows ≠ 0)
    (h : t.sortOn on = .ok t') :
    ∃ keys : List Val, keys.length = t.nrows ∧
      t' = t.gatherRows (sortIdx keys) ∧
      (sortIdx keys).Perm (List.range t.nrows) ∧
      ((sortIdx keys).map (keyAt keys)).Pairwise (fun a b => cmpLe a b = true) := by
  obtain ⟨_, _, rfl⟩ := sortOn_ok hn h
  refine ⟨(List.range t.nrows).map (sortKey t on), by simp, rfl, ?_, ?_⟩
  · simpa using Pyg.sortIdx_perm ((List.range t.nrows).map (sortKey t on))
  · rw [sortIdx_map_keyAt]
    exact Pyg.sort_sorted _

/-- **the joined table is sorted**: whenever some input is a table, the table `join` returns (the one
the row loop runs over, and whose `on` columns become the key columns of the result) is the output
of the final sort `sortOn on` of some table (to which `sorted_by_key` applies), for every combination of inputs and
defaults -/
theorem join_output_sorted (inputs : List (String × PInput)) (on : List String)
    (defaults : List (String × Cell)) (ds : Table)
    (ht : inputs.any (fun kv => kv.2.isTable) = true)
    (h : pdJoin inputs on defaults = some (.ok ds)) :
    ∃ t : Table, t.sortOn on = .ok ds := by
  rw [pdJoin_of_items defaults (items_of_pdJoin h)] at h
  obtain ⟨⟨k, v⟩, hkv, hkt⟩ := List.any_eq_true.1 ht
  cases v with
  | scalar c => cases hkt
  | table d =>
    have hne := List.isEmpty_eq_false_iff.2 (List.ne_nil_of_mem
      (List.mem_map_of_mem (f := fun a : String × Table => (a.1, itemD a.2 a.1 on))
        (mem_tableInputs (a := (k, d)).2 hkv)))
    simp only [hne, Bool.false_eq_true, if_false] at h
    split at h
    · exact ⟨_, Option.some.inj h⟩
    · cases h
    · cases h
    · cases h

/-- **two tables, structurally**: `_join_dictable_with_defaults` of two tables is their inner join,
extended — when the *left* input has defaults — by the rows of the right table whose key the left
table lacks (with the left defaults filled in), and symmetrically.  Which rows those are is pinned
down by `xor_gatherRows_perm` (the lemma behind C02's `xor_spec`): exactly the rows whose key matches no row of the other table. -/
theorem joinDef_two_tables (a b d : Table) (da db : List (String × Cell))
    (ka kb ka' kb' : List Val)
    (hne : linter a.cols b.cols ≠ [])
    (hd : a.mul b = some (.ok d))
    (hkb : b.keysOf ((linter b.cols a.cols).map .col) = .ok kb)
    (hka : a.keysOf ((linter b.cols a.cols).map .col) = .ok ka)
    (hka' : a.keysOf ((linter a.cols b.cols).map .col) = .ok ka')
    (hkb' : b.keysOf ((linter a.cols b.cols).map .col) = .ok kb') :
    ∃ ids1 ids2 : List Nat,
      joinDef (some a, da) (some b, db) = some (.ok (some (
        let d1 := if da.isEmpty then d else d.concat2 ((b.gatherRows ids1).setConsts da)
        if db.isEmpty then d1 else d1.concat2 ((a.gatherRows ids2).setConsts db)),
        updDefaults da db)) ∧
      ids1.Perm ((List.range b.nrows).filter fun i =>
        (List.range a.nrows).all fun j => cmp (keyAt kb i) (keyAt ka j) != .eq) ∧
      ids2.Perm ((List.range a.nrows).filter fun i =>
        (List.range b.nrows).all fun j => cmp (keyAt ka' i) (keyAt kb' j) != .eq) := by
  have hne' : linter b.cols a.cols ≠ [] := fun h =>
    hne (linter_eq_nil_iff.2 fun x hx hxb => linter_eq_nil_iff.1 h x hxb hx)
  obtain ⟨ids1, h1, p1⟩ := xor_gatherRows_perm b a rfl (by simpa using hne') hkb hka
  obtain ⟨ids2, h2, p2⟩ := xor_gatherRows_perm a b rfl (by simpa using hne) hka' hkb'
  refine ⟨ids1, ids2, ?_, p1, p2⟩
  have e1 : b.div a = .ok (b.gatherRows ids1) := h1
  have e2 : a.div b = .ok (a.gatherRows ids2) := h2
  refine joinDef_of_mul hd (d1 := if da.isEmpty then d else d.concat2 ((b.gatherRows ids1).setConsts da))
    ?_ ?_
  · rw [e1]; split <;> rfl
  · rw [e2]; split <;> rfl

/-- the hypotheses of `joinDef_two_tables` are satisfiable -/
example : linter tA.cols tB.cols ≠ [] ∧
    tA.keysOf ((linter tA.cols tB.cols).map .col) = .ok [.tuple [.cell (.int 3)], .tuple [.cell (.int 1)], .tuple [.cell (.int 2)]] := by
  refine ⟨by decide, rfl⟩

/-- **join_keys (any number of inputs without defaults)**: `tbl1 = reducer(mul, tables)` holds a key
iff every one of the tables holds it (`hasKey t on k`: some row of `t` has a key `cmp`-equal to `k`
on the columns `on`) — which keys are present, not how many rows carry one (for that see
`JoinSpec.one_per_key`).  Read off the row view (`FoldOK.hasK`).  `FoldOK`: the tables share
exactly the columns `on` (listed by the first table in the order of `on`), every other column
belongs to one table only — the shape `_item` produces for inputs keyed by all of `on`. -/
theorem join_keys_inner (on : List String) (hon : on ≠ []) (hnd : on.Nodup)
    (d : Table) (ds : List Table) (r : Table) (hok : FoldOK on d ds)
    (h : foldOR Table.mul d ds = some (.ok r)) (k : Val) :
    hasKey r on k ↔ hasKey d on k ∧ ∀ t ∈ ds, hasKey t on k :=
  hasKey_inter_of_hasK (hok.hasK hon hnd h) k

/-- the hypotheses of `join_keys_inner` are satisfiable: two inputs keyed by `k` -/
example : FoldOK ["k"] tA [tB] := ⟨by decide, by decide, by decide, by decide⟩

/-- **scalars broadcast / defaults filled in**: `d(**{k: v})` sets column `k` to `v` on every row and
leaves every other column alone (this is how scalar inputs enter the joined table and how the rows
of an outer join receive their default); this is `setConst_sem` -/
theorem const_column (t : Table) (k : String) (v : Cell) (ht : t ≠ []) :
    (t.setConst k v).col? k = some (List.replicate t.nrows v) ∧
    ∀ c, c ≠ k → (t.setConst k v).col? c = t.col? c :=
  setConst_sem t k v ht

/-- the rows of a product of two tables sharing exactly `on`: the key-equal pairs of rows, each
once, every product row carrying a key `cmp`-equal to the keys of both rows it combines (`mul_rows` of
PerDictTable.lean under the property's name) -/
theorem mul_rows_spec (a b d : Table) (on : List String) (hon : on ≠ []) (hnd : on.Nodup)
    (hsh : linter a.cols b.cols = on) (hd : a.mul b = some (.ok d)) :
    ∃ kp : List (Val × Nat × Nat),
      d.nrows = kp.length ∧
      (∀ p (hp : p < kp.length), rowKey d on p = kp[p].1) ∧
      (kp.map (·.2)).Perm ((allPairs a.nrows b.nrows).filter fun q =>
        cmp (rowKey a on q.1) (rowKey b on q.2) == .eq) ∧
      ∀ p ∈ kp, cmp p.1 (rowKey a on p.2.1) = .eq ∧ cmp p.1 (rowKey b on p.2.2) = .eq :=
  mul_rows a b d on hon hnd hsh hd

/-- the inner part: the table `a * b` is the C02 join on the shared columns -/
theorem mul_is_join (a b d : Table) (h : a.mul b = some (.ok d)) :
    ∃ v : VTable, join a b (some ((linter a.cols b.cols).map .col))
        (some ((linter a.cols b.cols).map .col)) .pair = some (.ok v) ∧ v.toTable = some d := by
  simp only [Table.mul] at h
  split at h
  · rename_i v hv
    refine ⟨v, ?_, ?_⟩
    · exact hv
    · cases hv' : v.toTable with
      | none => simp [hv'] at h
      | some d' => simp [hv'] at h; rw [h]
  · simp at h
  · simp at h

/-- **what `_item` keeps of a table input** keyed by all of `on` whose parameter name is not a key
column (and, like every dictable, distinct column names): a rectangular table with exactly the key
columns and the column `key`; it has the rows of the input — same keys, and under `key` the input's
value column (`valueCol`: the column named like the parameter, else `data`, else the only non-key
column). -/
theorem item_spec (d t : Table) (key : String) (on : List String) (hd : d.WF)
    (hdn : d.cols.Nodup) (hon : ∀ c ∈ on, c ∈ d.cols) (hkey : key ∉ on)
    (h : item d key on = .ok t) :
    KeyedSrc on t key ∧ RowsAgree on key t.R (inputRows on key d) := by
  have hv := valueCol_of_item h
  obtain ⟨hv1, hv3⟩ := valueCol_sem hv
  have hv2 : valueCol d key on ∉ on := hv3.elim (fun he => by rw [he]; exact hkey) (·.2)
  rw [item_of_valueCol hv] at h
  have hmem : ∀ c, c ∈ linter d.cols on ↔ c ∈ on := fun c =>
    mem_linter_iff.trans ⟨fun h => h.2, fun h => ⟨hon c h, h⟩⟩
  have hr : (d.rename (valueCol d key on) key).Rect (d.rename (valueCol d key on) key).nrows := by
    rw [rename_nrows]; exact rename_rect _ _ _ _ hd.2
  obtain ⟨hw, hn⟩ := select_wf _ t _ hr (by simp) h
  have hc := select_cols _ t _ h
  have hcell := select_cell _ t _ h
  refine ⟨⟨hw, fun c hc' => ?_, ?_, hkey, fun c hc' => ?_, ?_⟩, hn.trans (rename_nrows _ _ _),
    fun i _ => ⟨fun c hc' => ?_, ?_⟩⟩
  · rw [hc]; exact List.mem_append.2 (.inl ((hmem c).2 hc'))
  · rw [hc]; simp
  · rw [hc] at hc'
    exact (List.mem_append.1 hc').imp (hmem c).1 List.mem_singleton.1
  · simp only [OnNodup, hc, List.filter_append]
    rw [filter_on_eq_self fun c hc => (mem_linter_iff.1 hc).2,
      filter_on_eq_nil fun c hc => List.mem_singleton.1 hc ▸ hkey, List.append_nil]
    exact hdn.sublist List.filter_sublist
  · have hne : c ≠ key := fun he => hkey (he ▸ hc')
    rw [inputRows_row_of_ne on d i hne, Table.R_row, Table.rowF,
      hcell c (List.mem_append.2 (.inl ((hmem c).2 hc'))) i]
    exact jcellAt_congr (rename_col?_other _ _ _ _ (fun he => hv2 (by rw [← he]; exact hc')) hne) i
  · rw [inputRows_row_name, Table.R_row, Table.rowF, hcell key (by simp) i]
    exact jcellAt_congr (rename_col?_new _ _ _ (hv3.imp_right (·.1))) i

/-- what `join(inputs, on, defaults)` returns (`join_keys` proves it for any number of inputs) -/
structure JoinSpec (inputs : List (String × PInput)) (on : List String)
    (defaults : List (String × Cell)) (ds : Table) : Prop where
  /-- rectangular, at least one column -/
  wf : ds.WF
  /-- the key columns and one column per input -/
  cols : ∀ c, c ∈ ds.cols ↔ c ∈ on ∨ (∃ kv ∈ tableInputs inputs, kv.1 = c) ∨
    ∃ kv ∈ scalarInputs inputs, kv.1 = c
  /-- a key is present iff every table input without default holds it; when all table inputs have a
  default: iff at least one of them holds it -/
  keys : ∀ k, ds.R.hasK on k ↔
    (∀ kv ∈ tableInputs inputs, dfltOf defaults kv.1 = none → kv.2.R.hasK on k) ∧
    ((∀ kv ∈ tableInputs inputs, (dfltOf defaults kv.1).isSome = true) →
      ∃ kv ∈ tableInputs inputs, kv.2.R.hasK on k)
  /-- in every row the column of a table input holds that input's value at a row with this key, or —
  when it has no such row — its default, which then exists -/
  values : VOK on ds.R ((tableInputs inputs).map (inputSrc on defaults))
  /-- scalars broadcast -/
  scalars : ∀ q, q < ds.nrows → ∀ kv ∈ scalarInputs inputs, ds.jcellAt kv.1 q = kv.2
  /-- one row per key when no table input repeats a key -/
  one_per_key : (∀ kv ∈ tableInputs inputs, kv.2.R.uniq on) → ds.R.uniq on
  /-- rows in non-decreasing order of `dictable.sort`'s key -/
  sorted : ((List.range ds.nrows).map (sortKey ds on)).Pairwise (fun a b => cmpLe a b = true)

end Pyg.Props.C20

-- in `Pyg`, not in `Pyg.Props.C20`: a lemma behind the property theorems, placed here because `JoinSpec` is defined above
namespace Pyg

/-- **`join` returns a table, and the table satisfies `JoinSpec`**, for a dict of scalars and tables
(distinct names, none of them a key column), at least one table, every table rectangular, with
distinct column names and keyed by all of `on`, whose `_item` succeeds; any `defaults` -/
theorem pdJoin_sem (inputs : List (String × PInput)) (on : List String)
    (defaults : List (String × Cell))
    (hon : on ≠ []) (hnames : (inputs.map (·.1)).Nodup) (hoff : ∀ kv ∈ inputs, kv.1 ∉ on)
    (htab : ∀ kv ∈ tableInputs inputs, kv.2.WF ∧ kv.2.cols.Nodup ∧ ∀ c ∈ on, c ∈ kv.2.cols)
    (hany : tableInputs inputs ≠ [])
    (hitem : ∀ kv ∈ tableInputs inputs, ∃ t, item kv.2 kv.1 on = .ok t) :
    ∃ ds, pdJoin inputs on defaults = some (.ok ds) ∧ Props.C20.JoinSpec inputs on defaults ds := by
  rw [pdJoin_of_items defaults hitem]
  have hTn : ∀ a ∈ tableInputs inputs, a.1 ∈ inputs.map (·.1) := fun a ha =>
    List.mem_map.2 ⟨_, mem_tableInputs.1 ha, rfl⟩
  have hToff : ∀ a ∈ tableInputs inputs, a.1 ∉ on := fun a ha =>
    hoff _ (mem_tableInputs.1 ha)
  have hSoff : OffKeys on (scalarInputs inputs) := fun b hb => hoff _ (mem_scalarInputs.1 hb)
  -- each table input as a member of the reduction: `_item` of it is folded (`item_spec`), its keys are those of the input's
  -- own rows, its values are read from `inputRows`, its default is the caller's
  have hks : ∀ a ∈ tableInputs inputs,
      FoldSrc on (defaults.filter fun kv => (inputs.map (·.1)).contains kv.1) (fun a => itemD a.2 a.1 on)
        (fun a => a.2.R) (fun a => inputRows on a.1 a.2) (fun a => dfltOf defaults a.1) a := fun a ha => by
    obtain ⟨hk, hag⟩ := Props.C20.item_spec a.2 _ a.1 on (htab a ha).1 (htab a ha).2.1 (htab a ha).2.2 (hToff a ha)
      (item_itemD (hitem a ha))
    have hin := inputRows_keq on a.1 a.2 (hToff a ha)
    have hkq : ∀ i, i < (itemD a.2 a.1 on).R.n → keq on ((itemD a.2 a.1 on).R.row i) (a.2.R.row i) :=
      fun i hi => keq_trans (hag.keq hi) (hin i)
    exact ⟨hk, Rows.hasK_of_keq (A' := a.2.R) hag.1 hkq, Rows.uniq_of_keq (A' := a.2.R) hag.1 hkq,
      fun k => (Rows.hasK_of_keq (A := inputRows on a.1 a.2) (A' := a.2.R) rfl (fun i _ => hin i) k).1,
      fun r => hag.vrow,
      (dfltOf_filter defaults _ a.1 fun kv _ he => by simpa [he] using hTn a ha).symm⟩
  obtain ⟨d, hd, ad, dk⟩ := joinTables_sem on hon (tableInputs inputs) _ hany hks
    (hnames.sublist (tableInputs_names inputs))
  obtain ⟨ds, hds, sw, sc, sr, ssort⟩ := finish_sem on hon d (scalarInputs inputs) ad.wf
    (fun c hc => (ad.cols c).2 (.inl hc))
  refine ⟨ds, ?_, sw, fun c => ?_, fun k => (sr.hasK hSoff k).trans (dk k), ?_, ?_,
    fun hu => sr.uniq hSoff (ad.uniq hu), ssort⟩
  · rw [List.isEmpty_eq_false_iff.2 (mt List.map_eq_nil_iff.1 hany), hd]
    exact congrArg some hds
  · rw [sc c, ad.cols c, or_assoc]
  · exact sr.vok hSoff (List.forall_mem_map.2 fun a ha b hb => table_scalar_names hnames ha hb) ad.vok
  · intro q hq b hb
    have hn : ((scalarInputs inputs).map (·.1)).Nodup :=
      hnames.sublist (scalarInputs_names inputs)
    exact sr.consts q hq b.1 b.2 (dfltOf_of_nodup hn hb)

end Pyg

namespace Pyg.Props.C20
open Pyg

/-- **join_keys — the n-ary `join` with defaults, for any number of inputs.**
Inputs: a dict of scalars and tables (distinct names, none of them a key column), at least one
table, every table rectangular, with distinct column names (a python dict cannot hold a key twice)
and keyed by all of `on` (`htab`); any `defaults`.  Whenever
`join(inputs, on, defaults)` returns a table `ds`:
* `ds` is rectangular; its columns are the key columns and one column per input;
* **keys**: a key is present in `ds` iff it is present in every table input that has no default —
  and, when all table inputs have a default, iff it is present in at least one of them (union);
* **values** (`VOK`): in every row, the column of a table input holds that input's value at a row
  with this key, or — when the input has no such row — its default, which then exists;
* **scalars broadcast**: every row holds each scalar input under its name;
* **one row per key**: if no table input repeats a key, neither does `ds`;
* **sorted**: the rows are in non-decreasing order of `dictable.sort`'s key (the dict of the key cells). -/
theorem join_keys (inputs : List (String × PInput)) (on : List String)
    (defaults : List (String × Cell)) (ds : Table)
    (hon : on ≠ []) (hnames : (inputs.map (·.1)).Nodup) (hoff : ∀ kv ∈ inputs, kv.1 ∉ on)
    (htab : ∀ kv ∈ tableInputs inputs, kv.2.WF ∧ kv.2.cols.Nodup ∧ ∀ c ∈ on, c ∈ kv.2.cols)
    (hany : tableInputs inputs ≠ [])
    (h : pdJoin inputs on defaults = some (.ok ds)) : JoinSpec inputs on defaults ds := by
  obtain ⟨ds', h', hs⟩ := pdJoin_sem inputs on defaults hon hnames hoff htab hany (items_of_pdJoin h)
  obtain rfl : ds' = ds := by simpa [h'] using h
  exact hs

/-- **one row per key**, as a count: when no table input repeats a key, every key that qualifies
(`JoinSpec.keys`) is carried by exactly one row of the joined table -/
theorem join_one_row_per_key {inputs : List (String × PInput)} {on : List String}
    {defaults : List (String × Cell)} {ds : Table} (hs : JoinSpec inputs on defaults ds)
    (hu : ∀ kv ∈ tableInputs inputs, kv.2.R.uniq on) (k : Row)
    (h1 : ∀ kv ∈ tableInputs inputs, dfltOf defaults kv.1 = none → kv.2.R.hasK on k)
    (h2 : (∀ kv ∈ tableInputs inputs, (dfltOf defaults kv.1).isSome = true) →
      ∃ kv ∈ tableInputs inputs, kv.2.R.hasK on k) :
    ∃ q, q < ds.nrows ∧ keq on (ds.rowF q) k ∧
      ∀ q', q' < ds.nrows → keq on (ds.rowF q') k → q' = q := by
  obtain ⟨q, hq, hk⟩ := (hs.keys k).2 ⟨h1, h2⟩
  refine ⟨q, hq, hk, fun q' hq' hk' => ?_⟩
  exact hs.one_per_key hu q' q hq' hq (keq_trans hk' (keq_symm hk))

/-- **the value cells, in table terms**: in row `q` of the joined table, the column of the table
input `(name, d)` holds `d`'s value column (`valueCol`) at *the* row `j` of `d` carrying the key of
row `q` (`d` without repeated keys) — and when `d` has no such row, the default of `name`, which
then exists -/
theorem join_value_at {inputs : List (String × PInput)} {on : List String}
    {defaults : List (String × Cell)} {ds : Table} (hs : JoinSpec inputs on defaults ds)
    (a : String × Table) (ha : a ∈ tableInputs inputs) (hoff : a.1 ∉ on) (q : Nat)
    (hq : q < ds.nrows) :
    (∀ j, j < a.2.nrows → keq on (a.2.rowF j) (ds.rowF q) → a.2.R.uniq on →
      ds.jcellAt a.1 q = a.2.jcellAt (valueCol a.2 a.1 on) j) ∧
    ((∀ j, j < a.2.nrows → ¬ keq on (a.2.rowF j) (ds.rowF q)) →
      ∃ v, dfltOf defaults a.1 = some v ∧ ds.jcellAt a.1 q = v) := by
  have hv := hs.values q hq (inputSrc on defaults a) (List.mem_map.2 ⟨a, ha, rfl⟩)
  have hag := inputRows_keq on a.1 a.2 hoff
  constructor
  · intro j hj hk hu
    rcases hv with ⟨j', hj', hk', hval⟩ | ⟨hno, _⟩
    · have hk'' : keq on (a.2.rowF j') (ds.rowF q) := keq_trans (keq_symm (hag j')) hk'
      have : j' = j := hu j' j hj' hj (keq_trans hk'' (keq_symm hk))
      subst this
      have : ds.jcellAt a.1 q = (inputRows on a.1 a.2).row j' a.1 := hval
      rw [this, inputRows_row_name]
    · exact absurd (keq_trans (hag j) hk) (hno j hj)
  · intro hno
    rcases hv with ⟨j', hj', hk', _⟩ | ⟨_, v, hd, hval⟩
    · exact absurd (keq_trans (keq_symm (hag j')) hk') (hno j' hj')
    · exact ⟨v, hd, hval⟩

/-- **`_item` returns** when a value column can be chosen: the input has a column named like the
parameter, or a column `data` that is not a key column, or exactly one non-key column (otherwise the
code raises KeyError — modelled, `item`) -/
theorem item_returns (d : Table) (key : String) (on : List String) (hon : ∀ c ∈ on, c ∈ d.cols)
    (h : key ∈ d.cols ∨ ("data" ∈ d.cols ∧ "data" ∉ on) ∨ ∃ other, lminus d.cols on = [other]) :
    ∃ t, item d key on = .ok t := by
  obtain ⟨hv1, hv2⟩ := valueCol_sem h
  rw [item_of_valueCol h]
  refine ⟨_, select_ok _ _ fun c hc => ?_⟩
  rw [rename_cols, List.mem_map]
  rcases List.mem_append.1 hc with h1 | h1
  · refine ⟨c, (mem_linter_iff.1 h1).1, ?_⟩
    split
    · rename_i he
      rcases hv2 with hv | hv
      · rw [beq_iff_eq.1 he, hv]
      · exact absurd (beq_iff_eq.1 he ▸ (mem_linter_iff.1 h1).2) hv.2
    · rfl
  · rw [List.mem_singleton.1 h1]
    exact ⟨_, hv1, by simp⟩

/-- **`join` returns a table** — never an error, never the model's "not covered" answer — for every
dict of inputs as in `join_keys` (distinct names that are not key columns, at least one table, every
table rectangular with distinct column names and keyed by all of `on`) whose `_item` succeeds
(`item_returns`).  So `join_keys` describes the result of *every* such call. -/
theorem join_returns (inputs : List (String × PInput)) (on : List String)
    (defaults : List (String × Cell))
    (hon : on ≠ []) (hnames : (inputs.map (·.1)).Nodup) (hoff : ∀ kv ∈ inputs, kv.1 ∉ on)
    (htab : ∀ kv ∈ tableInputs inputs, kv.2.WF ∧ kv.2.cols.Nodup ∧ ∀ c ∈ on, c ∈ kv.2.cols)
    (hany : tableInputs inputs ≠ [])
    (hitem : ∀ kv ∈ tableInputs inputs, ∃ t, item kv.2 kv.1 on = .ok t) :
    ∃ ds, pdJoin inputs on defaults = some (.ok ds) :=
  (pdJoin_sem inputs on defaults hon hnames hoff htab hany hitem).imp fun _ h => h.1

/-- **The property, end to end.**  A function lifted with `perdictable(f, on = keys)` is called with
keyword arguments `inputs` (distinct names, none of them a key column or `expiry`), at least one of
them — or `expiry` — a table, every table — the `data` and `expiry` tables included — rectangular with
distinct column names and keyed by all of `on` (`htab`); `defaults`
arbitrary (`data` and `expiry` always get the default `None`).  Whenever the call returns, there is a
joined table `ds` such that
* `ds = join(inputs + expiry, on, defaults)` and `ds` satisfies `JoinSpec` (`join_keys`): **one row
  per key** present in every table input without default (inputs with defaults contribute their
  default on the keys they lack), **sorted by key**, value columns = each input's value or its
  default, scalars broadcast;
* if no key survives, `f` is never called and the supplied `data` (or `None`) is returned;
* otherwise the result has the key columns of `ds` and, per row, **`f` of that row's values** — or
  the previous value when the row is protected by a past expiry (`row_kept_iff`; with
  `if_none = True` a previous value `None` does not protect) — and the log of
  calls of `f` is exactly the list of the unprotected rows: **each computed exactly once**, in row
  order, no other call. -/
theorem perdictable_end_to_end (f : List Cell → Val) (params on : List String)
    (defaults : List (String × Cell)) (inputs : List (String × PInput)) (expiry : PInput)
    (today : Int) (res : PResult × List (List Cell))
    (hon : on ≠ []) (hnames : ((inputs ++ [("expiry", expiry)]).map (·.1)).Nodup)
    (hoff : ∀ kv ∈ inputs ++ [("expiry", expiry)], kv.1 ∉ on)
    (htab : ∀ kv ∈ tableInputs (inputs ++ [("expiry", expiry)]),
      kv.2.WF ∧ kv.2.cols.Nodup ∧ ∀ c ∈ on, c ∈ kv.2.cols)
    (hany : tableInputs (inputs ++ [("expiry", expiry)]) ≠ [])
    (ifNone : Bool)
    (h : perdictable f params on defaults inputs expiry today ifNone = some (.ok res)) :
    ∃ ds : Table,
      pdJoin (inputs ++ [("expiry", expiry)]) on
        (defaults ++ (if (defaults.map (·.1)).contains "data" then [] else [("data", Cell.none)]) ++
          (if (defaults.map (·.1)).contains "expiry" then [] else [("expiry", Cell.none)]))
        = some (.ok ds) ∧
      JoinSpec (inputs ++ [("expiry", expiry)]) on
        (defaults ++ (if (defaults.map (·.1)).contains "data" then [] else [("data", Cell.none)]) ++
          (if (defaults.map (·.1)).contains "expiry" then [] else [("expiry", Cell.none)])) ds ∧
      ((ds.nrows = 0 ∧ res = (.noRows ((inputs.find? (·.1 == "data")).map (·.2)), [])) ∨
       (ds.nrows ≠ 0 ∧
        let runs := rowRuns ifNone ds (ds.cols.contains "data") today
        res = (.table (Table.toV (on.map fun k => (k, (ds.col? k).getD [])) ++
            [("data", (List.range ds.nrows).map fun i =>
              if runs i then f (rowArgs ds params i) else .cell (ds.jcellAt "data" i))]),
          ((List.range ds.nrows).filter runs).map (rowArgs ds params)))) := by
  obtain ⟨ds, hj⟩ := pdJoin_of_perdictable h
  have hs := join_keys _ on _ ds hon hnames hoff htab hany hj
  refine ⟨ds, hj, hs, ?_⟩
  by_cases hn : ds.nrows = 0
  · rw [no_rows f params on defaults inputs expiry today ds hj hn ifNone] at h
    simp only [Option.some.injEq, Except.ok.injEq] at h
    exact .inl ⟨hn, h.symm⟩
  · have ht : (inputs ++ [("expiry", expiry)]).any (fun kv => kv.2.isTable) = true :=
      any_isTable_of_tableInputs hany
    have hk := select_ok ds on (fun k hk => (hs.cols k).2 (.inl hk))
    have := table_result f params on defaults inputs expiry today ds _ hj hn ht hon hk ifNone
    simp only at this
    rw [this] at h
    simp only [Option.some.injEq, Except.ok.injEq] at h
    exact .inr ⟨hn, h.symm⟩

/-- the statement's "a previously computed value is supplied with an expiry date in the past", read off the joined table without
`runExpiry` / `rowRuns`: a `data` column exists, the expiry cell spells an instant (`expiryDate`, the C04 model of `dt`) strictly
before today and, with `if_none = True`, the previous value is not `None` -/
def KeptSpec (ifNone : Bool) (ds : Table) (today : Int) (i : Nat) : Prop :=
  ds.cols.contains "data" = true ∧ (ifNone = true → ds.jcellAt "data" i ≠ .none) ∧
    ∃ us, expiryDate (ds.jcellAt "expiry" i) = some us ∧ us < today

/-- **`perdictable_end_to_end` with the expiry clause stated through `KeptSpec`**.  Hypothesis `hcov`: every expiry cell of
the joined table is covered (`expiryCovered`: `None`, the missing date, or a spelling of an absolute instant; `runExpiry`
answers "recompute" for any other cell).  Then the rows that are not computed are exactly the `KeptSpec` rows - they carry the
previous value - every other row carries `f` of its values and is logged exactly once, in row order. -/
theorem perdictable_end_to_end_covered (f : List Cell → Val) (params on : List String)
    (defaults : List (String × Cell)) (inputs : List (String × PInput)) (expiry : PInput)
    (today : Int) (res : PResult × List (List Cell))
    (hon : on ≠ []) (hnames : ((inputs ++ [("expiry", expiry)]).map (·.1)).Nodup)
    (hoff : ∀ kv ∈ inputs ++ [("expiry", expiry)], kv.1 ∉ on)
    (htab : ∀ kv ∈ tableInputs (inputs ++ [("expiry", expiry)]),
      kv.2.WF ∧ kv.2.cols.Nodup ∧ ∀ c ∈ on, c ∈ kv.2.cols)
    (hany : tableInputs (inputs ++ [("expiry", expiry)]) ≠ [])
    (ifNone : Bool)
    (hcov : ∀ ds, pdJoin (inputs ++ [("expiry", expiry)]) on
        (defaults ++ (if (defaults.map (·.1)).contains "data" then [] else [("data", Cell.none)]) ++
          (if (defaults.map (·.1)).contains "expiry" then [] else [("expiry", Cell.none)])) = some (.ok ds) →
      ∀ i, i < ds.nrows → expiryCovered (ds.jcellAt "expiry" i) = true)
    (h : perdictable f params on defaults inputs expiry today ifNone = some (.ok res)) :
    ∃ ds : Table,
      JoinSpec (inputs ++ [("expiry", expiry)]) on
        (defaults ++ (if (defaults.map (·.1)).contains "data" then [] else [("data", Cell.none)]) ++
          (if (defaults.map (·.1)).contains "expiry" then [] else [("expiry", Cell.none)])) ds ∧
      ((ds.nrows = 0 ∧ res = (.noRows ((inputs.find? (·.1 == "data")).map (·.2)), [])) ∨
       (ds.nrows ≠ 0 ∧ ∃ runs : Nat → Bool,
        (∀ i, i < ds.nrows → (runs i = false ↔ KeptSpec ifNone ds today i)) ∧
        res = (.table (Table.toV (on.map fun k => (k, (ds.col? k).getD [])) ++
            [("data", (List.range ds.nrows).map fun i =>
              if runs i then f (rowArgs ds params i) else .cell (ds.jcellAt "data" i))]),
          ((List.range ds.nrows).filter runs).map (rowArgs ds params)))) := by
  obtain ⟨ds, hj, hs, hr⟩ := perdictable_end_to_end f params on defaults inputs expiry today res hon hnames hoff htab hany
    ifNone h
  refine ⟨ds, hs, ?_⟩
  rcases hr with hr | ⟨hn, hr⟩
  · exact .inl hr
  · refine .inr ⟨hn, rowRuns ifNone ds (ds.cols.contains "data") today, ?_, hr⟩
    intro i hi
    exact row_kept_iff_spelled ifNone ds (ds.cols.contains "data") today i (hcov ds hj i hi)

/-- `KeptSpec` on concrete rows: a past date string protects, the missing date `'NaT'` does not -/
example : KeptSpec false [("k", [.int 1]), ("data", [.str "old"]), ("expiry", [.str "2000-01-01"])] (739000 * 86400000000) 0 :=
  ⟨by decide, by simp, 730119 * 86400000000, by decide, by decide⟩
example : ¬ KeptSpec false [("k", [.int 1]), ("data", [.str "old"]), ("expiry", [.str "NaT"])] (739000 * 86400000000) 0 := by
  rintro ⟨_, _, us, hus, _⟩
  have : expiryDate (Table.jcellAt [("k", [.int 1]), ("data", [.str "old"]), ("expiry", [.str "NaT"])] "expiry" 0) = none := by decide
  rw [this] at hus; cases hus

/-- **the lifted call returns** (no error, no uncovered step) for every call as in
`perdictable_end_to_end` whose tables have distinct column names and a selectable value column — so
the end-to-end statement describes every such call -/
theorem perdictable_returns (f : List Cell → Val) (params on : List String)
    (defaults : List (String × Cell)) (inputs : List (String × PInput)) (expiry : PInput)
    (today : Int)
    (hon : on ≠ []) (hnames : ((inputs ++ [("expiry", expiry)]).map (·.1)).Nodup)
    (hoff : ∀ kv ∈ inputs ++ [("expiry", expiry)], kv.1 ∉ on)
    (htab : ∀ kv ∈ tableInputs (inputs ++ [("expiry", expiry)]),
      kv.2.WF ∧ kv.2.cols.Nodup ∧ ∀ c ∈ on, c ∈ kv.2.cols)
    (hany : tableInputs (inputs ++ [("expiry", expiry)]) ≠ [])
    (hitem : ∀ kv ∈ tableInputs (inputs ++ [("expiry", expiry)]), ∃ t, item kv.2 kv.1 on = .ok t)
    (ifNone : Bool) :
    ∃ res, perdictable f params on defaults inputs expiry today ifNone = some (.ok res) := by
  obtain ⟨ds, hj⟩ := join_returns (inputs ++ [("expiry", expiry)]) on (fullDefaults defaults)
    hon hnames hoff htab hany hitem
  have hs := join_keys _ on _ ds hon hnames hoff htab hany hj
  by_cases hn : ds.nrows = 0
  · exact ⟨_, no_rows f params on defaults inputs expiry today ds hj hn ifNone⟩
  · have ht : (inputs ++ [("expiry", expiry)]).any (fun kv => kv.2.isTable) = true :=
      any_isTable_of_tableInputs hany
    have hk := select_ok ds on (fun k hk => (hs.cols k).2 (.inl hk))
    exact ⟨_, table_result f params on defaults inputs expiry today ds _ hj hn ht hon hk ifNone⟩

/-- **the renaming assignment** of `_item` (`renames` a dict parameter → column): `d[key] =
d[renames[key]]` leaves a rectangular table with the same rows and the same cells in every other
column; when `key` is renamed to `r`, column `r` must exist (else KeyError) and column `key` becomes a
copy of it — so that `_item` then selects it (`rename_value`) -/
theorem rename_spec (d d' : Table) (key : String) (renames : List (String × String)) (hd : d.WF)
    (h : applyRename d key renames = .ok d') :
    d'.WF ∧ d'.nrows = d.nrows ∧ (∀ c, c ∈ d'.cols ↔ c ∈ d.cols ∨ (c = key ∧ c ∈ d'.cols)) ∧
    (d.cols.Nodup → d'.cols.Nodup) ∧
    (∀ c, c ≠ key → ∀ i, d'.jcellAt c i = d.jcellAt c i) ∧
    (∀ kr, renames.find? (·.1 == key) = some kr →
      kr.2 ∈ d.cols ∧ key ∈ d'.cols ∧ ∀ i, d'.jcellAt key i = d.jcellAt kr.2 i) ∧
    (renames.find? (·.1 == key) = none → d' = d) := by
  simp only [applyRename] at h
  cases hf : renames.find? (·.1 == key) with
  | none =>
    simp only [hf, Except.ok.injEq] at h
    subst h
    exact ⟨hd, rfl, fun c => ⟨fun hc => .inl hc, fun hc => hc.elim id (·.2)⟩, id,
      fun _ _ _ => rfl, fun kr hkr => (by cases hkr), fun _ => rfl⟩
  | some kr =>
    simp only [hf] at h
    cases hc : d.col? kr.2 with
    | none => simp [hc] at h
    | some xs =>
      simp only [hc, Except.ok.injEq] at h
      subst h
      have hx : xs.length = d.nrows := Table.col?_length hd.2 hc
      obtain ⟨hw, hn⟩ := setCol_wf d key xs hd hx
      obtain ⟨s1, s2⟩ := setCol_sem d key xs
      have hkin : key ∈ (d.setCol key xs).cols := (mem_setCol_cols d key xs key).2 (.inr rfl)
      refine ⟨hw, hn, ?_, ?_, ?_, ?_, fun h' => by cases h'⟩
      · intro c
        rw [mem_setCol_cols]
        exact or_congr_right ⟨fun he => ⟨he, .inr he⟩, (·.1)⟩
      · exact fun hnd => setCol_eq_setKey d key xs ▸ List.nodup_keys_setKey hnd key xs
      · exact fun c hck i => jcellAt_congr (s2 c hck) i
      · intro kr' hkr'
        cases hkr'
        exact ⟨Table.mem_cols_of_col? hc, hkin, jcellAt_congr (s1.trans hc.symm)⟩

/-- a renamed parameter takes its values from the column it is renamed to -/
theorem rename_value (d d' : Table) (key : String) (on : List String)
    (renames : List (String × String)) (kr : String × String) (hd : d.WF)
    (h : applyRename d key renames = .ok d') (hkr : renames.find? (·.1 == key) = some kr) :
    valueCol d' key on = key ∧ ∀ i, (inputRows on key d').row i key = d.jcellAt kr.2 i := by
  obtain ⟨_, _, _, _, _, h6, _⟩ := rename_spec d d' key renames hd h
  obtain ⟨_, hk, hv⟩ := h6 kr hkr
  have : valueCol d' key on = key := by simp [valueCol, hk]
  exact ⟨this, fun i => by rw [inputRows_row_name, this, hv i]⟩

/-- **`join` with `renames`**: `join(inputs, on, renames, defaults)` is `join` of the inputs after
the renaming assignments (`rename_spec`), hence satisfies `JoinSpec` (`join_keys`) for them -/
theorem join_keys_renames (inputs : List (String × PInput)) (on : List String)
    (renames : List (String × String)) (defaults : List (String × Cell)) (ds : Table)
    (hon : on ≠ []) (hnames : (inputs.map (·.1)).Nodup) (hoff : ∀ kv ∈ inputs, kv.1 ∉ on)
    (htab : ∀ kv ∈ tableInputs inputs, kv.2.WF ∧ kv.2.cols.Nodup ∧ ∀ c ∈ on, c ∈ kv.2.cols)
    (hany : tableInputs inputs ≠ [])
    (h : pdJoinR inputs on renames defaults = some (.ok ds)) :
    (∀ a ∈ tableInputs inputs, applyRename a.2 a.1 renames = .ok (renamedT a.2 a.1 renames)) ∧
    pdJoin (inputs.map (renamedIn renames)) on defaults = some (.ok ds) ∧
    JoinSpec (inputs.map (renamedIn renames)) on defaults ds := by
  simp only [pdJoinR] at h
  split at h
  · cases h
  · rename_i inputs' hm
    obtain ⟨rfl, i2⟩ := mapM_rename_sem renames inputs inputs' hm
    refine ⟨i2, h, join_keys _ on defaults ds hon ?_ ?_ ?_ ?_ h⟩
    · simpa [List.map_map, Function.comp_def, renamedIn_fst] using hnames
    · intro kv hkv
      obtain ⟨a, ha, rfl⟩ := List.mem_map.1 hkv
      rw [renamedIn_fst]; exact hoff a ha
    · intro kv hkv
      rw [tableInputs_renamed] at hkv
      obtain ⟨a, ha, rfl⟩ := List.mem_map.1 hkv
      obtain ⟨h1, _, h3, h4, _⟩ := rename_spec a.2 _ a.1 renames (htab a ha).1 (i2 a ha)
      exact ⟨h1, h4 (htab a ha).2.1, fun c hc => (h3 c).2 (.inl ((htab a ha).2.2 c hc))⟩
    · rw [tableInputs_renamed]
      cases hT : tableInputs inputs with
      | nil => exact absurd hT hany
      | cons a as => simp

/-- **the lifted call with `renames`** is the lifted call on the inputs (and `expiry`) after the
renaming assignments — to which `perdictable_end_to_end` applies -/
theorem perdictable_renames (f : List Cell → Val) (params on : List String)
    (renames : List (String × String)) (defaults : List (String × Cell))
    (inputs : List (String × PInput)) (expiry : PInput) (today : Int)
    (res : PResult × List (List Cell)) (ifNone : Bool)
    (h : perdictableR f params on renames defaults inputs expiry today ifNone = some (.ok res)) :
    (∀ a ∈ tableInputs (inputs ++ [("expiry", expiry)]),
      applyRename a.2 a.1 renames = .ok (renamedT a.2 a.1 renames)) ∧
    perdictable f params on defaults (inputs.map (renamedIn renames))
      (renamedIn renames ("expiry", expiry)).2 today ifNone = some (.ok res) := by
  simp only [perdictableR] at h
  split at h
  · rename_i inputs' e' hm he
    obtain ⟨rfl, i2⟩ := mapM_rename_sem renames inputs inputs' hm
    have hm2 : [("expiry", expiry)].mapM (renameInput renames) = .ok [e'] := by
      simp [List.mapM_cons, he, bind, Except.bind, pure, Except.pure]
    obtain ⟨j1, j2⟩ := mapM_rename_sem renames _ _ hm2
    have he' : e' = renamedIn renames ("expiry", expiry) := by simpa using j1
    refine ⟨?_, by rw [← he']; exact h⟩
    intro a ha
    rcases List.mem_append.1 (mem_tableInputs.1 ha) with h1 | h1
    · exact i2 a (mem_tableInputs.2 h1)
    · exact j2 a (mem_tableInputs.2 h1)
  · cases h
  · cases h

/-- **"a previously computed value is supplied" — per row**, for every expiry spelling `dt()` reads (`expiryCovered`: `None`, a
datetime, a date string, a yyyymmdd number).  `row_kept_iff_spelled` speaks of a `data` column; with the property's quantifier — an
expiry is assigned to previously computed keys only: every row of the `expiry` table with a non-`None` expiry has its key in the
`data` table (`hq`) — a kept row carries a value supplied for its key: there is a row `j` of the `data` table with the key of row
`i`, and the cell kept is that row's value.  (`expiry`'s default is `None`; `hasData` is any Bool, `perdictable` passes
`ds.cols.contains "data"`.) -/
theorem kept_has_previous_spelled {inputs : List (String × PInput)} {on : List String}
    {defaults : List (String × Cell)} {ds : Table} (hs : JoinSpec inputs on defaults ds)
    (dT eT : Table) (hd : ("data", dT) ∈ tableInputs inputs) (he : ("expiry", eT) ∈ tableInputs inputs)
    (hdoff : "data" ∉ on) (heoff : "expiry" ∉ on) (hde : dfltOf defaults "expiry" = some .none)
    (hud : dT.R.uniq on) (hue : eT.R.uniq on)
    (hq : ∀ j, j < eT.nrows → eT.jcellAt (valueCol eT "expiry" on) j ≠ .none →
      ∃ j', j' < dT.nrows ∧ keq on (dT.rowF j') (eT.rowF j))
    (ifNone : Bool) (hasData : Bool) (today : Int) (i : Nat) (hi : i < ds.nrows)
    (hc : expiryCovered (ds.jcellAt "expiry" i) = true)
    (hk : rowRuns ifNone ds hasData today i = false) :
    ∃ j, j < dT.nrows ∧ keq on (dT.rowF j) (ds.rowF i) ∧
      ds.jcellAt "data" i = dT.jcellAt (valueCol dT "data" on) j := by
  obtain ⟨_, _, us, hus, _⟩ := (row_kept_iff_spelled ifNone ds hasData today i hc).1 hk
  have hnn : ds.jcellAt "expiry" i ≠ .none := by
    intro h0
    rw [h0, expiryDate_none] at hus
    cases hus
  have hve := join_value_at hs ("expiry", eT) he heoff i hi
  have hvd := join_value_at hs ("data", dT) hd hdoff i hi
  by_cases hex : ∃ j, j < eT.nrows ∧ keq on (eT.rowF j) (ds.rowF i)
  · obtain ⟨je, hje, hke⟩ := hex
    have hcell := hve.1 je hje hke hue
    have hne : eT.jcellAt (valueCol eT "expiry" on) je ≠ .none := by
      rw [← hcell]; exact hnn
    obtain ⟨j', hj', hkj⟩ := hq je hje hne
    have hkd : keq on (dT.rowF j') (ds.rowF i) := keq_trans hkj hke
    exact ⟨j', hj', hkd, hvd.1 j' hj' hkd hud⟩
  · obtain ⟨v, hv, hcell⟩ := hve.2 (fun j hj hk' => hex ⟨j, hj, hk'⟩)
    rw [hde] at hv
    cases hv
    exact absurd hcell hnn

/-- `kept_has_previous_spelled` for expiry cells that are `None` or a datetime -/
theorem kept_has_previous {inputs : List (String × PInput)} {on : List String}
    {defaults : List (String × Cell)} {ds : Table} (hs : JoinSpec inputs on defaults ds)
    (dT eT : Table) (hd : ("data", dT) ∈ tableInputs inputs) (he : ("expiry", eT) ∈ tableInputs inputs)
    (hdoff : "data" ∉ on) (heoff : "expiry" ∉ on) (hde : dfltOf defaults "expiry" = some .none)
    (hud : dT.R.uniq on) (hue : eT.R.uniq on)
    (hq : ∀ j, j < eT.nrows → eT.jcellAt (valueCol eT "expiry" on) j ≠ .none →
      ∃ j', j' < dT.nrows ∧ keq on (dT.rowF j') (eT.rowF j))
    (ifNone : Bool) (hasData : Bool) (today : Int) (i : Nat) (hi : i < ds.nrows)
    (hc : ds.jcellAt "expiry" i = .none ∨ ∃ us, ds.jcellAt "expiry" i = .dt us)
    (hk : rowRuns ifNone ds hasData today i = false) :
    ∃ j, j < dT.nrows ∧ keq on (dT.rowF j) (ds.rowF i) ∧
      ds.jcellAt "data" i = dT.jcellAt (valueCol dT "data" on) j := by
  exact kept_has_previous_spelled hs dT eT hd he hdoff heoff hde hud hue hq ifNone hasData today i hi
    (expiryCovered_of_none_or_dt hc) hk

-- `kept_has_previous`: hypotheses satisfiable — expiry table keyed inside the data table; key 3 has no expiry row and is computed
#guard (match perdictable fEx ["a"] ["k"] [] [("a", .table tA),
      ("data", .table [("k", [.int 1, .int 2]), ("data", [.str "o1", .str "o2"])])]
      (.table [("k", [.int 1]), ("expiry", [.dt 5])]) 10 false with
  | some (.ok (.table t, log)) => log == [[.int 20], [.int 30]] &&
      t == [("k", [.cell (.int 1), .cell (.int 2), .cell (.int 3)]),
            ("data", [.cell (.str "o1"), .tuple [.cell (.int 20)], .tuple [.cell (.int 30)]])]
  | _ => false)
example : let dT : Table := [("k", [.int 1, .int 2]), ("data", [.str "o1", .str "o2"])]
    let eT : Table := [("k", [.int 1]), ("expiry", [.dt 5])]
    ∀ j, j < eT.nrows → eT.jcellAt (valueCol eT "expiry" ["k"]) j ≠ .none →
      ∃ j', j' < dT.nrows ∧ keq ["k"] (dT.rowF j') (eT.rowF j) := by
  intro dT eT j hj _
  have : j = 0 := by simp [eT, Table.nrows] at hj; omega
  subst this
  exact ⟨0, by decide, by intro c hc; simp at hc; subst hc; decide⟩

/-- **clause "whose value is `f` applied to that key's values"**, per parameter: in row `i` of the joined table the argument
handed to `f` for a parameter `p` that is a table input is that input's value at the row carrying row `i`'s key — or, when the
input lacks the key, its default (which then exists); for a scalar input it is the scalar.  Assumed: `p` is the `n`-th parameter
(`hp`); that `p` names an input is a hypothesis of each clause (`rowArgs` reads `None` for a parameter that is no column of the
join, where the code raises TypeError). -/
theorem row_args_spec {inputs : List (String × PInput)} {on : List String}
    {defaults : List (String × Cell)} {ds : Table} (hs : JoinSpec inputs on defaults ds)
    (params : List String) (i : Nat) (hi : i < ds.nrows) (n : Nat) (p : String) (hp : params[n]? = some p) :
    (rowArgs ds params i)[n]? = some (ds.jcellAt p i) ∧
    (∀ c, (p, c) ∈ scalarInputs inputs → ds.jcellAt p i = c) ∧
    (∀ d, (p, d) ∈ tableInputs inputs → p ∉ on →
      (∀ j, j < d.nrows → keq on (d.rowF j) (ds.rowF i) → d.R.uniq on →
        ds.jcellAt p i = d.jcellAt (valueCol d p on) j) ∧
      ((∀ j, j < d.nrows → ¬ keq on (d.rowF j) (ds.rowF i)) →
        ∃ v, dfltOf defaults p = some v ∧ ds.jcellAt p i = v)) := by
  refine ⟨by simp [rowArgs, hp], fun c hc => hs.scalars i hi (p, c) hc, fun d hd hoff => ?_⟩
  exact join_value_at hs (p, d) hd hoff i hi

-- p(a = A, b = B): rows for the keys 2 and 3, sorted, one call each
#guard (match perdictable fEx ["a", "b"] ["k"] [] [("a", .table tA), ("b", .table tB)] (.scalar .none) 0 with
  | some (.ok (.table t, log)) =>
      t == [("k", [.cell (.int 2), .cell (.int 3)]),
            ("data", [.tuple [.cell (.int 20), .cell (.str "x")], .tuple [.cell (.int 30), .cell (.str "y")]])]
      && log == [[.int 20, .str "x"], [.int 30, .str "y"]]
  | _ => false)
-- with a default for b the key 1 survives and receives the default
#guard (match perdictable fEx ["a", "b"] ["k"] [("b", .int 0)] [("a", .table tA), ("b", .table tB)] (.scalar .none) 0 with
  | some (.ok (.table t, log)) => log == [[.int 10, .int 0], [.int 20, .str "x"], [.int 30, .str "y"]] && t.length == 2
  | _ => false)
-- previous value with an expiry in the past is kept, f is not called for it
#guard (match perdictable fEx ["a", "b"] ["k"] [] [("a", .table tA), ("b", .table tB),
      ("data", .table [("k", [.int 2, .int 3]), ("data", [.str "old2", .str "old3"])])]
      (.table [("k", [.int 2, .int 3]), ("expiry", [.dt 5, .dt 50])]) 10 with
  | some (.ok (.table t, log)) =>
      log == [[.int 30, .str "y"]] &&
      t == [("k", [.cell (.int 2), .cell (.int 3)]), ("data", [.cell (.str "old2"), .tuple [.cell (.int 30), .cell (.str "y")]])]
  | _ => false)

/-- the hypotheses of `join_keys` / `join_returns` / `item_returns` hold for two tables and a scalar (no `expiry` entry,
so this is not an instance of the hypotheses of `perdictable_end_to_end`) -/
example : let inputs : List (String × PInput) := [("a", .table tA), ("b", .table tB), ("c", .scalar (.int 7))]
    ["k"] ≠ [] ∧ (inputs.map (·.1)).Nodup ∧ (∀ kv ∈ inputs, kv.1 ∉ ["k"]) ∧
    (∀ kv ∈ tableInputs inputs, kv.2.WF ∧ kv.2.cols.Nodup ∧ (∀ c ∈ ["k"], c ∈ kv.2.cols) ∧
      (kv.1 ∈ kv.2.cols ∨ ("data" ∈ kv.2.cols ∧ "data" ∉ ["k"]) ∨ ∃ other, lminus kv.2.cols ["k"] = [other])) ∧
    tableInputs inputs ≠ [] := by
  refine ⟨by decide, by decide, by decide, ?_, by decide⟩
  intro kv hkv
  simp only [tableInputs, List.filterMap_cons, List.filterMap_nil, List.mem_cons, List.not_mem_nil,
    or_false] at hkv
  rcases hkv with rfl | rfl
  · exact ⟨⟨by decide, by decide⟩, by decide, by decide, .inl (by decide)⟩
  · exact ⟨⟨by decide, by decide⟩, by decide, by decide, .inl (by decide)⟩

-- `join` returns a table on the inputs of the example above, with the default 0 for `b`: key 1 (only in `a`) survives with b's default, key 4 (only in
-- `b`, `a` has no default) does not; the scalar is broadcast; rows sorted by key
#guard (match pdJoin [("a", .table tA), ("b", .table tB), ("c", .scalar (.int 7))] ["k"] [("b", .int 0)] with
  | some (.ok t) => t.col? "k" == some [.int 1, .int 2, .int 3] && t.col? "a" == some [.int 10, .int 20, .int 30] &&
      t.col? "b" == some [.int 0, .str "x", .str "y"] && t.col? "c" == some [.int 7, .int 7, .int 7]
  | _ => false)
-- all table inputs with defaults: the union of the keys
#guard (match pdJoin [("a", .table tA), ("b", .table tB)] ["k"] [("a", .none), ("b", .int 0)] with
  | some (.ok t) => t.col? "k" == some [.int 1, .int 2, .int 3, .int 4]
  | _ => false)

-- if_none = True: a previous value None (supplied, or the default for a key `data` lacks) is recomputed although its
-- expiry is in the past; if_none = False keeps it (no call at all here)
#guard (match perdictable fEx ["a"] ["k"] [] [("a", .table tA),
      ("data", .table [("k", [.int 1, .int 2]), ("data", [.none, .str "old2"])])] (.scalar (.dt 5)) 10 true,
    perdictable fEx ["a"] ["k"] [] [("a", .table tA),
      ("data", .table [("k", [.int 1, .int 2]), ("data", [.none, .str "old2"])])] (.scalar (.dt 5)) 10 false with
  | some (.ok (_, log1)), some (.ok (_, log2)) =>
      log1 == [[.int 10], [.int 30]] && log2 == []
  | _, _ => false)
-- renames: parameter `a` takes the column `alt` of a table with two value columns
#guard (match pdJoinR [("a", .table (tA ++ [("alt", [.int 33, .int 11, .int 22])])), ("b", .table tB)] ["k"]
    [("a", "alt")] [] with
  | some (.ok t) => t.col? "k" == some [.int 2, .int 3] && t.col? "a" == some [.int 22, .int 33]
  | _ => false)

-- a scalar expiry in the past with a previous value for every key: every row kept, no call
#guard (match perdictable fEx ["a"] ["k"] [] [("a", .table tA),
      ("data", .table [("k", [.int 1, .int 2, .int 3]), ("data", [.str "o1", .str "o2", .str "o3"])])] (.scalar (.dt 5)) 10 false with
  | some (.ok (_, log)) => log == []
  | _ => false)

/-- **the expiry input is covered**: a scalar expiry is `None`, the missing date or a spelling of an absolute instant; an expiry
table holds such a cell in every row of its value column (the column `expiry`, else `data`, else its only non-key column), and the
default that fills the keys it lacks - `None` unless the caller's `defaults` name `expiry` - is covered too.  A statement about
what the caller hands in, not about the joined table. -/
def ExpiryInputCovered (on : List String) (dflts : List (String × Cell)) : PInput → Prop
  | .scalar c => expiryCovered c = true
  | .table t => (∀ j, j < t.nrows → expiryCovered (t.jcellAt (valueCol t "expiry" on) j) = true) ∧
      ∀ v, dfltOf dflts "expiry" = some v → expiryCovered v = true

/-- **hypothesis `hcov` of `perdictable_end_to_end_covered` (which is about the joined table) derived from the expiry
input**: every expiry cell of the joined table is a cell of the expiry input - the scalar broadcast (`JoinSpec.scalars`), a
cell of the table's value column at a row with that key, or the default (`JoinSpec.values`) - hence covered. -/
theorem expiry_cells_covered {inputs : List (String × PInput)} {on : List String} {dflts : List (String × Cell)} {ds : Table}
    (expiry : PInput) (hs : JoinSpec (inputs ++ [("expiry", expiry)]) on dflts ds)
    (hc : ExpiryInputCovered on dflts expiry) :
    ∀ i, i < ds.nrows → expiryCovered (ds.jcellAt "expiry" i) = true := by
  intro i hi
  cases expiry with
  | scalar c =>
    have := hs.scalars i hi ("expiry", c) (mem_scalarInputs.2 (by simp))
    simp only at this
    rw [this]; exact hc
  | table t =>
    have hv := hs.values i hi (inputSrc on dflts ("expiry", t))
      (List.mem_map.2 ⟨("expiry", t), mem_tableInputs.2 (by simp), rfl⟩)
    rcases hv with ⟨j, hj, _, hval⟩ | ⟨_, v, hd, hval⟩
    · have e : ds.jcellAt "expiry" i = (inputRows on "expiry" t).row j "expiry" := hval
      rw [e, inputRows_row_name]
      exact hc.1 j hj
    · have e : ds.jcellAt "expiry" i = v := hval
      rw [e]; exact hc.2 v hd

/-- **the property end to end, from the inputs alone**: `perdictable_end_to_end_covered` with its hypothesis on the joined table
replaced by `hexp` (the scalar / every cell of the expiry table's value column is `expiryCovered`) and `hdef` (so is the caller's
default for `expiry`); together they give `ExpiryInputCovered on (fullDefaults defaults) expiry`. -/
theorem perdictable_end_to_end_input (f : List Cell → Val) (params on : List String)
    (defaults : List (String × Cell)) (inputs : List (String × PInput)) (expiry : PInput)
    (today : Int) (res : PResult × List (List Cell))
    (hon : on ≠ []) (hnames : ((inputs ++ [("expiry", expiry)]).map (·.1)).Nodup)
    (hoff : ∀ kv ∈ inputs ++ [("expiry", expiry)], kv.1 ∉ on)
    (htab : ∀ kv ∈ tableInputs (inputs ++ [("expiry", expiry)]),
      kv.2.WF ∧ kv.2.cols.Nodup ∧ ∀ c ∈ on, c ∈ kv.2.cols)
    (hany : tableInputs (inputs ++ [("expiry", expiry)]) ≠ [])
    (ifNone : Bool)
    (hexp : match expiry with
      | .scalar c => expiryCovered c = true
      | .table t => ∀ j, j < t.nrows → expiryCovered (t.jcellAt (valueCol t "expiry" on) j) = true)
    (hdef : ∀ v, dfltOf defaults "expiry" = some v → expiryCovered v = true)
    (h : perdictable f params on defaults inputs expiry today ifNone = some (.ok res)) :
    ∃ ds : Table,
      JoinSpec (inputs ++ [("expiry", expiry)]) on (fullDefaults defaults) ds ∧
      ((ds.nrows = 0 ∧ res = (.noRows ((inputs.find? (·.1 == "data")).map (·.2)), [])) ∨
       (ds.nrows ≠ 0 ∧ ∃ runs : Nat → Bool,
        (∀ i, i < ds.nrows → (runs i = false ↔ KeptSpec ifNone ds today i)) ∧
        res = (.table (Table.toV (on.map fun k => (k, (ds.col? k).getD [])) ++
            [("data", (List.range ds.nrows).map fun i =>
              if runs i then f (rowArgs ds params i) else .cell (ds.jcellAt "data" i))]),
          ((List.range ds.nrows).filter runs).map (rowArgs ds params)))) := by
  have hc : ExpiryInputCovered on (fullDefaults defaults) expiry := by
    have hd : ∀ v, dfltOf (fullDefaults defaults) "expiry" = some v → expiryCovered v = true := fun v hv => by
      rcases dfltOf_fullDefaults_expiry defaults v hv with rfl | h'
      · rfl
      · exact hdef v h'
    cases expiry with
    | scalar c => exact hexp
    | table t => exact ⟨hexp, hd⟩
  have hcov : ∀ ds, pdJoin (inputs ++ [("expiry", expiry)]) on (fullDefaults defaults) = some (.ok ds) →
      ∀ i, i < ds.nrows → expiryCovered (ds.jcellAt "expiry" i) = true := fun ds hj =>
    expiry_cells_covered expiry (join_keys _ on _ ds hon hnames hoff htab hany hj) hc
  exact perdictable_end_to_end_covered f params on defaults inputs expiry today res hon hnames hoff htab hany ifNone hcov h

/-- the hypothesis on concrete inputs: a scalar date string, and an expiry table keyed by `k` with a past date and a `None` -/
example : ExpiryInputCovered ["k"] (fullDefaults []) (.scalar (.str "2000-01-01")) := by
  show expiryCovered _ = true; decide
example : ExpiryInputCovered ["k"] (fullDefaults [])
    (.table [("k", [.int 1, .int 2]), ("expiry", [.dt (730119 * 86400000000), .none])]) := by
  refine ⟨fun j hj => ?_, fun v hv => ?_⟩
  · have : j = 0 ∨ j = 1 := by simp [Table.nrows] at hj; omega
    rcases this with rfl | rfl <;> decide
  · rcases dfltOf_fullDefaults_expiry [] v hv with rfl | h
    · rfl
    · simp [dfltOf] at h

end Pyg.Props.C20
