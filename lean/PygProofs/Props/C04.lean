/-
  C04 — dt() maps every supported spelling of an instant to the same datetime.
  Generated on every run from the current text of src/pyg_base/_dates.py: `Gen.num2dt`, `Gen.ym`, `Gen.ymd`, `Gen.ymdSwap`, `Gen.re_*`,
  np2dt's class dispatch; from dateutil: its month table.  Hand-written: numpy / pandas timestamps (PygModel/NpDate.lean).
  Assumed: dateutil's reading (`duResolve`, the scanner `parseTokens`; of day-month-year triples only the text with two `/`,
  which is all the library hands to dateutil).  The string clauses say what uk2dt / us2dt do on top of it (strip, `ambiguity.sub` = `slashes`, ambiguity test, swap /
  rejection) on texts given by independent predicates (`IsNumeral`, `TimeText`, `IsSepZone`, `MatchesAmbiguity`, `MatchesPadded`);
  `ambiguous_iff` / `slashes_iff` tie the hand-written matchers to the semantics of the source regex.
-/
import PygProofs.Lemmas.NpDateLemmas
import PygProofs.Lemmas.SlashesLemmas
import PygProofs.Lemmas.ResDec

namespace Pyg.Props.C04
open Pyg Pyg.Bump Pyg.DateParse Pyg.Greg Pyg.NpDate

/-! ### month / day overflow: `dt(y, m, d)` (generated `ym`, `_ymd`) -/

/-- `ym` normalises any integer month into 1..12 and keeps the month count (∀ y m ∈ ℤ) -/
theorem ym_normal (y m : Int) :
    1 ≤ (Gen.ym y m).2 ∧ (Gen.ym y m).2 ≤ 12 ∧ 12 * (Gen.ym y m).1 + (Gen.ym y m).2 = 12 * y + m :=
  Bump.ym_normal y m

/-- in the library's range the day/year swap guard at the top of `_ymd` is never taken (it needs `y < 32`) -/
theorem ymd_no_swap (y m d : Int) (hy : 32 ≤ y) : ¬ Gen.ymdSwap y m d := by
  unfold Gen.ymdSwap; omega

/-- `dt(y, m, d)` for a year ≥ 32, any integer month and day: the first day of the normalised month plus `d - 1`
days (ValueError when the normalised year leaves 1..9999, OverflowError when the sum leaves the datetime range) -/
theorem ymd_overflow (y m d : Int) (hy : 32 ≤ y) :
    ymdDate y m d = mkMonthPlus ⟨(Gen.ym y m).1, (Gen.ym y m).2, d - 1⟩ := by
  unfold ymdDate
  rw [ymd_of_not_swap y m d (ymd_no_swap y m d hy)]

/-- `ymd_overflow` in calendar terms: when the normalised month `(y', m')` is representable the result is
`datetime(y', m', 1) + (d - 1) days` -/
theorem ymd_overflow_value (y m d : Int) (hy : 32 ≤ y) (y' m' : Nat)
    (hym : Gen.ym y m = ((y' : Int), (m' : Int))) (hy' : 1 ≤ y' ∧ y' ≤ 9999) :
    ymdDate y m d = checkRange (mkDate y' m' 1 + (d - 1) * DAYUS) := by
  have hn := ym_normal y m
  rw [hym] at hn
  rw [ymd_overflow y m d hy, hym]
  exact mkMonthPlus_of_month y' m' (d - 1) hy' (by omega)

/-- the same for the entry point `dt(y, m, d)` itself (`dtYmd y m d 0 0 0`) -/
theorem dt_ymd_overflow (y m d : Int) (hy : 32 ≤ y) (y' m' : Nat)
    (hym : Gen.ym y m = ((y' : Int), (m' : Int))) (hy' : 1 ≤ y' ∧ y' ≤ 9999) :
    dtYmd y m d 0 0 0 = checkRange (mkDate y' m' 1 + (d - 1) * DAYUS) := by
  unfold dtYmd
  rw [ymd_overflow_value y m d hy y' m' hym hy']
  unfold checkRange
  split
  · next h => simp only [Except.bind, Int.zero_mul, Int.add_zero]; rw [if_pos h]
  · rfl

example : ymdDate 2000 14 0 = .ok (mkDate 2001 1 31) ∧ Gen.ym 2000 14 = (2001, 2) := ⟨(by decide +kernel), by decide⟩

/-- `dt(y, m, d, h, mi, s)` of a calendar date is that date plus the time of day -/
theorem dt_of_parts (y m d : Nat) (v : Valid y m d) (hy : 32 ≤ y ∧ y < 9999) (h mi s : Int) :
    dtYmd y m d h mi s = checkRange (mkDate y m d + h * 3600000000 + mi * 60000000 + s * 1000000) := by
  unfold dtYmd
  rw [ymdDate_valid y m d v]
  rfl

example : Valid 2000 2 29 := by decide

/-! ### integers: the threshold table of `num2dt` (generated) -/

/-- an integer argument `n` is `q = 4 * n`: no fraction of a day -/
theorem num2dtQ_tdiv (n : Int) : (4 * n).tdiv 4 = n :=
  Int.mul_tdiv_cancel_left n (by decide)

/-- the yyyymmdd integer of every calendar date of the years 1001..2999 falls in the yyyymmdd branch, is decoded
to its fields and gives that date — in particular for the whole range 1900..2300 -/
theorem num2dt_yyyymmdd (y m d : Nat) (v : Valid y m d) (hy : 1001 ≤ y ∧ y ≤ 2999) :
    num2dtQ (4 * (10000 * y + 100 * m + d : Nat)) = .abs (.ok (mkDate y m d)) := by
  have hl := valid_lt v
  obtain ⟨n, hn⟩ : ∃ n : Int, ((10000 * y + 100 * m + d : Nat) : Int) = n := ⟨_, rfl⟩
  have hn' : n = 10000 * y + 100 * m + d := by omega
  have hv := v.bounds
  have hk : Gen.num2dt n = .viaYmd y m d := by
    unfold Gen.num2dt
    rw [if_neg (by omega), if_neg (by omega), if_neg (by omega), if_neg (by omega), if_pos (by omega)]
    simp only []
    congr 1 <;> omega
  rw [hn]
  unfold num2dtQ
  simp only [num2dtQ_tdiv, hk, ymdDate_valid y m d v, Except.bind, Int.sub_self, Int.zero_mul, Int.add_zero,
    checkRange_mkDate y m d v]

example : num2dtQ (4 * 20020301) = .abs (.ok (mkDate 2002 3 1)) := num2dt_yyyymmdd 2002 3 1 (by decide) (by decide)

/-- the ordinal of every calendar date from 1900-01-01 to 2299-12-31 falls in the ordinal branch and gives that date -/
theorem num2dt_ordinal (y m d : Nat) (v : Valid y m d) (hy1 : 1900 ≤ y) (hy2 : y < 2300) :
    num2dtQ (4 * (ord y m d : Nat)) = .abs (.ok (mkDate y m d)) := by
  have hc := ord_in_cycle y m d v hy1 hy2
  unfold ordMin ordMax at hc
  obtain ⟨n, hn⟩ : ∃ n : Int, ((ord y m d : Nat) : Int) = n := ⟨_, rfl⟩
  have hb : 693596 ≤ n ∧ n < 839693 := by omega
  have hk : Gen.num2dt n = .fromOrdinal n := by
    unfold Gen.num2dt
    rw [if_neg (by omega), if_neg (by omega), if_neg (by omega), if_pos (by omega)]
  have hr := checkRange_mkDate y m d v
  unfold mkDate at hr ⊢
  rw [hn] at hr ⊢
  unfold num2dtQ fromOrdinalChecked
  simp only [num2dtQ_tdiv, hk, if_pos (show 1 ≤ n ∧ n ≤ 3652059 by omega), Except.bind, Int.sub_self, Int.zero_mul, Int.add_zero, hr]

example : num2dtQ (4 * 730180) = .abs (.ok (mkDate 2000 3 1)) := by
  have := num2dt_ordinal 2000 3 1 (by decide) (by decide) (by decide)
  exact this

/-! ### dialects: the decision of uk2dt / us2dt on top of dateutil's month-first reading -/

/-- what `parser.parse` is assumed to return for the text `a<sep>b<sep>yyyy [hh:mm:ss[.ffffff]]` -/
def numeric3u (a b y hms us : Int) : Parsed := ⟨true, a, y, (duResolve a b).1, (duResolve a b).2, hms, us⟩

def numeric3 (a b y hms : Int) : Parsed := ⟨true, a, y, (duResolve a b).1, (duResolve a b).2, hms, 0⟩

theorem numeric3_eq (a b y hms : Int) : numeric3 a b y hms = numeric3u a b y hms 0 := rfl

/-- UK spelling `d<sep>m<sep>yyyy [time]` of a calendar date, read with the UK dialect, is that instant to the microsecond —
whether or not the day is ≤ 12 (the day < 13 case goes through the swap at the end of `uk2dt`, which passes the microseconds on as
the 7th argument of `dt`; the other case through the `t[:2]` check) -/
theorem uk_parse_micro (y m d : Nat) (v : Valid y m d) (hms us : Int) :
    ukDecide (numeric3u d m y hms us) = checkRange (mkDate y m d + hms + us) := by
  rw [numeric3u, ukDecide_numeric3 d m y hms us (fun _ _ => v), readAs_valid v, Int.add_assoc]

theorem uk_parse (y m d : Nat) (v : Valid y m d) (hy : 32 ≤ y ∧ y < 9999) (hms : Int) :
    ukDecide (numeric3 d m y hms) = checkRange (mkDate y m d + hms) := by
  rw [numeric3_eq, uk_parse_micro y m d v hms 0, Int.add_zero]

/-- the fraction of a second is not lost on the day ≤ 12 path: two readings that differ in the microseconds give
different instants -/
theorem uk_small_day_keeps_micro (y m d : Nat) (v : Valid y m d) (hy : 32 ≤ y ∧ y < 9999) (_hd : d ≤ 12) (hms us us' : Int)
    (h0 : 0 ≤ hms + us ∧ hms + us < DAYUS) (h0' : 0 ≤ hms + us' ∧ hms + us' < DAYUS) (hne : us ≠ us') :
    ukDecide (numeric3u d m y hms us) ≠ ukDecide (numeric3u d m y hms us') := by
  rw [uk_parse_micro y m d v, uk_parse_micro y m d v, Int.add_assoc, Int.add_assoc, checkRange_in_day y m d v _ h0,
    checkRange_in_day y m d v _ h0']
  intro h; injection h with h; omega

-- '02/01/2000 03:04:05.000006' read with the UK dialect
example : ukDecide (numeric3u 2 1 2000 11045000000 6) = .ok (mkDate 2000 1 2 + 11045000006) := by decide +kernel

/-- US spelling `m<sep>d<sep>yyyy [time]` read with the US dialect is that instant to the microsecond -/
theorem us_parse_micro (y m d : Nat) (v : Valid y m d) (hms us : Int) :
    usDecide (numeric3u m d y hms us) = checkRange (mkDate y m d + hms + us) := by
  rw [numeric3u, usDecide_numeric3, readAs_valid v, Int.add_assoc]

/-- US spelling `m<sep>d<sep>yyyy` read with the US dialect is that date -/
theorem us_parse (y m d : Nat) (v : Valid y m d) (hms : Int) :
    usDecide (numeric3 m d y hms) = checkRange (mkDate y m d + hms) := by
  rw [numeric3_eq, us_parse_micro y m d v hms 0, Int.add_zero]

/-- an unambiguous day-month string (day > 12) written the US way is rejected by the UK dialect (any time of day) -/
theorem uk_rejects_us_micro (y m d : Nat) (hd : 12 < d) (hms us : Int) :
    ukDecide (numeric3u m d y hms us) = .error .value := by
  rw [numeric3u, ukDecide_numeric3 m d y hms us (by omega), readAs_invalid (not_valid_month hd)]

theorem uk_rejects_us (y m d : Nat) (hm : 1 ≤ m ∧ m ≤ 12) (hd : 12 < d) (hms : Int) :
    ukDecide (numeric3 m d y hms) = .error .value := uk_rejects_us_micro y m d hd hms 0

/-- an unambiguous day-month string (day > 12) written the UK way is rejected by the US dialect, instead of being silently swapped -/
theorem us_rejects_uk_micro (y m d : Nat) (hd : 12 < d) (hms us : Int) :
    usDecide (numeric3u d m y hms us) = .error .value := by
  rw [numeric3u, usDecide_numeric3, readAs_invalid (not_valid_month hd)]

theorem us_rejects_uk (y m d : Nat) (hm : 1 ≤ m ∧ m ≤ 12) (hd : 12 < d) (hms : Int) :
    usDecide (numeric3 d m y hms) = .error .value := us_rejects_uk_micro y m d hd hms 0

example : Valid 2000 1 13 ∧ (12 < 13) := by decide

/-! ### the same clauses on every text of the quantifier: one- or two-digit fields (padded or not), any two of the four
separators, any time-of-day suffix `[ T]h:m[:s[.f]]` to the microsecond -/

/-- `dt` of any text `a<sep>b<sep>yyyy[ time]`: dateutil's own date (month first unless `a > 12`) has to exist, then the dialect decides -/
theorem dtCs_numeric3_text (uk : Bool) (a b yy tm : List Char) (s1 s2 : Char) (hms us : Int)
    (ha : IsNumeral 2 a) (hb : IsNumeral 2 b) (hyy : IsNumeral 4 yy) (hy4 : yy.length = 4)
    (h1 : isDateSep s1 = true) (h2 : isDateSep s2 = true) (ht : TimeText tm hms us) :
    dtCs uk (a ++ s1 :: (b ++ s2 :: (yy ++ tm))) = some
      ((mkDateChecked (digitsVal yy) (duResolve (digitsVal a) (digitsVal b)).1 (duResolve (digitsVal a) (digitsVal b)).2).bind fun _ =>
        if uk then ukDecide (numeric3u (digitsVal a) (digitsVal b) (digitsVal yy) hms us)
        else usDecide (numeric3u (digitsVal a) (digitsVal b) (digitsVal yy) hms us)) := by
  unfold dtCs
  rw [parse_numeric3_text a b yy tm s1 s2 hms us ha hb hyy hy4 h1 h2 ht]
  simp only [Option.map_some]
  rw [if_neg ht.nonneg]
  rfl

/-- dateutil's own reading of `d<sep>m<sep>y` is a calendar date, so `parser.parse` does not raise: the day when `d > 12`, else the
month-first date `(y, d, m)` -/
theorem day_first_exists (y m d : Nat) (v : Valid y m d) :
    ∃ t, mkDateChecked (y : Int) (duResolve (d : Int) (m : Int)).1 (duResolve (d : Int) (m : Int)).2 = .ok t := by
  by_cases hd : (d : Int) > 12
  · rw [duResolve_of_gt hd]
    exact ⟨_, mkDateChecked_valid y m d v⟩
  · rw [duResolve_of_le hd]
    exact ⟨_, mkDateChecked_valid y d m (valid_swap (by omega) v)⟩

/-- UK text, general form: `dt('<d><sep><m><sep><yyyy>[ time]')` is the instant, to the microsecond -/
theorem uk_text_gen (y m d : Nat) (v : Valid y m d) (a b yy tm : List Char) (s1 s2 : Char) (hms us : Int)
    (ha : IsNumeral 2 a) (hb : IsNumeral 2 b) (hyy : IsNumeral 4 yy) (hy4 : yy.length = 4)
    (va : digitsVal a = d) (vb : digitsVal b = m) (vy : digitsVal yy = y)
    (h1 : isDateSep s1 = true) (h2 : isDateSep s2 = true) (ht : TimeText tm hms us) :
    dtCs true (a ++ s1 :: (b ++ s2 :: (yy ++ tm))) = some (checkRange (mkDate y m d + hms + us)) := by
  rw [dtCs_triple true a b yy tm s1 s2 hms us ha hb hyy hy4 h1 h2 ht, if_pos rfl, va, vb, vy, readAs_valid v, Int.add_assoc]

theorem us_text_gen (y m d : Nat) (v : Valid y m d) (a b yy tm : List Char) (s1 s2 : Char) (hms us : Int)
    (ha : IsNumeral 2 a) (hb : IsNumeral 2 b) (hyy : IsNumeral 4 yy) (hy4 : yy.length = 4)
    (va : digitsVal a = m) (vb : digitsVal b = d) (vy : digitsVal yy = y)
    (h1 : isDateSep s1 = true) (h2 : isDateSep s2 = true) (ht : TimeText tm hms us) :
    dtCs false (a ++ s1 :: (b ++ s2 :: (yy ++ tm))) = some (checkRange (mkDate y m d + hms + us)) := by
  rw [dtCs_triple false a b yy tm s1 s2 hms us ha hb hyy hy4 h1 h2 ht, if_neg Bool.false_ne_true, va, vb, vy, readAs_valid v, Int.add_assoc]

/-- a US-written text with day > 12 (any padding, separators, time of day) is rejected by the UK dialect -/
theorem uk_rejects_us_text_gen (y m d : Nat) (hd : 12 < d) (a b yy tm : List Char) (s1 s2 : Char) (hms us : Int)
    (ha : IsNumeral 2 a) (hb : IsNumeral 2 b) (hyy : IsNumeral 4 yy) (hy4 : yy.length = 4)
    (va : digitsVal a = m) (vb : digitsVal b = d) (vy : digitsVal yy = y)
    (h1 : isDateSep s1 = true) (h2 : isDateSep s2 = true) (ht : TimeText tm hms us) :
    dtCs true (a ++ s1 :: (b ++ s2 :: (yy ++ tm))) = some (.error .value) := by
  rw [dtCs_triple true a b yy tm s1 s2 hms us ha hb hyy hy4 h1 h2 ht, if_pos rfl, va, vb, vy, readAs_invalid (not_valid_month hd)]

/-- a UK-written text with day > 12 (any padding, separators, time of day) is rejected by the US dialect: never silently swapped -/
theorem us_rejects_uk_text_gen (y m d : Nat) (hd : 12 < d) (a b yy tm : List Char) (s1 s2 : Char) (hms us : Int)
    (ha : IsNumeral 2 a) (hb : IsNumeral 2 b) (hyy : IsNumeral 4 yy) (hy4 : yy.length = 4)
    (va : digitsVal a = d) (vb : digitsVal b = m) (vy : digitsVal yy = y)
    (h1 : isDateSep s1 = true) (h2 : isDateSep s2 = true) (ht : TimeText tm hms us) :
    dtCs false (a ++ s1 :: (b ++ s2 :: (yy ++ tm))) = some (.error .value) := by
  rw [dtCs_triple false a b yy tm s1 s2 hms us ha hb hyy hy4 h1 h2 ht, if_neg Bool.false_ne_true, va, vb, vy,
    readAs_invalid (not_valid_month hd)]

/-! the padded text `aa<sep>bb<sep>yyyy`, for every pair of separators of the `ambiguity` regex (`-`, `/`, `.`, blank) -/

theorem uk_text (y m d : Nat) (v : Valid y m d) (hy : 32 ≤ y ∧ y < 9999) (s1 s2 : Char)
    (h1 : isDateSep s1 = true) (h2 : isDateSep s2 = true) :
    dtCs true (pad2 d ++ s1 :: (pad2 m ++ s2 :: (pad4 y ++ []))) = some (.ok (mkDate y m d)) := by
  have hl := valid_lt v
  rw [uk_text_gen y m d v (pad2 d) (pad2 m) (pad4 y) [] s1 s2 0 0 (isNumeral_pad2 d) (isNumeral_pad2 m) (isNumeral_pad4 y) rfl
    (val_pad2 d hl.2.2) (val_pad2 m hl.2.1) (val_pad4 y hl.1) h1 h2 TimeText.none, Int.add_zero, Int.add_zero, checkRange_mkDate y m d v]

theorem us_text (y m d : Nat) (v : Valid y m d) (s1 s2 : Char) (h1 : isDateSep s1 = true) (h2 : isDateSep s2 = true) :
    dtCs false (pad2 m ++ s1 :: (pad2 d ++ s2 :: (pad4 y ++ []))) = some (.ok (mkDate y m d)) := by
  have hl := valid_lt v
  rw [us_text_gen y m d v (pad2 m) (pad2 d) (pad4 y) [] s1 s2 0 0 (isNumeral_pad2 m) (isNumeral_pad2 d) (isNumeral_pad4 y) rfl
    (val_pad2 m hl.2.1) (val_pad2 d hl.2.2) (val_pad4 y hl.1) h1 h2 TimeText.none, Int.add_zero, Int.add_zero, checkRange_mkDate y m d v]

theorem uk_rejects_us_text (y m d : Nat) (hm : 1 ≤ m ∧ m ≤ 12) (hd : 12 < d ∧ d < 100) (hy : y < 10000) (s1 s2 : Char)
    (h1 : isDateSep s1 = true) (h2 : isDateSep s2 = true) :
    dtCs true (pad2 m ++ s1 :: (pad2 d ++ s2 :: (pad4 y ++ []))) = some (.error .value) :=
  uk_rejects_us_text_gen y m d hd.1 (pad2 m) (pad2 d) (pad4 y) [] s1 s2 0 0 (isNumeral_pad2 m) (isNumeral_pad2 d) (isNumeral_pad4 y) rfl
    (val_pad2 m (by omega)) (val_pad2 d hd.2) (val_pad4 y hy) h1 h2 TimeText.none

theorem us_rejects_uk_text (y m d : Nat) (hm : 1 ≤ m ∧ m ≤ 12) (hd : 12 < d ∧ d < 100) (hy : y < 10000) (s1 s2 : Char)
    (h1 : isDateSep s1 = true) (h2 : isDateSep s2 = true) :
    dtCs false (pad2 d ++ s1 :: (pad2 m ++ s2 :: (pad4 y ++ []))) = some (.error .value) :=
  us_rejects_uk_text_gen y m d hd.1 (pad2 d) (pad2 m) (pad4 y) [] s1 s2 0 0 (isNumeral_pad2 d) (isNumeral_pad2 m) (isNumeral_pad4 y) rfl
    (val_pad2 d hd.2) (val_pad2 m (by omega)) (val_pad4 y hy) h1 h2 TimeText.none

example : Valid 2000 1 13 ∧ isDateSep '.' = true ∧ isDateSep ' ' = true := by decide
example : String.ofList (pad2 13 ++ '.' :: (pad2 1 ++ '.' :: (pad4 2000 ++ []))) = "13.01.2000" := by decide

-- non-vacuity: the unpadded '2.1.2000 03:04:05.000006' (UK) and the rejected '1/13/2000 10:30' (UK)
example : IsNumeral 2 "2".toList ∧ IsNumeral 2 "1".toList ∧ IsNumeral 4 "2000".toList ∧ digitsVal "2".toList = 2
    ∧ TimeText " 03:04:05.000006".toList 11045000000 6 := by
  refine ⟨by decide, by decide, by decide, by decide, ?_⟩
  exact TimeText.frac ' ' "03".toList "04".toList "05".toList "000006".toList (Or.inl rfl) (by decide) (by decide) (by decide) (by decide)
    (by decide) (by decide) (by decide)
example : dtCs true "2.1.2000 03:04:05.000006".toList = some (.ok (mkDate 2000 1 2 + 11045000006)) := by decide +kernel
example : dtCs true "1/13/2000 10:30".toList = some (.error .value) := by decide +kernel

/-- an impossible time of day (`25:00`, `10:61`) makes dateutil raise: ValueError in both dialects, never a shifted instant -/
example : dtCs true "13/01/2000 25:00:00".toList = some (.error .value) ∧ dtCs false "2000-01-13T10:61".toList = some (.error .value) :=
  ⟨(by decide +kernel), (by decide +kernel)⟩

/-! ### ISO (year-first) text with any separator of the quantifier, padded or not -/

/-- `dt('yyyy<s1>m<s2>d[ time]')` — the year first, month and day of one or two digits (padded or not), each separator any of
`-`, `/`, `.`, blank (the two the same, or two different ones neither of which is the `.`: next to another separator a single `.` is a
decimal point for dateutil — not covered), any time suffix — in both dialects: the instant -/
theorem iso_any_sep_text (uk : Bool) (y m d : Nat) (v : Valid y m d) (yy mm dd tm : List Char) (s1 s2 : Char) (hms us : Int)
    (hyy : IsNumeral 4 yy) (hy4 : yy.length = 4) (hmm : IsNumeral 2 mm) (hdd : IsNumeral 2 dd)
    (vy : digitsVal yy = y) (vm : digitsVal mm = m) (vd : digitsVal dd = d)
    (h1 : isDateSep s1 = true) (h2 : isDateSep s2 = true) (hdot : s1 = s2 ∨ (s1 ≠ '.' ∧ s2 ≠ '.')) (ht : TimeText tm hms us) :
    dtCs uk (yy ++ s1 :: (mm ++ s2 :: (dd ++ tm))) = some (checkRange (mkDate y m d + hms + us)) := by
  subst vy vm vd
  rw [(PlainText.iso hyy hy4 hmm hdd h1 h2 hdot ht).dtCs, readAs_valid v, Int.add_assoc]

/-- the same for `dt(<string>)` itself: the text passes `strip`, the `ambiguity` rewrite and `squeeze` unchanged (a text that starts
with four digits is not a day-month triple) -/
theorem iso_any_sep (uk : Bool) (y m d : Nat) (v : Valid y m d) (yy mm dd tm : List Char) (s1 s2 : Char) (hms us : Int)
    (hyy : IsNumeral 4 yy) (hy4 : yy.length = 4) (hmm : IsNumeral 2 mm) (hdd : IsNumeral 2 dd)
    (vy : digitsVal yy = y) (vm : digitsVal mm = m) (vd : digitsVal dd = d)
    (h1 : isDateSep s1 = true) (h2 : isDateSep s2 = true) (hdot : s1 = s2 ∨ (s1 ≠ '.' ∧ s2 ≠ '.')) (ht : TimeText tm hms us) :
    dtStr uk (String.ofList (yy ++ s1 :: (mm ++ s2 :: (dd ++ tm)))) = some (checkRange (mkDate y m d + hms + us)) := by
  subst vy vm vd
  rw [(PlainText.iso hyy hy4 hmm hdd h1 h2 hdot ht).dtStr, readAs_valid v, Int.add_assoc]

/-- the date alone, zero-padded, one separator written twice: `2000/01/13`, `2000.01.13`, `2000 01 13`, `2000-01-13` all equal the date -/
theorem iso_any_sep_date (uk : Bool) (y m d : Nat) (v : Valid y m d) (s : Char) (hs : isDateSep s = true) :
    dtStr uk (String.ofList (pad4 y ++ s :: (pad2 m ++ s :: (pad2 d ++ [])))) = some (.ok (mkDate y m d)) := by
  have hl := valid_lt v
  rw [iso_any_sep uk y m d v (pad4 y) (pad2 m) (pad2 d) [] s s 0 0 (isNumeral_pad4 y) rfl (isNumeral_pad2 m) (isNumeral_pad2 d)
    (val_pad4 y hl.1) (val_pad2 m hl.2.1) (val_pad2 d hl.2.2) hs hs (Or.inl rfl) TimeText.none]
  simp only [Int.add_zero]; rw [checkRange_mkDate y m d v]

/-- year-first texts are never swapped: when (year, month, day) as written is not a calendar date — month 13, 30 February — the
answer is ValueError in both dialects, whatever the separators (`dt('2000/13/01')` is not 13 January) -/
theorem iso_any_sep_impossible (uk : Bool) (yy mm dd tm : List Char) (s1 s2 : Char) (hms us : Int)
    (hyy : IsNumeral 4 yy) (hy4 : yy.length = 4) (hmm : IsNumeral 2 mm) (hdd : IsNumeral 2 dd)
    (h1 : isDateSep s1 = true) (h2 : isDateSep s2 = true) (hdot : s1 = s2 ∨ (s1 ≠ '.' ∧ s2 ≠ '.')) (ht : TimeText tm hms us)
    (hbad : ¬ Valid (digitsVal yy) (digitsVal mm) (digitsVal dd)) :
    dtStr uk (String.ofList (yy ++ s1 :: (mm ++ s2 :: (dd ++ tm)))) = some (.error .value) := by
  rw [(PlainText.iso hyy hy4 hmm hdd h1 h2 hdot ht).dtStr, readAs_invalid hbad]

example : dtStr true "2000/1/13 10:30" = some (.ok (mkDate 2000 1 13 + 37800000000)) ∧ dtStr false "2000.01.13" = some (.ok (mkDate 2000 1 13))
    ∧ dtStr true "2000 01 13" = some (.ok (mkDate 2000 1 13)) :=
  ⟨(by decide +kernel), (by decide +kernel), (by decide +kernel)⟩
example : dtStr true "2000/13/01" = some (.error .value) ∧ dtStr false "2000.2.30" = some (.error .value) :=
  ⟨(by decide +kernel), (by decide +kernel)⟩

/-! ### ISO text `yyyy-mm-dd[ time]`: the `'-' '-'` instances of `iso_any_sep*` -/

/-- `dt('yyyy-mm-dd')`, `dt('yyyy-mm-ddThh:mm:ss[.ffffff]')`, `dt('yyyy-mm-dd hh:mm[:ss]')` … in both dialects: the instant -/
theorem iso_text (uk : Bool) (y m d : Nat) (v : Valid y m d) (yy mm dd tm : List Char) (hms us : Int)
    (hyy : IsNumeral 4 yy) (hy4 : yy.length = 4) (hmm : IsNumeral 2 mm) (hm2 : mm.length = 2) (hdd : IsNumeral 2 dd) (hd2 : dd.length = 2)
    (vy : digitsVal yy = y) (vm : digitsVal mm = m) (vd : digitsVal dd = d) (ht : TimeText tm hms us) :
    dtCs uk (yy ++ '-' :: (mm ++ '-' :: (dd ++ tm))) = some (checkRange (mkDate y m d + hms + us)) := by
  exact iso_any_sep_text uk y m d v yy mm dd tm '-' '-' hms us hyy hy4 hmm hdd vy vm vd (by decide) (by decide) (Or.inl rfl) ht

/-- the ISO clause for `dt(<string>)` itself (`dtStr`): the text passes `strip` and `squeeze` unchanged -/
theorem iso_str (uk : Bool) (y m d : Nat) (v : Valid y m d) (yy mm dd tm : List Char) (hms us : Int)
    (hyy : IsNumeral 4 yy) (hy4 : yy.length = 4) (hmm : IsNumeral 2 mm) (hm2 : mm.length = 2) (hdd : IsNumeral 2 dd) (hd2 : dd.length = 2)
    (vy : digitsVal yy = y) (vm : digitsVal mm = m) (vd : digitsVal dd = d) (ht : TimeText tm hms us) :
    dtStr uk (String.ofList (yy ++ '-' :: (mm ++ '-' :: (dd ++ tm)))) = some (checkRange (mkDate y m d + hms + us)) := by
  exact iso_any_sep uk y m d v yy mm dd tm '-' '-' hms us hyy hy4 hmm hdd vy vm vd (by decide) (by decide) (Or.inl rfl) ht

/-- the ISO date alone, as `strftime('%Y-%m-%d')` writes it -/
theorem iso_date_text (uk : Bool) (y m d : Nat) (v : Valid y m d) :
    dtCs uk (pad4 y ++ '-' :: (pad2 m ++ '-' :: (pad2 d ++ []))) = some (.ok (mkDate y m d)) := by
  have hl := valid_lt v
  rw [iso_text uk y m d v (pad4 y) (pad2 m) (pad2 d) [] 0 0 (isNumeral_pad4 y) rfl (isNumeral_pad2 m) rfl (isNumeral_pad2 d) rfl
    (val_pad4 y hl.1) (val_pad2 m hl.2.1) (val_pad2 d hl.2.2) TimeText.none]
  simp only [Int.add_zero]; rw [checkRange_mkDate y m d v]

/-- `isoformat(' ')` / `isoformat()` with whole seconds, padded fields -/
theorem iso_datetime_text (uk : Bool) (y m d h mi sec : Nat) (v : Valid y m d) (hh : h < 24) (hmi : mi < 60) (hs : sec < 60) (l : Char) (hl : IsLead l) :
    dtCs uk (pad4 y ++ '-' :: (pad2 m ++ '-' :: (pad2 d ++ l :: (pad2 h ++ ':' :: (pad2 mi ++ ':' :: pad2 sec)))))
      = some (.ok (mkDate y m d + ((h * 3600000000 + mi * 60000000 + sec * 1000000 : Nat) : Int))) := by
  have hl4 := valid_lt v
  rw [iso_text uk y m d v (pad4 y) (pad2 m) (pad2 d) _ _ 0 (isNumeral_pad4 y) rfl (isNumeral_pad2 m) rfl (isNumeral_pad2 d) rfl
    (val_pad4 y hl4.1) (val_pad2 m hl4.2.1) (val_pad2 d hl4.2.2) (timeText_pad_hms l hl h mi sec hh hmi hs)]
  rw [Int.add_zero, checkRange_in_day y m d v _ (by unfold DAYUS; omega)]

example : dtCs false "2000-02-29 23:59:59".toList = some (.ok (mkDate 2000 2 29 + 86399000000)) := by decide +kernel

/-! ### month-name strings (`1 Jan 2000`, `01-January-2000`, `January 1, 2000`, `Jan 1 2000`)

The month names are those of dateutil's own table, lifted into the generated `Gen.duMonths` (`IsMonthName m w`: `w` is, in any
capitalisation, a name that table lists for month `m`); the scanner's reading of these shapes is the assumed dateutil behaviour,
sampled by correspondence (tags `month-name*`). -/

/-- the month table the theorems below quantify over is the English one (`sept` included): a changed dateutil table breaks this -/
theorem du_months_english : Gen.duMonths =
    [["jan", "january"], ["feb", "february"], ["mar", "march"], ["apr", "april"], ["may", "may"], ["jun", "june"], ["jul", "july"],
     ["aug", "august"], ["sep", "sept", "september"], ["oct", "october"], ["nov", "november"], ["dec", "december"]] := rfl

/-- `dt` of every month-name spelling of a calendar date — day with one or two digits, month name abbreviated or in full and in
any capitalisation, four-digit year, optional time of day `[ T]h:m[:s[.f]]` to the microsecond — in the four shapes
`d Mon yyyy`, `d-Mon-yyyy`, `Mon d, yyyy`, `Mon d yyyy` is that instant, in both dialects (no dialect test fires: the text does not
match the `ambiguity` regex, see `ambiguous_iff`) -/
theorem month_name_text (uk : Bool) (y m d : Nat) (v : Valid y m d) (w dd yy tm : List Char) (hms us : Int)
    (hw : IsMonthName m w) (hdd : IsNumeral 2 dd) (hyy : IsNumeral 4 yy) (hy4 : yy.length = 4)
    (vd : digitsVal dd = d) (vy : digitsVal yy = y) (ht : TimeText tm hms us) :
    (∀ s, s = ' ' ∨ s = '-' → dtCs uk (dd ++ s :: (w ++ s :: (yy ++ tm))) = some (checkRange (mkDate y m d + hms + us)))
    ∧ dtCs uk (w ++ ' ' :: (dd ++ ',' :: ' ' :: (yy ++ tm))) = some (checkRange (mkDate y m d + hms + us))
    ∧ dtCs uk (w ++ ' ' :: (dd ++ ' ' :: (yy ++ tm))) = some (checkRange (mkDate y m d + hms + us)) := by
  subst vd vy
  rw [Int.add_assoc, ← readAs_valid v]
  exact ⟨fun s hs => (PlainText.dMy hs hdd hw hyy hy4 ht).dtCs uk, (PlainText.Mdy_comma hdd hw hyy hy4 ht).dtCs uk,
    (PlainText.Mdy hdd hw hyy hy4 ht).dtCs uk⟩

/-- the same for `dt(<string>)` itself (`dtStr`: `strip`, the blank handling, then the reading): the month-name spellings pass
`strip` and `squeeze` unchanged -/
theorem month_name_str (uk : Bool) (y m d : Nat) (v : Valid y m d) (w dd yy tm : List Char) (hms us : Int)
    (hw : IsMonthName m w) (hdd : IsNumeral 2 dd) (hyy : IsNumeral 4 yy) (hy4 : yy.length = 4)
    (vd : digitsVal dd = d) (vy : digitsVal yy = y) (ht : TimeText tm hms us) :
    (∀ s, s = ' ' ∨ s = '-' → dtStr uk (String.ofList (dd ++ s :: (w ++ s :: (yy ++ tm)))) = some (checkRange (mkDate y m d + hms + us)))
    ∧ dtStr uk (String.ofList (w ++ ' ' :: (dd ++ ',' :: ' ' :: (yy ++ tm)))) = some (checkRange (mkDate y m d + hms + us))
    ∧ dtStr uk (String.ofList (w ++ ' ' :: (dd ++ ' ' :: (yy ++ tm)))) = some (checkRange (mkDate y m d + hms + us)) := by
  subst vd vy
  rw [Int.add_assoc, ← readAs_valid v]
  exact ⟨fun s hs => (PlainText.dMy hs hdd hw hyy hy4 ht).dtStr uk, (PlainText.Mdy_comma hdd hw hyy hy4 ht).dtStr uk,
    (PlainText.Mdy hdd hw hyy hy4 ht).dtStr uk⟩

example : dtStr true "13 Sept 2000 10:30" = some (.ok (mkDate 2000 9 13 + 37800000000))
    ∧ dtStr false "  January 1, 2000T23:59:59.999999\n" = some (.ok (mkDate 2000 1 1 + 86399999999)) :=
  ⟨(by decide +kernel), (by decide +kernel)⟩

/-- the date alone, as `strftime` writes it (`%d %B %Y`, `%d-%b-%Y`, `%B %d, %Y`, …): midnight of the day -/
theorem month_name_date_text (uk : Bool) (y m d : Nat) (v : Valid y m d) (w : List Char) (hw : IsMonthName m w) :
    dtCs uk (pad2 d ++ ' ' :: (w ++ ' ' :: (pad4 y ++ []))) = some (.ok (mkDate y m d))
    ∧ dtCs uk (pad2 d ++ '-' :: (w ++ '-' :: (pad4 y ++ []))) = some (.ok (mkDate y m d))
    ∧ dtCs uk (w ++ ' ' :: (pad2 d ++ ',' :: ' ' :: (pad4 y ++ []))) = some (.ok (mkDate y m d)) := by
  have hl := valid_lt v
  have h := month_name_text uk y m d v w (pad2 d) (pad4 y) [] 0 0 hw (isNumeral_pad2 d) (isNumeral_pad4 y) rfl
    (val_pad2 d hl.2.2) (val_pad4 y hl.1) TimeText.none
  simp only [Int.add_zero, checkRange_mkDate y m d v] at h
  exact ⟨h.1 ' ' (Or.inl rfl), h.1 '-' (Or.inr rfl), h.2.1⟩

example : IsMonthName 9 "SePt".toList ∧ IsMonthName 1 "January".toList ∧ IsMonthName 5 "may".toList ∧ ¬ IsMonthName 1 "Janu".toList := by
  decide +kernel
example : dtCs true "13 Sept 2000 10:30".toList = some (.ok (mkDate 2000 9 13 + 37800000000))
    ∧ dtCs false "JAN 01, 2000".toList = some (.ok (mkDate 2000 1 1)) ∧ dtCs false "1-feb-2000".toList = some (.ok (mkDate 2000 2 1)) :=
  ⟨(by decide +kernel), (by decide +kernel), (by decide +kernel)⟩
/-- an impossible month-name date is dateutil's ParserError (a ValueError), never a rolled date -/
example : dtCs true "31 Feb 2000".toList = some (.error .value) := by decide +kernel

/-! ### white space around the text is ignored (the dialect tests see the stripped text) -/

/-- `dt(ws ++ text ++ ws')` = `dt(text)` for any white space around a text that starts and ends with other characters -/
theorem dt_ignores_outer_ws (uk : Bool) (ws1 ws2 cs : List Char) (h1 : AllWs ws1) (h2 : AllWs ws2) (hne : cs ≠ [])
    (hh : ∀ c, cs.head? = some c → isWs c = false) (hl : ∀ c, cs.getLast? = some c → isWs c = false) :
    dtStr uk (String.ofList (ws1 ++ cs ++ ws2)) = dtStr uk (String.ofList cs) := by
  rw [dtStr_ofList, dtStr_ofList, strip_wrapped ws1 ws2 cs h1 h2 hne hh hl, strip_ends cs hh hl]

example : dtStr false " 13/01/2000" = some (.error .value) ∧ dtStr true "\t02/01/2000 " = some (.ok (mkDate 2000 1 2)) :=
  ⟨(by decide +kernel), (by decide +kernel)⟩

/-! ### blanks around the separators (`'13 / 01 / 2000'`, C04-D3): the dialect tests see the tight text -/

theorem dt_padded_seps (uk : Bool) (a b yy tm : List Char) (s1 s2 : Char) (l1 r1 l2 r2 : List Char) (hms us : Int)
    (ha : IsNumeral 2 a) (hb : IsNumeral 2 b) (hy : IsNumeral 4 yy) (h1 : IsSqSep s1) (h2 : IsSqSep s2)
    (bl1 : ∀ c ∈ l1, c = ' ') (br1 : ∀ c ∈ r1, c = ' ') (bl2 : ∀ c ∈ l2, c = ' ') (br2 : ∀ c ∈ r2, c = ' ') (ht : TimeText tm hms us) :
    dtCs uk (squeeze (a ++ (l1 ++ s1 :: (r1 ++ (b ++ (l2 ++ s2 :: (r2 ++ (yy ++ tm))))))))
      = dtCs uk (a ++ s1 :: (b ++ s2 :: (yy ++ tm))) := by
  rw [squeeze_padded_seps a b yy tm s1 s2 l1 r1 l2 r2 hms us ha hb hy h1 h2 bl1 br1 bl2 br2 ht]

/-- a UK text with blanks around its separators is the instant (day ≤ 12 included: not dateutil's month-first reading) -/
theorem uk_padded_seps_text (y m d : Nat) (v : Valid y m d) (hy : 32 ≤ y ∧ y < 9999) (a b yy tm : List Char) (s1 s2 : Char)
    (l1 r1 l2 r2 : List Char) (hms us : Int)
    (ha : IsNumeral 2 a) (hb : IsNumeral 2 b) (hyy : IsNumeral 4 yy) (hy4 : yy.length = 4)
    (va : digitsVal a = d) (vb : digitsVal b = m) (vy : digitsVal yy = y) (h1 : IsSqSep s1) (h2 : IsSqSep s2)
    (bl1 : ∀ c ∈ l1, c = ' ') (br1 : ∀ c ∈ r1, c = ' ') (bl2 : ∀ c ∈ l2, c = ' ') (br2 : ∀ c ∈ r2, c = ' ') (ht : TimeText tm hms us) :
    dtCs true (squeeze (a ++ (l1 ++ s1 :: (r1 ++ (b ++ (l2 ++ s2 :: (r2 ++ (yy ++ tm))))))))
      = some (checkRange (mkDate y m d + hms + us)) := by
  rw [dt_padded_seps true a b yy tm s1 s2 l1 r1 l2 r2 hms us ha hb hyy h1 h2 bl1 br1 bl2 br2 ht]
  exact uk_text_gen y m d v a b yy tm s1 s2 hms us ha hb hyy hy4 va vb vy h1.isDateSep h2.isDateSep ht

/-- the other dialect's day > 12 text with blanks around its separators is rejected, not silently swapped -/
theorem rejects_padded_seps (y m d : Nat) (hm : 1 ≤ m ∧ m ≤ 12) (hd : 12 < d) (a b yy tm : List Char) (s1 s2 : Char)
    (l1 r1 l2 r2 : List Char) (hms us : Int)
    (ha : IsNumeral 2 a) (hb : IsNumeral 2 b) (hyy : IsNumeral 4 yy) (hy4 : yy.length = 4) (vy : digitsVal yy = y)
    (h1 : IsSqSep s1) (h2 : IsSqSep s2)
    (bl1 : ∀ c ∈ l1, c = ' ') (br1 : ∀ c ∈ r1, c = ' ') (bl2 : ∀ c ∈ l2, c = ' ') (br2 : ∀ c ∈ r2, c = ' ') (ht : TimeText tm hms us) :
    (digitsVal a = m → digitsVal b = d →
      dtCs true (squeeze (a ++ (l1 ++ s1 :: (r1 ++ (b ++ (l2 ++ s2 :: (r2 ++ (yy ++ tm)))))))) = some (.error .value))
    ∧ (digitsVal a = d → digitsVal b = m →
      dtCs false (squeeze (a ++ (l1 ++ s1 :: (r1 ++ (b ++ (l2 ++ s2 :: (r2 ++ (yy ++ tm)))))))) = some (.error .value)) := by
  constructor
  · intro va vb
    rw [dt_padded_seps true a b yy tm s1 s2 l1 r1 l2 r2 hms us ha hb hyy h1 h2 bl1 br1 bl2 br2 ht]
    exact uk_rejects_us_text_gen y m d hd a b yy tm s1 s2 hms us ha hb hyy hy4 va vb vy h1.isDateSep h2.isDateSep ht
  · intro va vb
    rw [dt_padded_seps false a b yy tm s1 s2 l1 r1 l2 r2 hms us ha hb hyy h1 h2 bl1 br1 bl2 br2 ht]
    exact us_rejects_uk_text_gen y m d hd a b yy tm s1 s2 hms us ha hb hyy hy4 va vb vy h1.isDateSep h2.isDateSep ht

example : dtStr false "13 / 01 / 2000" = some (.error .value) ∧ dtStr true "01 -13-  2000 10:30" = some (.error .value)
    ∧ dtStr true "02 / 01 / 2000" = some (.ok (mkDate 2000 1 2)) ∧ dtStr true "2  1  2000 10:30" = some (.ok (mkDate 2000 1 2 + 37800000000)) :=
  ⟨(by decide +kernel), (by decide +kernel), (by decide +kernel), (by decide +kernel)⟩

/-! ### C04-D4: every pair of separators of the quantifier's set, any white space around them and around the text — the
statement for `dt(<string>)` itself (`dtStr`: `strip`, `ambiguity.sub`, then dateutil and the dialect decision).  The separators
are described by `IsSepZone` (white space, one of `-` `/` `.` blank, white space: an independent decomposition predicate), so the
six pairs with exactly one `.` (`'13.01 2000'`, `'13-01.2000'`: dateutil alone reads them as something else or not at all), blanks
around a `.` and a blank only in front of the year (`'13/01/ 2000'`) are all covered.  What dateutil is assumed to read is only
the text with two `/`. -/

/-- the text dateutil gets for `<a><zone><b><zone><yyyy>[ time]` is `a/b/yyyy[ time]` -/
theorem dtStr_triple (uk : Bool) (ws1 ws2 a z1 b z2 yy tm : List Char) (hms us : Int) (ha : IsNumeral 2 a) (hb : IsNumeral 2 b)
    (hyy : IsNumeral 4 yy) (hy4 : yy.length = 4) (h1 : IsSepZone z1) (h2 : IsSepZone z2) (ht : TimeText tm hms us)
    (w1 : AllWs ws1) (w2 : AllWs ws2) :
    dtStr uk (String.ofList (ws1 ++ (a ++ (z1 ++ (b ++ (z2 ++ (yy ++ tm))))) ++ ws2)) = dtCs uk (a ++ '/' :: (b ++ '/' :: (yy ++ tm))) := by
  rw [dtStr_zones uk ws1 ws2 a z1 b z2 yy tm hms us ha hb hyy hy4 h1 h2 ht w1 w2, dtCs_triple uk a b yy tm '/' '/' hms us ha hb hyy hy4 (by decide) (by decide) ht]

/-- UK: `dt('<d><sep><m><sep><yyyy>[ time]')` is the instant to the microsecond — any two separators, any white space -/
theorem uk_str_any_seps (y m d : Nat) (v : Valid y m d) (hy : 32 ≤ y ∧ y < 9999) (ws1 ws2 a z1 b z2 yy tm : List Char) (hms us : Int)
    (ha : IsNumeral 2 a) (hb : IsNumeral 2 b) (hyy : IsNumeral 4 yy) (hy4 : yy.length = 4)
    (va : digitsVal a = d) (vb : digitsVal b = m) (vy : digitsVal yy = y)
    (h1 : IsSepZone z1) (h2 : IsSepZone z2) (ht : TimeText tm hms us) (w1 : AllWs ws1) (w2 : AllWs ws2) :
    dtStr true (String.ofList (ws1 ++ (a ++ (z1 ++ (b ++ (z2 ++ (yy ++ tm))))) ++ ws2)) = some (checkRange (mkDate y m d + hms + us)) := by
  rw [dtStr_zones true ws1 ws2 a z1 b z2 yy tm hms us ha hb hyy hy4 h1 h2 ht w1 w2, if_pos rfl, va, vb, vy, readAs_valid v, Int.add_assoc]

/-- US: `dt('<m><sep><d><sep><yyyy>[ time]', dialect = 'us')` -/
theorem us_str_any_seps (y m d : Nat) (v : Valid y m d) (ws1 ws2 a z1 b z2 yy tm : List Char) (hms us : Int)
    (ha : IsNumeral 2 a) (hb : IsNumeral 2 b) (hyy : IsNumeral 4 yy) (hy4 : yy.length = 4)
    (va : digitsVal a = m) (vb : digitsVal b = d) (vy : digitsVal yy = y)
    (h1 : IsSepZone z1) (h2 : IsSepZone z2) (ht : TimeText tm hms us) (w1 : AllWs ws1) (w2 : AllWs ws2) :
    dtStr false (String.ofList (ws1 ++ (a ++ (z1 ++ (b ++ (z2 ++ (yy ++ tm))))) ++ ws2)) = some (checkRange (mkDate y m d + hms + us)) := by
  rw [dtStr_zones false ws1 ws2 a z1 b z2 yy tm hms us ha hb hyy hy4 h1 h2 ht w1 w2, if_neg Bool.false_ne_true, va, vb, vy, readAs_valid v, Int.add_assoc]

/-- the other dialect's day > 12 text is rejected, never silently swapped and never another date — any two separators -/
theorem str_rejects_any_seps (y m d : Nat) (hm : 1 ≤ m ∧ m ≤ 12) (hd : 12 < d) (ws1 ws2 a z1 b z2 yy tm : List Char) (hms us : Int)
    (ha : IsNumeral 2 a) (hb : IsNumeral 2 b) (hyy : IsNumeral 4 yy) (hy4 : yy.length = 4) (vy : digitsVal yy = y)
    (h1 : IsSepZone z1) (h2 : IsSepZone z2) (ht : TimeText tm hms us) (w1 : AllWs ws1) (w2 : AllWs ws2) :
    (digitsVal a = m → digitsVal b = d →
      dtStr true (String.ofList (ws1 ++ (a ++ (z1 ++ (b ++ (z2 ++ (yy ++ tm))))) ++ ws2)) = some (.error .value))
    ∧ (digitsVal a = d → digitsVal b = m →
      dtStr false (String.ofList (ws1 ++ (a ++ (z1 ++ (b ++ (z2 ++ (yy ++ tm))))) ++ ws2)) = some (.error .value)) := by
  constructor
  · intro va vb
    rw [dtStr_zones true ws1 ws2 a z1 b z2 yy tm hms us ha hb hyy hy4 h1 h2 ht w1 w2, if_pos rfl, va, vb, vy, readAs_invalid (not_valid_month hd)]
  · intro va vb
    rw [dtStr_zones false ws1 ws2 a z1 b z2 yy tm hms us ha hb hyy hy4 h1 h2 ht w1 w2, if_neg Bool.false_ne_true, va, vb, vy, readAs_invalid (not_valid_month hd)]

/-- in particular a US-written day > 12 text with blanks around it is still rejected by the UK dialect, and vice versa
(C04-D1: never silently swapped) -/
theorem rejects_with_outer_ws (y m d : Nat) (hm : 1 ≤ m ∧ m ≤ 12) (hd : 12 < d ∧ d < 100) (hy : y < 10000) (s1 s2 : Char)
    (h1 : isDateSep s1 = true) (h2 : isDateSep s2 = true) (ws1 ws2 : List Char) (w1 : ∀ c ∈ ws1, isWs c = true) (w2 : ∀ c ∈ ws2, isWs c = true) :
    dtStr true (String.ofList (ws1 ++ (pad2 m ++ s1 :: (pad2 d ++ s2 :: (pad4 y ++ []))) ++ ws2)) = some (.error .value)
    ∧ dtStr false (String.ofList (ws1 ++ (pad2 d ++ s1 :: (pad2 m ++ s2 :: (pad4 y ++ []))) ++ ws2)) = some (.error .value) := by
  have zone : ∀ s, isDateSep s = true → IsSepZone [s] := fun s hs => ⟨[], [], s, rfl, by simp [AllWs], by simp [AllWs], hs⟩
  have vm := val_pad2 m (by omega)
  have vd := val_pad2 d hd.2
  constructor
  · exact (str_rejects_any_seps y m d hm hd.1 ws1 ws2 (pad2 m) [s1] (pad2 d) [s2] (pad4 y) [] 0 0 (isNumeral_pad2 m) (isNumeral_pad2 d)
      (isNumeral_pad4 y) rfl (val_pad4 y hy) (zone s1 h1) (zone s2 h2) TimeText.none w1 w2).1 vm vd
  · exact (str_rejects_any_seps y m d hm hd.1 ws1 ws2 (pad2 d) [s1] (pad2 m) [s2] (pad4 y) [] 0 0 (isNumeral_pad2 d) (isNumeral_pad2 m)
      (isNumeral_pad4 y) rfl (val_pad4 y hy) (zone s1 h1) (zone s2 h2) TimeText.none w1 w2).2 vd vm

/-- `slashes` against the regex semantics: a text that matches is rewritten (to `a/b/` + the year and what follows it), every other
text is left alone; matching is `^d{1,2}\s*SEP\s*d{1,2}\s*SEP\s*d{2,4}` (`MatchesPadded`, a decomposition of the text) -/
theorem slashes_iff (cs : List Char) :
    (MatchesPadded cs → ∃ a b tail z1 z2, cs = a ++ (z1 ++ (b ++ (z2 ++ tail))) ∧ IsNumeral 2 a ∧ IsNumeral 2 b ∧ IsSepZone z1 ∧ IsSepZone z2
        ∧ slashes cs = a ++ '/' :: (b ++ '/' :: tail))
    ∧ (¬ MatchesPadded cs → slashes cs = cs) :=
  ⟨slashes_of_match cs, slashes_no_match cs⟩

-- non-vacuity: zones of the six one-dot pairs, with white space; the instances of C04-D4
example : IsSepZone ".".toList ∧ IsSepZone " ".toList ∧ IsSepZone " . ".toList ∧ IsSepZone "/ ".toList ∧ IsSepZone "\t-".toList :=
  ⟨⟨[], [], '.', rfl, by simp [AllWs], by simp [AllWs], by decide⟩, ⟨[], [], ' ', rfl, by simp [AllWs], by simp [AllWs], by decide⟩,
   ⟨[' '], [' '], '.', rfl, by simp [AllWs, isWs], by simp [AllWs, isWs], by decide⟩,
   ⟨[], [' '], '/', rfl, by simp [AllWs], by simp [AllWs, isWs], by decide⟩,
   ⟨['\t'], [], '-', rfl, by simp [AllWs, isWs], by simp [AllWs], by decide⟩⟩
example : dtStr false "01.13 2000" = some (.ok (mkDate 2000 1 13)) ∧ dtStr true "02 01.2000" = some (.ok (mkDate 2000 1 2))
    ∧ dtStr true "13/01/ 2000" = some (.ok (mkDate 2000 1 13)) ∧ dtStr true "13 .01.2000 10:30" = some (.ok (mkDate 2000 1 13 + 37800000000)) :=
  ⟨(by decide +kernel), (by decide +kernel), (by decide +kernel), (by decide +kernel)⟩
example : dtStr true "01.13 2000" = some (.error .value) ∧ dtStr false "13-01.2000" = some (.error .value) :=
  ⟨(by decide +kernel), (by decide +kernel)⟩
example : slashes "2000-01-13".toList = "2000-01-13".toList ∧ slashes "13 Jan 2000".toList = "13 Jan 2000".toList
    ∧ slashes "1 . 2 -2000x".toList = "1/2/2000x".toList ∧ slashes "1/2/3".toList = "1/2/3".toList := by decide +kernel

/-! ### the dialect as the string the caller writes (C04-D6: `dt` compares `dialect.lower()`, so `'UK'` is the UK dialect) -/

/-- which strings are the UK dialect, which the US one — against the enumeration of the spellings, both directions: the dialect read
from the string is UK exactly for `uk UK Uk uK` and US exactly for `us US Us uS` (so `'UK'` is never read as US, and no third string
is silently one of the two: for any other string the model has no answer, `dialectOf_other`) -/
theorem dialect_spellings (d : String) :
    (dialectOf d = some true ↔ d ∈ ["uk", "UK", "Uk", "uK"]) ∧ (dialectOf d = some false ↔ d ∈ ["us", "US", "Us", "uS"]) :=
  ⟨dialectOf_uk_iff d, dialectOf_us_iff d⟩

theorem dialectOf_other (d : String) (h : d ∉ ["uk", "UK", "Uk", "uK", "us", "US", "Us", "uS"]) : dialectOf d = none ∧ ∀ s, dtStrD d s = none := by
  have h1 : dialectOf d = none := by
    cases e : dialectOf d with
    | none => rfl
    | some b =>
      cases b
      · exact absurd (List.mem_append_right ["uk", "UK", "Uk", "uK"] ((dialectOf_us_iff d).mp e)) h
      · exact absurd (List.mem_append_left ["us", "US", "Us", "uS"] ((dialectOf_uk_iff d).mp e)) h
  exact ⟨h1, fun s => by simp [dtStrD, h1]⟩

/-- UK, the dialect in any letter case: `dt('<d><sep><m><sep><yyyy>[ time]', dialect = 'UK')` is the instant to the microsecond -/
theorem uk_str_any_dialect_case (dia : String) (hdia : dia ∈ ["uk", "UK", "Uk", "uK"])
    (y m d : Nat) (v : Valid y m d) (hy : 32 ≤ y ∧ y < 9999) (ws1 ws2 a z1 b z2 yy tm : List Char) (hms us : Int)
    (ha : IsNumeral 2 a) (hb : IsNumeral 2 b) (hyy : IsNumeral 4 yy) (hy4 : yy.length = 4)
    (va : digitsVal a = d) (vb : digitsVal b = m) (vy : digitsVal yy = y)
    (h1 : IsSepZone z1) (h2 : IsSepZone z2) (ht : TimeText tm hms us) (w1 : AllWs ws1) (w2 : AllWs ws2) :
    dtStrD dia (String.ofList (ws1 ++ (a ++ (z1 ++ (b ++ (z2 ++ (yy ++ tm))))) ++ ws2)) = some (checkRange (mkDate y m d + hms + us)) := by
  rw [dtStrD_of ((dialectOf_uk_iff dia).mpr hdia)]
  exact uk_str_any_seps y m d v hy ws1 ws2 a z1 b z2 yy tm hms us ha hb hyy hy4 va vb vy h1 h2 ht w1 w2

/-- US, the dialect in any letter case (`'US'` is the library's own spelling) -/
theorem us_str_any_dialect_case (dia : String) (hdia : dia ∈ ["us", "US", "Us", "uS"])
    (y m d : Nat) (v : Valid y m d) (ws1 ws2 a z1 b z2 yy tm : List Char) (hms us : Int)
    (ha : IsNumeral 2 a) (hb : IsNumeral 2 b) (hyy : IsNumeral 4 yy) (hy4 : yy.length = 4)
    (va : digitsVal a = m) (vb : digitsVal b = d) (vy : digitsVal yy = y)
    (h1 : IsSepZone z1) (h2 : IsSepZone z2) (ht : TimeText tm hms us) (w1 : AllWs ws1) (w2 : AllWs ws2) :
    dtStrD dia (String.ofList (ws1 ++ (a ++ (z1 ++ (b ++ (z2 ++ (yy ++ tm))))) ++ ws2)) = some (checkRange (mkDate y m d + hms + us)) := by
  rw [dtStrD_of ((dialectOf_us_iff dia).mpr hdia)]
  exact us_str_any_seps y m d v ws1 ws2 a z1 b z2 yy tm hms us ha hb hyy hy4 va vb vy h1 h2 ht w1 w2

/-- the other dialect's day > 12 text is rejected whatever the letter case of the dialect: `dt('01/13/2000', dialect = 'UK')` and
`dt('13/01/2000', dialect = 'US')` are ValueError, not the swapped date -/
theorem str_rejects_any_dialect_case (y m d : Nat) (hm : 1 ≤ m ∧ m ≤ 12) (hd : 12 < d) (ws1 ws2 a z1 b z2 yy tm : List Char) (hms us : Int)
    (ha : IsNumeral 2 a) (hb : IsNumeral 2 b) (hyy : IsNumeral 4 yy) (hy4 : yy.length = 4) (vy : digitsVal yy = y)
    (h1 : IsSepZone z1) (h2 : IsSepZone z2) (ht : TimeText tm hms us) (w1 : AllWs ws1) (w2 : AllWs ws2) :
    (∀ dia ∈ ["uk", "UK", "Uk", "uK"], digitsVal a = m → digitsVal b = d →
      dtStrD dia (String.ofList (ws1 ++ (a ++ (z1 ++ (b ++ (z2 ++ (yy ++ tm))))) ++ ws2)) = some (.error .value))
    ∧ (∀ dia ∈ ["us", "US", "Us", "uS"], digitsVal a = d → digitsVal b = m →
      dtStrD dia (String.ofList (ws1 ++ (a ++ (z1 ++ (b ++ (z2 ++ (yy ++ tm))))) ++ ws2)) = some (.error .value)) := by
  have h := str_rejects_any_seps y m d hm hd ws1 ws2 a z1 b z2 yy tm hms us ha hb hyy hy4 vy h1 h2 ht w1 w2
  constructor
  · intro dia hdia va vb
    rw [dtStrD_of ((dialectOf_uk_iff dia).mpr hdia)]
    exact h.1 va vb
  · intro dia hdia va vb
    rw [dtStrD_of ((dialectOf_us_iff dia).mpr hdia)]
    exact h.2 va vb

example : dtStrD "UK" "02/01/2000" = some (.ok (mkDate 2000 1 2)) ∧ dtStrD "Uk" "13/01/2000" = some (.ok (mkDate 2000 1 13))
    ∧ dtStrD "US" "02/01/2000" = some (.ok (mkDate 2000 2 1)) :=
  ⟨(by decide +kernel), (by decide +kernel), (by decide +kernel)⟩
example : dtStrD "UK" "01/13/2000" = some (.error .value) ∧ dtStrD "US" "13/01/2000" = some (.error .value) :=
  ⟨(by decide +kernel), (by decide +kernel)⟩
example : dialectOf "british" = none ∧ dialectOf "uk " = none ∧ dialectOf "" = none := by decide

/-! ### ymd(spelling): the date of the instant -/

/-- whenever `dt(text)` is an instant of the day `(y, m, d)`, `ymd(text)` is midnight of that day -/
theorem ymd_of_text (uk : Bool) (cs : List Char) (y m d : Nat) (v : Valid y m d) (tod : Int) (h0 : 0 ≤ tod ∧ tod < DAYUS)
    (h : dtCs uk cs = some (.ok (mkDate y m d + tod))) : ymdCs uk cs = some (.ok (mkDate y m d)) := by
  unfold ymdCs
  rw [h]
  simp only [Option.map_some, Except.map, dropTime_in_day y m d v tod h0]

/-- `ymd_of_text` when `dt(text)` is given as date + time of day and the time of day is less than a day -/
theorem ymd_of_text_checked (uk : Bool) (cs : List Char) (y m d : Nat) (v : Valid y m d) (hms us : Int) (h0 : 0 ≤ hms + us ∧ hms + us < DAYUS)
    (h : dtCs uk cs = some (checkRange (mkDate y m d + hms + us))) : ymdCs uk cs = some (.ok (mkDate y m d)) :=
  ymd_of_text uk cs y m d v (hms + us) h0 (by rw [h, Int.add_assoc, checkRange_in_day y m d v _ h0])

/-- `ymd` of the UK / US / ISO spellings of an instant is its date -/
theorem ymd_of_uk_text (y m d : Nat) (v : Valid y m d) (hy : 32 ≤ y ∧ y < 9999) (a b yy tm : List Char) (s1 s2 : Char) (hms us : Int)
    (ha : IsNumeral 2 a) (hb : IsNumeral 2 b) (hyy : IsNumeral 4 yy) (hy4 : yy.length = 4)
    (va : digitsVal a = d) (vb : digitsVal b = m) (vy : digitsVal yy = y)
    (h1 : isDateSep s1 = true) (h2 : isDateSep s2 = true) (ht : TimeText tm hms us) (h0 : 0 ≤ hms + us ∧ hms + us < DAYUS) :
    ymdCs true (a ++ s1 :: (b ++ s2 :: (yy ++ tm))) = some (.ok (mkDate y m d)) :=
  ymd_of_text_checked true _ y m d v hms us h0 (uk_text_gen y m d v a b yy tm s1 s2 hms us ha hb hyy hy4 va vb vy h1 h2 ht)

theorem ymd_of_us_text (y m d : Nat) (v : Valid y m d) (a b yy tm : List Char) (s1 s2 : Char) (hms us : Int)
    (ha : IsNumeral 2 a) (hb : IsNumeral 2 b) (hyy : IsNumeral 4 yy) (hy4 : yy.length = 4)
    (va : digitsVal a = m) (vb : digitsVal b = d) (vy : digitsVal yy = y)
    (h1 : isDateSep s1 = true) (h2 : isDateSep s2 = true) (ht : TimeText tm hms us) (h0 : 0 ≤ hms + us ∧ hms + us < DAYUS) :
    ymdCs false (a ++ s1 :: (b ++ s2 :: (yy ++ tm))) = some (.ok (mkDate y m d)) :=
  ymd_of_text_checked false _ y m d v hms us h0 (us_text_gen y m d v a b yy tm s1 s2 hms us ha hb hyy hy4 va vb vy h1 h2 ht)

theorem ymd_of_iso_any_sep (uk : Bool) (y m d : Nat) (v : Valid y m d) (yy mm dd tm : List Char) (s1 s2 : Char) (hms us : Int)
    (hyy : IsNumeral 4 yy) (hy4 : yy.length = 4) (hmm : IsNumeral 2 mm) (hdd : IsNumeral 2 dd)
    (vy : digitsVal yy = y) (vm : digitsVal mm = m) (vd : digitsVal dd = d)
    (h1 : isDateSep s1 = true) (h2 : isDateSep s2 = true) (hdot : s1 = s2 ∨ (s1 ≠ '.' ∧ s2 ≠ '.')) (ht : TimeText tm hms us) (h0 : 0 ≤ hms + us ∧ hms + us < DAYUS) :
    ymdCs uk (yy ++ s1 :: (mm ++ s2 :: (dd ++ tm))) = some (.ok (mkDate y m d)) :=
  ymd_of_text_checked uk _ y m d v hms us h0 (iso_any_sep_text uk y m d v yy mm dd tm s1 s2 hms us hyy hy4 hmm hdd vy vm vd h1 h2 hdot ht)

theorem ymd_of_iso_text (uk : Bool) (y m d : Nat) (v : Valid y m d) (yy mm dd tm : List Char) (hms us : Int)
    (hyy : IsNumeral 4 yy) (hy4 : yy.length = 4) (hmm : IsNumeral 2 mm) (hm2 : mm.length = 2) (hdd : IsNumeral 2 dd) (hd2 : dd.length = 2)
    (vy : digitsVal yy = y) (vm : digitsVal mm = m) (vd : digitsVal dd = d) (ht : TimeText tm hms us) (h0 : 0 ≤ hms + us ∧ hms + us < DAYUS) :
    ymdCs uk (yy ++ '-' :: (mm ++ '-' :: (dd ++ tm))) = some (.ok (mkDate y m d)) :=
  ymd_of_iso_any_sep uk y m d v yy mm dd tm '-' '-' hms us hyy hy4 hmm hdd vy vm vd (by decide) (by decide) (Or.inl rfl) ht h0

theorem ymd_of_month_name_text (uk : Bool) (y m d : Nat) (v : Valid y m d) (w dd yy tm : List Char) (hms us : Int)
    (hw : IsMonthName m w) (hdd : IsNumeral 2 dd) (hyy : IsNumeral 4 yy) (hy4 : yy.length = 4)
    (vd : digitsVal dd = d) (vy : digitsVal yy = y) (ht : TimeText tm hms us) (h0 : 0 ≤ hms + us ∧ hms + us < DAYUS) :
    (∀ s, s = ' ' ∨ s = '-' → ymdCs uk (dd ++ s :: (w ++ s :: (yy ++ tm))) = some (.ok (mkDate y m d)))
    ∧ ymdCs uk (w ++ ' ' :: (dd ++ ',' :: ' ' :: (yy ++ tm))) = some (.ok (mkDate y m d))
    ∧ ymdCs uk (w ++ ' ' :: (dd ++ ' ' :: (yy ++ tm))) = some (.ok (mkDate y m d)) := by
  have h := month_name_text uk y m d v w dd yy tm hms us hw hdd hyy hy4 vd vy ht
  exact ⟨fun s hs => ymd_of_text_checked uk _ y m d v hms us h0 (h.1 s hs), ymd_of_text_checked uk _ y m d v hms us h0 h.2.1,
    ymd_of_text_checked uk _ y m d v hms us h0 h.2.2⟩

example : ymdCs true "13/01/2000 10:30".toList = some (.ok (mkDate 2000 1 13)) := by decide +kernel

/-! ### the model's matcher against the semantics of the `ambiguity` regex and of `int(t[:2]...)` -/

/-- for every text the scanner reads at all, the `ambiguous` flag of the reading is set exactly when the text matches the
regex (`MatchesAmbiguity`: starts with 1-2 digits, separator, 1-2 digits, separator, 2-4 digits — an independent
transcription as a decomposition of the text).  A matcher that was too narrow or too wide on read texts would break this. -/
theorem ambiguous_iff (cs : List Char) (p : Parsed) (h : parseCs cs = some p) : p.ambiguous = true ↔ MatchesAmbiguity cs := by
  constructor
  · intro ha
    unfold parseCs at h
    -- only the first arm of `parseTokens` sets the flag: the tokens are num, sep, num, sep, num(4 digits); read them back into the text
    obtain ⟨a, la, b, lb, y, rest, s1, s2, htk, hla, hlb, hs1, hs2, _⟩ := parseTokens_amb_shape _ p h ha
    have s := scans_self cs
    rw [htk] at s
    -- the year token has the literal length 4, which `cases` cannot unify with the length of a run of digits: make it a variable
    generalize h4 : (4 : Nat) = l4 at s
    cases s with | numeral n1 _ s =>
    cases s with | sep _ _ s =>
    cases s with | numeral n3 _ s =>
    cases s with | sep _ _ s =>
    cases s with | numeral n5 _ s =>
    exact ⟨_, _, _, _, s1, s2, rfl, ⟨n1.len_pos, hla, n1.2.2⟩, ⟨n3.len_pos, hlb, n3.2.2⟩, ⟨by omega, by omega, n5.2.2⟩, hs1, hs2⟩
  · rintro ⟨a, b, y, rest, s1, s2, rfl, ⟨la1, la2, ga⟩, ⟨lb1, lb2, gb⟩, ⟨ly1, ly2, gy⟩, hs1, hs2⟩
    have p1 := sep_not_digit_alpha s1 hs1
    have p2 := sep_not_digit_alpha s2 hs2
    have na : IsNumeral 2 a := ⟨List.ne_nil_of_length_pos la1, la2, ga⟩
    have nb : IsNumeral 2 b := ⟨List.ne_nil_of_length_pos lb1, lb2, gb⟩
    obtain ⟨y0, ys, rfl⟩ := List.exists_cons_of_ne_nil (List.ne_nil_of_length_pos (by omega : 0 < y.length))
    -- whatever follows its first digits, the year starts with a `num` token
    obtain ⟨v, l, ts, e⟩ := scans_digit_head y0 (ys ++ rest) (gy y0 (by simp))
    rw [List.cons_append, parseCs_of_scans (Scans.numeral_sep na p1.1 p1.2 (Scans.numeral_sep nb p2.1 p2.2 e))] at h
    exact (parseTokens_numeric _ _ _ _ _ _ _ _ _ p h la2).1

/-- the `first` number of an ambiguous reading is `int(t[:2].replace(sep, ''))`: the value of the digits among the first two characters -/
theorem ambiguous_first (cs : List Char) (p : Parsed) (h : parseCs cs = some p) (ha : p.ambiguous = true) : p.first = firstTwo cs := by
  unfold parseCs at h
  obtain ⟨a, la, b, lb, y, rest, s1, s2, htk, hla, hlb, hs1, hs2, hf⟩ := parseTokens_amb_shape _ p h ha
  have s := scans_self cs
  rw [htk] at s
  cases s with | numeral n1 _ s =>
  cases s with | sep _ _ s =>
  rw [hf, firstTwo_numeral _ _ s1 n1.len_pos hla n1.2.2 (sep_not_digit_alpha s1 hs1).1]

example : MatchesAmbiguity "13/1/2000 10:30".toList :=
  ⟨"13".toList, "1".toList, "2000".toList, " 10:30".toList, '/', '/', rfl, by decide, by decide, by decide, rfl, rfl⟩
example : firstTwo "1 13 2000".toList = 1 ∧ firstTwo "13.01.2000".toList = 13 := by decide

/-- the regex source the matchers were written for is the one in the code (a changed regex text breaks this theorem).  It is the
tight pattern of `MatchesAmbiguity` with `\s*` allowed on both sides of each separator and a group around each
number; `uk2dt` / `us2dt` rewrite a matching text to `\1/\2/\3` before anything else (`slashes`, tied to the regex semantics
`MatchesPadded` by `slashes_iff`), so the dialect test and dateutil only ever see the tight form, and what the model's matcher does
on the tight text is tied to the regex semantics by `ambiguous_iff`. -/
theorem ambiguity_regex_is_modelled :
    Gen.re_ambiguity = "^([0-9]{1,2})\\s*[-/ .]\\s*([0-9]{1,2})\\s*[-/ .]\\s*([0-9]{2,4})" := rfl

/-! ### dt(dt2str(t)) == t -/

/-- `dt('yyyymmdd')` — four-digit year, two-digit month and day, no separator — is the date, in both dialects -/
theorem compact_text (uk : Bool) (y m d : Nat) (v : Valid y m d) : dtCs uk (pad4 y ++ pad2 m ++ pad2 d) = some (.ok (mkDate y m d)) := by
  have hl := valid_lt v
  rw [(PlainText.compact hl.1 hl.2.1 hl.2.2).dtCs, readAs_valid v, Int.add_zero, Int.add_zero, checkRange_mkDate y m d v]

/-- `dt(dt2str(t)) == t` for every datetime from 1000-01-01 to 9999-12-31, to the microsecond, in both dialects:
the text `dt2str` writes (`yyyymmdd` at midnight, ISO otherwise) is read back to the same instant -/
theorem dt2str_roundtrip (t : Int) (h0 : mkDate 1000 1 1 ≤ t) (h1 : t < MAXUS) (uk : Bool) :
    dtCs uk (dt2strCs t) = some (.ok t) := by
  have h1000 := mkDate_1000
  obtain ⟨y, m, d, hms, us, p, e⟩ := dt2strCs_plainText t (by omega) h1
  rw [p.dtCs, e]

/-- the same on strings: `dt(dt2str(t))` -/
theorem dt2str_roundtrip_str (t : Int) (h0 : mkDate 1000 1 1 ≤ t) (h1 : t < MAXUS) (uk : Bool) :
    dtStr uk (dt2str t) = some (.ok t) := by
  have h1000 := mkDate_1000
  obtain ⟨y, m, d, hms, us, p, e⟩ := dt2strCs_plainText t (by omega) h1
  rw [dt2str, p.dtStr, e]

-- non-vacuity: 2000-01-10T20:30:40.000050 (the docstring example of dt2str)
example : dt2str 63083133040000050 = "2000-01-10T20:30:40.000050" ∧ mkDate 1000 1 1 ≤ 63083133040000050 ∧ (63083133040000050 : Int) < MAXUS := by
  decide +kernel

/-! ### numpy / pandas timestamps (`np2dt`; PygModel/NpDate.lean)

`np2dt` is `t.astype(datetime.datetime)` plus a class dispatch; the dispatch is generated (`Gen.np2dt`, used through
`np2dt_dispatch`), numpy's and pandas' conversions are hand-modelled as integer arithmetic on the datetime64 `(value, unit)` and
sampled by correspondence (ops `np`, `np64`, `pd`, `pdns`).  `dtOfNp t u` = `dt(np.datetime64(t, u))`. -/

/-- `dt(np.datetime64(t, unit))` for every datetime `t` (year 1..9999, to the microsecond) and every fixed-length unit that divides
a day — D, h, m, s, ms, us —: `t` truncated to the unit (`t - t % k`, `k` = microseconds per unit).  For D numpy hands back a
`datetime.date`, which the generated dispatch rebuilds as a datetime at midnight; for the finer units the datetime is returned as is. -/
theorem np2dt_roundtrip (u : NpUnit) (k : Int) (hk : u.micros = some k) (hW : u ≠ .W) (t : Int) (h0 : 0 ≤ t) (h1 : t < MAXUS) :
    dtOfNp t u = some (.datetime (t - t % k)) := by
  obtain ⟨hpos, c, _, hc⟩ := micros_dvd_day u k hk hW
  have := np2dt_fixed u k hk t (by rw [emod_epoch k c t hc]; exact floor_nonneg t k h0 hpos) h1
  rwa [emod_epoch k c t hc] at this

/-- weeks: numpy counts them from 1970-01-01 (a Thursday), so the truncation is to the last Thursday; from 0001-01-04 on (the week of
0001-01-01 starts in year 0, which `datetime` cannot represent) -/
theorem np2dt_roundtrip_week (t : Int) (h0 : 3 * DAYUS ≤ t) (h1 : t < MAXUS) :
    dtOfNp t .W = some (.datetime (t - (t - EPOCH) % 604800000000)) := by
  have hE := EPOCH_val
  unfold DAYUS at h0
  exact np2dt_fixed .W _ rfl t (by omega) h1

/-- calendar months and years (`datetime64[M]`, `[Y]`): the first day of the month / year of `t` -/
theorem np2dt_roundtrip_month (t : Int) (h0 : 0 ≤ t) (h1 : t < MAXUS) :
    dtOfNp t .M = some (.datetime (mkDate (ymdOf t).y (ymdOf t).m 1)) ∧ dtOfNp t .Y = some (.datetime (mkDate (ymdOf t).y 1 1)) := by
  have v := (date_of_instant t ⟨h0, h1⟩).1
  have vv := valid_first v
  have v := v.bounds
  constructor
  · have hi : (Dt64.mk ((((ymdOf t).y : Int) - 1970) * 12 + (((ymdOf t).m : Int) - 1)) .M).instant = some (mkDate (ymdOf t).y (ymdOf t).m 1) := by
      simp only [Dt64.instant]
      have e1 : (1970 : Int) + ((((ymdOf t).y : Int) - 1970) * 12 + (((ymdOf t).m : Int) - 1)) / 12 = (ymdOf t).y := by omega
      have e2 : ((((ymdOf t).y : Int) - 1970) * 12 + (((ymdOf t).m : Int) - 1)) % 12 + 1 = (ymdOf t).m := by omega
      rw [e1, e2, if_pos (by omega)]; simp
    simp only [dtOfNp, dt64Of, Option.bind_some]
    rw [dtNp_date _ _ hi rfl, dropTime_mkDate _ _ _ vv.1]
  · have hi : (Dt64.mk (((ymdOf t).y : Int) - 1970) .Y).instant = some (mkDate (ymdOf t).y 1 1) := by
      simp only [Dt64.instant]
      have e1 : (1970 : Int) + (((ymdOf t).y : Int) - 1970) = (ymdOf t).y := by omega
      rw [e1, if_pos (by omega)]; simp
    simp only [dtOfNp, dt64Of, Option.bind_some]
    rw [dtNp_date _ _ hi rfl, dropTime_mkDate _ _ _ vv.2]

/-- nanoseconds, where representable (the count fits int64): numpy hands back an int, the dispatch answers `pd.Timestamp(x)`, the
Timestamp of that very instant — Python's `==` with `t` holds (`eqDatetime`: equal instants) -/
theorem np2dt_roundtrip_ns (t : Int) (h : -9223372036854775808 < (t - EPOCH) * 1000 ∧ (t - EPOCH) * 1000 < 9223372036854775808) :
    dtOfNp t .ns = some (.stamp ((t - EPOCH) * 1000)) ∧ (PyTime.stamp ((t - EPOCH) * 1000)).eqDatetime t := by
  constructor
  · simp only [dtOfNp, dt64Of, if_pos h, Option.bind_some]
    exact dtNp_ns _ h
  · simp only [PyTime.eqDatetime, PyTime.instantNs, Option.some.injEq]; omega

/-- every datetime from 1677-09-22 to 2262-04-10 has a `datetime64[ns]` (the int64 range is 1677-09-21T00:12:43.145224193 ..
2262-04-11T23:47:16.854775807) -/
theorem ns_representable (t : Int) (h0 : mkDate 1677 9 22 ≤ t) (h1 : t < mkDate 2262 4 11) :
    -9223372036854775808 < (t - EPOCH) * 1000 ∧ (t - EPOCH) * 1000 < 9223372036854775808 := by
  have hE := EPOCH_val
  have a := mkDate_1677_9_22
  have b := mkDate_2262_4_11
  omega

/-- `dt(pd.Timestamp(t))`: a Timestamp is a datetime, `dt` returns it unchanged, it is the same instant as `t` (`==`), and `ymd` of
it is midnight of `t`'s day — for every `t` -/
theorem pandas_roundtrip (t : Int) :
    dtStamp (stampOf t) = some (stampOf t) ∧ (stampOf t).eqDatetime t ∧ ymdPy (stampOf t) = some (dropTime t) := by
  refine ⟨rfl, ?_, ?_⟩
  · simp only [stampOf, PyTime.eqDatetime, PyTime.instantNs, Option.some.injEq]; omega
  · simp only [stampOf, ymdPy, Option.some.injEq]; congr 1; omega

/-- the clause as the property states it: for every `t` of 1900-01-01 .. 2299-12-31 (to the microsecond) `dt` of the numpy timestamp
`np.datetime64(t, u)` is `t` itself for `us`, and for u ∈ {D, h, m, s, ms} when `t` has no finer part (the truncation in general is
`np2dt_roundtrip`); for `ns` (t before 2262-04-11) it is a Timestamp equal to `t` -/
theorem numpy_timestamp (t : Int) (h0 : mkDate 1900 1 1 ≤ t) (h1 : t < mkDate 2300 1 1) :
    dtOfNp t .us = some (.datetime t)
    ∧ (∀ u k, u.micros = some k → u ≠ .W → t % k = 0 → dtOfNp t u = some (.datetime t))
    ∧ (t < mkDate 2262 4 11 → ∃ x, dtOfNp t .ns = some x ∧ x.eqDatetime t) := by
  obtain ⟨w, _, hr⟩ := window_of_range t h0 h1
  have c := mkDate_1677_9_22
  unfold DAYUS at w
  refine ⟨?_, ?_, ?_⟩
  · have := np2dt_roundtrip .us 1 rfl (by decide) t hr.1 hr.2
    rw [this]; congr 2; omega
  · intro u k hk hW hz
    rw [np2dt_roundtrip u k hk hW t hr.1 hr.2, hz]; simp
  · intro h2
    have := np2dt_roundtrip_ns t (ns_representable t (by omega) h2)
    exact ⟨_, this.1, this.2⟩

/-- `ymd(np.datetime64(t, u))` for the units D … us and ns: midnight of `t`'s day (truncating to the unit never leaves the day) -/
theorem numpy_ymd (u : NpUnit) (k : Int) (hk : u.micros = some k) (hW : u ≠ .W) (t : Int) (h0 : 0 ≤ t) (h1 : t < MAXUS) :
    (dtOfNp t u).bind ymdPy = some (dropTime t) := by
  obtain ⟨hpos, c, _, hc⟩ := micros_dvd_day u k hk hW
  have hlt : t - t % k < MAXUS := by have := Int.emod_nonneg t (Int.ne_of_gt hpos); omega
  rw [np2dt_roundtrip u k hk hW t h0 h1]
  simp only [Option.bind_some, ymdPy, Option.some.injEq]
  rw [dropTime_sub_tod _ (floor_nonneg t k h0 hpos) hlt, dropTime_sub_tod t h0 h1]
  exact day_of_floor k c t hpos hc

theorem numpy_ymd_ns (t : Int)
    (h : -9223372036854775808 < (t - EPOCH) * 1000 ∧ (t - EPOCH) * 1000 < 9223372036854775808) :
    (dtOfNp t .ns).bind ymdPy = some (dropTime t) := by
  rw [(np2dt_roundtrip_ns t h).1]
  simp only [Option.bind_some, ymdPy, Option.some.injEq]
  congr 1; omega
example : dtOfNp 63083133040000050 .ms = some (.datetime 63083133040000000) ∧ dtOfNp 63083133040000050 .D = some (.datetime 63083059200000000)
    ∧ dtOfNp 63083133040000050 .W = some (.datetime 63082713600000000) ∧ dtOfNp 63083133040000050 .M = some (.datetime (mkDate 2000 1 1))
    ∧ dtOfNp 63083133040000050 .ns = some (.stamp 947536240000050000) := by decide +kernel
/-- no `datetime64[ns]` of 2299-12-31 exists (numpy wraps the count around silently): outside "where representable" -/
example : dt64Of (mkDate 2299 12 31) .ns = none := by decide +kernel
/-- a Timestamp between two microseconds is not equal to either datetime (outside the property: `t` is a datetime) -/
example : dtNp ⟨947536240000050001, .ns⟩ = some (.stamp 947536240000050001) ∧ ¬ (PyTime.stamp 947536240000050001).eqDatetime 63083133040000050 := by
  decide +kernel

/-! ### the Gregorian round trip the clauses above rest on (`Lemmas/GregLemmas.lean`) -/

/-- `Greg.chkOrd n` (the boolean form of "`fromOrd n` is a calendar date whose ordinal is `n`") holds on every ordinal of the
library's range 1900-01-01 .. 2299-12-31; an instance of `chkOrd_all`, which covers 1 .. 3652059 -/
theorem greg_cycle_swept (n : Nat) (h1 : ordMin ≤ n) (h2 : n < ordMax) : chkOrd n = true :=
  chkOrd_all n (by unfold ordMin at h1; omega) (by unfold ordMax at h2; omega)

/-- date → ordinal → date for every date `datetime` represents (years 1..9999) -/
theorem greg_roundtrip (y m d : Nat) (v : Valid y m d) : fromOrd (ord y m d) = ⟨y, m, d⟩ := fromOrd_ord_all y m d v.toU

/-- ordinal → date → ordinal for every ordinal `1 .. 3652059` -/
theorem greg_roundtrip_ord (n : Nat) (h1 : 1 ≤ n) (h2 : n ≤ 3652059) :
    Valid (fromOrd n).y (fromOrd n).m (fromOrd n).d ∧ ord (fromOrd n).y (fromOrd n).m (fromOrd n).d = n :=
  ord_fromOrd_all n h1 h2

/-- the fields `(t.year, t.month, t.day)` of `datetime(y, m, d)` are `(y, m, d)` -/
theorem fields_of_date (y m d : Nat) (v : Valid y m d) : ymdOf (mkDate y m d) = ⟨y, m, d⟩ := ymdOf_mkDate y m d v

/-! ### `dt(date)` and `ymd()`: the time of day is dropped -/

/-- `dt(date)`: the model function of the `datetime.date` branch (`datetime(t.year, t.month, t.day)`, `dtDate`, used by the driver's
`date` op) returns midnight of that date — every date of years 1..9999 -/
theorem dt_of_date (t : Int) (h0 : 0 ≤ t) (h1 : t < MAXUS) (hm : todOf t = 0) : dtDate t = .ok t := by
  unfold dtDate; rw [dropTime_sub_tod t h0 h1, hm, Int.sub_zero]

theorem dt_of_date_ymd (y m d : Nat) (v : Valid y m d) : dtDate (mkDate y m d) = .ok (mkDate y m d) := by
  unfold dtDate; rw [dropTime_mkDate y m d v]

example : dtDate (mkDate 2000 2 29) = .ok (mkDate 2000 2 29) := dt_of_date_ymd 2000 2 29 (by decide)

/-- `ymd(t)` is midnight of the same day, for every representable datetime -/
theorem ymd_drops_time (t : Int) (h0 : 0 ≤ t) (h1 : t < MAXUS) :
    dropTime t = ofOrd (ordOf t) ∧ dropTime t = t - todOf t :=
  ⟨dropTime_ofOrd t h0 h1, dropTime_sub_tod t h0 h1⟩

example : dropTime 63083133040000050 = 63083059200000000 := by decide +kernel   -- 2000-01-10T20:30:40.000050 -> 2000-01-10

/-! ### the `'yyyymmdd'` string -/

/-- **the `'yyyymmdd'` string** (the clause itself): for every calendar date
of the years 0001 … 9999 (`Valid`), in both dialects, `dt('yyyymmdd')` — four-digit year, two-digit month and day, no separator —
is the date, and so is `ymd('yyyymmdd')` -/
theorem compact_str (uk : Bool) (y m d : Nat) (v : Valid y m d) :
    dtStr uk (String.ofList (pad4 y ++ pad2 m ++ pad2 d)) = some (.ok (mkDate y m d)) ∧
    ymdCs uk (squeeze (slashes (strip (pad4 y ++ pad2 m ++ pad2 d)))) = some (.ok (mkDate y m d)) := by
  have hcs := compact_text uk y m d v
  refine ⟨?_, ?_⟩
  · rw [dtStr_ofList, pre_compact]; exact hcs
  · rw [pre_compact]
    exact ymd_of_text uk (pad4 y ++ pad2 m ++ pad2 d) y m d v 0 (by unfold DAYUS; omega) (by simpa using hcs)

/-- `'yyyymmdd'` is the text `dt2str` writes for a date: `dt2str(datetime(y, m, d)) = 'yyyymmdd'` -/
theorem dt2str_of_date (y m d : Nat) (v : Valid y m d) : dt2str (mkDate y m d) = String.ofList (pad4 y ++ pad2 m ++ pad2 d) := by
  unfold dt2str dt2strCs
  have hf := fields_of_date y m d v
  have ht : todOf (mkDate y m d) = 0 := by unfold todOf mkDate ofOrd DAYUS; omega
  simp only [hf, ht]
  rfl

example : dtStr true "20000113" = some (.ok (mkDate 2000 1 13)) ∧ dtStr false "22991231" = some (.ok (mkDate 2299 12 31)) :=
  ⟨(compact_str true 2000 1 13 (by decide)).1, (compact_str false 2299 12 31 (by decide)).1⟩

end Pyg.Props.C04
