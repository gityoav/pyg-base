/-
  C18 — decorators are transparent: same results, same signature, no double wrapping.
-/
import PygModel.Try
import PygProofs.Lemmas.ResDec  -- `DecidableEq (Res α)`, for the `decide` examples
import PygProofs.Lemmas.WrapHistLemmas
import PygProofs.Lemmas.HeapStep

namespace Pyg.Props.C18

/-! ## argument binding

`bindRef s c` is python's own binding of the call `c = f(*args, **kw)` for a function with signature `s`
(the model's assumption, compared with `inspect.getcallargs` and with real calls on every run);
`getcallargs` and `recall` are the library's code.  A *valid call* is one python can bind:
`bindRef s c = .ok b`.  Dicts are compared like python dicts (`PDict.Eqv`: same value under every key). -/

/-- **getcallargs agrees with inspect.getcallargs on every valid call** — every signature (any number of
parameters, trailing defaults, with/without `*args` and `**kwargs`), every way of passing the arguments. -/
theorem getcallargs_agrees (s : Sig) (hs : s.WF) (c : Call) (hkw : (c.kw.map (·.1)).Nodup) (b : PDict)
    (h : bindRef s c = .ok b) : ∃ b', getcallargs s c = .ok b' ∧ PDict.Eqv b' b := by
  obtain ⟨hA, hB, _, hD, hbeq⟩ := bindRef_ok s c b h
  have hdup : ¬ ((s.params.zip c.args).any fun p => c.kw.has p.1) = true := by
    rw [List.any_eq_true]
    rintro ⟨p, hp, hhas⟩
    simp only [PDict.has, List.any_eq_true, beq_iff_eq] at hhas
    obtain ⟨q, hq, e⟩ := hhas
    exact Bool.false_ne_true (hB ▸ List.any_eq_true.2 ⟨q, hq, by simpa [e] using zip_fst_mem_take _ _ p hp⟩)
  -- the keywords the library writes last are those that name a parameter
  have hlast : (if s.varkw = none then c.kw else c.kw.filter fun p => s.params.contains p.1) =
      c.kw.filter fun p => s.params.contains p.1 := by
    split
    · rename_i hv
      exact (List.filter_eq_self.2 fun p hp => List.contains_iff_mem.2 (bindRef_declared s hv c b h p hp)).symm
    · rfl
  rw [getcallargs_eq, if_neg hdup, if_neg fun hn => hA ⟨hn.2, hn.1⟩, hlast]
  refine ⟨_, rfl, fun k => ?_⟩
  rw [hbeq, List.lookup_append, List.lookup_map_key, starEntries_lookup,
    PDict.lookup_update_nodup _ _ (List.nodup_keys_filter _ hkw), lookup_setOpt, lookup_setOpt]
  by_cases hk : k ∈ s.params
  · have h1 : s.varargs ≠ some k := fun e => hs.2.2.1 k e hk
    have h2 : s.varkw ≠ some k := fun e => hs.2.2.2.1 k e hk
    obtain ⟨v, hv⟩ := Option.isSome_iff_exists.1 (List.all_eq_true.1 hD k hk)
    rw [if_neg h1, if_neg h2, if_pos hk, param_lookup s hs c hB k hk, Option.some_or, hv]
    rfl
  · have hf : (c.kw.filter fun p => s.params.contains p.1).lookup k = none := by
      rw [List.lookup_filter_key c.kw (fun n => s.params.contains n) k, if_neg (by simpa using hk)]
    rw [if_neg hk, hf, lookup_defaults_update_of_not_param s c k hk, Option.none_or, Option.none_or]
    by_cases h1 : s.varargs = some k
    · have h2 : s.varkw ≠ some k := fun e => hs.2.2.2.2 k k h1 e rfl
      rw [if_pos h1, if_neg h2, if_pos h1]
    · rw [if_neg h1, if_neg h1]

/-- **call_with_callargs(f, getcallargs(f, *a, **k)) == f(*a, **k)**: on a valid call `getcallargs` succeeds,
`call_with_callargs` makes a call, python binds that call to exactly the original binding — so any function
body computes (or raises) the same. -/
theorem call_with_callargs_roundtrip (s : Sig) (hs : s.WF) (c : Call) (hkw : (c.kw.map (·.1)).Nodup)
    (b : PDict) (h : bindRef s c = .ok b) :
    ∃ b' c', getcallargs s c = .ok b' ∧ recall s b' = .ok c' ∧ bindRef s c' = .ok b ∧
      ∀ body : PDict → Res Val, applyFn s body c' = applyFn s body c := by
  obtain ⟨b', hg, he⟩ := getcallargs_agrees s hs c hkw b h
  obtain ⟨_, _, _, _, hb⟩ := bindRef_ok s c b h
  have hr := recall_of_eqv s hs c b' (nodup_getcallargs s hs c b' hg) (hb ▸ he)
  have hb' := bindRef_recalled s c b h
  exact ⟨b', recalled s c, hg, hr, hb', fun body => applyFn_congr body (hb'.trans h.symm)⟩

/-- non-vacuity: `f(a, b=2, *args, **kw)` called as `f(1, 2, 3, x=4)` and as `f(b=5, a=1)` -/
example :
    let s : Sig := { params := ["a", "b"], defaults := [.cell (.int 2)], varargs := some "args", varkw := some "kw" }
    s.WF ∧
    bindRef s { args := [.cell (.int 1), .cell (.int 2), .cell (.int 3)], kw := [("x", .cell (.int 4))] } =
      .ok [("a", .cell (.int 1)), ("b", .cell (.int 2)), ("args", .tuple [.cell (.int 3)]),
           ("kw", .dict [("x", .cell (.int 4))])] ∧
    bindRef s { args := [], kw := [("b", .cell (.int 5)), ("a", .cell (.int 1))] } =
      .ok [("a", .cell (.int 1)), ("b", .cell (.int 5)), ("args", .tuple []), ("kw", .dict [])] ∧
    getcallargs s { args := [], kw := [("b", .cell (.int 5)), ("a", .cell (.int 1))] } =
      .ok [("b", .cell (.int 5)), ("args", .tuple []), ("kw", .dict []), ("a", .cell (.int 1))] := by
  refine ⟨⟨by decide, by decide, ?_, ?_, ?_⟩, by decide, by decide, by decide⟩
  · intro n h; cases h; decide
  · intro n h; cases h; decide
  · intro n m h1 h2; cases h1; cases h2; decide

/-- **kwargs_support makes a function ignore exactly the keywords it does not declare**: undeclared keywords
make no difference to the call that reaches `f`, and every declared keyword still reaches it. -/
theorem kwargs_support_ignores_exactly (s : Sig) (c : Call) (junk : PDict) (hj : ∀ p ∈ junk, p.1 ∉ s.params) :
    kwFilter s { c with kw := c.kw ++ junk } = kwFilter s c ∧
    ∀ p ∈ c.kw, p.1 ∈ s.params → p ∈ (kwFilter s c).kw := by
  constructor
  · exact kwFilter_append_junk s c junk hj
  · intro p hp hd
    simp only [kwFilter, List.mem_filter]
    exact ⟨hp, by simpa using hd⟩

/-- for a function without `**kwargs` the filter of `kwargs_support` leaves every valid call as it is -/
theorem kwargs_support_transparent (s : Sig) (hv : s.varkw = none) (c : Call) (b : PDict)
    (h : bindRef s c = .ok b) : kwFilter s c = c :=
  kwFilter_eq_self s c (bindRef_declared s hv c b h)

/-- **the clause at the level of results**: for a function without `**kwargs`, `kwargs_support(f)` called with a
valid call of `f` PLUS any undeclared keywords returns (or raises) exactly what `f` returns on the valid call —
the undeclared keywords are ignored, every declared one reaches `f`. -/
theorem kwargs_support_result (s : Sig) (hv : s.varkw = none) (body : PDict → Res Val) (c : Call) (b : PDict)
    (h : bindRef s c = .ok b) (junk : PDict) (hj : ∀ p ∈ junk, p.1 ∉ s.params) (p : PDict) :
    evalChain s body [(.kwargsSupport, p)] { c with kw := c.kw ++ junk } = applyFn s body c := by
  simp only [evalChain]
  rw [(kwargs_support_ignores_exactly s c junk hj).1, kwargs_support_transparent s hv c b h]

/-- non-vacuity: `f(a, b=2)` called as `kwargs_support(f)(1, b=5, zz=9)` -/
example :
    let s : Sig := { params := ["a", "b"], defaults := [.cell (.int 2)], varargs := none, varkw := none }
    evalChain s recBody [(.kwargsSupport, [])] { args := [.cell (.int 1)], kw := [("b", .cell (.int 5)), ("zz", .cell (.int 9))] } =
      .ok (.dict [("a", .cell (.int 1)), ("b", .cell (.int 5))]) ∧
    applyFn s recBody { args := [.cell (.int 1)], kw := [("b", .cell (.int 5)), ("zz", .cell (.int 9))] } = .error .type := by
  decide

/-- `kwargs_support` is NOT transparent for a function with `**kwargs` (finding K1): `kwargs_support(lambda **kw: kw)(zz=9)` returns `{}`.
The transparency clause of the property is false of the code there; this is the witness. -/
theorem kwargs_support_not_transparent_varkw :
    ∃ (s : Sig) (c : Call) (b : PDict), s.WF ∧ bindRef s c = .ok b ∧
      applyFn s recBody (kwFilter s c) ≠ applyFn s recBody c := by
  refine ⟨{ params := [], defaults := [], varargs := none, varkw := some "kw" },
    { args := [], kw := [("zz", .cell (.int 9))] }, [("kw", .dict [("zz", .cell (.int 9))])], ?_, by decide, ?_⟩
  · refine ⟨by decide, by decide, ?_, ?_, ?_⟩
    · intro n h; cases h
    · intro n h; simp
    · intro n m h; cases h
  · decide

/-- a `try_value` layer with a truthy `return_value`: when the stack below returns `v` the layer returns `v`, when it raises the
layer returns its `value` parameter (two implications; the iff about the code is `try_value_fallback_iff`) -/
theorem try_fallback_iff (s : Sig) (body : PDict → Res Val) (p : PDict) (rest : List (Cls × PDict)) (c : Call)
    (hp : returnsValue p = true) :
    (∀ v, evalChain s body rest c = .ok v → evalChain s body ((.tryValue, p) :: rest) c = .ok v) ∧
    (∀ e, evalChain s body rest c = .error e →
      evalChain s body ((.tryValue, p) :: rest) c = .ok ((p.lookup "value").getD (.cell .none))) := by
  constructor <;> intro x hx <;> simp [evalChain, hx, hp]

/-- a `try_back` layer: when the stack below returns `v` the layer returns `v`, when it raises the layer returns the first argument
of the call (two implications) -/
theorem try_back_fallback_iff (s : Sig) (body : PDict → Res Val) (p : PDict) (rest : List (Cls × PDict))
    (c : Call) :
    (∀ v, evalChain s body rest c = .ok v → evalChain s body ((.tryBack, p) :: rest) c = .ok v) ∧
    (∀ e, evalChain s body rest c = .error e →
      evalChain s body ((.tryBack, p) :: rest) c = .ok (firstArg s c)) := by
  constructor <;> intro x hx <;> simp [evalChain, hx]

/-! ### `try_*` with `except Exception` (finding K8)

`tryValueCodeB` / `tryBackCodeB` (PygModel/Try.lean) are the statements of `try_value.wrapped` / `try_back.wrapped` over an
arbitrary wrapped function, with a handler that catches exactly the exceptions `catches` says are `Exception`s. -/

/-- when every exception is an `Exception` the code is `tryValueCode` / `tryBackCode` of the next section -/
theorem tryValueCodeB_all {A E V : Type} (f : A → Except E V) (rep : Nat) (rv : Bool) (value : V) (a : A) :
    tryValueCodeB (fun _ => true) f rep rv value a = tryValueCode f rep rv value a := by
  induction rep with
  | zero => unfold tryValueCodeB tryValueCode; cases f a <;> simp
  | succ n ih => unfold tryValueCodeB tryValueCode; cases f a <;> simp [ih]

theorem tryBackCodeB_all {A E V : Type} (f : A → Except E V) (first : A → V) (a : A) :
    tryBackCodeB (fun _ => true) f first a = tryBackCode f first a := by
  unfold tryBackCodeB tryBackCode; cases f a <;> simp

/-- **try_value with `except Exception`** (any `repeat`, `return_value` true): f's result when f returns, the fallback when f
raises an `Exception`, and the exception itself when f raises anything else -/
theorem try_value_base_spec {A E V : Type} (catches : E → Bool) (f : A → Except E V) (rep : Nat) (value : V) (a : A) :
    tryValueCodeB catches f rep true value a = resultOrB catches (f a) value := by
  induction rep with
  | zero => unfold tryValueCodeB resultOrB; cases f a <;> simp
  | succ n ih =>
    unfold tryValueCodeB
    cases h : f a with
    | ok v => simp [resultOrB]
    | error e =>
      simp only [ih, h]
      cases hc : catches e <;> simp [resultOrB, hc]

/-- "exactly when", as the code has it: the fallback is returned iff f raises an `Exception` (or returns the fallback itself) -/
theorem try_value_fallback_iff_base {A E V : Type} (catches : E → Bool) (f : A → Except E V) (rep : Nat) (value : V) (a : A) :
    tryValueCodeB catches f rep true value a = .ok value ↔
      (∃ e, f a = .error e ∧ catches e = true) ∨ f a = .ok value := by
  rw [try_value_base_spec]
  cases f a with
  | ok v => simp [resultOrB]
  | error e => cases hc : catches e <;> simp [resultOrB, hc]

/-- `try_value` with `except Exception` raises iff f raises something that is not an `Exception` - then that very exception -/
theorem try_value_raises_iff {A E V : Type} (catches : E → Bool) (f : A → Except E V) (rep : Nat) (value : V) (a : A) (e : E) :
    tryValueCodeB catches f rep true value a = .error e ↔ f a = .error e ∧ catches e = false := by
  rw [try_value_base_spec]
  cases f a with
  | ok v => simp [resultOrB]
  | error e' =>
    cases hc : catches e' with
    | false => simp [resultOrB, hc]; rintro rfl; exact hc
    | true => simp [resultOrB, hc]; rintro rfl; exact hc

theorem try_value_no_return_base_spec {A E V : Type} (catches : E → Bool) (f : A → Except E V) (rep : Nat) (value : V)
    (a : A) : tryValueCodeB catches f rep false value a = f a := by
  induction rep with
  | zero => unfold tryValueCodeB; rfl
  | succ n ih =>
    unfold tryValueCodeB
    cases h : f a with
    | ok v => rfl
    | error e => cases hc : catches e <;> simp [ih, h]

theorem try_back_base_spec {A E V : Type} (catches : E → Bool) (f : A → Except E V) (first : A → V) (a : A) :
    tryBackCodeB catches f first a = resultOrB catches (f a) (first a) := by
  unfold tryBackCodeB resultOrB; cases f a <;> rfl

/-- **Finding K8: "return their fallback exactly when f raises" is false of the code for a `BaseException` that is not an
`Exception`**: `try_none(f)` where `f` raises `KeyboardInterrupt` (exception `false`, not caught) raises it, for every `repeat`;
an ordinary exception (`true`) gives the fallback. -/
theorem try_value_base_exception_propagates (rep : Nat) :
    tryValueCodeB (fun e : Bool => e) (fun _ : Unit => (.error false : Except Bool Nat)) rep true 0 () = .error false ∧
    tryValueCodeB (fun e : Bool => e) (fun _ : Unit => (.error true : Except Bool Nat)) rep true 0 () = .ok 0 := by
  constructor
  · exact (try_value_raises_iff _ _ rep 0 () false).2 ⟨rfl, rfl⟩
  · exact (try_value_fallback_iff_base _ _ rep 0 ()).2 (Or.inl ⟨true, rfl, rfl⟩)

/-! ### the `try_*` clause against an independent reading

`tryValueCode` / `tryBackCode` (PygModel/Try.lean) are the statements of `try_value.wrapped` / `try_back.wrapped`
over an ARBITRARY wrapped function `f : A → Except E V` — no signature, no binding, no chain.  The clause "try_*
wrappers return their fallback exactly when f raises" is: the wrapped call returns
`resultOr (f a) fallback = match f a with | ok v => v | error _ => fallback`.  They are the case of the code above in which
every exception is an `Exception` (`tryValueCodeB_all`). -/

/-- **try_value (any `repeat`, `return_value` true): f's result when f returns, the fallback when f raises** -/
theorem try_value_spec {A E V : Type} (f : A → Except E V) (rep : Nat) (value : V) (a : A) :
    tryValueCode f rep true value a = .ok (resultOr (f a) value) := by
  rw [← tryValueCodeB_all, try_value_base_spec]
  cases f a <;> rfl

/-- `try_value`, "exactly when": the fallback is returned iff `f` raises (or returns the fallback itself) -/
theorem try_value_fallback_iff {A E V : Type} (f : A → Except E V) (rep : Nat) (value : V) (a : A) :
    tryValueCode f rep true value a = .ok value ↔ (∃ e, f a = .error e) ∨ f a = .ok value := by
  rw [try_value_spec]
  cases f a with
  | ok v => simp [resultOr]
  | error e => simp [resultOr]

/-- with `return_value = False` nothing is caught in the end: the wrapped call is `f`'s -/
theorem try_value_no_return_spec {A E V : Type} (f : A → Except E V) (rep : Nat) (value : V) (a : A) :
    tryValueCode f rep false value a = f a := by
  rw [← tryValueCodeB_all, try_value_no_return_base_spec]

/-- **try_back: f's result when f returns, the first argument when f raises** -/
theorem try_back_spec {A E V : Type} (f : A → Except E V) (first : A → V) (a : A) :
    tryBackCode f first a = .ok (resultOr (f a) (first a)) := by
  unfold tryBackCode; cases f a <;> rfl

/-- `try_value_spec` at `repeat = 0` for the values of `tryPresets` (`try_nan`, `try_zero`, `try_none`, `try_true`, `try_false`,
`try_list`); membership in the list plays no part in the proof -/
theorem try_presets_spec {A E : Type} (f : A → Except E Val) (a : A) :
    ∀ nv ∈ tryPresets, tryValueCode f 0 true nv.2 a = .ok (resultOr (f a) nv.2) :=
  fun nv _ => try_value_spec f 0 nv.2 a

/-- the `try_value` layer of a stack is `tryValueCode`, run on the stack below it -/
theorem evalChain_tryValue_eq (s : Sig) (body : PDict → Res Val) (p : PDict) (rest : List (Cls × PDict)) (c : Call) :
    evalChain s body ((.tryValue, p) :: rest) c =
      tryValueCode (evalChain s body rest) (repeatOf p)
        (returnsValue p) ((p.lookup "value").getD (.cell .none)) c := by
  cases hp : returnsValue p
  · simp only [try_value_no_return_spec, evalChain, hp]
    cases evalChain s body rest c <;> simp
  · simp only [try_value_spec, evalChain, hp]
    cases evalChain s body rest c <;> simp [resultOr]

/-- the `try_back` layer of a stack is `tryBackCode`, run on the stack below it -/
theorem evalChain_tryBack_eq (s : Sig) (body : PDict → Res Val) (p : PDict) (rest : List (Cls × PDict)) (c : Call) :
    evalChain s body ((.tryBack, p) :: rest) c = tryBackCode (evalChain s body rest) (firstArg s) c := by
  simp only [evalChain, tryBackCode]
  cases evalChain s body rest c <;> rfl

/-- **try_value in a stack** (`return_value` not False): what the stack below returns, else the fallback -/
theorem try_value_stack_spec (s : Sig) (body : PDict → Res Val) (p : PDict) (rest : List (Cls × PDict)) (c : Call)
    (hp : returnsValue p = true) :
    evalChain s body ((.tryValue, p) :: rest) c =
      .ok (resultOr (evalChain s body rest c) ((p.lookup "value").getD (.cell .none))) := by
  rw [evalChain_tryValue_eq, hp, try_value_spec]

/-- non-vacuity: `try_zero(f)` on a raising and on a returning call, `repeat = 2` -/
example :
    tryValueCode (fun n : Nat => if n = 0 then Except.error "boom" else Except.ok (10 / n)) 2 true 0 0 = .ok 0 ∧
    tryValueCode (fun n : Nat => if n = 0 then (Except.error "boom" : Except String Nat) else .ok (10 / n)) 2 true 0 5 = .ok 2 :=
  ⟨rfl, rfl⟩

/-! ## transparency of a stack

The three exclusions are findings about the code: a keyword called `axis` is consumed by `loops` (K4), an int ndarray is
converted by `pd2np` (K6), an undeclared keyword is dropped by `kwargs_support` (K1).  Each is asked only of a stack that holds
the decorator that causes it. -/

/-- `loops` is NOT transparent for a keyword argument called `axis` (finding K4): it is consumed by the decorator
even when the first argument is not a container, `loop(list)(lambda a, axis=0: (a, axis))(1, axis=5) == (1, 0)`.
The transparency clause of the property is false of the code there; this is the witness. -/
theorem loops_swallows_axis :
    ∃ (s : Sig) (c : Call) (b : PDict), s.WF ∧ bindRef s c = .ok b ∧
      evalChain s recBody [(.loops, [])] c ≠ applyFn s recBody c := by
  refine ⟨{ params := ["a", "axis"], defaults := [.cell (.int 0)], varargs := none, varkw := none },
    { args := [.cell (.int 1)], kw := [("axis", .cell (.int 5))] },
    [("a", .cell (.int 1)), ("axis", .cell (.int 5))], ?_, by decide, by decide⟩
  refine ⟨by decide, by decide, ?_, ?_, ?_⟩
  · intro n h; cases h
  · intro n h; cases h
  · intro n m h; cases h

/-- `pd2np` is NOT transparent for an int ndarray argument (finding K6): on non-pandas input it still runs
`_int2float` over the arguments, so f receives a float array (`~arr:f:…`) where an int array (`~arr:…`) was passed —
documented ("will also convert int numpy arrays into floaters"), but the transparency clause of the property is false
of the code there; this is the witness: `pd2np(lambda a: a)(np.array([1, 2]))` has dtype float. -/
theorem pd2np_converts_int_array :
    ∃ (s : Sig) (c : Call) (b : PDict), s.WF ∧ bindRef s c = .ok b ∧ (∀ p ∈ c.kw, p.1 ∈ s.params) ∧
      evalChain s recBody [(.pd2np, [])] c ≠ applyFn s recBody c ∧
      evalChain s recBody [(.pd2np, [])] c = applyFn s recBody (pd2npCall [] c) ∧
      applyFn s recBody c = .ok (.dict [("a", .cell (.str "~arr:1,2"))]) ∧
      evalChain s recBody [(.pd2np, [])] c = .ok (.dict [("a", .cell (.str "~arr:f:1,2"))]) := by
  refine ⟨{ params := ["a"], defaults := [], varargs := none, varkw := none },
    { args := [.cell (.str "~arr:1,2")], kw := [] }, [("a", .cell (.str "~arr:1,2"))], ?_, by decide +kernel,
    by simp, by decide +kernel, rfl, by decide +kernel, by decide +kernel⟩
  refine ⟨by decide, by decide, ?_, ?_, ?_⟩
  · intro n h; cases h
  · intro n h; cases h
  · intro n m h; cases h

/-- `pd2np` with `exc = ["b"]`: an int array inside a positional list is converted, the keyword `b` keeps its int array -/
example :
    let s : Sig := { params := ["a", "b"], defaults := [], varargs := none, varkw := none }
    evalChain s recBody [(.pd2np, [("exc", .list [.cell (.str "b")])])]
        { args := [.list [.cell (.str "~arr:1,2"), .cell (.int 3)]], kw := [("b", .cell (.str "~arr:4"))] } =
      .ok (.dict [("a", .list [.cell (.str "~arr:f:1,2"), .cell (.int 3)]), ("b", .cell (.str "~arr:4"))]) := by
  decide +kernel

/-- **Transparency of every stack, each exclusion only for the decorator that causes it.**  A valid call returns through
the stack what `f` returns; an undeclared keyword is excluded only when `kwargs_support` is in the stack (K1), a keyword
called `axis` only when `loops` is (K4), an int ndarray argument only when `pd2np` is (K6).  So `cache(f)(np.array([1,2]))`,
`try_value(cache(f))(1, axis=5)`, `try_back(f)(1, zz=2)` for `f(a, **kw)` are covered.  `stack_transparent` and
`stack_transparent_without_kwargs_support` are special cases. -/
theorem stack_transparent_sharp (s : Sig) (body : PDict → Res Val) :
    ∀ (chain : List (Cls × PDict)) (c : Call) (v : Val),
      (Cls.kwargsSupport ∈ classes chain → ∀ p ∈ c.kw, p.1 ∈ s.params) →
      (Cls.loops ∈ classes chain → ∀ p ∈ c.kw, p.1 ≠ "axis") →
      (Cls.pd2np ∈ classes chain → c.hasIntArr = false) →
      applyFn s body c = .ok v → evalChain s body chain c = .ok v :=
  fun chain c v hd hax hia h => (evalChain_transparent s body chain c hd hax hia (Or.inl ⟨v, h⟩)).trans h

/-- a stack without `try_*` returns or raises what `f` does, under the per-decorator conditions of `stack_transparent_sharp` (a
function with `**kw` called with extra keywords through `cache` / `loops` / `pd2np` included) -/
theorem stack_transparent_raise_sharp (s : Sig) (body : PDict → Res Val) :
    ∀ (chain : List (Cls × PDict)) (c : Call),
      (Cls.kwargsSupport ∈ classes chain → ∀ p ∈ c.kw, p.1 ∈ s.params) →
      (Cls.loops ∈ classes chain → ∀ p ∈ c.kw, p.1 ≠ "axis") →
      (Cls.pd2np ∈ classes chain → c.hasIntArr = false) →
      (∀ w ∈ chain, w.1 ≠ .tryValue ∧ w.1 ≠ .tryBack) → evalChain s body chain c = applyFn s body c :=
  fun chain c hd hax hia hc => evalChain_transparent s body chain c hd hax hia (Or.inr hc)

/-- **Transparency of every stack.** On a valid call that passes only declared keywords, none of them called
`axis` (see `loops_swallows_axis`), and no int ndarray among the arguments (see `pd2np_converts_int_array`), any stack
of `try_value / try_back / kwargs_support / cache (first call) / loops (non-container) / pd2np (non-pandas)` returns
what `f` returns. -/
theorem stack_transparent (s : Sig) (body : PDict → Res Val) :
    ∀ (chain : List (Cls × PDict)) (c : Call) (v : Val), (∀ p ∈ c.kw, p.1 ∈ s.params) →
      (∀ p ∈ c.kw, p.1 ≠ "axis") → c.hasIntArr = false → applyFn s body c = .ok v →
      evalChain s body chain c = .ok v :=
  fun chain c v hd hax hia h =>
  (evalChain_transparent s body chain c (fun _ => hd) (fun _ => hax) (fun _ => hia) (Or.inl ⟨v, h⟩)).trans h

/-- for a function without `**kwargs` that is every valid call (without a keyword called `axis`, without an int
ndarray argument) -/
theorem stack_transparent_no_varkw (s : Sig) (hv : s.varkw = none) (body : PDict → Res Val) (c : Call)
    (v : Val) (hax : ∀ p ∈ c.kw, p.1 ≠ "axis") (hia : c.hasIntArr = false) (h : applyFn s body c = .ok v)
    (chain : List (Cls × PDict)) :
    evalChain s body chain c = .ok v := by
  obtain ⟨b, hb, -⟩ := applyFn_eq_ok_iff.1 h
  exact stack_transparent s body chain c v (bindRef_declared s hv c b hb) hax hia h

/-- for a function with `**kwargs`, every stack that does not contain `kwargs_support` is transparent on
every valid call (what remains is finding K1) -/
theorem stack_transparent_without_kwargs_support (s : Sig) (body : PDict → Res Val) :
    ∀ (chain : List (Cls × PDict)) (c : Call) (v : Val), (∀ p ∈ c.kw, p.1 ≠ "axis") → c.hasIntArr = false →
      applyFn s body c = .ok v → (∀ w ∈ chain, w.1 ≠ .kwargsSupport) → evalChain s body chain c = .ok v :=
  fun chain c v hax hia h hc =>
  have hd : Cls.kwargsSupport ∈ classes chain → ∀ p ∈ c.kw, p.1 ∈ s.params := fun hm => by
    obtain ⟨w, hw, e⟩ := List.mem_map.1 hm
    exact absurd e (hc w hw)
  (evalChain_transparent s body chain c hd (fun _ => hax) (fun _ => hia) (Or.inl ⟨v, h⟩)).trans h

/-- a stack without `try_*` also raises what `f` raises -/
theorem stack_transparent_raise (s : Sig) (body : PDict → Res Val) :
    ∀ (chain : List (Cls × PDict)) (c : Call), (∀ p ∈ c.kw, p.1 ∈ s.params) → (∀ p ∈ c.kw, p.1 ≠ "axis") →
      c.hasIntArr = false →
      (∀ w ∈ chain, w.1 ≠ .tryValue ∧ w.1 ≠ .tryBack) → evalChain s body chain c = applyFn s body c :=
  fun chain c hd hax hia hc =>
  evalChain_transparent s body chain c (fun _ => hd) (fun _ => hax) (fun _ => hia) (Or.inr hc)

/-- **`kwargs_support` anywhere in a stack** (clause "kwargs_support makes a function without `**kwargs` ignore exactly the
keywords it does not declare", at the level of results and not only for the one-layer stack of `kwargs_support_result`): a
valid call of `f` PLUS any undeclared keywords `junk`, through ANY stack that contains `kwargs_support`, returns what `f`
returns on the valid call.  `loops` in the stack: no keyword called `axis` (K4); `pd2np` in the stack: no int ndarray (K6).
`try_value(kwargs_support(f))(1, zz=2)`, `kwargs_support(cache(f))(1, zz=2)`, `cache(kwargs_support(f))(…)` are instances. -/
theorem kwargs_support_in_stack (s : Sig) (hv : s.varkw = none) (body : PDict → Res Val) (junk : PDict)
    (hj : ∀ p ∈ junk, p.1 ∉ s.params) :
    ∀ (chain : List (Cls × PDict)) (c : Call) (v : Val),
      Cls.kwargsSupport ∈ classes chain →
      (Cls.loops ∈ classes chain → ∀ p ∈ c.kw ++ junk, p.1 ≠ "axis") →
      (Cls.pd2np ∈ classes chain → ({ c with kw := c.kw ++ junk } : Call).hasIntArr = false) →
      applyFn s body c = .ok v → evalChain s body chain { c with kw := c.kw ++ junk } = .ok v := by
  intro chain c v hk hax hia h
  obtain ⟨b, hb, -⟩ := applyFn_eq_ok_iff.1 h
  apply evalChain_ok
  rw [reach_junk s junk hj chain c hk hax hia]
  exact (Passes.applyFn_reach body chain (within_classes chain) ⟨fun _ => bindRef_declared s hv c b hb,
    fun hm q hq => hax hm q (List.mem_append_left _ hq), fun hm => hasIntArr_append_left c junk (hia hm)⟩).trans h

/-- non-vacuity: `try_value(kwargs_support(cache(f)))(1, b=5, zz=9)` for `f(a, b=2)`; and the converse witness: the same stack
WITHOUT `kwargs_support` raises python's TypeError (here turned into the fallback by `try_value`; bare: `.error .type`) -/
example :
    let s : Sig := { params := ["a", "b"], defaults := [.cell (.int 2)], varargs := none, varkw := none }
    let c : Call := { args := [.cell (.int 1)], kw := [("b", .cell (.int 5)), ("zz", .cell (.int 9))] }
    evalChain s recBody [(.tryValue, []), (.kwargsSupport, []), (.cache, [])] c =
      .ok (.dict [("a", .cell (.int 1)), ("b", .cell (.int 5))]) ∧
    evalChain s recBody [(.cache, []), (.loops, [])] c = .error .type := by
  decide

/-- non-vacuity of the sharp form: an int ndarray through `try_value(cache(f))`, a keyword `axis` through `cache`, an extra
keyword of a `**kw` function through `try_back` -/
example :
    let s : Sig := { params := ["a", "axis"], defaults := [.cell (.int 0)], varargs := none, varkw := some "kw" }
    evalChain s recBody [(.tryValue, []), (.cache, [])] { args := [.cell (.str "~arr:1,2")], kw := [("axis", .cell (.int 5)), ("zz", .cell (.int 1))] } =
      applyFn s recBody { args := [.cell (.str "~arr:1,2")], kw := [("axis", .cell (.int 5)), ("zz", .cell (.int 1))] } := by
  decide +kernel

/-! ### what the `pd2np` layer does to a call, through observations

`stack_transparent_sharp` uses `pd2npCall exc c = c` for calls without int ndarray.  The theorems below characterise the layer
independently of `int2float`'s own equations: it is the identity EXACTLY on the calls that hold no int ndarray, no int ndarray is
left after it, the number of positional arguments and the keyword names (in order) are kept, a keyword named in `exc` arrives as
passed and any other keyword arrives `int2float`-ed.  The code also keeps the class of a container argument (it passes the object
itself when no member changes); container classes are not in `Val`. -/

/-- no int ndarray among the arguments: the `pd2np` layer forwards the call it received, whatever `exc` is -/
theorem pd2np_identity_without_int_array (exc : List String) (c : Call) (h : c.hasIntArr = false) :
    pd2npCall exc c = c := pd2npCall_eq_self exc c h

/-- without `exc` the `pd2np` layer changes the call iff some argument holds an int ndarray -/
theorem pd2np_identity_iff_no_int_array (c : Call) : pd2npCall [] c = c ↔ c.hasIntArr = false := by
  cases c with
  | mk args kw =>
    simp only [pd2npCall, Call.mk.injEq, int2floatKw_nil, Call.hasIntArr_eq_false_iff]
    exact and_congr ⟨fun h => h ▸ hasIntArrList_int2floatList args, int2floatList_eq_self args⟩
      ⟨fun h => h ▸ hasIntArrKVs_int2floatKVs kw, int2floatKVs_eq_self kw⟩

/-- after the layer no int ndarray is left among the arguments (no `exc`), so applying it twice is applying it once -/
theorem pd2np_leaves_no_int_array (c : Call) :
    (pd2npCall [] c).hasIntArr = false ∧ pd2npCall [] (pd2npCall [] c) = pd2npCall [] c := by
  have h : (pd2npCall [] c).hasIntArr = false := by
    rw [Call.hasIntArr_eq_false_iff, pd2npCall, int2floatKw_nil]
    exact ⟨hasIntArrList_int2floatList _, hasIntArrKVs_int2floatKVs _⟩
  exact ⟨h, pd2npCall_eq_self [] _ h⟩

/-- the shape of the call is kept: as many positional arguments, the same keyword names in the same order; a keyword named in
`exc` arrives as passed, any other one converted -/
theorem pd2np_keeps_shape (exc : List String) (c : Call) :
    (pd2npCall exc c).args.length = c.args.length ∧ (pd2npCall exc c).kw.map Prod.fst = c.kw.map Prod.fst ∧
    (∀ k, k ∈ exc → (pd2npCall exc c).kw.lookup k = c.kw.lookup k) ∧
    (∀ k, k ∉ exc → (pd2npCall exc c).kw.lookup k = (c.kw.lookup k).map int2float) := by
  refine ⟨int2floatList_length _, int2floatKw_keys exc _, ?_, ?_⟩
  · intro k hk
    simp [pd2npCall, int2floatKw_lookup, hk]
  · intro k hk
    simp [pd2npCall, int2floatKw_lookup, hk]

/-- a value is left as it is exactly when it holds no int ndarray (any depth of list / tuple / dict) -/
theorem int2float_identity_iff (v : Val) : int2float v = v ↔ v.hasIntArr = false :=
  ⟨fun h => h ▸ hasIntArr_int2float v, int2float_eq_self v⟩

example :
    let c : Call := { args := [.list [.cell (.str "~arr:1,2"), .cell (.int 3)]], kw := [("b", .cell (.str "~arr:4")), ("c", .cell (.str "~arr:f:5"))] }
    (pd2npCall ["b"] c).args = [.list [.cell (.str "~arr:f:1,2"), .cell (.int 3)]] ∧ (pd2npCall ["b"] c).kw = c.kw ∧
    c.hasIntArr = true ∧ (pd2npCall [] c).hasIntArr = false := by
  decide +kernel

/-! ## the domain of the stack model: "loops on non-container input"

`evalChain` / `evalH` forward ONE call through a `loops` layer.  The code does that exactly when the argument the layer dispatches
on is not a list / tuple / dict of one of its `types`; otherwise it makes one call per element (C19) and the theorems above say
nothing about the code.  `inDomain` (Wrap.lean) is that side condition; the driver declines lines outside it and the harness
checks the driver's verdict against an independently written python predicate on generated container arguments. -/

/-- **the domain, through `reach`**: a call is outside the domain of the stack model iff SOME `loops` layer of the stack receives -
as the layers above it forward the call - a list / tuple / dict of one of its own looped types as the argument it dispatches on -/
theorem inDomain_false_iff (s : Sig) : ∀ (chain : List (Cls × PDict)) (c : Call),
    inDomain s chain c = false ↔
      ∃ above p below, chain = above ++ (Cls.loops, p) :: below ∧ loopsPasses s p (reach s above c) = false
  | [], c => by simp [inDomain]
  | w :: rest, c => by
      rw [inDomain_cons, Bool.and_eq_false_iff, inDomain_false_iff s rest (reach s [w] c)]
      constructor
      · rintro (h | ⟨above, p, below, he, hp⟩)
        · obtain ⟨cls, q⟩ := w
          simp only [Bool.or_eq_false_iff, bne_eq_false_iff_eq] at h
          obtain ⟨rfl, h⟩ := h
          exact ⟨[], q, rest, rfl, h⟩
        · exact ⟨w :: above, p, below, by rw [he]; rfl, by rw [reach_cons]; exact hp⟩
      · rintro ⟨above, p, below, he, hp⟩
        rcases List.cons_eq_append_iff.mp he with ⟨rfl, h2⟩ | ⟨above', rfl, h2⟩
        · obtain ⟨rfl, rfl⟩ := List.cons.inj h2
          exact Or.inl hp
        · exact Or.inr ⟨above', p, below, h2, by rw [← reach_cons]; exact hp⟩

/-- one `loops` layer passes a call whose dispatch argument (`loopsArg`), if there is one, is a cell - whatever its `types` -/
theorem loopsPasses_of_cell (s : Sig) (p : PDict) (c : Call) (h : ∀ a, loopsArg s c = some a → ∃ x, a = .cell x) :
    loopsPasses s p c = true := by
  unfold loopsPasses
  cases ha : loopsArg s c with
  | none => rfl
  | some a => obtain ⟨x, hx⟩ := h a ha; subst hx; rfl

/-- `loops(types=[list])(f)([1, 2])` is outside (the code returns `[f(1), f(2)]`, not `f([1, 2])`), the same
call on a stack whose `loops` has `types=[tuple]` is inside, and so is a scalar call -/
example :
    let s : Sig := { params := ["a"], defaults := [], varargs := none, varkw := none }
    let l12 : Call := { args := [.list [.cell (.int 1), .cell (.int 2)]], kw := [] }
    inDomain s [(.tryBack, []), (.loops, [("types", .list [.cell (.str "list")])])] l12 = false ∧
    inDomain s [(.tryBack, []), (.loops, [("types", .list [.cell (.str "tuple")])])] l12 = true ∧
    inDomain s [(.loops, [("types", .list [.cell (.str "list")])])] { args := [], kw := [("a", .cell (.int 1))] } = true := by
  decide +kernel

/-- **Inside the domain the looping model is the forwarding model.**  When every `loops` layer of the stack receives an argument
that is not a list / tuple / dict of one of its types (`inDomain`), `evalChainL` - whose `loops` arm is the code of
`loops._wrapped`, one call of the next layer per element - returns what `evalChain` returns, for every stack and every call,
valid or not, raising or not.  So every theorem about `evalChain` is, under `inDomain`, a theorem about `evalChainL`. -/
theorem evalChainL_in_domain (s : Sig) (body : PDict → Res Val) :
    ∀ (chain : List (Cls × PDict)) (c : Call), inDomain s chain c = true →
      evalChainL s body chain c = evalChain s body chain c
  | [], c, _ => by simp [evalChainL, evalChain]
  | w :: rest, c, h => by
      rw [inDomain_cons, Bool.and_eq_true] at h
      have ih := evalChainL_in_domain s body rest (reach s [w] c) h.2
      obtain ⟨cls, p⟩ := w
      cases cls with
      | tryValue | tryBack =>
        simp only [reach] at ih
        simp only [evalChainL, evalChain, ih]
        cases evalChain s body rest c <;> rfl
      | kwargsSupport | cache | pd2np =>
        simp only [reach] at ih
        simp only [evalChainL, evalChain, ih]
      | loops =>
        have hp : loopsPasses s p c = true := by simpa using h.1
        simp only [reach] at ih
        simp only [evalChain]
        rw [← ih]
        rcases loopsCall_cases s c with ⟨ha, hn, e⟩ | ⟨hne, e⟩ | ⟨top, ps, arg, ha, hps, hlk, e⟩
        · rw [e]
          cases hps : s.params with
          | nil => simp only [evalChainL, ha, hps]
          | cons top ps => simp only [evalChainL, ha, hps, hn top ps hps]
        · obtain ⟨_ | ⟨a, as⟩, kw⟩ := c
          · exact absurd rfl hne
          · have hl : isLooped (typesOf p) a = false := by simpa [loopsPasses, loopsArg] using hp
            rw [e]
            simp only [evalChainL, liftT_not_looped _ _ a as kw hl, dropAxis_eq_popAxis]
        · have hl : isLooped (typesOf p) arg = false := by simpa [loopsPasses, loopsArg, ha, hps, hlk] using hp
          rw [e]
          simp only [evalChainL, ha, hps, hlk, liftT_not_looped _ _ arg [] _ hl, dropAxis_eq_popAxis]

/-- **Transparency of every stack, with the domain as a hypothesis** - about the model whose `loops` layers really loop: a valid
call on which every `loops` layer receives a non-looped argument returns what `f` returns (exclusions as in
`stack_transparent_sharp`) -/
theorem stack_transparent_in_domain (s : Sig) (body : PDict → Res Val) (chain : List (Cls × PDict)) (c : Call) (v : Val)
    (hdom : inDomain s chain c = true)
    (hd : Cls.kwargsSupport ∈ classes chain → ∀ p ∈ c.kw, p.1 ∈ s.params)
    (hax : Cls.loops ∈ classes chain → ∀ p ∈ c.kw, p.1 ≠ "axis")
    (hia : Cls.pd2np ∈ classes chain → c.hasIntArr = false)
    (h : applyFn s body c = .ok v) : evalChainL s body chain c = .ok v := by
  rw [evalChainL_in_domain s body chain c hdom]
  exact stack_transparent_sharp s body chain c v hd hax hia h

/-- `stack_transparent_raise_sharp` with the domain as a hypothesis, about the looping model -/
theorem stack_transparent_raise_in_domain (s : Sig) (body : PDict → Res Val) (chain : List (Cls × PDict)) (c : Call)
    (hdom : inDomain s chain c = true)
    (hd : Cls.kwargsSupport ∈ classes chain → ∀ p ∈ c.kw, p.1 ∈ s.params)
    (hax : Cls.loops ∈ classes chain → ∀ p ∈ c.kw, p.1 ≠ "axis")
    (hia : Cls.pd2np ∈ classes chain → c.hasIntArr = false)
    (hc : ∀ w ∈ chain, w.1 ≠ .tryValue ∧ w.1 ≠ .tryBack) : evalChainL s body chain c = applyFn s body c := by
  rw [evalChainL_in_domain s body chain c hdom]
  exact stack_transparent_raise_sharp s body chain c hd hax hia hc

/-- **The hypothesis cannot be dropped**: `loops(types=[list])(f)([1, 2])` for `f(a)` - a valid call of
`f`, no keyword, no array - is outside the domain and the looping model returns `[f(1), f(2)]`, not `f([1, 2])`; the forwarding
model `evalChain` says `f([1, 2])`, which is why its theorems speak about the code only inside the domain.  With
`types=[tuple]` the same call is inside and transparent. -/
theorem loops_outside_domain_not_transparent :
    let s : Sig := { params := ["a"], defaults := [], varargs := none, varkw := none }
    let c : Call := { args := [.list [.cell (.int 1), .cell (.int 2)]], kw := [] }
    let chain (t : String) : List (Cls × PDict) := [(.loops, [("types", .list [.cell (.str t)])])]
    inDomain s (chain "list") c = false ∧
    evalChainL s recBody (chain "list") c =
      .ok (.list [.dict [("a", .cell (.int 1))], .dict [("a", .cell (.int 2))]]) ∧
    applyFn s recBody c = .ok (.dict [("a", .list [.cell (.int 1), .cell (.int 2)])]) ∧
    evalChain s recBody (chain "list") c = applyFn s recBody c ∧
    inDomain s (chain "tuple") c = true ∧ evalChainL s recBody (chain "tuple") c = applyFn s recBody c := by
  refine ⟨by decide +kernel, by decide +kernel, by decide +kernel, by decide +kernel, by decide +kernel, by decide +kernel⟩

/-- `kwargs_support_in_stack` with the domain as a hypothesis, about the looping model -/
theorem kwargs_support_in_stack_in_domain (s : Sig) (hv : s.varkw = none) (body : PDict → Res Val) (junk : PDict)
    (hj : ∀ p ∈ junk, p.1 ∉ s.params) (chain : List (Cls × PDict)) (c : Call) (v : Val)
    (hdom : inDomain s chain { c with kw := c.kw ++ junk } = true)
    (hk : Cls.kwargsSupport ∈ classes chain)
    (hax : Cls.loops ∈ classes chain → ∀ p ∈ c.kw ++ junk, p.1 ≠ "axis")
    (hia : Cls.pd2np ∈ classes chain → ({ c with kw := c.kw ++ junk } : Call).hasIntArr = false)
    (h : applyFn s body c = .ok v) : evalChainL s body chain { c with kw := c.kw ++ junk } = .ok v := by
  rw [evalChainL_in_domain s body chain _ hdom]
  exact kwargs_support_in_stack s hv body junk hj chain c v hk hax hia h

/-- **Outside the domain the `loops` layer is property C19's lifting**: with list, tuple and dict among its types, a `loops`
layer called with a first positional argument is `Pyg.wrapped` (the model the C19 theorems `lift_sub`, `lift_leaves`,
`lift_shape_*`, `select_statement` … are about) of "call the rest of the stack" - so those theorems describe what a decorated
function returns on a container, whatever else is in the stack below. -/
theorem loops_layer_is_lifting (s : Sig) (body : PDict → Res Val) (p : PDict) (rest : List (Cls × PDict))
    (a : Val) (as : List Val) (kw : PDict)
    (hl : (typesOf p).contains "list" = true) (ht : (typesOf p).contains "tuple" = true)
    (hd : (typesOf p).contains "dict" = true) :
    evalChainL s body ((.loops, p) :: rest) { args := a :: as, kw := kw } =
      wrapped (fun leaf args kw => evalChainL s body rest { args := leaf :: args, kw := kw }) a as kw := by
  simp only [evalChainL]
  exact liftT_all_eq_wrapped _ _ hl ht hd a as kw

/-! ## no double wrapping

A decorated function is a chain of wrappers with pairwise distinct classes — the invariant the constructor
maintains (`mk_keeps_distinct`) and that holds for a plain function.  `WFn.Eqv` is python's `==` on wrappers
without the memo field. -/

/-- the constructor keeps the classes of a chain distinct: no wrapper class ever occurs twice -/
theorem mk_keeps_distinct (ds : List (Cls × PDict)) (base : Nat) :
    (classes (mkMany ds { chain := [], base := base }).chain).Nodup :=
  mkMany_nodup ds _ List.nodup_nil

/-- **Wrapping twice with the same decorator through a chain of other decorators equals wrapping once**:
`W(D₁(…Dₙ(W(f))…)) == W(D₁(…Dₙ(f)…))` for any decorated `f` and any other decorators `D₁ … Dₙ`. -/
theorem wrap_chain_idem (cls : Cls) (kw : PDict) (hn : (kw.map (·.1)).Nodup) (ds : List (Cls × PDict))
    (hds : ∀ d ∈ ds, d.1 ≠ cls) (fn : WFn) (h : (classes fn.chain).Nodup) :
    WFn.Eqv (mk cls kw (mkMany ds (mk cls kw fn))) (mk cls kw (mkMany ds fn)) :=
  mk_mkMany_mk_eqv cls kw kw ds hds fn h (newParams_twice cls kw hn fn.chain)

/-- **Wrapping twice with the same decorator equals wrapping once**: `W(W(f)) == W(f)` -/
theorem wrap_idem (cls : Cls) (kw : PDict) (hn : (kw.map (·.1)).Nodup) (fn : WFn) (h : (classes fn.chain).Nodup) :
    WFn.Eqv (mk cls kw (mk cls kw fn)) (mk cls kw fn) :=
  wrap_chain_idem cls kw hn [] (by simp) fn h

/-- what a (re-)applied decorator does to a decorated function: it goes on top, any earlier wrapper of its class
is cut out, every other wrapper stays in place -/
theorem mk_shape (cls : Cls) (kw : PDict) (fn : WFn) (h : (classes fn.chain).Nodup) :
    classes (mk cls kw fn).chain = cls :: (classes fn.chain).filter (· != cls) ∧
    (mk cls kw fn).base = fn.base := by
  rw [mk_chain cls kw fn h, classes_cons, classes_stripAll]
  exact ⟨rfl, rfl⟩

/-- non-vacuity: `try_none(kwargs_support(cache(f)))` re-wrapped with `cache` -/
example :
    let f : WFn := mkMany [(.cache, []), (.kwargsSupport, []), (.tryValue, [("value", .cell .none)])] { chain := [], base := 0 }
    classes f.chain = [.tryValue, .kwargsSupport, .cache] ∧ (classes f.chain).Nodup ∧
    classes (mk .cache [] f).chain = [.cache, .tryValue, .kwargsSupport] := by
  decide

/-! ### wrapping twice with different parameters

In the code every subclass `__init__` passes its complete parameter set to `wrapper.__init__` (`try_value`: `repeat, sleep,
return_value, value, verbose` - `_decorators.py:244-245`; `loops`: `types`; `pd2np`: `exc`; the others none), so `kw.update(kwargs)`
overwrites EVERY parameter of the wrapper that is unwrapped / cut out: `try_value(value=1)(try_value(value=2, repeat=3)(f))` has
`repeat=0`.  The model's `mk` takes an arbitrary `kwargs`; it is faithful to the code for complete parameter dicts (`Covers`: the
new dict has every key of the old ones), and there the outer application wins: -/

/-- **`W_p(D₁(…Dₙ(W_q(f)))) == W_p(D₁(…Dₙ(f)))`** for parameter dicts `p`, `q` of the same decorator with `p` complete
(`wrap_chain_idem` is the case `p = q`; no hypothesis ties `p` to `q` beyond the key sets) -/
theorem wrap_twice_params (cls : Cls) (kw1 kw2 : PDict) (hn1 : (kw1.map (·.1)).Nodup) (hn2 : (kw2.map (·.1)).Nodup)
    (hk : Covers kw2 kw1) (ds : List (Cls × PDict)) (hds : ∀ d ∈ ds, d.1 ≠ cls) (fn : WFn)
    (h : (classes fn.chain).Nodup) (hp : ∀ p, paramsOf cls fn.chain = some p → Covers kw2 p) :
    WFn.Eqv (mk cls kw2 (mkMany ds (mk cls kw1 fn))) (mk cls kw2 (mkMany ds fn)) := by
  apply mk_mkMany_mk_eqv cls kw1 kw2 ds hds fn h
  have e2 : PDict.Eqv (newParams cls kw2 fn.chain) kw2 := by
    cases hq : paramsOf cls fn.chain with
    | none => exact newParams_of_none hq ▸ fun _ => rfl
    | some p => exact newParams_of_some hq ▸ update_covered_eqv p kw2 hn2 (hp p hq)
  exact fun k => (update_covered_eqv _ kw2 hn2 (covers_newParams cls kw1 kw2 hn1 hk fn.chain hp) k).trans (e2 k).symm

/-- after `W_p(W_q(f))` with `p` complete the top wrapper's parameters are `p` -/
theorem wrap_twice_outer_params (cls : Cls) (kw1 kw2 : PDict) (hn1 : (kw1.map (·.1)).Nodup) (hn2 : (kw2.map (·.1)).Nodup)
    (hk : Covers kw2 kw1) (fn : WFn) (h : (classes fn.chain).Nodup)
    (hp : ∀ p, paramsOf cls fn.chain = some p → Covers kw2 p) :
    ∃ p rest, (mk cls kw2 (mk cls kw1 fn)).chain = (cls, p) :: rest ∧ PDict.Eqv p kw2 := by
  refine ⟨_, _, mk_chain cls kw2 _ (mk_nodup cls kw1 fn h), ?_⟩
  rw [newParams_of_some (paramsOf_mk_self cls kw1 fn h)]
  exact update_covered_eqv _ kw2 hn2 (covers_newParams cls kw1 kw2 hn1 hk fn.chain hp)

/-- non-vacuity (`try_value(repeat=0, value=1)` over `try_value(repeat=3, value=2)`: `repeat` is reset), and why completeness is
needed: with a partial dict the model keeps the inner `repeat=3`, which no constructor of the code can do -/
example :
    let f : WFn := { chain := [], base := 0 }
    let q : PDict := [("repeat", .cell (.int 3)), ("value", .cell (.int 2))]
    let p : PDict := [("repeat", .cell (.int 0)), ("value", .cell (.int 1))]
    (mk .tryValue p (mk .tryValue q f)).chain = [(.tryValue, p)] ∧
    (mk .tryValue [("value", .cell (.int 1))] (mk .tryValue q f)).chain = [(.tryValue, [("repeat", .cell (.int 3)), ("value", .cell (.int 1))])] := by
  decide

/-- the specification of a chain is that of its plain function, whatever is stacked on it - by definition of `specOf`, since `mk`
keeps `base` (`mkMany_base`); the statement with the memo fields is `spec_forwarded_through_mk` -/
theorem spec_forwarded (env : Nat → Sig) (ds : List (Cls × PDict)) (fn : WFn) :
    specOf env (mkMany ds fn) = specOf env fn :=
  congrArg env (mkMany_base ds fn)

/-! ### the specification survives the memo fields

`spec_forwarded` above is about the chain; the mechanism that could break it is the memo each wrapper object
keeps (`function_fullargspec`), which is filled at one moment and read later, after the chain below or above
it has been rebuilt.  Operations on the memos of a chain: a specification request at any depth (`fillMemos` on a
suffix), a constructor (`mkMemos`: new empty memo on top, any objects below cut out). -/

inductive MemoOp where
  | request (depth : Nat)            -- `getargspec` of the object `depth` levels below the top
  | construct (keep : List Bool)     -- a constructor applied on top (objects with `keep = false` are cut out)

def MemoOp.run (base : Sig) : MemoOp → Memos → Memos
  | .request d, ms => ms.take d ++ fillMemos base (ms.drop d)
  | .construct keep, ms => mkMemos keep ms

/-- **The wrapper reports f's argument specification, whatever was requested and re-wrapped before**: after any
sequence of constructions and specification requests (at any depth, in any order) on a plain function, the
reported specification is the plain function's: no memo ever holds another specification. -/
theorem spec_forwarded_memo (base : Sig) (ops : List MemoOp) :
    specWalk base (ops.foldl (fun ms op => op.run base ms) []) = base := by
  refine specWalk_of_ok base _ (List.foldl_preserves (P := MemoOk base) (fun ms op _ h => ?_) (MemoOk.nil base))
  cases op with
  | request d => exact h.request d
  | construct keep => exact mkMemos_ok base keep ms h

/-- non-vacuity: wrap, request the specification of the inner object, re-wrap cutting it out, wrap again -/
example :
    let base : Sig := { params := ["a"], defaults := [], varargs := none, varkw := none }
    let ops := [MemoOp.construct [], .construct [true], .request 1, .construct [true, false], .request 0]
    (ops.foldl (fun ms op => op.run base ms) []).length = 2 ∧
    specWalk base (ops.foldl (fun ms op => op.run base ms) []) = base := by
  refine ⟨by decide, spec_forwarded_memo _ _⟩

/-- **The wrapper reports f's argument specification — memo fields and constructor in ONE model.**  Start from a plain function
and apply any sequence of decorator applications (`mk`: unwrapping / cutting out same-class wrappers, whose memo fields vanish
with them: `keepOf`) and specification requests at any depth (which fill the memo fields they pass): the specification
reported at the end is the plain function's, every wrapper object of the resulting chain has exactly one memo field, and the
chain is the one `mkMany` builds from the decorator applications alone (requests never change it).  This ties the memo model
of `spec_forwarded_memo` (arbitrary `construct keep`) to the constructor `mk`. -/
theorem spec_forwarded_through_mk (base : Sig) (b : Nat) (ops : List WOp) :
    let f := ops.foldl (fun f op => op.run base f) { fn := { chain := [], base := b }, memos := [] }
    specWalk base f.memos = base ∧ f.memos.length = f.fn.chain.length ∧
    f.fn = mkMany (ops.filterMap WOp.wrapOf) { chain := [], base := b } := by
  intro f
  have := List.foldl_preserves (l := ops) (fun g op _ h => WOp.run_inv base op g h)
    (b := { fn := { chain := [], base := b }, memos := [] }) ⟨MemoOk.nil base, rfl, List.nodup_nil⟩
  exact ⟨specWalk_of_ok base _ this.1, this.2.1, WOp.foldl_run_fn base ops _⟩

/-- non-vacuity: `cache`, `try_value` on top, request the inner object's specification, re-wrap with `cache` (the inner cache
object and its filled memo are cut out), request the top -/
example :
    let base : Sig := { params := ["a"], defaults := [], varargs := none, varkw := none }
    let ops := [WOp.wrap .cache [], .wrap .tryValue [], .request 1, .wrap .cache [], .request 0]
    let f := ops.foldl (fun f op => op.run base f) { fn := { chain := [], base := 0 }, memos := [] }
    classes f.fn.chain = [.cache, .tryValue] ∧ f.memos.length = 2 ∧ specWalk base f.memos = base := by
  intro base ops f
  exact ⟨by decide +kernel, (spec_forwarded_through_mk base 0 ops).2.1.trans (by decide +kernel), (spec_forwarded_through_mk base 0 ops).1⟩

/-! ## cache

`callKey c` is the cache key of a call "as passed" (`_prehash((args, kwargs))` up to python's `==`): two calls
are the same combination iff their keys are equal.  `runCache f {} calls` runs a history on a fresh cached
function; `.evals` logs the key of every evaluation of `f`. -/

/-- **A cached non-raising function is evaluated exactly once per distinct combination of positional and
keyword arguments as passed, and returns the first result thereafter** — for every call history:
the evaluation log has no repetition, it holds exactly the keys that were called, and every reply is `f` of the
first call of the history with that key. -/
theorem cache_once (g : Call → Val) (calls : List Call) :
    let r := runCache (fun c => .ok (g c)) {} calls
    r.1.evals.Nodup ∧ (∀ k, k ∈ r.1.evals ↔ k ∈ calls.map callKey) ∧
    r.2 = calls.map fun c => Except.ok (g ((firstWith calls (callKey c)).getD c)) := by
  obtain ⟨inv, hr⟩ := runCache_inv g calls {} [] (CacheInv.empty g)
  simp only [List.nil_append] at inv hr
  refine ⟨?_, ?_, hr⟩
  · rw [inv.evals_eq]; exact inv.nodup
  · intro k; rw [inv.evals_eq]; exact inv.keys k

/-- in particular a repeated call is answered from the cache: same reply, no new evaluation -/
theorem cache_repeat (g : Call → Val) (calls : List Call) (c : Call) (hc : c ∈ calls) :
    let r := runCache (fun c => .ok (g c)) {} calls
    let r' := runCache (fun c => .ok (g c)) {} (calls ++ [c])
    r'.1.evals.length = r.1.evals.length ∧ r'.2.getLast? = some (.ok (g ((firstWith calls (callKey c)).getD c))) := by
  intro r r'
  obtain ⟨inv, _⟩ := runCache_inv g calls {} [] (CacheInv.empty g)
  rw [List.nil_append] at inv
  -- the key of `c` is in the dict after `calls`, so the repeated call is a hit: the state stays, the stored value is the reply
  obtain ⟨v, hv⟩ := Option.isSome_iff_exists.1 ((inv.lookup_isSome_iff _).2 (List.mem_map_of_mem hc))
  obtain ⟨c0, hc0, hg⟩ := inv.first _ v hv
  have e : r' = (r.1, r.2 ++ [.ok v]) := by
    rw [show r' = _ from runCache_snoc _ {} calls c, cacheCall_hit _ r.1 c v hv]
  rw [e, hg, hc0]
  simp

/-! ### "distinct combination of arguments as passed", independently of the library's key

`sameComb c c'` is python's `==` on what was passed: as many positional arguments, pairwise equal; the same
keyword names with equal values (order irrelevant).  Equality of values is `SameVal` (CacheLemmas): numbers by
value (`1 == 1.0 == True`), a list only equals a list, a tuple a tuple, a dict a dict with the same keys —
stated through length / element / lookup, not through the key.  `Call.ok` (= `keysOk` of every argument): python dicts have distinct keys. -/

def sameComb (c c' : Call) : Prop :=
  c.args.length = c'.args.length ∧
  (∀ (i : Nat) (x y : Val), c.args[i]? = some x → c'.args[i]? = some y → SameVal x y) ∧
  (∀ k, (c.kw.lookup k).isSome = (c'.kw.lookup k).isSome) ∧
  (∀ (k : String) (v w : Val), c.kw.lookup k = some v → c'.kw.lookup k = some w → SameVal v w)

def Call.ok (c : Call) : Prop :=
  keysOkList c.args = true ∧ (c.kw.map (·.1)).Nodup ∧ keysOkKVs c.kw = true

/-- **the cache key identifies exactly the python-equal calls**: no two different
combinations share an entry, no combination has two entries -/
theorem callKey_eq_iff (c c' : Call) (h : Call.ok c) (h' : Call.ok c') : callKey c = callKey c' ↔ sameComb c c' := by
  have e : callKey c = callKey c' ↔
      normKey (.tuple c.args) = normKey (.tuple c'.args) ∧ normKey (.dict c.kw) = normKey (.dict c'.kw) := by
    simp [callKey, normKey, normKeyList]
  rw [e, normKey_eq_iff _ _ (by simpa [Val.keysOk] using h.1) (by simpa [Val.keysOk] using h'.1),
    normKey_eq_iff _ _ (by simpa [Val.keysOk] using h.2) (by simpa [Val.keysOk] using h'.2)]
  constructor
  · rintro ⟨h1, h2⟩
    cases h1 with
    | tuple hl he =>
      cases h2 with
      | dict hs hv => exact ⟨hl, he, hs, hv⟩
  · rintro ⟨hl, he, hs, hv⟩
    exact ⟨.tuple hl he, .dict hs hv⟩

/-- `f([1])` and `f((1,))` are not the same combination: a list is not the tuple of its elements (finding P3 is about a key
that sends both to one tuple) -/
theorem list_tuple_not_sameComb :
    ¬ sameComb { args := [.list [.cell (.int 1)]], kw := [] } { args := [.tuple [.cell (.int 1)]], kw := [] } := by
  rintro ⟨_, he, _, _⟩
  have := he 0 _ _ rfl rfl
  cases this

/-- **One call of the bare cache in any state that holds results of `g`** for the calls `hist`: evaluated iff no call of `hist`
is the same combination, else answered with `g` of the first such call; the state then holds results for `hist ++ [c]`. -/
theorem cache_step_per_combination (g : Call → Val) (st : CacheSt) (hist : List Call) (c : Call)
    (inv : CacheInv g st hist) (hok : ∀ x ∈ hist, Call.ok x) (hc : Call.ok c) :
    CacheInv g (cacheCall (fun c => .ok (g c)) st c).1 (hist ++ [c]) ∧
    ((∀ x ∈ hist, ¬ sameComb x c) →
      (cacheCall (fun c => .ok (g c)) st c).1.evals.length = st.evals.length + 1 ∧
      (cacheCall (fun c => .ok (g c)) st c).2 = .ok (g c)) ∧
    ((∃ x ∈ hist, sameComb x c) →
      (cacheCall (fun c => .ok (g c)) st c).1.evals.length = st.evals.length ∧
      ∃ pre1 c0 pre2, hist = pre1 ++ c0 :: pre2 ∧ sameComb c0 c ∧ (∀ x ∈ pre1, ¬ sameComb x c) ∧
        (cacheCall (fun c => .ok (g c)) st c).2 = .ok (g c0)) := by
  have hkey : ∀ x ∈ hist, (callKey x = callKey c ↔ sameComb x c) := fun x hx => callKey_eq_iff x c (hok x hx) hc
  refine ⟨(cacheCall_step g st hist c inv).1, ?_⟩
  cases hl : st.cache.lookup (callKey c) with
  | some v =>
    obtain ⟨c0, hc0, hv⟩ := inv.first _ v hl
    obtain ⟨pre1, pre2, hsplit, hk0, hbefore⟩ := firstWith_eq_some_iff.1 hc0
    have hmem0 : c0 ∈ hist := by rw [hsplit]; simp
    have hs0 : sameComb c0 c := (hkey c0 hmem0).1 hk0
    rw [cacheCall_hit _ st c v hl]
    refine ⟨fun hno => absurd hs0 (hno c0 hmem0),
      fun _ => ⟨rfl, pre1, c0, pre2, hsplit, hs0, fun x hx hs => ?_, by rw [hv]⟩⟩
    exact hbefore x hx ((hkey x (by rw [hsplit]; simp [hx])).2 hs)
  | none =>
    have hnot : callKey c ∉ hist.map callKey := (inv.lookup_eq_none_iff _).1 hl
    rw [cacheCall_miss g st c hl]
    exact ⟨fun _ => ⟨by simp, rfl⟩, fun ⟨x, hx, hs⟩ => absurd (List.mem_map.2 ⟨x, hx, (hkey x hx).2 hs⟩) hnot⟩

/-- **The bare cache from ANY dict that holds results of `g`** (`cache_once_per_combination` is the case of the empty dict):
the calls `seen0` behind the stored entries count as earlier calls.  The first conjunct, `r'.2 = r.2 ++ [_]` (here and in the
history theorems below), says that the replies to `pre` are unchanged and one reply is added; `getLast?.getD _` names it. -/
theorem cache_once_per_combination_from (g : Call → Val) (st : CacheSt) (seen0 pre : List Call) (c : Call)
    (inv : CacheInv g st seen0) (hok : ∀ x ∈ seen0 ++ pre, Call.ok x) (hc : Call.ok c) :
    let hist := seen0 ++ pre
    let r := runCache (fun c => .ok (g c)) st pre
    let r' := runCache (fun c => .ok (g c)) st (pre ++ [c])
    r'.2 = r.2 ++ [r'.2.getLast?.getD (.ok (g c))] ∧
    ((∀ x ∈ hist, ¬ sameComb x c) →
      r'.1.evals.length = r.1.evals.length + 1 ∧ r'.2.getLast? = some (.ok (g c))) ∧
    ((∃ x ∈ hist, sameComb x c) →
      r'.1.evals.length = r.1.evals.length ∧
      ∃ pre1 c0 pre2, hist = pre1 ++ c0 :: pre2 ∧ sameComb c0 c ∧ (∀ x ∈ pre1, ¬ sameComb x c) ∧
        r'.2.getLast? = some (.ok (g c0))) := by
  intro hist r r'
  obtain ⟨inv, _⟩ := runCache_inv g pre st seen0 inv
  obtain ⟨_, k2, k3⟩ := cache_step_per_combination g r.1 hist c inv hok hc
  obtain ⟨e1, e2, e3⟩ := snoc_replies (r := r) (r' := r') (runCache_snoc (fun c => .ok (g c)) st pre c) (.ok (g c))
  refine ⟨e3, ?_⟩
  rw [e1, e2]
  simp only [Option.some.injEq]
  exact ⟨k2, k3⟩

/-- **Exactly once per distinct combination, the first result thereafter** — in terms of `sameComb` only.
For every history `pre` and every next call `c`:
* if no earlier call is the same combination, `f` is evaluated (once) and the reply is `f c`;
* otherwise `f` is not evaluated and the reply is `f` of the FIRST earlier call that is the same combination. -/
theorem cache_once_per_combination (g : Call → Val) (pre : List Call) (c : Call)
    (hok : ∀ x ∈ pre, Call.ok x) (hc : Call.ok c) :
    let r := runCache (fun c => .ok (g c)) {} pre
    let r' := runCache (fun c => .ok (g c)) {} (pre ++ [c])
    r'.2 = r.2 ++ [r'.2.getLast?.getD (.ok (g c))] ∧
    ((∀ x ∈ pre, ¬ sameComb x c) →
      r'.1.evals.length = r.1.evals.length + 1 ∧ r'.2.getLast? = some (.ok (g c))) ∧
    ((∃ x ∈ pre, sameComb x c) →
      r'.1.evals.length = r.1.evals.length ∧
      ∃ pre1 c0 pre2, pre = pre1 ++ c0 :: pre2 ∧ sameComb c0 c ∧ (∀ x ∈ pre1, ¬ sameComb x c) ∧
        r'.2.getLast? = some (.ok (g c0))) :=
  cache_once_per_combination_from g {} [] pre c (CacheInv.empty g) hok hc

/-- non-vacuity: `f([1], b=2)`, then the tuple twin `f((1,), b=2)` (a new combination: evaluated), then
the `==` twin `f([1.0], b=2.0)` (the same combination as the first: not evaluated) -/
example :
    let c1 : Call := { args := [.list [.cell (.int 1)]], kw := [("b", .cell (.int 2))] }
    let c2 : Call := { args := [.tuple [.cell (.int 1)]], kw := [("b", .cell (.int 2))] }
    let c3 : Call := { args := [.list [.cell (.flt 4)]], kw := [("b", .cell (.flt 8))] }
    Call.ok c1 ∧ Call.ok c2 ∧ Call.ok c3 ∧
    (runCache (fun c => .ok (.tuple c.args)) {} [c1, c2, c3]).1.evals.length = 2 ∧
    (runCache (fun c => .ok (.tuple c.args)) {} [c1, c2, c3]).2 =
      [.ok (.tuple c1.args), .ok (.tuple c2.args), .ok (.tuple c1.args)] := by
  refine ⟨⟨by decide, by decide, by decide⟩, ⟨by decide, by decide, by decide⟩, ⟨by decide, by decide, by decide⟩,
    by decide +kernel, by decide +kernel⟩

/-! ### unhashable arguments (finding K5)

`runCacheH unh` is the code with its `except` path: a call whose key is unhashable (`unh c`: an ndarray or a
pandas object among the arguments) is evaluated and nothing is stored. -/

/-- without unhashable arguments it is the cache above -/
theorem runCacheH_hashable (f : Call → Res Val) (unh : Call → Bool) :
    ∀ (calls : List Call) (st : CacheSt), (∀ c ∈ calls, unh c = false) →
      runCacheH unh f st calls = runCache f st calls :=
  runCacheH_eq_runCache f unh

/-- calls with an unhashable argument do not disturb the others: the replies to the hashable calls, and the
cache, are those of the history without the unhashable calls; an unhashable call is answered by `f` itself -/
theorem cache_unhashable_transparent (f : Call → Res Val) (unh : Call → Bool) :
    ∀ (calls : List Call) (st : CacheSt),
      (runCacheH unh f st calls).1.cache = (runCache f st (calls.filter fun c => !unh c)).1.cache ∧
      (∀ (i : Nat) (c : Call), calls[i]? = some c → unh c = true → (runCacheH unh f st calls).2[i]? = some (f c)) :=
  runCacheH_filter f unh

/-- calls with an unhashable argument are evaluated on every call: the clause "exactly once per distinct combination" is false of the
code for unhashable arguments (finding K5, by design: tests/test_cache.py::test_cache_revert_to_no_cache).
Witness: the same call twice, two evaluations. -/
theorem cache_unhashable_reevaluated :
    ∃ (c : Call), sameComb c c ∧
      (runCacheH Call.hasArr (fun c => .ok (.tuple c.args)) {} [c, c]).1.evals.length = 2 := by
  refine ⟨{ args := [.cell (.str "~arr:1,2")], kw := [] }, ⟨rfl, ?_, fun _ => rfl, ?_⟩, by decide +kernel⟩
  · intro i x y hx hy
    rw [hx] at hy; cases hy
    cases i with
    | zero => simp at hx; subst hx; exact .cell rfl
    | succ i => simp at hx
  · intro k v w hv; simp at hv

/-- what "the same combination" means: `1`, `1.0` and `True` coincide and keyword order is irrelevant; a list
and the tuple of its elements, a dict and the tuple of its pairs are different arguments (finding P3), and
positional versus keyword passing is a different combination -/
example :
    callKey { args := [.cell (.int 1)], kw := [] } = callKey { args := [.cell (.flt 4)], kw := [] } ∧
    callKey { args := [.cell (.int 1)], kw := [] } = callKey { args := [.cell (.bool true)], kw := [] } ∧
    callKey { args := [.list [.cell (.int 1)]], kw := [] } ≠ callKey { args := [.tuple [.cell (.int 1)]], kw := [] } ∧
    callKey { args := [.dict [("a", .cell (.int 1))]], kw := [] } ≠
      callKey { args := [.tuple [.tuple [.cell (.str "a"), .cell (.int 1)]]], kw := [] } ∧
    callKey { args := [], kw := [("a", .cell (.int 1)), ("b", .cell (.int 2))] } =
      callKey { args := [], kw := [("b", .cell (.int 2)), ("a", .cell (.int 1))] } ∧
    callKey { args := [.cell (.int 1)], kw := [] } ≠ callKey { args := [], kw := [("a", .cell (.int 1))] } := by
  decide +kernel

/-! ## call histories through a stack that contains `cache`

`runH s body unh chain {} calls` (PygModel/WrapHist.lean) runs a history of calls on one decorated function whose
stack `chain = above ++ (cache, p) :: below` holds one cache layer — the only shape with a cache layer that the constructor builds
(`constructed_stack_shape`): the state is the dict of that layer plus the log `.evals` of every execution of the plain
function.  `reach s above c` is the call as the cache layer receives it; on valid calls it is `c` itself unless
`loops` sits above the cache, which passes a first argument given by keyword positionally (`stack_cache_seen`). -/

/-- the hypotheses on one call of a history: a valid call of a non-raising `f`, hashable (K5), with python dicts
as arguments -/
def HistCall (s : Sig) (body : PDict → Res Val) (unh : Call → Bool) (above : List (Cls × PDict)) (c : Call) : Prop :=
  (∃ v, ValidCall s body c v) ∧ unh (reach s above c) = false ∧ Call.ok (reach s above c)

/-- the hypotheses on one call of a history, relative to the classes `K` of the stack: a valid call of a non-raising `f` -
undeclared keywords excluded only when `kwargs_support ∈ K`, a keyword `axis` only when `loops ∈ K`, an int ndarray only when
`pd2np ∈ K` (`ValidFor`) -, hashable for the cache layer -/
def HistCallFor (K : List Cls) (s : Sig) (body : PDict → Res Val) (unh : Call → Bool) (above : List (Cls × PDict))
    (c : Call) : Prop :=
  (∃ v, ValidFor K s body c v) ∧ unh (reach s above c) = false ∧ Call.ok (reach s above c)

theorem HistCall.toFor {s body unh above c} (h : HistCall s body unh above c) (K : List Cls) :
    HistCallFor K s body unh above c :=
  ⟨h.1.imp fun _ hv => hv.toFor K, h.2⟩

/-- the dict `d` of a cache layer holds results of `g`: its keys are distinct, they are the keys of the calls `seen0`, and under
each key it stores `g` of the FIRST call of `seen0` with that key -/
def CacheHolds (g : Call → Val) (d : List (Val × Val)) (seen0 : List Call) : Prop :=
  CacheInv g { cache := d, evals := d.map (·.1) } seen0

theorem cacheHolds_of_inv {g : Call → Val} {st : CacheSt} {seen : List Call} (inv : CacheInv g st seen) :
    CacheHolds g st.cache seen :=
  ⟨rfl, inv.nodup, inv.keys, inv.first⟩

theorem cacheHolds_empty (g : Call → Val) : CacheHolds g [] [] :=
  CacheInv.empty g

theorem cacheHolds_of_runCache (g : Call → Val) (pre0 : List Call) :
    CacheHolds g (runCache (fun c => .ok (g c)) {} pre0).1.cache pre0 :=
  cacheHolds_of_inv (runCache_inv g pre0 {} [] (CacheInv.empty g)).1

/-- a dict written entry by entry from calls with pairwise different keys -/
theorem cacheHolds_of_entries (g : Call → Val) (cs : List Call) (hn : (cs.map callKey).Nodup) :
    CacheHolds g (cs.map fun c => (callKey c, g c)) cs := by
  refine ⟨rfl, by simpa [List.map_map, Function.comp_def] using hn, by intro k; simp [List.map_map, Function.comp_def], ?_⟩
  intro k v h
  induction cs with
  | nil => simp at h
  | cons c cs ih =>
    simp only [List.map_cons, List.nodup_cons] at hn
    rw [List.map_cons, List.lookup_cons_ite] at h
    rw [firstWith_cons]
    split at h
    · next hk =>
      subst hk
      exact ⟨c, if_pos rfl, (Option.some.inj h).symm⟩
    · next hk =>
      rw [if_neg fun e => hk e.symm]
      exact ih hn.2 h

/-- **the dict along a history**, from any state whose dict holds results of `f`, hashable and unhashable calls mixed: it holds
results of `f` for the calls behind it and the hashable calls of the history (unhashable calls leave it alone) -/
theorem runH_holds (s : Sig) (body : PDict → Res Val) (unh : Call → Bool) (p : PDict)
    (above below : List (Cls × PDict)) (ha : noCache above) (hb : noCache below)
    (st0 : HSt) (seen0 : List Call) (h0 : CacheHolds (resultOf s body) st0.cache seen0) (hok0 : ∀ x ∈ seen0, Call.ok x)
    (pre : List Call)
    (hpre : ∀ x ∈ pre, (∃ v, ValidFor (classes (above ++ (Cls.cache, p) :: below)) s body x v) ∧
      (unh (reach s above x) = false → Call.ok (reach s above x))) :
    let hist := seen0 ++ (pre.filter fun x => !unh (reach s above x)).map (reach s above)
    CacheHolds (resultOf s body) (runH s body unh (above ++ (Cls.cache, p) :: below) st0 pre).1.cache hist ∧
      ∀ y ∈ hist, Call.ok y := by
  intro hist
  have hcache := (runH_refinesH_for _ s body unh p above below ha hb (within_above above (Cls.cache, p) below)
    (within_below above (Cls.cache, p) below) pre st0 { cache := st0.cache, evals := st0.cache.map (·.1) } rfl
    fun x hx => (hpre x hx).1).1
  rw [(runCacheH_filter _ unh _ _).1, List.filter_map] at hcache
  refine ⟨hcache ▸ cacheHolds_of_inv (runCache_inv (resultOf s body) _ _ seen0 h0).1, fun y hy => ?_⟩
  rcases List.mem_append.1 hy with hy | hy
  · exact hok0 y hy
  · obtain ⟨x, hx, rfl⟩ := List.mem_map.1 hy
    obtain ⟨hx, hu⟩ := List.mem_filter.1 hx
    exact (hpre x hx).2 (by simpa using hu)

/-- what the stored result is in terms of `f`: for an entry stored on behalf of a valid call `x` through a stack whose layers
above the cache are `above`, it is what `f` returns on `x` -/
theorem stored_result_is_f (s : Sig) (body : PDict → Res Val) (K : List Cls) (above : List (Cls × PDict))
    (hK : Within K above) (x : Call) (v : Val) (h : ValidFor K s body x v) :
    Except.ok (resultOf s body (reach s above x)) = applyFn s body x := by
  rw [(ValidFor.of_reach above hK h).resultOf_eq, h.ok]

/-- **One call of a stack with a cache layer in ANY state whose dict holds results of `f`**: the dict still holds results of `f`
afterwards (with the call added to the calls behind it), and the call is executed iff no call behind the dict is the same
combination - else answered with the stored result of the first such call.  `seen c` is the call as the cache layer sees it. -/
theorem stack_cache_step_from (s : Sig) (body : PDict → Res Val) (unh : Call → Bool) (p : PDict)
    (above below : List (Cls × PDict)) (ha : noCache above) (hb : noCache below)
    (st0 : HSt) (seen0 : List Call) (h0 : CacheHolds (resultOf s body) st0.cache seen0) (hok0 : ∀ x ∈ seen0, Call.ok x)
    (c : Call) (hc : HistCallFor (classes (above ++ (Cls.cache, p) :: below)) s body unh above c) :
    let seen := reach s above
    let e := evalH s body unh (above ++ (Cls.cache, p) :: below) st0 c
    CacheHolds (resultOf s body) e.1.cache (seen0 ++ [seen c]) ∧
    ((∀ y ∈ seen0, ¬ sameComb y (seen c)) → e.1.evals.length = st0.evals.length + 1 ∧ e.2 = applyFn s body c) ∧
    ((∃ y ∈ seen0, sameComb y (seen c)) → e.1.evals.length = st0.evals.length ∧
      ∃ h1 y0 h2, seen0 = h1 ++ y0 :: h2 ∧ sameComb y0 (seen c) ∧ (∀ y ∈ h1, ¬ sameComb y (seen c)) ∧
        e.2 = .ok (resultOf s body y0)) := by
  intro seen e
  obtain ⟨v, hv⟩ := hc.1
  obtain ⟨st1, cst1, r, he, hcc, hc1, hlen⟩ := evalH_refines_cacheCall _ s body unh p above below ha hb
    (within_above above (Cls.cache, p) below) (within_below above (Cls.cache, p) below) st0
    { cache := st0.cache, evals := st0.cache.map (·.1) } c v rfl hv hc.2.1
  obtain ⟨inv', k2, k3⟩ := cache_step_per_combination (resultOf s body) _ seen0 (seen c) h0 hok0 hc.2.2
  rw [hcc] at inv' k2 k3
  have hres := stored_result_is_f s body _ above (within_above above (Cls.cache, p) below) c v hv
  rw [show e = (st1, r) from he]
  dsimp only at inv' k2 k3 hlen ⊢
  refine ⟨hc1 ▸ cacheHolds_of_inv inv', fun hno => ?_, fun hex => ?_⟩
  · obtain ⟨a, b⟩ := k2 hno
    exact ⟨by omega, b.trans hres⟩
  · obtain ⟨a, h1, y0, h2, e1, e2, e3, b⟩ := k3 hex
    exact ⟨by omega, h1, y0, h2, e1, e2, e3, b⟩

/-- **A stack with a cache layer, from ANY state whose dict holds results of `f`** - the dict a `cache_func` constructor took
over from the wrapper it unwrapped, filled through another stack (`stack_cache_history_rewrapped`), a dict handed in by the
caller (`cache_func(f, cache = d)`), the state after an earlier part of the history.  `seen0` are the calls behind the stored
entries (as the cache layer that stored them received them); they count as earlier calls:
* no call of `seen0` and no earlier call of the history is the same combination: one more execution, the reply is `f c`;
* otherwise no execution and the reply is the stored result of the FIRST such call (`resultOf s body c0` = what `f` returns on it). -/
theorem stack_cache_history_from (s : Sig) (body : PDict → Res Val) (unh : Call → Bool) (p : PDict)
    (above below : List (Cls × PDict)) (ha : noCache above) (hb : noCache below)
    (st0 : HSt) (seen0 : List Call) (h0 : CacheHolds (resultOf s body) st0.cache seen0) (hok0 : ∀ x ∈ seen0, Call.ok x)
    (pre : List Call) (c : Call)
    (hpre : ∀ x ∈ pre, HistCallFor (classes (above ++ (Cls.cache, p) :: below)) s body unh above x)
    (hc : HistCallFor (classes (above ++ (Cls.cache, p) :: below)) s body unh above c) :
    let chain := above ++ (Cls.cache, p) :: below
    let seen := reach s above
    let hist := seen0 ++ pre.map seen
    let r := runH s body unh chain st0 pre
    let r' := runH s body unh chain st0 (pre ++ [c])
    r'.2 = r.2 ++ [r'.2.getLast?.getD (applyFn s body c)] ∧
    ((∀ y ∈ hist, ¬ sameComb y (seen c)) →
      r'.1.evals.length = r.1.evals.length + 1 ∧ r'.2.getLast? = some (applyFn s body c)) ∧
    ((∃ y ∈ hist, sameComb y (seen c)) →
      r'.1.evals.length = r.1.evals.length ∧
      ∃ h1 y0 h2, hist = h1 ++ y0 :: h2 ∧ sameComb y0 (seen c) ∧
        (∀ y ∈ h1, ¬ sameComb y (seen c)) ∧ r'.2.getLast? = some (.ok (resultOf s body y0))) := by
  intro chain seen hist r r'
  have hh := runH_holds s body unh p above below ha hb st0 seen0 h0 hok0 pre
    fun x hx => ⟨(hpre x hx).1, fun _ => (hpre x hx).2.2⟩
  dsimp only at hh
  rw [List.filter_eq_self.2 fun x hx => by simp [(hpre x hx).2.1]] at hh
  obtain ⟨_, k2, k3⟩ := stack_cache_step_from s body unh p above below ha hb r.1 hist hh.1 hh.2 c hc
  obtain ⟨e1, e2, e3⟩ := snoc_replies (r := r) (r' := r') (runH_snoc s body unh chain st0 pre c) (applyFn s body c)
  refine ⟨e3, ?_⟩
  rw [e1, e2]
  simp only [Option.some.injEq]
  exact ⟨k2, k3⟩

/-- **A stack with a cache layer, over any call history**: for every stack `above ++ cache :: below` (any layers of
the other five classes above and below the cache), every history `pre` of calls of a non-raising `f` that are valid for the
classes that ARE in the stack (`HistCallFor`: `try_value(cache(f))` for `f(a, **kw)` called with extra keywords, `cache(f)`
with a parameter called `axis` passed by keyword, `try_back(cache(f))` on an int ndarray ...; hashable for the cache layer) and every
next call `c`:
* if no earlier call is the same combination, the plain function is executed exactly once more and the reply is
  what `f` returns on `c`;
* otherwise the plain function is not executed and the reply is what `f` returned on the FIRST earlier call that
  is the same combination.
"The same combination" is `sameComb` (python `==` of what was passed) on the calls as the cache layer receives them.
The dict along the history holds results of `f` (`runH_holds`, from the refinement `runH_refinesH_for` of the plain cache: the
layers above and below the cache layer are transparent, `evalH_above`); one more call is `stack_cache_step_from`. -/
theorem stack_cache_history_sharp (s : Sig) (body : PDict → Res Val) (unh : Call → Bool) (p : PDict)
    (above below : List (Cls × PDict)) (ha : noCache above) (hb : noCache below)
    (pre : List Call) (c : Call)
    (hpre : ∀ x ∈ pre, HistCallFor (classes (above ++ (Cls.cache, p) :: below)) s body unh above x)
    (hc : HistCallFor (classes (above ++ (Cls.cache, p) :: below)) s body unh above c) :
    let chain := above ++ (Cls.cache, p) :: below
    let seen := reach s above
    let r := runH s body unh chain {} pre
    let r' := runH s body unh chain {} (pre ++ [c])
    r'.2 = r.2 ++ [r'.2.getLast?.getD (applyFn s body c)] ∧
    ((∀ x ∈ pre, ¬ sameComb (seen x) (seen c)) →
      r'.1.evals.length = r.1.evals.length + 1 ∧ r'.2.getLast? = some (applyFn s body c)) ∧
    ((∃ x ∈ pre, sameComb (seen x) (seen c)) →
      r'.1.evals.length = r.1.evals.length ∧
      ∃ pre1 c0 pre2, pre = pre1 ++ c0 :: pre2 ∧ sameComb (seen c0) (seen c) ∧
        (∀ x ∈ pre1, ¬ sameComb (seen x) (seen c)) ∧ r'.2.getLast? = some (applyFn s body c0)) := by
  intro chain seen r r'
  obtain ⟨g1, g2, g3⟩ := stack_cache_history_from s body unh p above below ha hb {} [] (cacheHolds_empty _) nofun pre c
    hpre hc
  refine ⟨g1, fun hno => g2 fun y hy => ?_, fun ⟨x, hx, hs⟩ => ?_⟩
  · obtain ⟨x, hx, rfl⟩ := List.mem_map.1 hy
    exact hno x hx
  · obtain ⟨hl, h1, y0, h2, hsplit, hs0, hbefore, hlast⟩ := g3 ⟨seen x, List.mem_map_of_mem hx, hs⟩
    obtain ⟨l1, c0, l2, rfl, rfl, rfl⟩ := map_eq_append_cons hsplit
    obtain ⟨v0, hv0⟩ := (hpre c0 (by simp)).1
    refine ⟨hl, l1, c0, l2, rfl, hs0, fun y hy => hbefore _ (List.mem_map_of_mem hy), ?_⟩
    rw [hlast, stored_result_is_f s body _ above (within_above above (Cls.cache, p) below) c0 v0 hv0]

/-- non-vacuity: `try_value(cache(f))` for `f(a, axis=0, **kw)` called with the keyword `axis` AND an extra keyword AND an int
ndarray - outside `HistCall` (all three exclusions), inside `HistCallFor` for this stack -/
example :
    let s : Sig := { params := ["a", "axis"], defaults := [.cell (.int 0)], varargs := none, varkw := some "kw" }
    let c : Call := { args := [.cell (.int 1)], kw := [("axis", .cell (.int 5)), ("zz", .cell (.int 9))] }
    HistCallFor (classes ([(Cls.tryValue, [])] ++ (Cls.cache, []) :: [])) s recBody (fun _ => false) [(Cls.tryValue, [])] c ∧
    ¬ (∀ p ∈ c.kw, p.1 ≠ "axis") := by
  refine ⟨⟨⟨_, ⟨fun h => ?_, fun h => ?_, fun h => ?_, rfl⟩⟩, rfl, ?_⟩, by decide⟩
  -- `kwargs_support`, `loops`, `pd2np` are not among the classes of the stack: each `h` is a false membership
  · revert h; decide
  · revert h; decide
  · revert h; decide
  · exact ⟨by decide +kernel, by decide +kernel, by decide +kernel⟩

/-- **A stack with a cache layer, over any call history** - the case of `stack_cache_history_sharp` in which every call meets all
three exclusions whatever the stack (`HistCall`, `HistCall.toFor`) -/
theorem stack_cache_history (s : Sig) (body : PDict → Res Val) (unh : Call → Bool) (p : PDict)
    (above below : List (Cls × PDict)) (ha : noCache above) (hb : noCache below)
    (pre : List Call) (c : Call) (hpre : ∀ x ∈ pre, HistCall s body unh above x) (hc : HistCall s body unh above c) :
    let chain := above ++ (Cls.cache, p) :: below
    let seen := reach s above
    let r := runH s body unh chain {} pre
    let r' := runH s body unh chain {} (pre ++ [c])
    r'.2 = r.2 ++ [r'.2.getLast?.getD (applyFn s body c)] ∧
    ((∀ x ∈ pre, ¬ sameComb (seen x) (seen c)) →
      r'.1.evals.length = r.1.evals.length + 1 ∧ r'.2.getLast? = some (applyFn s body c)) ∧
    ((∃ x ∈ pre, sameComb (seen x) (seen c)) →
      r'.1.evals.length = r.1.evals.length ∧
      ∃ pre1 c0 pre2, pre = pre1 ++ c0 :: pre2 ∧ sameComb (seen c0) (seen c) ∧
        (∀ x ∈ pre1, ¬ sameComb (seen x) (seen c)) ∧ r'.2.getLast? = some (applyFn s body c0)) :=
  stack_cache_history_sharp s body unh p above below ha hb pre c (fun x hx => (hpre x hx).toFor _) (hc.toFor _)

/-- the whole history at once: the replies are `f` of the first call of the history that the cache layer sees under
the same key, and the plain function is executed as many times as there are distinct keys -/
theorem stack_cache_history_all_sharp (s : Sig) (body : PDict → Res Val) (unh : Call → Bool) (p : PDict)
    (above below : List (Cls × PDict)) (ha : noCache above) (hb : noCache below)
    (calls : List Call)
    (hcalls : ∀ x ∈ calls, (∃ v, ValidFor (classes (above ++ (Cls.cache, p) :: below)) s body x v) ∧
      unh (reach s above x) = false) :
    let seen := reach s above
    let r := runH s body unh (above ++ (Cls.cache, p) :: below) {} calls
    (∀ (i : Nat) (c : Call), calls[i]? = some c →
      ∃ pre1 c0 pre2, calls = pre1 ++ c0 :: pre2 ∧ callKey (seen c0) = callKey (seen c) ∧
        (∀ x ∈ pre1, callKey (seen x) ≠ callKey (seen c)) ∧ r.2[i]? = some (applyFn s body c0)) ∧
    ∃ keys : List Val, keys.Nodup ∧ (∀ k, k ∈ keys ↔ k ∈ calls.map fun c => callKey (seen c)) ∧
      r.1.evals.length = keys.length := by
  intro seen r
  have hKa := within_above above (Cls.cache, p) below
  have hKb := within_below above (Cls.cache, p) below
  obtain ⟨_, hr2, hr3⟩ := runH_refines_for _ s body unh p above below ha hb hKa hKb calls {} {} rfl hcalls
  simp only [List.length_nil, Nat.add_zero, Nat.zero_add] at hr3
  obtain ⟨hnd, hkeys, hrep⟩ := cache_once (resultOf s body) (calls.map seen)
  refine ⟨fun i c hi => ?_, ⟨_, hnd, fun k => by rw [hkeys k, List.map_map]; rfl, hr3⟩⟩
  have e2 : r.2 = (runCache (fun c => Except.ok (resultOf s body c)) {} (List.map seen calls)).2 := hr2
  have hmem : c ∈ calls := List.mem_of_getElem? hi
  obtain ⟨y, hf⟩ := Option.ne_none_iff_exists'.1 fun hf => (firstWith_none_iff _ _).1 hf
    (List.mem_map_of_mem (List.mem_map_of_mem hmem))
  obtain ⟨l1, c0, l2, hc12, rfl, hk0, hnot1⟩ := firstWith_map_eq_some hf
  refine ⟨l1, c0, l2, hc12, hk0, hnot1, ?_⟩
  obtain ⟨v, hv⟩ := (hcalls c0 (by rw [hc12]; simp)).1
  rw [e2, hrep]
  simp only [List.map_map, List.getElem?_map, hi, Option.map_some, Function.comp, hf, Option.getD_some]
  rw [(ValidFor.of_reach above hKa hv).resultOf_eq, hv.ok]

/-- the case `ValidCall` of `stack_cache_history_all_sharp` -/
theorem stack_cache_history_all (s : Sig) (body : PDict → Res Val) (unh : Call → Bool) (p : PDict)
    (above below : List (Cls × PDict)) (ha : noCache above) (hb : noCache below)
    (calls : List Call) (hcalls : ∀ x ∈ calls, (∃ v, ValidCall s body x v) ∧ unh (reach s above x) = false) :
    let seen := reach s above
    let r := runH s body unh (above ++ (Cls.cache, p) :: below) {} calls
    (∀ (i : Nat) (c : Call), calls[i]? = some c →
      ∃ pre1 c0 pre2, calls = pre1 ++ c0 :: pre2 ∧ callKey (seen c0) = callKey (seen c) ∧
        (∀ x ∈ pre1, callKey (seen x) ≠ callKey (seen c)) ∧ r.2[i]? = some (applyFn s body c0)) ∧
    ∃ keys : List Val, keys.Nodup ∧ (∀ k, k ∈ keys ↔ k ∈ calls.map fun c => callKey (seen c)) ∧
      r.1.evals.length = keys.length :=
  stack_cache_history_all_sharp s body unh p above below ha hb calls
    fun x hx => ⟨(hcalls x hx).1.imp fun _ hv => hv.toFor _, (hcalls x hx).2⟩

/-- the combination the cache layer sees: the call itself, unless `loops` sits above the cache — then a first
argument given by keyword has become positional (`loopsCall`) -/
theorem stack_cache_seen (s : Sig) (body : PDict → Res Val) (above : List (Cls × PDict)) (c : Call) (v : Val)
    (h : ValidCall s body c v) :
    reach s above c = if Cls.loops ∈ classes above then loopsCall s c else c :=
  (h.toFor _).passes.reach_eq above (within_classes above)

/-- so without `loops` above the cache the statement is about the calls exactly as passed to the stack -/
theorem stack_cache_history_as_passed_sharp (s : Sig) (body : PDict → Res Val) (unh : Call → Bool) (p : PDict)
    (above below : List (Cls × PDict)) (ha : noCache above) (hb : noCache below) (hl : Cls.loops ∉ classes above)
    (pre : List Call) (c : Call)
    (hpre : ∀ x ∈ pre, (∃ v, ValidFor (classes (above ++ (Cls.cache, p) :: below)) s body x v) ∧ unh x = false ∧ Call.ok x)
    (hc : (∃ v, ValidFor (classes (above ++ (Cls.cache, p) :: below)) s body c v) ∧ unh c = false ∧ Call.ok c) :
    let chain := above ++ (Cls.cache, p) :: below
    let r := runH s body unh chain {} pre
    let r' := runH s body unh chain {} (pre ++ [c])
    ((∀ x ∈ pre, ¬ sameComb x c) →
      r'.1.evals.length = r.1.evals.length + 1 ∧ r'.2.getLast? = some (applyFn s body c)) ∧
    ((∃ x ∈ pre, sameComb x c) →
      r'.1.evals.length = r.1.evals.length ∧
      ∃ pre1 c0 pre2, pre = pre1 ++ c0 :: pre2 ∧ sameComb c0 c ∧
        (∀ x ∈ pre1, ¬ sameComb x c) ∧ r'.2.getLast? = some (applyFn s body c0)) := by
  have hKa := within_above above (Cls.cache, p) below
  have hseen : ∀ x, (∃ v, ValidFor (classes (above ++ (Cls.cache, p) :: below)) s body x v) → reach s above x = x := by
    rintro x ⟨v, h⟩
    exact (h.passes.reach_eq above hKa).trans (if_neg hl)
  have hpre' : ∀ x ∈ pre, HistCallFor (classes (above ++ (Cls.cache, p) :: below)) s body unh above x := by
    intro x hx
    obtain ⟨h1, h2, h3⟩ := hpre x hx
    exact ⟨h1, by rw [hseen x h1]; exact h2, by rw [hseen x h1]; exact h3⟩
  have hc' : HistCallFor (classes (above ++ (Cls.cache, p) :: below)) s body unh above c :=
    ⟨hc.1, by rw [hseen c hc.1]; exact hc.2.1, by rw [hseen c hc.1]; exact hc.2.2⟩
  -- the cache layer receives the calls as passed, so the statement from the empty dict is the goal up to the stored result
  have hmap : pre.map (reach s above) = pre :=
    (List.map_congr_left fun x hx => hseen x (hpre x hx).1).trans (List.map_id' pre)
  have g := stack_cache_history_from s body unh p above below ha hb {} [] (cacheHolds_empty _) nofun pre c hpre' hc'
  dsimp only at g
  rw [List.nil_append, hmap, hseen c hc.1] at g
  refine ⟨g.2.1, fun hex => ?_⟩
  obtain ⟨hlen, pre1, c0, pre2, hsplit, hs0, hbefore, hlast⟩ := g.2.2 hex
  obtain ⟨v0, hv0⟩ := (hpre c0 (by rw [hsplit]; simp)).1
  have hres := stored_result_is_f s body _ above hKa c0 v0 hv0
  rw [hseen c0 ⟨v0, hv0⟩] at hres
  exact ⟨hlen, pre1, c0, pre2, hsplit, hs0, hbefore, hlast.trans (congrArg some hres)⟩

/-- the case `ValidCall` of `stack_cache_history_as_passed_sharp` -/
theorem stack_cache_history_as_passed (s : Sig) (body : PDict → Res Val) (unh : Call → Bool) (p : PDict)
    (above below : List (Cls × PDict)) (ha : noCache above) (hb : noCache below) (hl : Cls.loops ∉ classes above)
    (pre : List Call) (c : Call)
    (hpre : ∀ x ∈ pre, (∃ v, ValidCall s body x v) ∧ unh x = false ∧ Call.ok x)
    (hc : (∃ v, ValidCall s body c v) ∧ unh c = false ∧ Call.ok c) :
    let chain := above ++ (Cls.cache, p) :: below
    let r := runH s body unh chain {} pre
    let r' := runH s body unh chain {} (pre ++ [c])
    ((∀ x ∈ pre, ¬ sameComb x c) →
      r'.1.evals.length = r.1.evals.length + 1 ∧ r'.2.getLast? = some (applyFn s body c)) ∧
    ((∃ x ∈ pre, sameComb x c) →
      r'.1.evals.length = r.1.evals.length ∧
      ∃ pre1 c0 pre2, pre = pre1 ++ c0 :: pre2 ∧ sameComb c0 c ∧
        (∀ x ∈ pre1, ¬ sameComb x c) ∧ r'.2.getLast? = some (applyFn s body c0)) :=
  stack_cache_history_as_passed_sharp s body unh p above below ha hb hl pre c
    (fun x hx => ⟨(hpre x hx).1.imp fun _ hv => hv.toFor _, (hpre x hx).2⟩) ⟨hc.1.imp fun _ hv => hv.toFor _, hc.2⟩

/-- with `loops` above the cache two DIFFERENT combinations as passed to the stack — `g(a=1)` and `g(1)` — are one
combination for the cache layer: one execution of `f`, both replies are `f`'s (not a violation: the cached function
is called with `(1)` both times; `loops` has made the first argument positional) -/
theorem loops_above_cache_merges :
    ∃ (s : Sig) (c1 c2 : Call), ¬ sameComb c1 c2 ∧
      (runH s recBody Call.hasArr [(.loops, []), (.cache, [])] {} [c1, c2]).1.evals.length = 1 ∧
      (runH s recBody Call.hasArr [(.loops, []), (.cache, [])] {} [c1, c2]).2 = [applyFn s recBody c1, applyFn s recBody c2] := by
  refine ⟨{ params := ["a"], defaults := [], varargs := none, varkw := none },
    { args := [], kw := [("a", .cell (.int 1))] }, { args := [.cell (.int 1)], kw := [] }, ?_,
    by decide +kernel, by decide +kernel⟩
  rintro ⟨hl, _⟩
  simp at hl

/-- a call with an unhashable argument (ndarray, pandas: finding K5) inside a history through a stack: in ANY state
of the cache the plain function is executed exactly once, the reply is what `f` returns, and the cache is left as it
was — so such calls are re-evaluated every time but never disturb the other calls -/
theorem stack_cache_unhashable_call_sharp (s : Sig) (body : PDict → Res Val) (unh : Call → Bool) (p : PDict)
    (above below : List (Cls × PDict)) (ha : noCache above) (hb : noCache below) (st : HSt) (c : Call) (v : Val)
    (h : ValidFor (classes (above ++ (Cls.cache, p) :: below)) s body c v) (hu : unh (reach s above c) = true) :
    let r := evalH s body unh (above ++ (Cls.cache, p) :: below) st c
    r.2 = applyFn s body c ∧ r.1.cache = st.cache ∧ r.1.evals.length = st.evals.length + 1 := by
  intro r
  have hKa := within_above above (Cls.cache, p) below
  have hKb := within_below above (Cls.cache, p) below
  have hr : r = ({ st with evals := st.evals ++ [reach s below (reach s above c)] }, .ok v) :=
    evalH_through_unh_for _ s body unh p below hb hKb above st c v ha hKa h hu
  rw [hr, h.ok]
  exact ⟨rfl, rfl, by simp⟩

/-- the case `ValidCall` of `stack_cache_unhashable_call_sharp` -/
theorem stack_cache_unhashable_call (s : Sig) (body : PDict → Res Val) (unh : Call → Bool) (p : PDict)
    (above below : List (Cls × PDict)) (ha : noCache above) (hb : noCache below) (st : HSt) (c : Call) (v : Val)
    (h : ValidCall s body c v) (hu : unh (reach s above c) = true) :
    let r := evalH s body unh (above ++ (Cls.cache, p) :: below) st c
    r.2 = applyFn s body c ∧ r.1.cache = st.cache ∧ r.1.evals.length = st.evals.length + 1 :=
  stack_cache_unhashable_call_sharp s body unh p above below ha hb st c v (h.toFor _) hu

/-- **the first call of a history is the single-call model**: on an empty cache the stack returns what `evalChain`
returns — for every stack and every call, valid or not, raising or not -/
theorem stack_history_first_call (s : Sig) (body : PDict → Res Val) (unh : Call → Bool)
    (chain : List (Cls × PDict)) (c : Call) :
    (evalH s body unh chain {} c).2 = evalChain s body chain c :=
  (evalH_fresh s body unh chain {} c rfl).1

/-- every stack the constructor builds has no cache layer or exactly one, so one of `stack_cache_history` /
`stack_history_without_cache` applies to it -/
theorem constructed_stack_shape (ds : List (Cls × PDict)) (base : Nat) :
    let chain := (mkMany ds { chain := [], base := base }).chain
    noCache chain ∨ ∃ above p below, chain = above ++ (Cls.cache, p) :: below ∧ noCache above ∧ noCache below :=
  split_at_cache _ (mk_keeps_distinct ds base)

/-- a stack without a cache layer: every valid call is answered by `f` and executes it once -/
theorem stack_history_without_cache (s : Sig) (body : PDict → Res Val) (unh : Call → Bool)
    (chain : List (Cls × PDict)) (hn : noCache chain) (calls : List Call)
    (hv : ∀ c ∈ calls, ∃ v, ValidCall s body c v) :
    (runH s body unh chain {} calls).2 = calls.map (applyFn s body) ∧
    (runH s body unh chain {} calls).1.evals.length = calls.length := by
  obtain ⟨h1, h2⟩ := runH_noCache s body unh chain hn calls {} hv
  exact ⟨h1, by rw [h2]; simp⟩

/-- non-vacuity: `try_value(repeat=2)(loops(cache(kwargs_support(f))))` for `f(a, b=2)`, called with `(1)`, `(a=1)`,
`(1.0)`, `(1, b=3)`, `(1)`: two executions, the third reply is the FIRST result (`a = 1`, not `1.0`) -/
example :
    let s : Sig := { params := ["a", "b"], defaults := [.cell (.int 2)], varargs := none, varkw := none }
    let chain : List (Cls × PDict) :=
      [(.tryValue, [("repeat", .cell (.int 2))]), (.loops, []), (.cache, []), (.kwargsSupport, [])]
    let c1 : Call := { args := [.cell (.int 1)], kw := [] }
    let c2 : Call := { args := [], kw := [("a", .cell (.int 1))] }
    let c3 : Call := { args := [.cell (.flt 4)], kw := [] }
    let c4 : Call := { args := [.cell (.int 1)], kw := [("b", .cell (.int 3))] }
    let ab (b : Int) : Res Val := .ok (.dict [("a", .cell (.int 1)), ("b", .cell (.int b))])
    ValidCall s recBody c2 (.dict [("a", .cell (.int 1)), ("b", .cell (.int 2))]) ∧
    (runH s recBody Call.hasArr chain {} [c1, c2, c3, c4, c1]).2 = [ab 2, ab 2, ab 2, ab 3, ab 2] ∧
    (runH s recBody Call.hasArr chain {} [c1, c2, c3, c4, c1]).1.evals.length = 2 := by
  refine ⟨⟨?_, ?_, by decide +kernel, by decide +kernel⟩, by decide +kernel, by decide +kernel⟩
  · intro p hp; simp at hp; subst hp; simp
  · intro p hp; simp at hp; subst hp; simp

/-- **The cache survives re-wrapping**: a history `pre0` through one stack, then - the dict taken over by the constructor
(`runSteps`) - a history `pre` and a call `c` through ANOTHER stack over the same function.  The calls of both histories, each as
its own cache layer received it, are the earlier calls. -/
theorem stack_cache_history_rewrapped (s : Sig) (body : PDict → Res Val) (unh : Call → Bool) (p0 p : PDict)
    (above0 below0 above below : List (Cls × PDict))
    (ha0 : noCache above0) (hb0 : noCache below0) (ha : noCache above) (hb : noCache below)
    (pre0 pre : List Call) (c : Call)
    (hpre0 : ∀ x ∈ pre0, HistCallFor (classes (above0 ++ (Cls.cache, p0) :: below0)) s body unh above0 x)
    (hpre : ∀ x ∈ pre, HistCallFor (classes (above ++ (Cls.cache, p) :: below)) s body unh above x)
    (hc : HistCallFor (classes (above ++ (Cls.cache, p) :: below)) s body unh above c) :
    let chain := above ++ (Cls.cache, p) :: below
    let seen := reach s above
    let st0 := (runH s body unh (above0 ++ (Cls.cache, p0) :: below0) {} pre0).1
    let hist := pre0.map (reach s above0) ++ pre.map seen
    let r := runH s body unh chain st0 pre
    let r' := runH s body unh chain st0 (pre ++ [c])
    r'.2 = r.2 ++ [r'.2.getLast?.getD (applyFn s body c)] ∧
    ((∀ y ∈ hist, ¬ sameComb y (seen c)) →
      r'.1.evals.length = r.1.evals.length + 1 ∧ r'.2.getLast? = some (applyFn s body c)) ∧
    ((∃ y ∈ hist, sameComb y (seen c)) →
      r'.1.evals.length = r.1.evals.length ∧
      ∃ h1 y0 h2, hist = h1 ++ y0 :: h2 ∧ sameComb y0 (seen c) ∧
        (∀ y ∈ h1, ¬ sameComb y (seen c)) ∧ r'.2.getLast? = some (.ok (resultOf s body y0))) := by
  intro chain seen st0 hist r r'
  have hh := runH_holds s body unh p0 above0 below0 ha0 hb0 {} [] (cacheHolds_empty _) nofun pre0
    fun x hx => ⟨(hpre0 x hx).1, fun _ => (hpre0 x hx).2.2⟩
  dsimp only at hh
  rw [List.filter_eq_self.2 fun x hx => by simp [(hpre0 x hx).2.1], List.nil_append] at hh
  exact stack_cache_history_from s body unh p above below ha hb st0 _ hh.1 hh.2 pre c hpre hc

/-- the model evaluated on `g1 = cache(f); g1(1); g2 = cache(try_none(g1)); g2(1)` - the second stack
is `cache :: try_value`, the dict is g1's: `f` is not executed again -/
example :
    let s : Sig := { params := ["a"], defaults := [], varargs := none, varkw := none }
    let c1 : Call := { args := [.cell (.int 1)], kw := [] }
    let st0 := (runH s recBody Call.hasArr [(.cache, [])] {} [c1]).1
    (mk .cache [] (mk .tryValue [] { chain := [(.cache, [])], base := 0 })).chain = [(.cache, []), (.tryValue, [])] ∧
    st0.evals.length = 1 ∧
    (runH s recBody Call.hasArr [(.cache, []), (.tryValue, [])] st0 [c1]).1.evals.length = 1 ∧
    (runH s recBody Call.hasArr [(.cache, []), (.tryValue, [])] st0 [c1]).2 = [applyFn s recBody c1] := by
  refine ⟨by decide +kernel, by decide +kernel, by decide +kernel, by decide +kernel⟩

/-- **Histories with hashable AND unhashable calls (finding K5 woven into the history statement).**  Any stack
`above ++ cache :: below`, any history `pre` of valid calls of a non-raising `f` - each hashable or not for the cache layer -
and any next valid call `c`:
* `c` unhashable: one more execution, the reply is `f c`, the dict is untouched;
* `c` hashable: what `stack_cache_history_sharp` says, with the HASHABLE earlier calls as the earlier calls - unhashable calls
  before it, however many, neither answer it nor make it evaluated again. -/
theorem stack_cache_history_mixed (s : Sig) (body : PDict → Res Val) (unh : Call → Bool) (p : PDict)
    (above below : List (Cls × PDict)) (ha : noCache above) (hb : noCache below)
    (pre : List Call) (c : Call)
    (hpre : ∀ x ∈ pre, (∃ v, ValidFor (classes (above ++ (Cls.cache, p) :: below)) s body x v) ∧
      (unh (reach s above x) = false → Call.ok (reach s above x)))
    (hc : ∃ v, ValidFor (classes (above ++ (Cls.cache, p) :: below)) s body c v)
    (hcok : unh (reach s above c) = false → Call.ok (reach s above c)) :
    let chain := above ++ (Cls.cache, p) :: below
    let seen := reach s above
    let hashable := pre.filter fun x => !unh (seen x)
    let r := runH s body unh chain {} pre
    let r' := runH s body unh chain {} (pre ++ [c])
    r'.2 = r.2 ++ [r'.2.getLast?.getD (applyFn s body c)] ∧
    (unh (seen c) = true →
      r'.1.evals.length = r.1.evals.length + 1 ∧ r'.2.getLast? = some (applyFn s body c) ∧ r'.1.cache = r.1.cache) ∧
    (unh (seen c) = false →
      ((∀ x ∈ hashable, ¬ sameComb (seen x) (seen c)) →
        r'.1.evals.length = r.1.evals.length + 1 ∧ r'.2.getLast? = some (applyFn s body c)) ∧
      ((∃ x ∈ hashable, sameComb (seen x) (seen c)) →
        r'.1.evals.length = r.1.evals.length ∧
        ∃ pre1 c0 pre2, hashable = pre1 ++ c0 :: pre2 ∧ sameComb (seen c0) (seen c) ∧
          (∀ x ∈ pre1, ¬ sameComb (seen x) (seen c)) ∧ r'.2.getLast? = some (applyFn s body c0))) := by
  intro chain seen hashable r r'
  have hKa := within_above above (Cls.cache, p) below
  obtain ⟨e1, hlast, h1⟩ := snoc_replies (r := r) (r' := r') (runH_snoc s body unh chain {} pre c) (applyFn s body c)
  refine ⟨h1, fun hu => ?_, fun hu => ?_⟩
  · obtain ⟨v, hv⟩ := hc
    obtain ⟨k1, k2, k3⟩ := stack_cache_unhashable_call_sharp s body unh p above below ha hb r.1 c v hv hu
    exact ⟨e1 ▸ k3, hlast.trans (congrArg some k1), e1 ▸ k2⟩
  · have hh := runH_holds s body unh p above below ha hb {} [] (cacheHolds_empty _) nofun pre hpre
    dsimp only at hh
    rw [List.nil_append] at hh
    obtain ⟨_, g2, g3⟩ := stack_cache_step_from s body unh p above below ha hb r.1 (hashable.map seen) hh.1 hh.2 c
      ⟨hc, hu, hcok hu⟩
    refine ⟨fun hno => ?_, fun ⟨x, hx, hs⟩ => ?_⟩
    · obtain ⟨k1, k2⟩ := g2 fun y hy => by
        obtain ⟨x, hx, rfl⟩ := List.mem_map.1 hy
        exact hno x hx
      exact ⟨by rw [e1]; exact k1, by rw [hlast]; exact congrArg some k2⟩
    · obtain ⟨hl, h1, y0, h2, hsplit, hs0, hbefore, hrep⟩ := g3 ⟨seen x, List.mem_map_of_mem hx, hs⟩
      obtain ⟨l1, c0, l2, hpre12, rfl, rfl⟩ := map_eq_append_cons hsplit
      obtain ⟨v0, hv0⟩ := (hpre c0 (List.mem_filter.1 (by rw [hpre12]; simp : c0 ∈ hashable)).1).1
      refine ⟨by rw [e1]; exact hl, l1, c0, l2, hpre12, hs0, fun y hy => hbefore _ (List.mem_map_of_mem hy), ?_⟩
      rw [hlast, ← stored_result_is_f s body _ above hKa c0 v0 hv0]
      exact congrArg some hrep

/-- the model evaluated on `try_none(cache(f))`; `g(1)`, `g(array)`, `g(array)`, `g(1)`: the array calls are executed each time
(3 executions in all), the last call is answered from the dict -/
example :
    let s : Sig := { params := ["a"], defaults := [], varargs := none, varkw := none }
    let chain : List (Cls × PDict) := [(.tryValue, []), (.cache, [])]
    let c1 : Call := { args := [.cell (.int 1)], kw := [] }
    let ca : Call := { args := [.cell (.str "~arr:f:1,2")], kw := [] }
    (runH s recBody Call.hasArr chain {} [c1, ca, ca, c1]).1.evals.length = 3 ∧
    (runH s recBody Call.hasArr chain {} [c1, ca, ca, c1]).2 = [applyFn s recBody c1, applyFn s recBody ca, applyFn s recBody ca, applyFn s recBody c1] := by
  refine ⟨by decide +kernel, by decide +kernel⟩

/-! ## a constructor does not destroy its operand (finding P7)

`stepM` / `runMulti` (WrapHist.lean) keep every object ever built callable.  The clause "wrapping twice equals wrapping once
- directly or through a chain" is about the object the constructor returns; the objects it was given must keep answering as
before.  The constructor of the library rebuilds the chain from copies and leaves its operand's inner objects alone; that is what
the model does and what the statements below say. -/

/-- the world with further objects appended (what any number of constructor applications do to it) -/
def plus (w : MWorld) (extra : List MObj) : MWorld := { w with objs := w.objs ++ extra }

/-- a construction step adds ONE object at the end and changes nothing else: no existing object, no cache dict, no execution -/
theorem construction_keeps_objects (s : Sig) (body : PDict → Res Val) (unh : Call → Bool) (w w' : MWorld)
    (cls : Cls) (p : PDict) (src : Nat) (out : Option (Res Val × Nat))
    (h : stepM s body unh w (.wrap cls p src) = some (w', out)) :
    out = none ∧ ∃ o, w.objs[src]? = some o ∧ w' = plus w [mkObj cls p o] := by
  simp only [stepM] at h
  cases ho : w.objs[src]? with
  | none => simp [ho] at h
  | some o =>
    simp only [ho, Option.some.injEq, Prod.mk.injEq] at h
    exact ⟨h.2.symm, o, rfl, h.1.symm⟩

/-- a call of an EXISTING object in a world with further objects: the same reply, the same executions, the same effect on the
cache dicts - the further objects are not touched and do not matter -/
theorem call_ignores_later_objects (s : Sig) (body : PDict → Res Val) (unh : Call → Bool) (w : MWorld)
    (extra : List MObj) (j : Nat) (c : Call) (hj : j < w.objs.length) :
    stepM s body unh (plus w extra) (.call j c) =
      (stepM s body unh w (.call j c)).map fun r => (plus r.1 extra, r.2) := by
  simp only [stepM, plus, List.getElem?_append_left hj]
  cases ho : w.objs[j]? with
  | none => rfl
  | some o =>
    simp only
    split
    · simp only [Option.map_some, List.set_append_left _ _ hj]
    · simp only [Option.map_some]

theorem call_keeps_length (s : Sig) (body : PDict → Res Val) (unh : Call → Bool) (w w1 : MWorld) (j : Nat) (c : Call)
    (out : Option (Res Val × Nat)) (h : stepM s body unh w (.call j c) = some (w1, out)) :
    w1.objs.length = w.objs.length := by
  simp only [stepM] at h
  cases ho : w.objs[j]? with
  | none => simp [ho] at h
  | some o =>
    simp only [ho] at h
    split at h
    · simp only [Option.some.injEq, Prod.mk.injEq] at h
      rw [← h.1]; simp
    · simp only [Option.some.injEq, Prod.mk.injEq] at h
      rw [← h.1]

/-- **objects built earlier answer as before**: any history of calls of the objects that exist in `w` gives the same replies and
the same numbers of executions of `f` whether or not further objects (`extra`: the results of ANY constructor applications) have
been built in between -/
theorem older_objects_ignore_later_objects (s : Sig) (body : PDict → Res Val) (unh : Call → Bool) (extra : List MObj) :
    ∀ (calls : List (Nat × Call)) (w : MWorld), (∀ x ∈ calls, x.1 < w.objs.length) →
      runMulti s body unh (plus w extra) (calls.map fun x => .call x.1 x.2) =
        runMulti s body unh w (calls.map fun x => .call x.1 x.2)
  | [], _, _ => rfl
  | (j, c) :: rest, w, h => by
    have hj : j < w.objs.length := h (j, c) (by simp)
    simp only [List.map_cons, runMulti, call_ignores_later_objects s body unh w extra j c hj]
    cases hs : stepM s body unh w (.call j c) with
    | none => rfl
    | some r =>
      obtain ⟨w1, out⟩ := r
      have hl := call_keeps_length s body unh w w1 j c out hs
      simp only [Option.map_some]
      rw [older_objects_ignore_later_objects s body unh extra rest w1
        (fun x hx => by rw [hl]; exact h x (by simp [hx]))]

/-- one constructor application on any existing object, then calls of the existing objects: replies and execution counts as
without the construction (`y = W(x)`, then `x` again - finding P7) -/
theorem older_objects_answer_as_before (s : Sig) (body : PDict → Res Val) (unh : Call → Bool) (w w' : MWorld)
    (cls : Cls) (p : PDict) (src : Nat) (out : Option (Res Val × Nat))
    (h : stepM s body unh w (.wrap cls p src) = some (w', out))
    (calls : List (Nat × Call)) (hc : ∀ x ∈ calls, x.1 < w.objs.length) :
    runMulti s body unh w (.wrap cls p src :: calls.map fun x => .call x.1 x.2) =
      runMulti s body unh w (calls.map fun x => .call x.1 x.2) := by
  obtain ⟨hout, o, _, hw⟩ := construction_keeps_objects s body unh w w' cls p src out h
  subst hout
  simp only [runMulti, h]
  rw [hw, older_objects_ignore_later_objects s body unh _ calls w hc]
  cases runMulti s body unh w (calls.map fun x => MStep.call x.1 x.2) <;> rfl

/-- an object WITHOUT a cache layer is transparent in every world - whatever was built before or after it, on top of it or not,
whatever the cache dicts hold: a valid call returns what `f` returns and executes it exactly once -/
theorem uncached_object_transparent_in_any_world (s : Sig) (body : PDict → Res Val) (unh : Call → Bool) (w : MWorld)
    (j : Nat) (o : MObj) (c : Call) (v : Val) (ho : w.objs[j]? = some o) (hn : hasCacheLayer o.chain = false)
    (hv : ValidCall s body c v) :
    stepM s body unh w (.call j c) =
      some ({ w with evals := w.evals ++ [reach s o.chain c] }, some (.ok v, w.evals.length + 1)) := by
  simp only [stepM, ho, hn, Bool.false_eq_true, if_false,
    evalH_below s body unh o.chain _ c v (hasCacheLayer_eq_false_iff.1 hn) hv, List.length_append, List.length_cons, List.length_nil]

/-- the two shapes of finding P7, evaluated on the model: `x = kwargs_support(pd2np(try_zero(f)))`, a raising call gives the
fallback `0` before and after `try_none(x)`; `x = try_none(kwargs_support(cache(f)))` called twice, `cache_func(x)`, called twice
again: one execution in all -/
example :
    let s : Sig := { params := ["a"], defaults := [], varargs := none, varkw := none }
    let body : PDict → Res Val := fun b => if b.lookup "a" = some (.cell (.str "!")) then .error Err.type else .ok (.dict b)
    let tv (v : Val) : PDict := [("repeat", .cell (.int 0)), ("return_value", .cell (.bool true)), ("value", v)]
    let bad : Call := { args := [.cell (.str "!")], kw := [] }
    let one : Call := { args := [.cell (.int 1)], kw := [] }
    runMulti s body (fun _ => false) {} [.wrap .tryValue (tv (.cell (.int 0))) 0, .wrap .pd2np [] 1, .wrap .kwargsSupport [] 2,
        .call 3 bad, .wrap .tryValue (tv (.cell .none)) 3, .call 3 bad, .call 4 bad]
      = some [(.ok (.cell (.int 0)), 1), (.ok (.cell (.int 0)), 2), (.ok (.cell .none), 3)] ∧
    runMulti s body (fun _ => false) {} [.wrap .cache [] 0, .wrap .kwargsSupport [] 1, .wrap .tryValue (tv (.cell .none)) 2,
        .call 3 one, .call 3 one, .wrap .cache [] 3, .call 3 one, .call 3 one, .call 4 one]
      = some [(.ok (.dict [("a", .cell (.int 1))]), 1), (.ok (.dict [("a", .cell (.int 1))]), 1),
              (.ok (.dict [("a", .cell (.int 1))]), 1), (.ok (.dict [("a", .cell (.int 1))]), 1), (.ok (.dict [("a", .cell (.int 1))]), 1)] := by
  decide +kernel

/-- the dict the cache layer of object `o` holds in world `w` (empty when it has not been created yet) -/
def dictOf (w : MWorld) (o : MObj) : List (Val × Val) :=
  match o.cid with
  | some i => w.caches[i]?.getD []
  | Option.none => []

/-- the new world after a call of a cached object, explicitly (no hypothesis on the object's `cid`) -/
theorem stepM_call_cached (s : Sig) (body : PDict → Res Val) (unh : Call → Bool) (w : MWorld) (j : Nat) (o : MObj) (c : Call)
    (ho : w.objs[j]? = some o) (hcl : hasCacheLayer o.chain = true) :
    let i := o.cid.getD w.caches.length
    let caches := if o.cid.isSome then w.caches else w.caches ++ [[]]
    let e := evalH s body unh o.chain { cache := caches[i]?.getD [], evals := w.evals } c
    stepM s body unh w (.call j c) =
      some ({ objs := w.objs.set j { o with cid := some i }, caches := caches.set i e.1.cache, evals := e.1.evals },
            some (e.2, e.1.evals.length)) := by
  cases hcid : o.cid with
  | none => simp [stepM, ho, hcl, hcid]
  | some i => simp [stepM, ho, hcl, hcid]

/-- a call of an object with a cache layer reads the object's dict and leaves the new dict in its place, or at a new last
index if the object had none -/
theorem stepM_call_dict (s : Sig) (body : PDict → Res Val) (unh : Call → Bool) (w : MWorld) (j : Nat) (o : MObj) (c : Call)
    (ho : w.objs[j]? = some o) (hcl : hasCacheLayer o.chain = true) (hwf : ∀ i, o.cid = some i → i < w.caches.length) :
    let e := evalH s body unh o.chain { cache := dictOf w o, evals := w.evals } c
    stepM s body unh w (.call j c) =
      some ({ objs := w.objs.set j { o with cid := some (o.cid.getD w.caches.length) },
              caches := match o.cid with | some i => w.caches.set i e.1.cache | Option.none => w.caches ++ [e.1.cache],
              evals := e.1.evals }, some (e.2, e.1.evals.length)) := by
  cases hcid : o.cid with
  | none => simp [stepM, ho, hcl, dictOf, hcid]
  | some i => simp [stepM, ho, hcl, dictOf, hcid, hwf i hcid]

/-- **A cached object in ANY world** - whatever objects were built from it or it was built from, whichever of them share its
dict and were called before: if the dict of its cache layer holds results of `f` (calls `seen0` behind the entries), a valid
hashable call is executed iff no call behind the dict is the same combination, otherwise it is answered with the stored result
of the first such call; and afterwards the dict (an item of this object from then on: `cid`) still holds results of `f`, the call added.
The last conclusion is the hypothesis again, for the next call of ANY object whose cache layer holds this dict (the objects
built from this one after its first call, and the ones it was built from): an invariant along every history of valid calls. -/
theorem cached_object_call_in_any_world (s : Sig) (body : PDict → Res Val) (unh : Call → Bool) (w : MWorld)
    (j : Nat) (o : MObj) (c : Call) (p : PDict) (above below : List (Cls × PDict))
    (ho : w.objs[j]? = some o) (hch : o.chain = above ++ (Cls.cache, p) :: below)
    (ha : noCache above) (hb : noCache below) (hwf : ∀ i, o.cid = some i → i < w.caches.length)
    (seen0 : List Call) (h0 : CacheHolds (resultOf s body) (dictOf w o) seen0) (hok0 : ∀ x ∈ seen0, Call.ok x)
    (hc : HistCallFor (classes (above ++ (Cls.cache, p) :: below)) s body unh above c) :
    let seen := reach s above
    ∃ w' r n o', stepM s body unh w (.call j c) = some (w', some (r, n)) ∧
      w'.objs[j]? = some o' ∧ o'.chain = o.chain ∧
      CacheHolds (resultOf s body) (dictOf w' o') (seen0 ++ [seen c]) ∧
      ((∀ y ∈ seen0, ¬ sameComb y (seen c)) → n = w.evals.length + 1 ∧ r = applyFn s body c) ∧
      ((∃ y ∈ seen0, sameComb y (seen c)) → n = w.evals.length ∧
        ∃ h1 y0 h2, seen0 = h1 ++ y0 :: h2 ∧ sameComb y0 (seen c) ∧ (∀ y ∈ h1, ¬ sameComb y (seen c)) ∧
          r = .ok (resultOf s body y0)) := by
  intro seen
  have hj : j < w.objs.length := (List.getElem?_eq_some_iff.1 ho).1
  obtain ⟨k1, k2, k3⟩ := stack_cache_step_from s body unh p above below ha hb
    { cache := dictOf w o, evals := w.evals } seen0 h0 hok0 c hc
  rw [← hch] at k1 k2 k3
  refine ⟨_, _, _, { o with cid := some (o.cid.getD w.caches.length) },
    stepM_call_dict s body unh w j o c ho (by simp [hasCacheLayer, hch]) hwf, by simp [hj], rfl, ?_, k2, k3⟩
  cases hcid : o.cid with
  | none => simpa [dictOf, hcid] using k1
  | some i => simpa [dictOf, hcid, hwf i hcid] using k1

/-- a well-formed world: chains as the constructor builds them, every `cid` names an existing dict, and every dict holds results of
`g` (for some calls `seen` behind its entries, all with python dicts as arguments) -/
structure WorldOk (g : Call → Val) (w : MWorld) : Prop where
  chains : ∀ o ∈ w.objs, (classes o.chain).Nodup
  cids : ∀ o ∈ w.objs, ∀ i, o.cid = some i → i < w.caches.length
  holds : ∀ (i : Nat) (d : List (Val × Val)), w.caches[i]? = some d → ∃ seen, CacheHolds g d seen ∧ ∀ x ∈ seen, Call.ok x

theorem worldOk_init (g : Call → Val) : WorldOk g {} :=
  ⟨by intro o ho; simp at ho; subst ho; exact List.nodup_nil, by intro o ho i hi; simp at ho; subst ho; simp at hi,
   by intro i d h; simp at h⟩

/-- a step the theorems speak about: a call of an object WITH a cache layer is valid and hashable for that object's stack -/
def StepValid (s : Sig) (body : PDict → Res Val) (unh : Call → Bool) (w : MWorld) : MStep → Prop
  | .wrap _ _ _ => True
  | .call j c => ∀ o above p below, w.objs[j]? = some o → o.chain = above ++ (Cls.cache, p) :: below →
      HistCallFor (classes (above ++ (Cls.cache, p) :: below)) s body unh above c

/-- `d'` is the dict a valid hashable call of some stack with a cache layer leaves when it finds the dict `d` -/
def Served (s : Sig) (body : PDict → Res Val) (unh : Call → Bool) (d d' : List (Val × Val)) : Prop :=
  ∃ above p below c evals, noCache above ∧ noCache below ∧
    HistCallFor (classes (above ++ (Cls.cache, p) :: below)) s body unh above c ∧
    d' = (evalH s body unh (above ++ (Cls.cache, p) :: below) { cache := d, evals := evals } c).1.cache

theorem Served.holds {s : Sig} {body : PDict → Res Val} {unh : Call → Bool} {d d' : List (Val × Val)}
    (h : Served s body unh d d') (hd : ∃ seen, CacheHolds (resultOf s body) d seen ∧ ∀ x ∈ seen, Call.ok x) :
    ∃ seen, CacheHolds (resultOf s body) d' seen ∧ ∀ x ∈ seen, Call.ok x := by
  obtain ⟨above, p, below, c, evals, ha, hb, hc, rfl⟩ := h
  obtain ⟨seen0, h0, hok0⟩ := hd
  refine ⟨seen0 ++ [reach s above c],
    (stack_cache_step_from s body unh p above below ha hb { cache := d, evals := evals } seen0 h0 hok0 c hc).1, fun x hx => ?_⟩
  exact (List.mem_append.1 hx).elim (hok0 x) fun h => List.mem_singleton.1 h ▸ hc.2.2

/-- what a valid step does to the two heaps of a well-formed world.  Objects: a construction allocates `mkObj` of an object that
is there; a call of an object with a cache layer rewrites that object, keeping its chain and giving it a dict that exists
afterwards.  Dicts: such a call allocates or rewrites one dict, as `Served` says. -/
theorem stepM_effect (s : Sig) (body : PDict → Res Val) (unh : Call → Bool) (w w' : MWorld) (st : MStep)
    (out : Option (Res Val × Nat)) (hw : WorldOk (resultOf s body) w) (hv : StepValid s body unh w st)
    (hs : stepM s body unh w st = some (w', out)) :
    (∃ tgt, HeapStep (fun x => ∃ cls p, ∃ o ∈ w.objs, x = mkObj cls p o)
        (fun o o' => o'.chain = o.chain ∧ ∀ i, o'.cid = some i → i < w'.caches.length) w.objs tgt w'.objs) ∧
      ∃ tgt, HeapStep (Served s body unh []) (Served s body unh) w.caches tgt w'.caches := by
  cases st with
  | wrap cls p src =>
    obtain ⟨_, o, ho, rfl⟩ := construction_keeps_objects s body unh w w' cls p src out hs
    exact ⟨⟨none, .alloc _ ⟨cls, p, o, List.mem_of_getElem? ho, rfl⟩⟩, none, .same⟩
  | call j c =>
    cases ho : w.objs[j]? with
    | none => simp [stepM, ho] at hs
    | some o =>
      have hom : o ∈ w.objs := List.mem_of_getElem? ho
      cases hcl : hasCacheLayer o.chain with
      | false =>
        simp only [stepM, ho, hcl, Bool.false_eq_true, if_false, Option.some.injEq, Prod.mk.injEq] at hs
        obtain ⟨rfl, _⟩ := hs
        exact ⟨⟨none, .same⟩, none, .same⟩
      | true =>
        obtain hnc | ⟨above, p, below, hch, ha, hb⟩ := split_at_cache o.chain (hw.chains o hom)
        · exact absurd hcl (Bool.eq_false_iff.1 (hasCacheLayer_eq_false_iff.2 hnc))
        rw [stepM_call_dict s body unh w j o c ho hcl (hw.cids o hom)] at hs
        cases hs
        have hsv : ∀ d, Served s body unh d (evalH s body unh o.chain { cache := d, evals := w.evals } c).1.cache :=
          fun d => ⟨above, p, below, c, w.evals, ha, hb, hv o above p below ho hch, by rw [hch]⟩
        refine ⟨⟨some j, .write j o _ rfl ho ⟨rfl, fun i hi => ?_⟩⟩, ?_⟩
        · cases hcid : o.cid with
          | none => cases hi; simp [hcid]
          | some k => rw [hcid] at hi; cases hi; simpa using hw.cids o hom k hcid
        · cases hcid : o.cid with
          | none => exact ⟨none, .alloc _ (by simpa [dictOf, hcid] using hsv [])⟩
          | some k =>
            have hk := hw.cids o hom k hcid
            exact ⟨some k, .write k w.caches[k] _ rfl (List.getElem?_eq_getElem hk) (by simpa [dictOf, hcid, hk] using hsv _)⟩

/-- **The invariant is kept by every valid step** -/
theorem worldOk_step (s : Sig) (body : PDict → Res Val) (unh : Call → Bool) (w w' : MWorld) (st : MStep)
    (out : Option (Res Val × Nat)) (hw : WorldOk (resultOf s body) w) (hv : StepValid s body unh w st)
    (hs : stepM s body unh w st = some (w', out)) : WorldOk (resultOf s body) w' := by
  obtain ⟨⟨_, hobjs⟩, _, hcaches⟩ := stepM_effect s body unh w w' st out hw hv hs
  refine ⟨hobjs.forall_mem hw.chains ?_ fun o o' ho h => h.1 ▸ ho, ?_, List.forall_getElem?_iff.2 ?_⟩
  · rintro _ ⟨cls, p, o, hom, rfl⟩
    exact mk_nodup cls p { chain := o.chain, base := 0 } (hw.chains o hom)
  · refine hobjs.forall_mem (fun o ho i hi => Nat.lt_of_lt_of_le (hw.cids o ho i hi) hcaches.length_le) ?_ fun _ _ _ h => h.2
    rintro _ ⟨cls, p, o, hom, rfl⟩ i hi
    simp only [mkObj] at hi
    split at hi
    · exact Nat.lt_of_lt_of_le (hw.cids o hom i hi) hcaches.length_le
    · cases hi
  · exact hcaches.forall_mem (List.forall_getElem?_iff.1 hw.holds) (fun _ h => h.holds ⟨[], cacheHolds_empty _, nofun⟩)
      fun _ _ hd h => h.holds hd

inductive Reachable (s : Sig) (body : PDict → Res Val) (unh : Call → Bool) : MWorld → MWorld → Prop where
  | refl (w : MWorld) : Reachable s body unh w w
  | step {w w1 w2 : MWorld} (st : MStep) (out : Option (Res Val × Nat)) (hv : StepValid s body unh w st)
      (hs : stepM s body unh w st = some (w1, out)) (r : Reachable s body unh w1 w2) : Reachable s body unh w w2

/-- **Every world reachable by valid steps is well-formed**: its dicts hold results of `f`, so `cached_object_call_in_any_world`
applies to every later call - what a decorated function answers depends only on the calls behind the dict of its cache layer,
whichever objects made them -/
theorem worldOk_reachable (s : Sig) (body : PDict → Res Val) (unh : Call → Bool) (w w' : MWorld)
    (r : Reachable s body unh w w') (hw : WorldOk (resultOf s body) w) : WorldOk (resultOf s body) w' := by
  induction r with
  | refl w => exact hw
  | step st out hv hs _ ih => exact ih (worldOk_step s body unh _ _ st out hw hv hs)

/-- every world reachable by valid steps from the plain function alone is well-formed -/
theorem worldOk_from_init (s : Sig) (body : PDict → Res Val) (unh : Call → Bool) (w' : MWorld)
    (r : Reachable s body unh {} w') : WorldOk (resultOf s body) w' :=
  worldOk_reachable s body unh {} w' r (worldOk_init _)

end Pyg.Props.C18
