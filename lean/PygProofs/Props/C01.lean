/-
  C01 — dictable behaves as a rectangular list of records under any operation history.

  The model is the history machine `step : Heap → Op → Heap × Out` of PygModel/Table.lean; `run` folds it over an
  operation list.  The reference is the list-of-records machine `specStep` of PygModel/TableSpec.lean (`abs_step`,
  `abs_run`); handles as pointers are PygModel/TableAlias.lean.
-/
import PygProofs.Lemmas.TableAbsStep
import PygProofs.Lemmas.TableCall
import PygProofs.Lemmas.TableRagged
import PygProofs.Lemmas.TableAlias

namespace Pyg.Props.C01
-- `abs_concat`, `concat_rows` .. are this namespace's theorems; the lemma files' twins are written `Table.abs_concat`
open Pyg Table

/-- one operation keeps every live table rectangular (also when it raises) -/
theorem rect_step (s : Heap) (op : Op) (hs : HeapRect s) : HeapRect (step s op).1 :=
  step_forall Table.closed_rect s op hs

/-- **history invariant**: after ANY finite sequence of operations, started from the empty heap (or any
rectangular heap), every live table has all its columns of one length -/
theorem rect_run (ops : List Op) (s : Heap) (hs : HeapRect s) : HeapRect (run s ops) :=
  run_invariant rect_step ops s hs

theorem rect_run_empty (ops : List Op) : ∀ t ∈ run [] ops, ∃ n, t.Rect n :=
  rect_run ops [] HeapRect.nil

/-- one operation keeps the column names of every live table distinct (a dictable is a dict) -/
theorem nodup_step (s : Heap) (op : Op) (hs : HeapNodup s) : HeapNodup (step s op).1 :=
  step_forall Table.closed_nodup s op hs

/-- after any history every live table has distinct column names -/
theorem nodup_run (ops : List Op) (s : Heap) (hs : HeapNodup s) : HeapNodup (run s ops) :=
  run_invariant nodup_step ops s hs

/-- a handle that the operation does not write (`Op.writes`: the destination of a table-producing
operation, the assigned table of `setitem/delitem/update`, nothing for queries) keeps its table — in
particular every operand of `slice/mask/take/proj/call/relabel/do/concat/+/copy` bound to another
handle than the destination is unchanged. -/
theorem frame_step (s : Heap) (op : Op) (i : Nat) (hi : i < s.length) (hw : op.writes ≠ some i) :
    (step s op).1[i]? = s[i]? := by
  cases hm : op.reads.mapM fun h => s[h]? with
  | none => rw [step_of_reads_none hm]
  | some ts =>
    rw [step_of_reads hm]
    exact (Effect.run_heapStep s _).frame hi fun h => hw (Op.effect_writes h)

/-- an operation other than `update` that raises leaves the whole heap unchanged (`update` is a
sequence of assignments: the ones before the failing one stay, `rect_step` still applies) -/
theorem err_unchanged (s : Heap) (op : Op) (e : Err) (hu : ∀ h kvs, op ≠ .update h kvs)
    (he : (step s op).2 = .err e) : (step s op).1 = s := by
  cases hm : op.reads.mapM fun h => s[h]? with
  | none => rw [step_of_reads_none hm]
  | some ts =>
    rw [step_of_reads hm] at he ⊢
    cases heff : op.effect ts with
    | bad => rfl
    | alias h => rfl
    | query r => exact Heap.query_fst s r
    | assign h t oe =>
      rw [heff] at he
      cases oe with
      | none => cases he
      | some e' =>
        obtain ⟨kvs, hop⟩ := (Op.effect_assign heff).2.2.2 e' rfl
        exact absurd hop (hu h kvs)
    | bind d r => rw [heff] at he; exact Heap.bind_err s d r e he

/-- on a table with columns, `d[k] = v` raises `ValueError` exactly when `len(v)` is neither the
number of rows nor 1 (`dictable.__setitem__`) -/
theorem setitem_reject (t : Table) (n : Nat) (hr : t.Rect n) (hne : t ≠ []) (k : String) (v : ColVal) :
    t.setitem k v = .error .value ↔ (v.value.length ≠ n ∧ v.value.length ≠ 1) := by
  rw [setitem_eq hr hne]
  split
  · exact ⟨fun h => (nomatch h), fun h => absurd ‹_› (not_or.2 h)⟩
  · exact ⟨fun _ => not_or.1 ‹_›, fun _ => rfl⟩

/-- the only error of an assignment to a rectangular table is that `ValueError` -/
theorem setitem_err (t : Table) (n : Nat) (hr : t.Rect n) (k : String) (v : ColVal) (e : Err)
    (h : t.setitem k v = .error e) : e = .value ∧ t ≠ [] := by
  have hne : t ≠ [] := by
    rintro rfl
    rw [setitem_nil] at h
    cases h
  rw [setitem_eq hr hne] at h
  split at h
  · cases h
  · cases h
    exact ⟨rfl, hne⟩

/-- in the history machine: the rejected assignment leaves the heap, hence the table, unchanged -/
theorem setitem_reject_step (s : Heap) (h : Nat) (t : Table) (n : Nat) (ht : s[h]? = some t)
    (hr : t.Rect n) (hne : t ≠ []) (k : String) (v : ColVal)
    (hbad : v.value.length ≠ n ∧ v.value.length ≠ 1) :
    step s (.setitem h k v) = (s, .err .value) := by
  simp only [step, ht, (setitem_reject t n hr hne k v).2 hbad]

/-- a table without columns accepts a first column of any length -/
theorem setitem_first (k : String) (v : ColVal) : Table.setitem [] k v = .ok [(k, v.value)] :=
  setitem_nil k v

/-- `len(d)` is the number of records and `d.shape` is (records, columns) -/
theorem len_shape (s : Heap) (h : Nat) (t : Table) (n : Nat) (ht : s[h]? = some t) (hr : t.Rect n) :
    step s (.len h) = (s, .val (natVal t.rows.length)) ∧
    step s (.shape h) = (s, .val (.tuple [natVal t.rows.length, natVal t.cols.length])) := by
  simp only [step, ht, len_eq_nrows hr, Heap.query, Except.map, rows, cols, List.length_map,
    List.length_range, and_self]

/-- `d[i][c] == d[c][i]`: row `i` (python index, negative from the end) exists iff `i` is in range, it
carries exactly the table's columns, and its cell under `c` is entry `i` of column `c` -/
theorem cell_comm (t : Table) (n : Nat) (hr : t.Rect n) (hne : t ≠ []) (i : Int) :
    (∀ j, pyIdx n i = some j →
        t.getRow i = .ok (t.cols.zip (t.row j)) ∧
        ∀ k c, t.col? k = some c →
          ((t.cols.zip (t.row j)).find? (·.1 == k)).map (·.2) = some (c.getD j .none)) ∧
    (pyIdx n i = Option.none → t.getRow i = .error .index) := by
  have hg := getRow_eq hr hne i
  constructor
  · intro j hj
    rw [hj] at hg
    refine ⟨hg, fun k c hc => ?_⟩
    have hget := congrFun (get?_row t j) k
    rw [Recs.get?] at hget
    rw [hget, cellAt, hc]
    rfl
  · intro hnone
    rw [hnone] at hg
    exact hg

/-- iteration yields exactly the rows `d[0], d[1], ..., d[len-1]`, each with the table's columns -/
theorem iter_rows (t : Table) (n : Nat) (hr : t.Rect n) (hne : t ≠ []) :
    t.iter.length = n ∧
    ∀ i (hi : i < t.iter.length), t.getRow (i : Int) = .ok t.iter[i] := by
  have hl : t.iter.length = n := by simp [iter, rows_length hr hne]
  refine ⟨hl, ?_⟩
  intro i hi
  have hin : i < n := hl ▸ hi
  have hp : pyIdx n (i : Int) = some i := by
    unfold pyIdx
    rw [if_pos ⟨by omega, by omega⟩]
    simp
  rw [((cell_comm t n hr hne i).1 i hp).1]
  simp [iter, rows]

/-- `d[mask]` with a mask of the table's length keeps exactly the flagged records, in order, and all
the columns — also when no row survives -/
theorem mask_rows (t : Table) (n : Nat) (hr : t.Rect n) (hne : t ≠ []) (m : List Bool) (hm : m.length = n) :
    ∃ t', t.getMask m = .ok t' ∧ t'.cols = t.cols ∧
      t'.rows = ((t.rows.zip m).filter (·.2)).map (·.1) := by
  rw [getMask_eq, nrows_of_rect hr hne, maskIdx_full n m hm]
  refine ⟨_, rfl, cols_gatherRows t _, (rows_gatherRows hne _).trans ?_⟩
  rw [rows_of_rect hr hne, List.zip_map_left, List.filter_map, List.map_map, List.map_map]
  rfl

/-- a mask that is neither of the table's length nor of length 1 is rejected (for every table not of
exactly one row; `zipper` repeats the single row of a one-row table) -/
theorem mask_reject (t : Table) (n : Nat) (hr : t.Rect n) (hne : t ≠ []) (m : List Bool)
    (hn : n ≠ 1) (h1 : m.length ≠ 1) (h2 : m.length ≠ n) : t.getMask m = .error .value := by
  rw [getMask_eq, maskIdx, nrows_of_rect hr hne,
    zipper2_misfit (by rwa [List.length_range]) h1 (by rwa [List.length_range])]
  rfl

/-- a mask of length 1 is repeated for every row: `d[[True]]` is the table, `d[[False]]` its columns
without rows -/
theorem mask_one (t : Table) (n : Nat) (hr : t.Rect n) (hne : t ≠ []) (b : Bool) :
    t.getMask [b] = .ok (if b then t else t.emptyLike) := by
  rw [getMask_eq, maskIdx, nrows_of_rect hr hne, zipper2_one_right]
  simp only [List.mask_const_eq]
  cases b with
  | false => rfl
  | true => exact congrArg Except.ok (gatherRows_range hr)

/-- when `d[[i, j, ...]]` succeeds, every index is in range and the result lists those records in that
order (repeats allowed) -/
theorem take_rows (t t' : Table) (n : Nat) (hr : t.Rect n) (hne : t ≠ []) (is : List Int)
    (h : t.getTake is = .ok t') :
    t'.cols = t.cols ∧ (∀ i ∈ is, (pyIdx n i).isSome) ∧
      t'.rows = is.filterMap fun i => (pyIdx n i).map t.row := by
  obtain ⟨hall, rfl⟩ := getTake_ok h
  rw [nrows_of_rect hr hne] at hall ⊢
  exact ⟨cols_gatherRows t _, hall, by rw [rows_gatherRows hne, List.map_filterMap]⟩

/-- `d[a:b:s]` is the list slice of the records -/
theorem slice_rows (t : Table) (n : Nat) (hr : t.Rect n) (hne : t ≠ []) (a b s : Option Int) (hs : s ≠ some 0) :
    ∃ t', t.getSlice a b s = .ok t' ∧ t'.cols = t.cols ∧
      t'.rows = (sliceIdx n a b (s.getD 1)).map t.row := by
  refine ⟨_, getSlice_eq_gather hr a b s hs, cols_gatherRows t _, rows_gatherRows hne _⟩

/-- a slice only ever selects existing records (whatever the bounds, also far outside the table) -/
theorem slice_in_range (n : Nat) (a b : Option Int) (s : Int) (hs : s ≠ 0) :
    ∀ i ∈ sliceIdx n a b s, i < n := sliceIdx_lt n a b s hs

/-- a slice with a positive step returns a sub-sequence of the records: original order, no repeats;
with a negative step the selected positions strictly decrease -/
theorem slice_order (t : Table) (n : Nat) (hr : t.Rect n) (hne : t ≠ []) (a b : Option Int) (s : Int) :
    (s > 0 → ∃ t', t.getSlice a b (some s) = .ok t' ∧ t'.rows.Sublist t.rows) ∧
    (s < 0 → (sliceIdx n a b s).Pairwise (· > ·)) := by
  constructor
  · intro hs
    have hs0 : (some s : Option Int) ≠ some 0 := by simp; omega
    obtain ⟨t', h1, _, h3⟩ := slice_rows t n hr hne a b (some s) hs0
    refine ⟨t', h1, ?_⟩
    rw [h3, rows_of_rect hr hne]
    exact List.Sublist.map _ (List.sublist_range_of_increasing _ n (sliceIdx_lt n a b s (by omega))
      (sliceIdx_increasing n a b s hs))
  · exact sliceIdx_decreasing n a b s

/-- `[:]` selects every position, in order -/
theorem sliceIdx_all (n : Nat) : sliceIdx n Option.none Option.none 1 = List.range n := by
  simp only [sliceIdx, show (1 : Int) > 0 by decide, if_true]
  apply List.ext_getElem
  · simp; omega
  · intro i h1 h2
    simp

/-- `[a:b]` with `0 ≤ a ≤ b ≤ n` selects `a, a+1, ..., b-1` -/
theorem sliceIdx_range (n a b : Nat) (hab : a ≤ b) (hbn : b ≤ n) :
    sliceIdx n (some a) (some b) 1 = List.range' a (b - a) := by
  have ha : ¬ ((a : Int) < 0) := by omega
  have hb : ¬ ((b : Int) < 0) := by omega
  have ha' : min (a : Int) n = a := by omega
  have hb' : min (b : Int) n = b := by omega
  simp only [sliceIdx, show (1 : Int) > 0 by decide, if_true, ha, hb, if_false, ha', hb']
  apply List.ext_getElem
  · simp; omega
  · intro i h1 h2
    simp
    omega

/-- `[::-1]` reverses -/
theorem sliceIdx_reverse (n : Nat) : sliceIdx n Option.none Option.none (-1) = (List.range n).reverse := by
  simp only [sliceIdx, show ¬ ((-1 : Int) > 0) by decide, if_false]
  apply List.ext_getElem
  · simp; omega
  · intro i h1 h2
    simp at h1 h2 ⊢
    omega

/-- a column of `concat(t1, t2, ...)` that some operand has is the operands' columns under that name
appended in order, a table without the column contributing one `None` per row -/
theorem concat_col (ts : List Table) (k : String) (hk : ∃ t ∈ ts, k ∈ t.cols) :
    (Table.concat ts).col? k =
      some (ts.flatMap fun t => (t.col? k).getD (List.replicate t.nrows .none)) := by
  unfold Table.concat
  apply col?_map_keys
  rw [mem_dedupKeys]
  obtain ⟨t, ht, hkt⟩ := hk
  exact List.mem_flatMap.2 ⟨t, ht, hkt⟩

/-- the columns of `concat(t1, t2, ...)` are those of any operand -/
theorem concat_cols (ts : List Table) (k : String) : k ∈ (Table.concat ts).cols ↔ ∃ t ∈ ts, k ∈ t.cols := by
  rw [cols_concat, mem_dedupKeys, List.mem_flatMap]

/-- concatenation appends the operands' records in order: the records of the result are, table after
table, each table's records read over the union of the columns with `None` for an absent column -/
theorem concat_rows (ts : List Table) (hr : ∀ t ∈ ts, ∃ n, t.Rect n) (hk : (Table.concat ts).cols ≠ []) :
    (Table.concat ts).rows = ts.flatMap fun t => (List.range t.nrows).map fun i =>
      (Table.concat ts).cols.map fun k => (t.getCol k).getD i .none :=
  rows_concat ts hr

/-- keyword columns with scalar broadcasting (`dictable(a = [1,2,3], b = 'x', c = [7])`): the constructor
raises `ValueError` exactly when two values have different lengths other than 1; otherwise the table has
the given columns in order, each value of length 1 (a scalar, `None`, a one-element list) repeated to the
common length `n` -/
theorem new_columns (kw : List (String × ColVal)) (hn : (kw.map (·.1)).Nodup) :
    (construct .none Option.none kw = some (.error .value) ↔
      ∃ a ∈ kw, ∃ b ∈ kw, a.2.value.length ≠ 1 ∧ b.2.value.length ≠ 1 ∧ a.2.value.length ≠ b.2.value.length) ∧
    (∀ t, construct .none Option.none kw = some (.ok t) →
      ∃ n, lens (kw.map fun kv => kv.2.value.length) = .ok n ∧ t.Rect n ∧
        t = kw.map fun kv => (kv.1, bcast n kv.2.value)) := by
  have hc : construct .none Option.none kw = some (Table.finish (kw.map fun kv => (kv.1, kv.2.value))) := by
    rw [construct_of_dataCols_ok kw (dk := []) rfl,
      ofPairs_of_nodup _ (by simpa [List.map_map, Function.comp_def] using hn)]
    rfl
  have hlen : Table.len (kw.map fun kv => (kv.1, kv.2.value)) = lens (kw.map fun kv => kv.2.value.length) := by
    simp [Table.len, List.map_map, Function.comp_def]
  rw [hc]
  constructor
  · rw [finish_eq, hlen, show (some (Except.map _ (lens _)) = some (.error .value)) ↔ lens _ = .error .value from
      by cases lens (kw.map fun kv => kv.2.value.length) <;> simp [Except.map], lens_error_iff]
    constructor
    · rintro ⟨_, hla, _, hlb, h⟩
      obtain ⟨a, ha, rfl⟩ := List.mem_map.1 hla
      obtain ⟨b, hb, rfl⟩ := List.mem_map.1 hlb
      exact ⟨a, ha, b, hb, h⟩
    · rintro ⟨a, ha, b, hb, h⟩
      exact ⟨_, List.mem_map.2 ⟨a, ha, rfl⟩, _, List.mem_map.2 ⟨b, hb, rfl⟩, h⟩
  · intro t ht
    obtain ⟨n, hn', rfl⟩ := finish_ok (Option.some.inj ht)
    exact ⟨n, hlen ▸ hn', rect_map_bcast hn', by simp [List.map_map, Function.comp_def]⟩

/-- construction from records: one column per key of any record (first appearance), one row per record,
`None` where a record lacks the key -/
theorem new_records (rs : List (List (String × Cell))) (hne : rs ≠ []) :
    construct (.recs rs) Option.none [] = some (.ok (dictConcat rs)) ∧
    (dictConcat rs).Rect rs.length ∧
    (dictConcat rs).cols = dedupKeys (rs.flatMap fun r => r.map (·.1)) ∧
    ((dictConcat rs).cols ≠ [] →
      (dictConcat rs).rows = rs.map fun r => (dictConcat rs).cols.map fun k =>
        ((r.reverse.find? (·.1 == k)).map (·.2)).getD .none) := by
  have hnd : (dictConcat rs).cols.Nodup := by rw [cols_dictConcat]; exact nodup_dedupKeys _
  refine ⟨?_, dictConcat_rect rs, cols_dictConcat rs, ?_⟩
  · obtain ⟨r, rest, rfl⟩ := List.exists_cons_of_ne_nil hne
    exact construct_of_dataCols rfl hnd (dictConcat_rect _) fun _ h => nomatch h
  · intro hk
    have hne' : dictConcat rs ≠ [] := by intro he; rw [he] at hk; exact hk rfl
    rw [rows_of_rect (dictConcat_rect rs) hne']
    apply List.ext_getElem
    · simp
    · intro i h1 h2
      simp only [List.getElem_map, List.getElem_range]
      simp only [List.length_map, List.length_range] at h1
      simp [row, cols, dictConcat, List.map_map, Function.comp_def, List.getD_eq_getElem?_getD, h1]

/-- construction from rows + headers (`dictable([[1,2],[3,4]], columns = ['a','b'])`), every row as long
as the header: the table has the header as columns and exactly the given rows -/
theorem new_rows (cs : List String) (rs : List (List Cell)) (hcs : cs.Nodup) (hk : cs ≠ [])
    (hrs : ∀ r ∈ rs, r.length = cs.length) :
    construct (.rows rs) (some cs) [] = some (.ok (ofRows cs rs)) ∧
    (ofRows cs rs).Rect rs.length ∧ (ofRows cs rs).cols = cs ∧ (ofRows cs rs).rows = rs := by
  refine ⟨?_, ofRows_rect cs rs, ofRows_cols cs rs, ofRows_rows cs rs hk hrs⟩
  have hb : rs.map (bcast cs.length) = rs :=
    (List.map_congr_left fun r hr => bcast_self (hrs r hr)).trans (List.map_id rs)
  have := construct_rows_ragged cs rs hcs hk fun r hr => Or.inl (hrs r hr)
  rwa [hb] at this

/-- `d(k = f)` / `d[k] = d[f]`: the new column holds `f(row)` for every row, every other column is
untouched, and the table keeps its rows -/
theorem derived_column (t t' : Table) (n : Nat) (hr : t.Rect n) (hne : t ≠ []) (k : String) (f : Fn)
    (h : t.setFn (k, f) = .ok t') :
    ∃ vs, t'.col? k = some vs ∧ vs.length = n ∧
      (∀ i (hi : i < vs.length), f.eval (keyDflt k (t.cellAt i)) = .ok vs[i]) ∧
      (∀ k', k' ≠ k → t'.col? k' = t.col? k') ∧ t'.Rect n := by
  unfold setFn applyFnK at h
  split at h
  · cases h
  · rename_i vs hvs
    obtain ⟨hset, hc, hlen, hget, hother, hrect⟩ := set_of_mapE_rows hr hne hvs k
    simp only at h
    rw [hset] at h
    cases h
    exact ⟨vs, hc, hlen, hget, hother, hrect⟩

/-- `d(**kw)` evaluates the constants first (`res.update`, so a misfit raises before any callable runs)
and then the callable; with a single callable there is no dependency loop: the result is the operand
updated with the constants, then with the derived column (`derived_column`) -/
theorem call_single (t : Table) (consts : List (String × ColVal)) (k : String) (f : Fn) :
    t.call consts [(k, f)] =
      match t.updateE consts with
      | .error e => .error e
      | .ok res => res.setFn (k, f) := by
  unfold call
  cases t.updateE consts with
  | error e => rfl
  | ok res =>
    simp only [callLoop, List.length_cons, List.length_nil, Nat.lt_irrefl, if_false, setFns]
    cases res.setFn (k, f) <;> rfl

/-- `d.do(f, k)` on an existing column: the column becomes `f(value, **others)` row by row, every other
column is untouched -/
theorem do_column (t t' : Table) (n : Nat) (hr : t.Rect n) (hne : t ≠ []) (f : DoFn) (k : String)
    (col : List Cell) (hcol : t.col? k = some col) (h : t.doKey f k = .ok t') :
    ∃ vs, t'.col? k = some vs ∧ vs.length = n ∧
      (∀ i (hi : i < vs.length), f.eval (col.getD i .none) (t.cellAt i) = .ok vs[i]) ∧
      (∀ k', k' ≠ k → t'.col? k' = t.col? k') ∧ t'.Rect n := by
  unfold doKey at h
  split at h
  · cases h
  · rename_i vs hvs
    obtain ⟨hset, hc, hlen, hget, hother, hrect⟩ := set_of_mapE_rows hr hne hvs k
    rw [hset] at h
    cases h
    refine ⟨vs, hc, hlen, fun i hi => ?_, hother, hrect⟩
    have := hget i hi
    simpa [cellAt, hcol] using this

/-- renaming without collisions renames the columns in place and keeps every record -/
theorem relabel_rows (t : Table) (r : Relabel) (hinj : (t.cols.map r.key).Nodup) :
    (t.relabel r).cols = t.cols.map r.key ∧ (t.relabel r).rows = t.rows ∧
      (t.relabel r).map (·.2) = t.map (·.2) := by
  have h : t.relabel r = t.map fun c => (r.key c.1, c.2) := by
    unfold relabel
    apply ofPairs_of_nodup
    rwa [← cols, cols_map_key]
  rw [h]
  refine ⟨cols_map_key t r.key, ?_, by simp [List.map_map, Function.comp_def]⟩
  cases t with
  | nil => rfl
  | cons c t => simp [rows, nrows, row, List.map_map, Function.comp_def]

/-- projection on distinct existing columns: exactly those columns, in the requested order, unchanged -/
theorem proj_cols (t t' : Table) (ks : List String) (hks : ks ≠ []) (hn : ks.Nodup)
    (h : t.getProj ks = .ok t') :
    t'.cols = ks ∧ ∀ k ∈ ks, t'.col? k = t.col? k ∧ (t.col? k).isSome := by
  rw [getProj_eq, if_neg (by simpa using hks)] at h
  by_cases hall : ks.all t.cols.contains = true
  · rw [if_pos hall] at h
    cases h
    rw [ofPairs_of_nodup _ (by simpa [List.map_map, Function.comp_def] using hn)]
    refine ⟨(cols_map _ _).trans (List.map_id' _), fun k hk => ?_⟩
    have hc := List.all_eq_true.1 hall k hk
    rw [contains_cols, has_eq_isSome_col?] at hc
    rw [col?_map_keys ks t.getCol k hk]
    cases hcol : t.col? k with
    | none => rw [hcol] at hc; cases hc
    | some c => exact ⟨by rw [getCol_of_col? hcol], rfl⟩
  · rw [if_neg hall] at h
    cases h

/-! ### the plain list-of-records machine and the refinement statements in its terms

`Recs` is the reference the property text speaks of: column names and a list of records.  `abs` reads a
dictable as records.  Each `abs_*` theorem says: the model's operation, seen through `abs`, IS the
list-of-records operation. -/

theorem abs_mask (t : Table) (n : Nat) (hr : t.Rect n) (hne : t ≠ []) (m : List Bool) (hm : m.length = n) :
    ∃ t', t.getMask m = .ok t' ∧ abs t' = (abs t).mask m := by
  obtain ⟨t', h1, h2, h3⟩ := mask_rows t n hr hne m hm
  exact ⟨t', h1, by simp [abs, Recs.mask, h2, h3]⟩

theorem abs_take (t : Table) (n : Nat) (hr : t.Rect n) (hne : t ≠ []) (is : List Int) :
    (∀ t', t.getTake is = .ok t' → (abs t).take is = .ok (abs t')) ∧
    (∀ e, t.getTake is = .error e → (abs t).take is = .error e) := by
  rw [← abs_getTake t is]
  exact ⟨fun t' h => by rw [h]; rfl, fun e h => by rw [h]; rfl⟩

theorem abs_slice (t : Table) (n : Nat) (hr : t.Rect n) (hne : t ≠ []) (a b : Option Int) (s : Int) (hs : s ≠ 0) :
    ∃ t', t.getSlice a b (some s) = .ok t' ∧ abs t' = (abs t).slice a b s := by
  obtain ⟨t', h1, h2, h3⟩ := slice_rows t n hr hne a b (some s) (by simpa using hs)
  refine ⟨t', h1, ?_⟩
  have hlen : t.rows.length = n := rows_length hr hne
  simp only [abs, Recs.slice, h2, h3, hlen, Option.getD_some, Recs.mk.injEq, true_and]
  apply List.map_congr_left
  intro j hj
  exact (rows_getD t n hr hne j (sliceIdx_lt n a b s hs j hj)).symm

theorem abs_relabel (t : Table) (r : Relabel) (hinj : (t.cols.map r.key).Nodup) :
    abs (t.relabel r) = (abs t).rename r.key := by
  obtain ⟨h1, h2, _⟩ := relabel_rows t r hinj
  simp [abs, Recs.rename, h1, h2]

theorem abs_concat (ts : List Table) (hr : ∀ t ∈ ts, ∃ n, t.Rect n) :
    abs (Table.concat ts) = Recs.concat (ts.map abs) :=
  Table.abs_concat ts hr

/-- len / iteration through `abs`: `len(d)` is the number of records, `list(d)` are the records zipped
with the column names -/
theorem abs_len_iter (t : Table) (n : Nat) (hr : t.Rect n) :
    t.len = .ok (abs t).rows.length ∧ t.iter = (abs t).rows.map fun r => (abs t).cols.zip r :=
  ⟨len_abs hr, rfl⟩

theorem absStep_step (s : Heap) (op : Op) (hs : HeapRect s) :
    absStep (step s op) = specStep (s.map abs) op :=
  step_refines s op hs

/-- **simulation, one step**: one step of the dictable machine, seen through `abs`, is one step of the list-of-records
machine `specStep` (PygModel/TableSpec.lean) — same new heap, same outcome (value, alias, `err ValueError/KeyError/
IndexError/TypeError`, bad handle) — for EVERY operation and all arguments.  The only hypothesis is the history invariant
`HeapRect` (`rect_run`); distinct column names are not needed. -/
theorem abs_step (s : Heap) (op : Op) (hs : HeapRect s) :
    (step s op).1.map abs = (specStep (s.map abs) op).1 ∧ (step s op).2 = (specStep (s.map abs) op).2 := by
  have h := absStep_step s op hs
  exact ⟨congrArg Prod.fst h, congrArg Prod.snd h⟩

/-- **simulation, any history**: the heap after any operation list is, through `abs`, the heap of the
list-of-records machine after the same list, and the two machines produce the same outcomes line by line -/
theorem abs_run (ops : List Op) (s : Heap) (hs : HeapRect s) :
    (run s ops).map abs = specRun (s.map abs) ops ∧ stepTrace s ops = specTrace (s.map abs) ops := by
  induction ops generalizing s with
  | nil => exact ⟨rfl, rfl⟩
  | cons op ops ih =>
    obtain ⟨h1, h2⟩ := abs_step s op hs
    obtain ⟨i1, i2⟩ := ih _ (rect_step s op hs)
    simp only [run, specRun, stepTrace, specTrace]
    rw [← h1, ← h2]
    exact ⟨i1, by rw [i2]⟩

theorem abs_run_empty (ops : List Op) :
    (run [] ops).map abs = specRun [] ops ∧ stepTrace [] ops = specTrace [] ops :=
  abs_run ops [] HeapRect.nil

/-- `d(**kw)`: the constants are assigned first (`update`; a misfit raises before any callable runs), then
EVERY callable is evaluated exactly once (`order` is a permutation of the callables), row-wise
(`setFns` = one `derived_column` after the other), in a dependency order: no callable reads a key that a
callable evaluated after it defines (`DepOrder`).  Keyword names are distinct (python keyword arguments). -/
theorem call_order (t t' : Table) (consts : List (String × ColVal)) (fns : List (String × Fn))
    (hn : (fns.map (·.1)).Nodup) (h : t.call consts fns = .ok t') :
    ∃ res order, t.updateE consts = .ok res ∧ order.Perm fns ∧ res.setFns order = .ok t' ∧ DepOrder order := by
  unfold call at h
  split at h
  · cases h
  · rename_i res hres
    obtain ⟨order, h1, h2, h3⟩ := callLoop_order fns.length res t' fns hn (Nat.le_refl _) h
    exact ⟨res, order, hres, h1, h2, h3⟩

/-- the dependency loop raises `ValueError` only for a circular definition: a stage with two or more
pending callables each of which reads a pending key.  (A derived column itself always fits; a callable can
only fail with TypeError — `setFn_error`.) -/
theorem call_circular (t res : Table) (n : Nat) (hr : t.Rect n) (consts : List (String × ColVal))
    (fns : List (String × Fn)) (hres : t.updateE consts = .ok res)
    (h : t.call consts fns = .error .value) :
    ∃ pending : List (String × Fn), pending.Sublist fns ∧ pending.length > 1 ∧
      ∀ kf ∈ pending, ∃ a ∈ kf.2.args, a ∈ pending.map (·.1) := by
  unfold call at h
  rw [hres] at h
  obtain ⟨n', hn'⟩ := updateE_rect hr hres
  exact callLoop_value_error _ hn' fns h

/-- `d.update(other)` on a table with columns, every value of the table's length or of length 1: the
result is `dict.update` with the length-1 values repeated; the row count is kept -/
theorem update_all (t : Table) (n : Nat) (hr : t.Rect n) (hne : t ≠ []) (kvs : List (String × ColVal))
    (hfit : ∀ kv ∈ kvs, kv.2.value.length = n ∨ kv.2.value.length = 1) :
    t.update kvs = (t.updateWith (kvs.map fun kv => (kv.1, bcast n kv.2.value)), Option.none) ∧
    (t.updateWith (kvs.map fun kv => (kv.1, bcast n kv.2.value))).Rect n := by
  refine ⟨update_fits hr hne kvs hfit, foldl_set_rect _ ?_ t hr⟩
  intro kv hkv
  obtain ⟨kv', hkv', rfl⟩ := List.mem_map.1 hkv
  exact bcast_length (hfit kv' hkv')

/-- `d.update(other)` whose first non-fitting value is `v`: `ValueError`, the assignments before it stay,
nothing after it is assigned -/
theorem update_misfit (t : Table) (n : Nat) (hr : t.Rect n) (hne : t ≠ [])
    (pre post : List (String × ColVal)) (k : String) (v : ColVal)
    (hfit : ∀ kv ∈ pre, kv.2.value.length = n ∨ kv.2.value.length = 1)
    (hbad : v.value.length ≠ n ∧ v.value.length ≠ 1) :
    t.update (pre ++ (k, v) :: post) =
      (t.updateWith (pre.map fun kv => (kv.1, bcast n kv.2.value)), some .value) := by
  obtain ⟨h1, h2⟩ := update_all t n hr hne pre hfit
  rw [update_append, h1]
  simp only [update]
  rw [(setitem_reject _ n h2 (updateWith_ne_nil hne _) k v).2 hbad]

/-- `d[k1, k2, ...]`: `KeyError` unless every key is a column; otherwise one tuple per record holding the
named fields in the requested order (no tuple at all for an empty key list) -/
theorem tup_rows (t : Table) (n : Nat) (hr : t.Rect n) (ks : List String) :
    t.getTuple ks =
      if ks.all t.cols.contains then
        .ok (if ks.isEmpty then [] else t.rows.map fun row => ks.map fun k => Recs.lookup t.cols row k)
      else .error .key :=
  abs_getTuple hr ks

/-! ### the column order of a concatenation

`dict_concat` takes the keys from a python `set`, so the column order of `concat` / `+` / records
construction is not determined by the code; model and reference machine use the order of first appearance
and the correspondence compares tables as dicts.  Any other key order gives the same records up to a
permutation of the columns: -/

/-- two lists of records that differ only in the order of their columns -/
def RecsEquiv (a b : Recs) : Prop :=
  a.cols.Perm b.cols ∧ a.rows.length = b.rows.length ∧
    ∀ i k, Recs.lookup a.cols (a.rows.getD i []) k = Recs.lookup b.cols (b.rows.getD i []) k

theorem concat_keys_perm (keys keys' : List String) (h : keys'.Perm keys) (rs : List Recs) :
    RecsEquiv (Recs.concatWith keys' rs) (Recs.concatWith keys rs) ∧
    Recs.concat rs = Recs.concatWith (dedupKeys (rs.flatMap Recs.cols)) rs := by
  refine ⟨⟨h, ?_, ?_⟩, rfl⟩
  · simp [Recs.concatWith, List.length_flatMap]
  · intro i k
    have hrows : ∀ ks : List String, (Recs.concatWith ks rs).rows =
        (rs.flatMap fun r => r.rows.map fun row => (r.cols, row)).map
          fun p => ks.map fun k => Recs.lookup p.1 p.2 k := by
      intro ks
      simp [Recs.concatWith, List.map_flatMap, List.map_map, Function.comp_def]
    rw [hrows, hrows]
    simp only [Recs.concatWith, List.getD_eq_getElem?_getD, List.getElem?_map]
    cases (rs.flatMap fun r => r.rows.map fun row => (r.cols, row))[i]? with
    | none => simp [Recs.lookup]
    | some p =>
      simp only [Option.map_some, Option.getD_some, Recs.lookup_map_keys]
      by_cases hk : k ∈ keys
      · rw [if_pos hk, if_pos (h.mem_iff.2 hk)]
      · rw [if_neg hk, if_neg (fun hk' => hk (h.mem_iff.1 hk'))]

/-- whatever order the code's `set` yields for the keys of `concat(t1, t2, ...)`, the records are those of
the model's result up to the order of the columns -/
theorem concat_any_order (ts : List Table) (hr : ∀ t ∈ ts, ∃ n, t.Rect n) (keys' : List String)
    (h : keys'.Perm (Table.concat ts).cols) :
    RecsEquiv (Recs.concatWith keys' (ts.map abs)) (abs (Table.concat ts)) := by
  have hcols : (Table.concat ts).cols = dedupKeys ((ts.map abs).flatMap Recs.cols) := by
    rw [cols_concat, List.flatMap_map]
    rfl
  rw [abs_concat ts hr]
  rw [hcols] at h
  exact (concat_keys_perm _ keys' h (ts.map abs)).1

/-- tables that differ only in the order of their columns cannot be told apart by `len`, `d[k]` or
`d[k1, k2, ...]` (a record read as a dict does not depend on the order either: the third clause of
`RecsEquiv`) -/
theorem equiv_observe (a b : Recs) (h : RecsEquiv a b) :
    a.rows.length = b.rows.length ∧ (∀ k, a.getCol k = b.getCol k) ∧ (∀ ks, a.getTuple ks = b.getTuple ks) := by
  obtain ⟨hp, hl, hc⟩ := h
  have hcont : a.cols.contains = b.cols.contains := by
    funext k
    rw [Bool.eq_iff_iff, List.contains_iff_mem, List.contains_iff_mem]
    exact hp.mem_iff
  refine ⟨hl, fun k => ?_, fun ks => ?_⟩
  · rw [Recs.getCol, Recs.getCol, hcont,
      List.map_eq_map_of_getD _ (fun row => Recs.lookup b.cols row k) [] [] hl fun i => hc i k]
  · rw [Recs.getTuple, Recs.getTuple, hcont,
      List.map_eq_map_of_getD _ (fun row => ks.map fun k => Recs.lookup b.cols row k) [] [] hl
        fun i => List.map_congr_left fun k _ => hc i k]

/-- every record of every table the list-of-records machine can reach has exactly one cell per column -/
theorem spec_reachable_aligned (ops : List Op) :
    ∀ r ∈ specRun [] ops, ∀ row ∈ r.rows, row.length = r.cols.length := by
  intro r hr row hrow
  rw [← (abs_run_empty ops).1] at hr
  obtain ⟨t, _, rfl⟩ := List.mem_map.1 hr
  simp only [abs, rows, List.mem_map] at hrow
  obtain ⟨i, _, rfl⟩ := hrow
  simp [row, abs, cols]

/-- **concatenation of lists of records is associative**: both bracketings of three operands are the
concatenation of the three (for tables: `concat_assoc_abs`) -/
theorem concat_assoc (a b c : Recs) :
    Recs.concat [Recs.concat [a, b], c] = Recs.concat [a, b, c] ∧
    Recs.concat [a, Recs.concat [b, c]] = Recs.concat [a, b, c] :=
  ⟨Recs.concat_flatten [] [a, b] [c], Recs.concat_flatten [a] [b, c] []⟩

/-- on dictables (through `abs`): `concat(concat(t1, t2), t3)`, `concat(t1, concat(t2, t3))` and
`concat(t1, t2, t3)` have the same columns and records -/
theorem concat_assoc_abs (t1 t2 t3 : Table) (h1 : ∃ n, t1.Rect n) (h2 : ∃ n, t2.Rect n) (h3 : ∃ n, t3.Rect n) :
    abs (Table.concat [Table.concat [t1, t2], t3]) = abs (Table.concat [t1, t2, t3]) ∧
    abs (Table.concat [t1, Table.concat [t2, t3]]) = abs (Table.concat [t1, t2, t3]) := by
  have triple : ∀ t ∈ [t1, t2, t3], ∃ n, t.Rect n := List.forall_mem_cons.2 ⟨h1, List.forall_mem_pair h2 h3⟩
  have r12 : ∃ n, (Table.concat [t1, t2]).Rect n := ⟨_, concat_rect (List.forall_mem_pair h1 h2)⟩
  have r23 : ∃ n, (Table.concat [t2, t3]).Rect n := ⟨_, concat_rect (List.forall_mem_pair h2 h3)⟩
  rw [abs_concat _ (List.forall_mem_pair r12 h3), abs_concat _ (List.forall_mem_pair h1 r23), abs_concat _ triple]
  simp only [List.map_cons, List.map_nil, abs_concat _ (List.forall_mem_pair h1 h2), abs_concat _ (List.forall_mem_pair h2 h3)]
  exact concat_assoc _ _ _

/-- `d[mask][c]` is `d[c]` filtered by the mask (a mask with one flag per row) -/
theorem mask_col (t t' : Table) (n : Nat) (hr : t.Rect n) (hne : t ≠ []) (m : List Bool) (hm : m.length = n)
    (h : t.getMask m = .ok t') (k : String) :
    t'.getColE k = (t.getColE k).map fun c => ((c.zip m).filter (·.2)).map (·.1) := by
  obtain ⟨t'', h1, h2⟩ := abs_mask t n hr hne m hm
  rw [h] at h1
  cases h1
  obtain ⟨n', hn'⟩ := getMask_rect h
  rw [abs_getColE hn', abs_getColE hr, h2]
  unfold Recs.getCol Recs.mask
  simp only
  split
  · simp only [Except.map, List.map_map]
    congr 1
    rw [List.zip_map_left, List.filter_map, List.map_map]
    rfl
  · rfl

/-- on the reference machine: rows + header (every row as long as the header) are exactly those records -/
theorem spec_new_rows (cs : List String) (rs : List (List Cell)) (hcs : cs.Nodup) (hk : cs ≠ [])
    (hrs : ∀ r ∈ rs, r.length = cs.length) :
    Recs.construct (.rows rs) (some cs) [] = some (.ok ⟨cs, rs⟩) := by
  obtain ⟨h1, _, h3, h4⟩ := new_rows cs rs hcs hk hrs
  rw [← abs_construct, h1]
  simp [Except.map, abs, h3, h4]

/-- on the reference machine: a non-empty list of records (dicts) is read as one record each over the keys
in order of first appearance, a missing key as `None`, a repeated key by its last value; records without
any key at all are no records -/
theorem spec_new_records (rs : List (List (String × Cell))) (hne : rs ≠ []) :
    Recs.construct (.recs rs) Option.none [] =
      some (.ok (Recs.norm ⟨dedupKeys (rs.flatMap fun r => r.map (·.1)),
        rs.map fun r => (dedupKeys (rs.flatMap fun r => r.map (·.1))).map fun k =>
          ((r.reverse.find? (·.1 == k)).map (·.2)).getD .none⟩)) := by
  obtain ⟨h1, _, h3, h4⟩ := new_records rs hne
  rw [← abs_construct, h1]
  simp only [Option.map_some, Except.map]
  congr 2
  unfold Recs.norm
  by_cases hk : (dictConcat rs).cols = []
  · have hnil : dictConcat rs = [] := Classical.byContradiction fun h => cols_ne_nil h hk
    rw [← h3, hk]
    simp only [List.isEmpty_nil, if_true]
    rw [hnil]; rfl
  · have h4' := h4 hk
    rw [h3] at h4' hk
    have : (dedupKeys (rs.flatMap fun r => r.map (·.1))).isEmpty = false := by
      cases hd : dedupKeys (rs.flatMap fun r => r.map (·.1)) with
      | nil => exact absurd hd hk
      | cons a as => rfl
    simp only [this, Bool.false_eq_true, if_false]
    simp only [abs, h3, h4']

/-- the `zipper` mask `Recs.getMask` (the image of the inner helper `Table.getMask`; `specStep` itself runs
`Recs.getMaskPlain`) with one flag per record is the plain filter -/
theorem spec_mask_full (r : Recs) (m : List Bool) (hm : m.length = r.rows.length) :
    r.getMask m = .ok (r.mask m) := by
  unfold Recs.getMask
  rw [zipper2_same hm]
  rfl

/-- a 3-row, 2-column table for the examples below -/
def tbl : Table := [("a", [.int 1, .none, .int 3]), ("b", [.str "x", .str "y", .flt 10])]

example : tbl.Rect 3 ∧ tbl ≠ [] := by decide
example : HeapRect [tbl, []] := by
  intro t ht; simp at ht; rcases ht with rfl | rfl
  · exact ⟨3, by decide⟩
  · exact ⟨0, by decide⟩
example : tbl.getMask [true, false, true] = .ok [("a", [.int 1, .int 3]), ("b", [.str "x", .flt 10])] := by rfl
example : tbl.getMask [false, false, false] = .ok [("a", []), ("b", [])] := by rfl
example : tbl.setitem "c" (.many [.int 1, .int 2]) = .error .value := by rfl
example : tbl.setitem "c" (.one (.int 7)) = .ok (tbl ++ [("c", [.int 7, .int 7, .int 7])]) := by rfl
example : tbl.getTake [-1, 0, 0] = .ok [("a", [.int 3, .int 1, .int 1]), ("b", [.flt 10, .str "x", .str "x"])] := by rfl
example : tbl.getSlice Option.none Option.none (some (-1)) =
    .ok [("a", [.int 3, .none, .int 1]), ("b", [.flt 10, .str "y", .str "x"])] := by rfl
example : Table.concat [tbl, [("b", [.str "z"]), ("c", [.int 9])]] =
    [("a", [.int 1, .none, .int 3, .none]), ("b", [.str "x", .str "y", .flt 10, .str "z"]),
     ("c", [.none, .none, .none, .int 9])] := rfl
example : (Table.concat [tbl, [("b", [.str "z"]), ("c", [.int 9])]]).cols ≠ [] := by decide
/-- a history: build, mask to empty, assign to the empty table, concatenate, assign a length-1 value (repeated) -/
example : (run [] [.new 0 .none Option.none [("a", .many [.int 1, .int 2]), ("b", .one (.str "x"))],
      .mask 1 0 [false, false], .setitem 1 "c" (.many []), .concat 2 [0, 1], .setitem 2 "d" (.many [.int 1])]) =
    [[("a", [.int 1, .int 2]), ("b", [.str "x", .str "x"])],
     [("a", []), ("b", []), ("c", [])],
     [("a", [.int 1, .int 2]), ("b", [.str "x", .str "x"]), ("c", [.none, .none]), ("d", [.int 1, .int 1])]] := rfl

/-- the same history on the list-of-records machine: the records of the three tables (`abs_run_empty`) -/
example : specRun [] [.new 0 .none Option.none [("a", .many [.int 1, .int 2]), ("b", .one (.str "x"))],
      .mask 1 0 [false, false], .setitem 1 "c" (.many []), .concat 2 [0, 1], .setitem 2 "d" (.many [.int 1])] =
    [⟨["a", "b"], [[.int 1, .str "x"], [.int 2, .str "x"]]⟩,
     ⟨["a", "b", "c"], []⟩,
     ⟨["a", "b", "c", "d"], [[.int 1, .str "x", .none, .int 1], [.int 2, .str "x", .none, .int 1]]⟩] := rfl
/-- outcomes of both machines on a history with a rejected assignment, a bad row index and a missing key -/
example : specTrace [abs tbl] [.setitem 0 "c" (.many [.int 1]), .setitem 0 "c" (.many [.int 1, .int 2]),
      .row 0 3, .col 0 "z", .len 0] = [.unit, .err .value, .err .index, .err .key, .val (natVal 3)] ∧
    stepTrace [tbl] [.setitem 0 "c" (.many [.int 1]), .setitem 0 "c" (.many [.int 1, .int 2]),
      .row 0 3, .col 0 "z", .len 0] = [.unit, .err .value, .err .index, .err .key, .val (natVal 3)] :=
  ⟨rfl, rfl⟩
/-- two callables, the first reads the key the second defines: `b` is evaluated first, then `c = new b` -/
example : tbl.call [] [("c", .idcol "b"), ("b", .isnone "a")] =
    .ok [("a", [.int 1, .none, .int 3]), ("b", [.bool false, .bool true, .bool false]),
         ("c", [.bool false, .bool true, .bool false])] := by rfl
example : DepOrder [("b", Fn.isnone "a"), ("c", Fn.idcol "b")] := by
  unfold DepOrder; simp [Fn.args]
/-- a circular definition -/
example : tbl.call [] [("a", .idcol "b"), ("b", .idcol "a")] = .error .value := by rfl
/-- `update`: the assignment before the misfit stays -/
example : tbl.update [("c", .one (.int 7)), ("d", .many [.int 1, .int 2]), ("e", .one .none)] =
    (tbl ++ [("c", [.int 7, .int 7, .int 7])], some .value) := by rfl
example : tbl.getTuple ["b", "a"] = .ok [[.str "x", .int 1], [.str "y", .none], [.flt 10, .int 3]] := by rfl
example : tbl.getTuple ["b", "z"] = .error .key := by rfl
/-- renaming two columns onto one name: first position, last value — on both machines -/
example : abs (tbl.relabel ⟨Option.none, [("a", "k"), ("b", "k")]⟩) = ⟨["k"], [[.str "x"], [.str "y"], [.flt 10]]⟩ ∧
    (abs tbl).relabel (Relabel.key ⟨Option.none, [("a", "k"), ("b", "k")]⟩) =
      ⟨["k"], [[.str "x"], [.str "y"], [.flt 10]]⟩ := ⟨rfl, rfl⟩

/-! ### masks against a reading that does not share `zipper` with the code

`Recs.getMask` is written with `zipper2` and so inherits the broadcasting of `_zip.py`: `abs_getMask` says nothing
independent about it.  `Recs.getMaskPlain` is zip + filter, a single flag for all records, otherwise `ValueError`; the
machines run the CHECKED mask `Table.getMaskC` / `Recs.getMaskPlain`.  The theorems about the inner helper
`Table.getMask` say where it leaves the plain reading, i.e. what the length check is for. -/

/-- **`d[mask]` is the plain zip+filter of the records** (all columns kept, error cases included) for every
table and every mask EXCEPT a table with exactly one record under a mask that is not a single flag.
No rectangularity hypothesis is needed; a table without columns has no records and is covered.
The side condition is exact (`mask_plain_exact`).  What it excludes:
  * one record, mask of length k >= 2: the code repeats the record (`mask_one_row_repeats`), the plain
    reading is a `ValueError`;
  * one record, EMPTY mask: the model's `getMask` yields the columns without records, the plain reading a
    `ValueError`.  This case is not reachable through the protocol: python cannot tell `d[[]]` from an empty
    int list (`__getitem__`: `if len(item) == 0`) and the driver sends it as `take []` (`abs_getTake`),
    never as `Op.mask _ _ []`. -/
theorem abs_getMask_plain (t : Table) (m : List Bool) (h : (abs t).rows.length ≠ 1 ∨ m.length = 1) :
    (t.getMask m).map abs = (abs t).getMaskPlain m := by
  rw [abs_getMask, Recs.getMask_eq_plain _ _ h]

/-- the same in terms of the common column length `n` of a rectangular table -/
theorem abs_getMask_plain_rect (t : Table) (n : Nat) (hr : t.Rect n) (m : List Bool)
    (h : t = [] ∨ n ≠ 1 ∨ m.length = 1) : (t.getMask m).map abs = (abs t).getMaskPlain m := by
  apply abs_getMask_plain
  rcases h with rfl | h | h
  · exact Or.inl (by decide)
  · by_cases hne : t = []
    · subst hne; exact Or.inl (by decide)
    · rw [abs_rows_length, nrows_of_rect hr hne]; exact Or.inl h
  · exact Or.inr h

/-- the side condition of `abs_getMask_plain` cannot be weakened: exactly one record and a mask that is not
a single flag ALWAYS separate the model (success) from the plain reading (`ValueError`) -/
theorem mask_plain_exact (t : Table) (m : List Bool) (hn : (abs t).rows.length = 1) (hk : m.length ≠ 1) :
    (∃ t', t.getMask m = .ok t') ∧ (abs t).getMaskPlain m = .error .value := by
  obtain ⟨⟨r', hr'⟩, h2⟩ := Recs.getMask_ne_plain (abs t) m hn hk
  refine ⟨?_, h2⟩
  have := abs_getMask (t := t) m
  rw [hr'] at this
  cases hg : t.getMask m with
  | ok t' => exact ⟨t', rfl⟩
  | error e => rw [hg] at this; cases this

/-- **deviation of the unchecked helper from the plain list-of-records reading** (`__getitem__`
without the length check): a table with exactly ONE row under a mask of k >= 2 flags is NOT a `ValueError` —
which is what the plain reading `Recs.getMaskPlain` gives (second conjunct) — but that row repeated once per
`True` flag, all columns kept (also when no flag is `True`: then no record).  `zipper(list(self), mask)`
broadcasts the length-1 list of rows (`_zip.py`, `zipper`): 3 rows for
`dictable(a=[1],b=['q'])[[True,True,False,True]]`.  `__getitem__` (model: `getMaskC`, theorem `mask_plain`)
rejects the mask before the comprehension runs. -/
theorem mask_one_row_repeats (t : Table) (hr : t.Rect 1) (hne : t ≠ []) (m : List Bool) (hk : 2 ≤ m.length) :
    (abs t).rows = [t.row 0] ∧
    (t.getMask m).map abs = .ok ⟨t.cols, List.replicate (m.count true) (t.row 0)⟩ ∧
    (abs t).getMaskPlain m = .error .value := by
  have hrows : (abs t).rows = [t.row 0] := abs_rows hr hne
  have habs : abs t = ⟨t.cols, [t.row 0]⟩ := abs_of_rect hr hne
  obtain ⟨h1, h2⟩ := Recs.getMask_one_record t.cols (t.row 0) m (by omega)
  refine ⟨hrows, ?_, ?_⟩
  · rw [abs_getMask, habs, h1]
  · rw [habs, h2]

example : Table.Rect [("a", [.int 1]), ("b", [.str "q"])] 1 := by decide
/-- `dictable(a=[1],b=['q'])[[True,True,False,True]]`: three copies of the row -/
example : Table.getMask [("a", [.int 1]), ("b", [.str "q"])] [true, true, false, true] =
    .ok [("a", [.int 1, .int 1, .int 1]), ("b", [.str "q", .str "q", .str "q"])] := by rfl
example : Recs.getMaskPlain ⟨["a", "b"], [[.int 1, .str "q"]]⟩ [true, true, false, true] = .error .value := by rfl
/-- the hypotheses of `abs_getMask_plain` on a 3-row table: a full mask, a single flag, a misfit -/
example : (abs tbl).rows.length ≠ 1 ∨ [true, false, true].length = 1 := Or.inl (by decide)
example : (abs tbl).getMaskPlain [true, false, true] = .ok ⟨["a", "b"], [[.int 1, .str "x"], [.int 3, .flt 10]]⟩ ∧
    (abs tbl).getMaskPlain [true] = .ok (abs tbl) ∧ (abs tbl).getMaskPlain [false] = .ok ⟨["a", "b"], []⟩ ∧
    (abs tbl).getMaskPlain [true, false] = .error .value := ⟨rfl, rfl, rfl, rfl⟩
/-- a one-row table under a single flag is covered by `abs_getMask_plain` (second disjunct) -/
example : (Table.getMask [("a", [.int 1])] [true]).map abs = Recs.getMaskPlain ⟨["a"], [[.int 1]]⟩ [true] := by rfl

/-- **masking is the plain list-of-records mask - every table, every mask** (no side condition): keep the
flagged records in order, all columns; a single flag keeps all or none; any other length is a `ValueError` -/
theorem mask_plain (t : Table) (m : List Bool) : (t.getMaskC m).map abs = (abs t).getMaskPlain m :=
  abs_getMaskC t m

/-- a mask never invents rows: the records of `d[mask]` are a sub-sequence of the table's records, with the
table's columns (what fails for a one-row table without the length check: `mask_one_row_repeats`) -/
theorem mask_sublist (t t' : Table) (m : List Bool) (h : t.getMaskC m = .ok t') :
    (abs t').rows.Sublist (abs t).rows ∧ (abs t').cols = (abs t).cols := by
  have hp := mask_plain t m
  rw [h] at hp
  exact Recs.getMaskPlain_ok hp.symm

/-- the one-row table of `mask_one_row_repeats` on the machine: the longer mask is rejected, the heap
(all live tables) is unchanged -/
example : step [[("a", [.int 1]), ("b", [.str "q"])]] (.mask 1 0 [true, true, false, true]) =
    ([[("a", [.int 1]), ("b", [.str "q"])]], .err .value) := by rfl

/-! `_rows_as_dict` reads `dict(zipper(columns, zipper(*rows)))`: the inner `zipper` transposes the rows, the outer one
pairs the transposed columns with the header `cs`, a list of DISTINCT names. -/

/-- **rows + header, ragged rows** (`dictable([[1,2],[3],[4,5]], columns = ['a','b'])`), header of
`c = len(cs)` distinct names:
  * (success) if every row has length `c` or 1, the table has the header as columns and exactly the given
    rows with each length-1 row repeated across the header (`bcast c`), one record per row
    (for `c = 1` this says: all rows of length 1 are taken as they are);
  * (failure, `c ≠ 1`) the constructor raises `ValueError` if and only if some row has a length that is
    neither `c` nor 1.  Together: for `c ≠ 1` the result is determined for EVERY list of rows.
For a header of ONE name see `new_rows_header1` (several cells under one name: `ValueError`). -/
theorem new_rows_ragged (cs : List String) (rs : List (List Cell)) (hcs : cs.Nodup) (hk : cs ≠ []) :
    ((∀ r ∈ rs, r.length = cs.length ∨ r.length = 1) →
      construct (.rows rs) (some cs) [] = some (.ok (ofRows cs (rs.map (bcast cs.length)))) ∧
      (ofRows cs (rs.map (bcast cs.length))).Rect rs.length ∧
      (ofRows cs (rs.map (bcast cs.length))).cols = cs ∧
      (ofRows cs (rs.map (bcast cs.length))).rows = rs.map (bcast cs.length)) ∧
    (cs.length ≠ 1 →
      (construct (.rows rs) (some cs) [] = some (.error .value) ↔
        ∃ r ∈ rs, r.length ≠ cs.length ∧ r.length ≠ 1)) := by
  have hgood := construct_rows_ragged cs rs hcs hk
  constructor
  · intro hall
    have hl : ∀ r ∈ rs.map (bcast cs.length), r.length = cs.length := by
      intro r hr
      obtain ⟨r', hr', rfl⟩ := List.mem_map.1 hr
      exact bcast_length (hall r' hr')
    refine ⟨hgood hall, ?_, ofRows_cols cs _, ofRows_rows cs _ hk hl⟩
    have := ofRows_rect cs (rs.map (bcast cs.length))
    simpa using this
  · intro hc
    constructor
    · intro herr
      apply Classical.byContradiction
      intro hno
      have hall : ∀ r ∈ rs, r.length = cs.length ∨ r.length = 1 := by
        intro r hr
        apply Classical.byContradiction
        intro h
        exact hno ⟨r, hr, fun h1 => h (Or.inl h1), fun h1 => h (Or.inr h1)⟩
      rw [hgood hall] at herr
      cases herr
    · intro hbad
      exact construct_of_dataCols_error (dataCols_rows_bad cs rs hc hbad)

/-- the same on the reference machine: the records are the rows, the length-1 ones repeated -/
theorem spec_new_rows_ragged (cs : List String) (rs : List (List Cell)) (hcs : cs.Nodup) (hk : cs ≠ []) :
    ((∀ r ∈ rs, r.length = cs.length ∨ r.length = 1) →
      Recs.construct (.rows rs) (some cs) [] = some (.ok ⟨cs, rs.map (bcast cs.length)⟩)) ∧
    (cs.length ≠ 1 →
      (Recs.construct (.rows rs) (some cs) [] = some (.error .value) ↔
        ∃ r ∈ rs, r.length ≠ cs.length ∧ r.length ≠ 1)) := by
  obtain ⟨h1, h2⟩ := new_rows_ragged cs rs hcs hk
  constructor
  · intro hall
    obtain ⟨e1, _, e3, e4⟩ := h1 hall
    rw [← abs_construct, e1]
    simp [Except.map, abs, e3, e4]
  · intro hc
    rw [← h2 hc, ← abs_construct]
    cases construct (.rows rs) (some cs) [] with
    | none => simp
    | some r => cases r <;> simp [Except.map]

/-- hypotheses of `new_rows_ragged` on a concrete ragged input: the middle row is repeated -/
example : (["a", "b"] : List String).Nodup ∧ (["a", "b"] : List String) ≠ [] ∧
    ∀ r ∈ ([[.int 1, .int 2], [.int 3], [.int 4, .int 5]] : List (List Cell)), r.length = 2 ∨ r.length = 1 := by
  decide
example : construct (.rows [[.int 1, .int 2], [.int 3], [.int 4, .int 5]]) (some ["a", "b"]) [] =
    some (.ok [("a", [.int 1, .int 3, .int 4]), ("b", [.int 2, .int 3, .int 5])]) := by rfl
example : Recs.construct (.rows [[.int 1, .int 2], [.int 3], [.int 4, .int 5]]) (some ["a", "b"]) [] =
    some (.ok ⟨["a", "b"], [[.int 1, .int 2], [.int 3, .int 3], [.int 4, .int 5]]⟩) := by rfl
/-- all rows of length 1 under a longer header -/
example : construct (.rows [[.int 1], [.int 3]]) (some ["a", "b", "c"]) [] =
    some (.ok [("a", [.int 1, .int 3]), ("b", [.int 1, .int 3]), ("c", [.int 1, .int 3])]) := by rfl
/-- a row of a third length: `ValueError` (the outer zipper; the inner one for two misfits) -/
example : construct (.rows [[.int 1, .int 2, .int 3], [.int 3]]) (some ["a", "b"]) [] = some (.error .value) ∧
    construct (.rows [[.int 1, .int 2], [.int 3, .int 4, .int 5]]) (some ["a", "b"]) [] = some (.error .value) ∧
    construct (.rows [[], [.int 3]]) (some ["a", "b"]) [] = some (.error .value) := ⟨rfl, rfl, rfl⟩

/-- **rows under a header of ONE name** (`dictable([[1,2,3],[3],[7,8,9]], columns = ['a'])`), the case
`new_rows_ragged` leaves open (`_rows_as_dict` checks the header against the row length: `headerMisfit`):
  * `ValueError` if and only if some row has two or more cells — exactly the rows a one-column
    list-of-rows reading cannot hold;
  * otherwise (every row has one cell or none; `n ≤ 1` their common length): ONE column holding each
    row's cell — or no record at all when `n = 0` (some row is empty: `zip` stops at the shortest, as for
    every header). -/
theorem new_rows_header1 (k : String) (rs : List (List Cell)) :
    (construct (.rows rs) (some [k]) [] = some (.error .value) ↔ ∃ r ∈ rs, 2 ≤ r.length) ∧
    (∀ n, lens (rs.map (·.length)) = .ok n → n ≤ 1 →
      construct (.rows rs) (some [k]) [] =
        some (.ok [(k, if n = 0 then [] else rs.map fun r => (bcast n r).getD (n - 1) .none)])) := by
  refine ⟨?_, fun n hl hn => by rw [construct_rows_header1 k rs n hl, if_neg (by omega)]⟩
  have hex : (∃ r ∈ rs, 2 ≤ r.length) ↔ ∃ l ∈ rs.map (·.length), 2 ≤ l :=
    ⟨fun ⟨r, hr, h⟩ => ⟨_, List.mem_map.2 ⟨r, hr, rfl⟩, h⟩, fun ⟨_, hl, h⟩ => by
      obtain ⟨r, hr, rfl⟩ := List.mem_map.1 hl
      exact ⟨r, hr, h⟩⟩
  rw [hex, ← lens_big_iff]
  cases hl : lens (rs.map (·.length)) with
  | error e => exact ⟨fun _ n h => (nomatch h), fun _ => construct_of_dataCols_error (dataCols_rows_of_lens_error hl)⟩
  | ok n =>
    rw [construct_rows_header1 k rs n hl]
    by_cases hn : 1 < n
    · rw [if_pos hn]
      exact ⟨fun _ m hm => Except.ok.inj hm ▸ hn, fun _ => rfl⟩
    · rw [if_neg hn]
      exact ⟨fun h => (nomatch h), fun h => absurd (h n rfl) hn⟩

example : lens (([[.int 1], [.int 3], [.int 7]] : List (List Cell)).map (·.length)) = .ok 1 := by
  rfl
/-- three-cell rows under a one-name header: rejected, as under a two-name header -/
example : construct (.rows [[.int 1, .int 2, .int 3], [.int 3], [.int 7, .int 8, .int 9]]) (some ["a"]) [] =
    some (.error .value) := by rfl
example : construct (.rows [[.int 1, .int 2, .int 3], [.int 3, .int 4]]) (some ["a"]) [] = some (.error .value) := by rfl
example : construct (.rows [[.int 1], [.int 3], [.int 7]]) (some ["a"]) [] =
    some (.ok [("a", [.int 1, .int 3, .int 7])]) := by rfl

/-! ### aliasing — handles as pointers (PygModel/TableAlias.lean)

`frame_step` is about a heap of VALUES: `d + None` and `dictable.concat([d])` only report `Out.alias`, the
alias is never bound, so no history of `step` mutates a table through a second name.  `rstep` runs `step`
on a store of cells behind a pointer table; `bindAlias dst h` binds a second handle to the same cell. -/

/-- cells: the only operations that write an EXISTING cell are `setitem / delitem / update`, and they write
the cell of their handle (`ROp.writesCell`); every other cell is as before.  Table-producing operations
write a fresh cell (index `cells.length`), queries and `bindAlias` none. -/
theorem rframe_cells (s : RefHeap) (rop : ROp) (c : Nat) (hc : c < s.cells.length)
    (hw : rop.writesCell s ≠ some c) : (rstep s rop).1.cells[c]? = s.cells[c]? := by
  cases rop with
  | bindAlias dst h => rw [rstep_bindAlias_cells]
  | op o =>
    have hcells : (rstep s (.op o)).1.cells = (step s.cells (o.mapHandles s.cellOf s.cells.length)).1 := rfl
    rw [hcells]
    apply frame_step _ _ c hc
    rw [Op.writes_mapHandles]
    cases hd : o.dst? with
    | some d => simp only [ne_eq, Option.some.injEq]; omega
    | none =>
      simp only [ROp.writesCell] at hw
      cases hi : o.inplace? with
      | none => simp
      | some h =>
        rw [hi] at hw
        simp only at hw
        simp only [Option.map_some, ne_eq, Option.some.injEq]
        cases hp : s.ptr[h]? with
        | none =>
          rw [RefHeap.cellOf_none hp]
          omega
        | some c' =>
          rw [hp] at hw
          rw [RefHeap.cellOf_some hp]
          simpa using hw

theorem rframe_ptr (s : RefHeap) (rop : ROp) (i : Nat) (hi : i < s.ptr.length) (hreb : rop.rebinds ≠ some i) :
    (rstep s rop).1.ptr[i]? = s.ptr[i]? :=
  (rstep_ptr s rop).frame hi hreb

/-- **frame for the reference heap**: after ANY operation, a handle that read table `t`, is not the
(re)bound destination, and whose cell is not the cell assigned in place by `setitem / delitem / update`,
still reads `t`.  (`frame_step` is the same for the value heap; here two handles may share a cell and the
hypothesis is about the CELL written, not the handle named in the operation.) -/
theorem rframe_step (s : RefHeap) (rop : ROp) (i : Nat) (t : Table) (hg : s.get i = some t)
    (hreb : rop.rebinds ≠ some i) (hw : rop.writesCell s ≠ s.ptr[i]?) :
    (rstep s rop).1.get i = some t := by
  obtain ⟨c, hp, hcell⟩ := RefHeap.get_eq_some hg
  have hi : i < s.ptr.length := (List.getElem?_eq_some_iff.1 hp).1
  have hc : c < s.cells.length := (List.getElem?_eq_some_iff.1 hcell).1
  rw [hp] at hw
  have h1 := rframe_ptr s rop i hi hreb
  rw [hp] at h1
  rw [RefHeap.get_of_ptr h1, rframe_cells s rop c hc hw, hcell]

/-- operations that return a new table never alter what ANY other handle reads — aliases of the operands
included: the result goes to a fresh cell -/
theorem rframe_producing (s : RefHeap) (o : Op) (hin : o.inplace? = Option.none) (i : Nat) (t : Table)
    (hg : s.get i = some t) (hd : o.dst? ≠ some i) : (rstep s (.op o)).1.get i = some t := by
  apply rframe_step s (.op o) i t hg hd
  obtain ⟨c, hp, _⟩ := RefHeap.get_eq_some hg
  simp [ROp.writesCell, hin, hp]

/-- **an alias shares its object**: after `dst = h + None` (`bindAlias dst h`; `dst` an existing handle or
the next new one) both handles point to the same cell and read the same table, and an assignment
`dst[k] = v` that succeeds on that table is seen through `h` as well (real code: `e = d + None;
e['z'] = 5` changes `d`).  A rejected assignment changes neither. -/
theorem ralias_shared (s : RefHeap) (dst h : Nat) (t : Table) (hg : s.get h = some t)
    (hd : dst ≤ s.ptr.length) (k : String) (v : ColVal) :
    let s1 := (rstep s (.bindAlias dst h)).1
    let s2 := (rstep s1 (.op (.setitem dst k v))).1
    s1.ptr[dst]? = s.ptr[h]? ∧ s1.ptr[h]? = s.ptr[h]? ∧ s1.get dst = some t ∧ s1.get h = some t ∧
    (∀ t', t.setitem k v = .ok t' → s2.get dst = some t' ∧ s2.get h = some t') ∧
    (∀ e, t.setitem k v = .error e → s2.get dst = some t ∧ s2.get h = some t) := by
  obtain ⟨c, hp, hcell⟩ := RefHeap.get_eq_some hg
  have hh : h < s.ptr.length := (List.getElem?_eq_some_iff.1 hp).1
  have hc : c < s.cells.length := (List.getElem?_eq_some_iff.1 hcell).1
  have hpd : (RefHeap.bindPtr s.ptr dst c)[dst]? = some c := RefHeap.bindPtr_getElem?_self _ _ _ hd
  have hph : (RefHeap.bindPtr s.ptr dst c)[h]? = some c := by
    by_cases hdh : dst = h
    · rw [← hdh]
      exact hpd
    · rw [RefHeap.bindPtr_getElem?_ne _ _ _ _ hh hdh, hp]
  simp only [rstep_bindAlias dst hp, rstep_setitem (s := ⟨RefHeap.bindPtr s.ptr dst c, s.cells⟩) (h := dst) hpd hcell]
  refine ⟨hpd.trans hp.symm, hph.trans hp.symm, (RefHeap.get_of_ptr hpd).trans hcell,
    (RefHeap.get_of_ptr hph).trans hcell, fun t' ht' => ?_, fun e he => ?_⟩
  · rw [ht']
    exact ⟨(RefHeap.get_of_ptr hpd).trans (List.getElem?_set_self hc),
      (RefHeap.get_of_ptr hph).trans (List.getElem?_set_self hc)⟩
  · rw [he]
    exact ⟨(RefHeap.get_of_ptr hpd).trans hcell, (RefHeap.get_of_ptr hph).trans hcell⟩

/-- aliases stay aliases: two handles bound to one cell are still bound to one cell after any operation that
rebinds neither -/
theorem ralias_stays (s : RefHeap) (rop : ROp) (a b : Nat) (ha : a < s.ptr.length) (hb : b < s.ptr.length)
    (hab : s.ptr[a]? = s.ptr[b]?) (hra : rop.rebinds ≠ some a) (hrb : rop.rebinds ≠ some b) :
    (rstep s rop).1.ptr[a]? = (rstep s rop).1.ptr[b]? ∧ (rstep s rop).1.get a = (rstep s rop).1.get b := by
  have h : (rstep s rop).1.ptr[a]? = (rstep s rop).1.ptr[b]? := by
    rw [rframe_ptr s rop a ha hra, rframe_ptr s rop b hb hrb, hab]
  exact ⟨h, by simp only [RefHeap.get, h]⟩

/-- **all cells stay rectangular** (`rect_step` lifted to the reference heap) -/
theorem rrect_step (s : RefHeap) (rop : ROp) (hs : HeapRect s.cells) : HeapRect (rstep s rop).1.cells := by
  cases rop with
  | bindAlias dst h => exact (rstep_bindAlias_cells s dst h).symm ▸ hs
  | op o => exact rect_step s.cells _ hs

/-- every handle keeps pointing to an existing cell -/
theorem rwf_step (s : RefHeap) (rop : ROp) (hs : s.WF) : (rstep s rop).1.WF :=
  -- old pointers stay valid because cells only grow; what `rstep_ptr` says of a bound pointer is an implication from `s.WF`
  (rstep_ptr s rop).forall_mem (fun c hc => Nat.lt_of_lt_of_le (hs c hc) (rstep_cells_length_ge s rop)) (fun _ h => h hs)
    fun _ _ _ h => h hs

theorem rrect_run (ops : List ROp) (s : RefHeap) (hs : HeapRect s.cells) (hw : s.WF) :
    HeapRect (rrun s ops).cells ∧ (rrun s ops).WF := by
  induction ops generalizing s with
  | nil => exact ⟨hs, hw⟩
  | cons op ops ih => exact ih _ (rrect_step s op hs) (rwf_step s op hw)

theorem rrect_run_empty (ops : List ROp) : HeapRect (rrun .empty ops).cells ∧ (rrun .empty ops).WF :=
  rrect_run ops .empty HeapRect.nil (by intro c hc; cases hc)

/-- the simulation theorem carries over to the reference heap: its cells, read as records, evolve by the
list-of-records machine `specStep` under the translated operation, and `step` on the cells has the outcome
of `specStep` — `rstep` runs `step` on the cells, so `abs_step` applies verbatim (the pointer table is
bookkeeping on top) -/
theorem rabs_step (s : RefHeap) (o : Op) (hs : HeapRect s.cells) :
    (rstep s (.op o)).1.cells.map abs =
      (specStep (s.cells.map abs) (o.mapHandles s.cellOf s.cells.length)).1 ∧
    (step s.cells (o.mapHandles s.cellOf s.cells.length)).2 =
      (specStep (s.cells.map abs) (o.mapHandles s.cellOf s.cells.length)).2 :=
  abs_step s.cells _ hs

/-- the history `d = dictable(a=[1,2]); e = d + None; e['z'] = 5`: `d` has the column `z` -/
example : (rrun .empty [.op (.new 0 .none Option.none [("a", .many [.int 1, .int 2])]), .bindAlias 1 0,
      .op (.setitem 1 "z" (.one (.int 5)))]).view =
    [some [("a", [.int 1, .int 2]), ("z", [.int 5, .int 5])],
     some [("a", [.int 1, .int 2]), ("z", [.int 5, .int 5])]] := rfl
/-- with `e = d.copy()` instead, `d` is untouched; and `d = d[mask]` rebinds `d` to a fresh object while the
alias `e` keeps the old one -/
example : (rrun .empty [.op (.new 0 .none Option.none [("a", .many [.int 1, .int 2])]), .op (.copy 1 0),
      .op (.setitem 1 "z" (.one (.int 5))), .bindAlias 2 0, .op (.mask 0 0 [true, false])]).view =
    [some [("a", [.int 1])], some [("a", [.int 1, .int 2]), ("z", [.int 5, .int 5])],
     some [("a", [.int 1, .int 2])]] := rfl
/-- `d + None` and `concat([d])` report the handle (not the cell) as alias -/
example : (rstep ⟨[1, 0], [[("a", [.int 1])], []]⟩ (.op (.addnone 0))).2 = .alias 0 ∧
    (rstep ⟨[1, 0], [[("a", [.int 1])], []]⟩ (.op (.concat 5 [1]))).2 = .alias 1 := ⟨rfl, rfl⟩
/-- the hypotheses of `ralias_shared` / `rframe_step` on a two-cell heap with an alias -/
def rheap0 : RefHeap := ⟨[0, 1, 0], [tbl, [("q", [.int 1])]]⟩
example : rheap0.get 0 = some tbl ∧ (2 : Nat) ≤ rheap0.ptr.length ∧ rheap0.WF ∧ HeapRect rheap0.cells := by
  refine ⟨rfl, by decide, by decide, ?_⟩
  intro t ht
  simp [rheap0] at ht
  rcases ht with rfl | rfl
  · exact ⟨3, by decide⟩
  · exact ⟨1, by decide⟩
example : rheap0.get 1 = some [("q", [.int 1])] ∧ (ROp.op (.setitem 2 "c" (.one .none))).rebinds ≠ some 1 ∧
    (ROp.op (.setitem 2 "c" (.one .none))).writesCell rheap0 ≠ rheap0.ptr[1]? := by decide

/-- **the reference heap is a conservative extension of the value heap**: while no two handles share a
cell (`ptr.Nodup`) an operation of the value machine, run through `rstep`, gives — seen through the handles
(`RefHeap.vheap`) — exactly the heap and the outcome of `step`; and it creates no alias.  So everything
proved about `step` / `run` (`abs_run`, ...) holds of `rstep` as long as `bindAlias` is not used; aliases
arise only from `bindAlias`. -/
theorem rstep_noalias (s : RefHeap) (hw : s.WF) (hinj : s.ptr.Nodup) (o : Op) :
    (rstep s (.op o)).1.vheap = (step s.vheap o).1 ∧ (rstep s (.op o)).2 = (step s.vheap o).2 ∧
    (rstep s (.op o)).1.ptr.Nodup :=
  ⟨(rstep_op_sim s hw hinj o).1, (rstep_op_sim s hw hinj o).2, rstep_op_nodup s hw hinj o⟩

/-- any history without `bindAlias`, from any alias-free reference heap (e.g. the empty one): the handles
read what `run` computes -/
theorem rrun_noalias (ops : List Op) (s : RefHeap) (hw : s.WF) (hinj : s.ptr.Nodup) :
    (rrun s (ops.map .op)).vheap = run s.vheap ops := by
  induction ops generalizing s with
  | nil => rfl
  | cons o ops ih =>
    simp only [List.map_cons, rrun, run]
    rw [ih _ (rwf_step s (.op o) hw) (rstep_noalias s hw hinj o).2.2, (rstep_noalias s hw hinj o).1]

theorem rrun_noalias_empty (ops : List Op) : (rrun .empty (ops.map .op)).vheap = run [] ops :=
  rrun_noalias ops .empty (by intro c hc; cases hc) (by simp [RefHeap.empty])

example : rheap0.WF ∧ ¬ rheap0.ptr.Nodup ∧ (RefHeap.mk [1, 0] rheap0.cells).ptr.Nodup := by decide

/-! ### where the reference machine adopts a quirk of the code, stated as a deviation from a plain list of records

`abs_step` relates the table machine to `specStep`; for the table without columns and for tables without
rows `specStep` itself follows the code (`Recs.getRow` answers `{}` on no columns; `do` / `call` over no
row add columns they could not compute).  The theorems below say so against readings that do not share
the quirk, as `mask_one_row_repeats` does for the one-row mask. -/

/-- `records[i]` of a PLAIN python list of records (no dictable involved): IndexError when `i` is out of
range - in particular for every `i` when there is no record -/
def getRowPlain (r : Recs) (i : Int) : Except Err (List (String × Cell)) :=
  match pyIdx r.rows.length i with
  | some j => .ok (r.cols.zip (r.rows.getD j []))
  | Option.none => .error .index

/-- **deviation 1 (the table without columns)**: `dictable()[i]` is `{}` for EVERY integer `i` (the dict
comprehension over no column), where a plain list of no records raises IndexError.  The reference
`Recs.getRow` adopts this (`if r.cols.isEmpty then .ok []`), so `abs_step` cannot see it; this theorem
states it as a deviation from the plain reading. -/
theorem row_nocols (i : Int) :
    Table.getRow [] i = .ok [] ∧ getRowPlain ⟨[], []⟩ i = .error .index := by
  constructor
  · rfl
  · simp [getRowPlain, pyIdx_zero]

/-- the table without columns (`row_nocols`) is the ONLY deviation of `d[i]`: with at least one column the
reference row access IS the plain one -/
theorem getRow_plain (r : Recs) (hc : r.cols ≠ []) (i : Int) : r.getRow i = getRowPlain r i := by
  have : r.cols.isEmpty = false := by cases h : r.cols <;> simp_all
  simp only [Recs.getRow, getRowPlain, this, Bool.false_eq_true, if_false]
  cases pyIdx r.rows.length i <;> rfl

/-- `cell_comm`'s error half without `t ≠ []`: on the no-column table NO index is an error -/
theorem cell_comm_nocols (i : Int) : pyIdx (0 : Nat) i = Option.none ∧ Table.getRow [] i ≠ .error .index := by
  refine ⟨pyIdx_zero i, ?_⟩
  rw [(row_nocols i).1]
  intro h; cases h

/-- **deviation 2 (a table without rows)**: `d.do(f, k)` for a key `k` the table does not have ADDS the
empty column `k` when there is no row (the comprehension over no row never looks the key up), where with
at least one row it raises KeyError (`do_missing_key_rows`) -/
theorem do_missing_key_empty (t : Table) (f : DoFn) (k : String) (hr : t.Rect 0) (hk : t.has k = false) :
    ∃ t', t.doCols f (some [k]) = .ok t' ∧ k ∈ t'.cols := by
  refine ⟨t.set k [], ?_, mem_cols_set t k []⟩
  -- no row: `doKey` maps over `range 0`, and `setitem` accepts the empty column on a table of length 0
  simp only [doCols, Option.getD_some, doKeys, doKey, nrows_of_rect_zero hr, List.range_zero, mapE,
    setitem_empty_col hr]

/-- non-vacuity of `do_missing_key_empty`: a table with one column and no row, a key it lacks -/
example : Table.Rect [("a", [])] 0 ∧ Table.has [("a", [])] "zz" = false := by decide

/-- `d.do(f, k)` on a table with at least one row: the missing key is a KeyError, as for a list of records
(`row['zz']`) -/
theorem do_missing_key_rows (t : Table) (f : DoFn) (k : String) (n : Nat) (hr : t.Rect (n + 1)) (hne : t ≠ [])
    (hk : t.has k = false) : t.doCols f (some [k]) = .error .key := by
  have hn : t.nrows = n + 1 := nrows_of_rect hr hne
  have hc : t.col? k = Option.none := col?_eq_none hk
  -- the first row already looks the key up: `cellAt` finds no column `k`
  simp only [doCols, Option.getD_some, doKeys, doKey, hn, List.range_succ_eq_map, mapE, cellAt, hc, Option.map_none]

/-- non-vacuity of `do_missing_key_rows` -/
example : Table.Rect [("a", [Cell.int 1])] 1 ∧ Table.has [("a", [Cell.int 1])] "zz" = false := by decide

/-- **deviation 2, the `call` twin (a table without rows)**: `d(k = f)` for ANY callable `f` - also one
whose parameter is no column of the table - ADDS the empty column `k` when there is no row
(`res.apply(f)` calls `f` once per row: never), where with at least one row such a callable is a
TypeError (`call_missing_param_rows`). -/
theorem call_missing_param_empty (t : Table) (f : Fn) (k : String) (hr : t.Rect 0) :
    t.call [] [(k, f)] = .ok (t.set k []) ∧ k ∈ (t.set k []).cols := by
  refine ⟨?_, mem_cols_set t k []⟩
  -- `call` with one callable is one `setFn`; over `range 0` it evaluates nothing and assigns `[]`
  rw [show t.call [] [(k, f)] = t.setFn (k, f) from call_single t [] k f]
  simp only [setFn, applyFnK, nrows_of_rect_zero hr, List.range_zero, mapE, setitem_empty_col hr]

/-- non-vacuity: a table with one column and no row, a callable reading a column it lacks -/
example : Table.Rect [("a", [])] 0 ∧ Table.call [("a", [])] [] [("k", .idcol "zz")] = .ok [("a", []), ("k", [])] := ⟨by decide, rfl⟩

/-- `d(k = f)` on a table with at least one row: a callable whose parameter is neither a column nor `key`
is a TypeError, as `f(**row)` is for a list of records -/
theorem call_missing_param_rows (t : Table) (k zz : String) (n : Nat) (hr : t.Rect (n + 1)) (hne : t ≠ [])
    (hz : t.has zz = false) (hkey : zz ≠ "key") : t.call [] [(k, .idcol zz)] = .error .type := by
  have hn : t.nrows = n + 1 := nrows_of_rect hr hne
  have hc : t.col? zz = Option.none := col?_eq_none hz
  have hk' : (zz == "key") = false := by simpa using hkey
  -- `call` with one callable is one `setFn`; on the first row `idcol zz` finds neither a column nor `key`
  rw [show t.call [] [(k, .idcol zz)] = t.setFn (k, .idcol zz) from call_single t [] k (.idcol zz)]
  simp only [setFn, applyFnK, hn, List.range_succ_eq_map, mapE, Fn.eval, keyDflt, cellAt, hc, Option.map_none, hk',
    Bool.false_eq_true, if_false]

/-- non-vacuity of `call_missing_param_rows` -/
example : Table.Rect [("a", [Cell.int 1])] 1 ∧ Table.has [("a", [Cell.int 1])] "zz" = false := by decide

end Pyg.Props.C01
