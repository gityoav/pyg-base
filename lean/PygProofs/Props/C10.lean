/-
  C10 — drange enumerates exactly t0, t0+bump, ... up to t1 for every kind of bump.

  Instants are microseconds (`Int`); `iter step i t0` is `step` applied `i` times; what a range is: `IsRangeUp` / `IsRangeDown`
  (Lemmas/DRangeLemmas.lean).
-/
import PygProofs.Lemmas.DRangeBday
import PygProofs.Props.C09
import PygModel.DateRange
import PygProofs.Lemmas.Basics.Loops
import Std.Data.String.ToNat

namespace Pyg.Props.C10
open Pyg Pyg.DRange

/-- `t0 == t1` gives `[t0]` whatever the bump -/
theorem singleton (t : Int) (b : Bump) : drange t t b = .ok [t] :=
  drange_self t b

/-- forward: the list is `t0, step t0, step (step t0), …` while `≤ t1`; it starts at `t0`, is strictly
increasing, stays within `[t0, t1]` and cannot be extended -/
theorem loop_forward (step : Int → Int) (hinc : ∀ t, t < step t) (t0 t1 : Int) (h : t0 < t1) :
    ∃ l, loopBranch step t0 t1 = .ok l ∧ IsRangeUp step t0 t1 l ∧ l.head? = some t0 ∧
      l.Pairwise (· < ·) ∧ ∀ x ∈ l, t0 ≤ x ∧ x ≤ t1 := by
  obtain ⟨hr, hp, hm⟩ := upTo_range step hinc t0 t1
  exact ⟨upTo step t0 t1, loopBranch_up h (hinc t0), hr, hr.head (by omega), hp, hm⟩

theorem loop_backward (step : Int → Int) (hdec : ∀ t, step t < t) (t0 t1 : Int) (h : t1 < t0) :
    ∃ l, loopBranch step t0 t1 = .ok l ∧ IsRangeDown step t0 t1 l ∧ l.head? = some t0 ∧
      l.Pairwise (· > ·) ∧ ∀ x ∈ l, t1 ≤ x ∧ x ≤ t0 := by
  obtain ⟨hr, hp, hm⟩ := downTo_range step hdec t0 t1
  exact ⟨downTo step t0 t1, loopBranch_down h (hdec t0), hr, hr.head (by omega), hp, hm⟩

/-- a bump pointing away from `t1` (or standing still) raises `ValueError` -/
theorem loop_away (step : Int → Int) (t0 t1 : Int)
    (h : (t0 < t1 ∧ step t0 ≤ t0) ∨ (t1 < t0 ∧ t0 ≤ step t0)) : loopBranch step t0 t1 = .error .value :=
  loopBranch_away step t0 t1 h

/-- the same for the checked `dt_bump` loops -/
theorem loopC_away (step : Int → Int) (t0 t1 : Int)
    (h : (t0 < t1 ∧ step t0 ≤ t0) ∨ (t1 < t0 ∧ t0 ≤ step t0)) : loopBranchC step t0 t1 = .error .value :=
  loopBranchC_away step t0 t1 h

theorem td_forward (t0 t1 us : Int) (hus : 0 < us) (h : t0 < t1) :
    ∃ l, drange t0 t1 (.td us) = .ok l ∧ IsRangeUp (· + us) t0 t1 l ∧ l.head? = some t0 ∧
      (∀ i, i < l.length → l[i]? = some (t0 + us * i)) := by
  obtain ⟨l, h1, h2, h3, _⟩ := loop_forward (· + us) (fun t => by omega) t0 t1 h
  refine ⟨l, by rw [drange_td (by omega), h1], h2, h3, fun i hi => ?_⟩
  rw [← iter_add us i t0]
  exact h2.get i hi

theorem td_backward (t0 t1 us : Int) (hus : us < 0) (h : t1 < t0) :
    ∃ l, drange t0 t1 (.td us) = .ok l ∧ IsRangeDown (· + us) t0 t1 l ∧ l.head? = some t0 ∧
      (∀ i, i < l.length → l[i]? = some (t0 + us * i)) := by
  obtain ⟨l, h1, h2, h3, _⟩ := loop_backward (· + us) (fun t => by omega) t0 t1 h
  refine ⟨l, by rw [drange_td (by omega), h1], h2, h3, fun i hi => ?_⟩
  rw [← iter_add us i t0]
  exact h2.get i hi

theorem td_away (t0 t1 us : Int) (h : (t0 < t1 ∧ us ≤ 0) ∨ (t1 < t0 ∧ 0 ≤ us)) :
    drange t0 t1 (.td us) = .error .value := by
  rw [drange_td (by omega)]
  exact loopBranch_away _ t0 t1 (h.imp (fun ⟨a, b⟩ => ⟨a, by omega⟩) (fun ⟨a, b⟩ => ⟨a, by omega⟩))

/-! ### integer bumps: the iteration by `n` days -/

/-- the integer branch (rrule over the daily grid, reversed, strided) is the iteration by `n` days -/
theorem int_eq_iterate (t0 t1 n : Int) (hne : t0 ≠ t1) (hn : n ≠ 0) (hal : (t1 - t0) % DAY = 0) :
    drange t0 t1 (.int n) = loopBranch (· + DAY * n) t0 t1 := by
  rw [drange_int hne]
  unfold drangeInt
  rcases Int.lt_or_gt_of_ne hne with hlt | hgt
  · have hd := tdDays_pos (t1 - t0) (by omega) hal
    rcases Int.lt_or_gt_of_ne hn with hneg | hpos
    · rw [if_pos (Int.le_of_lt (Int.mul_neg_of_pos_of_neg hd hneg)),
        loopBranch_away _ t0 t1 (Or.inl ⟨hlt, by unfold DAY; omega⟩)]
    · rw [if_neg (by have := Int.mul_pos hd hpos; omega), loopBranch_up hlt (by unfold DAY; omega),
        show min t0 t1 = t0 by omega, show max t0 t1 = t1 by omega, orient_pos n hpos]
  · have hd := tdDays_neg (t1 - t0) (by omega)
    rcases Int.lt_or_gt_of_ne hn with hneg | hpos
    · rw [if_neg (by have := Int.mul_pos_of_neg_of_neg hd hneg; omega), loopBranch_down hgt (by unfold DAY; omega),
        show min t0 t1 = t1 by omega, show max t0 t1 = t0 by omega, orient_neg n hneg t1 t0 (by unfold DAY at *; omega)]
    · rw [if_pos (Int.le_of_lt (Int.mul_neg_of_neg_of_pos hd hpos)),
        loopBranch_away _ t0 t1 (Or.inr ⟨hgt, by unfold DAY; omega⟩)]

/-- whole days apart, an integer bump of the wrong sign raises `ValueError` -/
theorem int_away (t0 t1 n : Int) (hal : (t1 - t0) % DAY = 0)
    (h : (t0 < t1 ∧ n ≤ 0) ∨ (t1 < t0 ∧ 0 ≤ n)) : drange t0 t1 (.int n) = .error .value := by
  have hne : t0 ≠ t1 := by omega
  by_cases hn : n = 0
  · subst hn
    rw [drange_int hne]
    simp [drangeInt]
  · rw [int_eq_iterate t0 t1 n hne hn hal]
    exact loopBranch_away _ t0 t1
      (h.imp (fun ⟨a, b⟩ => ⟨a, by unfold DAY; omega⟩) (fun ⟨a, b⟩ => ⟨a, by unfold DAY; omega⟩))

/-- no bump given: one day per step towards `t1` -/
theorem none_default (t0 t1 : Int) :
    drange t0 t1 .none = drange t0 t1 (.int (if t0 < t1 then 1 else -1)) := by
  by_cases hne : t0 = t1
  · subst hne
    rw [drange_self, drange_self]
  · rw [drange_none hne, drange_int hne]

/-- integer bumps as one statement: `n > 0`, endpoints a whole number of days apart: the list is exactly
`t0, t0 + n days, t0 + 2n days, …` while `≤ t1` -/
theorem int_forward (t0 t1 n : Int) (hn : 0 < n) (h : t0 < t1) (hal : (t1 - t0) % DAY = 0) :
    ∃ l, drange t0 t1 (.int n) = .ok l ∧ IsRangeUp (· + DAY * n) t0 t1 l ∧ l.head? = some t0 ∧
      l.Pairwise (· < ·) ∧ (∀ x ∈ l, t0 ≤ x ∧ x ≤ t1) ∧ ∀ i, i < l.length → l[i]? = some (t0 + DAY * n * i) := by
  obtain ⟨l, h1, h2, h3, h4, h5⟩ := loop_forward (· + DAY * n) (fun t => by unfold DAY; omega) t0 t1 h
  refine ⟨l, by rw [int_eq_iterate t0 t1 n (by omega) (by omega) hal]; exact h1, h2, h3, h4, h5, fun i hi => ?_⟩
  rw [h2.get i hi, iter_add]

theorem int_backward (t0 t1 n : Int) (hn : n < 0) (h : t1 < t0) (hal : (t1 - t0) % DAY = 0) :
    ∃ l, drange t0 t1 (.int n) = .ok l ∧ IsRangeDown (· + DAY * n) t0 t1 l ∧ l.head? = some t0 ∧
      l.Pairwise (· > ·) ∧ (∀ x ∈ l, t1 ≤ x ∧ x ≤ t0) ∧ ∀ i, i < l.length → l[i]? = some (t0 + DAY * n * i) := by
  obtain ⟨l, h1, h2, h3, h4, h5⟩ := loop_backward (· + DAY * n) (fun t => by unfold DAY; omega) t0 t1 h
  refine ⟨l, by rw [int_eq_iterate t0 t1 n (by omega) (by omega) hal]; exact h1, h2, h3, h4, h5, fun i hi => ?_⟩
  rw [h2.get i hi, iter_add]

/-- no bump given, as a specification: one day per step from `t0` towards `t1`, whichever side `t1` is on -/
theorem none_is_daily (t0 t1 : Int) (hne : t0 ≠ t1) (hal : (t1 - t0) % DAY = 0) :
    ∃ l, drange t0 t1 .none = .ok l ∧ l.head? = some t0 ∧
      (∀ i, i < l.length → l[i]? = some (if t0 < t1 then t0 + DAY * i else t0 - DAY * i)) ∧
      (∀ x ∈ l, min t0 t1 ≤ x ∧ x ≤ max t0 t1) ∧ (l.length : Int) = (max t0 t1 - min t0 t1) / DAY + 1 := by
  rw [none_default]
  by_cases hlt : t0 < t1
  · simp only [hlt, if_true]
    obtain ⟨l, h1, h2, h3, _, h5, h6⟩ := int_forward t0 t1 1 (by omega) hlt hal
    refine ⟨l, h1, h3, fun i hi => by rw [h6 i hi, Int.mul_one], fun x hx => by have := h5 x hx; omega, ?_⟩
    obtain ⟨_, hlast, hlen⟩ := h2.span_add (by omega)
    rw [show max t0 t1 = t1 by omega, show min t0 t1 = t0 by omega]
    unfold DAY at *
    omega
  · have hgt : t1 < t0 := by omega
    simp only [hlt, if_false]
    obtain ⟨l, h1, h2, h3, _, h5, h6⟩ := int_backward t0 t1 (-1) (by omega) hgt hal
    refine ⟨l, h1, h3, fun i hi => by rw [h6 i hi]; exact congrArg some (by unfold DAY; omega), fun x hx => by have := h5 x hx; omega, ?_⟩
    obtain ⟨_, hlast, hlen⟩ := h2.span_add (by omega)
    rw [show max t0 t1 = t0 by omega, show min t0 t1 = t1 by omega]
    unfold DAY at *
    omega

/-- compound period strings (two or more parts) are iterated with `dt_bump`; stated for any bump that moves
strictly forward -/
theorem compound_forward (p q : Int × Per) (rest : List (Int × Per)) (t0 t1 : Int) (h : t0 < t1)
    (hinc : ∀ t, t < dtBump (p :: q :: rest) t) :
    ∃ l, drange t0 t1 (.period (p :: q :: rest)) = .ok l ∧ IsRangeUp (dtBump (p :: q :: rest)) t0 t1 l ∧
      l.head? = some t0 ∧ l.Pairwise (· < ·) ∧ ∀ x ∈ l, t0 ≤ x ∧ x ≤ t1 := by
  obtain ⟨l, h1, h2⟩ := loop_forward _ hinc t0 t1 h
  exact ⟨l, by rw [drange_compound (by omega), loopBranchC_eq _ (Or.inl hinc), h1], h2⟩

theorem compound_backward (p q : Int × Per) (rest : List (Int × Per)) (t0 t1 : Int) (h : t1 < t0)
    (hdec : ∀ t, dtBump (p :: q :: rest) t < t) :
    ∃ l, drange t0 t1 (.period (p :: q :: rest)) = .ok l ∧ IsRangeDown (dtBump (p :: q :: rest)) t0 t1 l ∧
      l.head? = some t0 ∧ l.Pairwise (· > ·) ∧ ∀ x ∈ l, t1 ≤ x ∧ x ≤ t0 := by
  obtain ⟨l, h1, h2⟩ := loop_backward _ hdec t0 t1 h
  exact ⟨l, by rw [drange_compound (by omega), loopBranchC_eq _ (Or.inr hdec), h1], h2⟩

/-- a single period with a positive count (the rrule branch): the list obtained by iterating the period -/
theorem single_forward (n : Int) (u : Per) (hu : u ≠ .b) (hn : 0 < n) (t0 t1 : Int) (h : t0 < t1)
    (hinc : ∀ t, t < rruleStep n u t) :
    ∃ l, drange t0 t1 (.period [(n, u)]) = .ok l ∧ IsRangeUp (rruleStep n u) t0 t1 l ∧ l.head? = some t0 ∧
      l.Pairwise (· < ·) ∧ ∀ x ∈ l, t0 ≤ x ∧ x ≤ t1 := by
  obtain ⟨hr, hp, hm⟩ := upTo_range _ hinc t0 t1
  exact ⟨upTo (rruleStep n u) t0 t1, drange_single_rrule n u hu hn t0 t1 h, hr, hr.head (by omega), hp, hm⟩

/-- a single period with a negative count (rrule cannot walk backwards): iterated backwards with `dt_bump` -/
theorem single_backward (n : Int) (u : Per) (hu : u ≠ .b) (hn : n < 0) (t0 t1 : Int) (h : t1 < t0)
    (hdec : ∀ t, dtBump [(n, u)] t < t) :
    ∃ l, drange t0 t1 (.period [(n, u)]) = .ok l ∧ IsRangeDown (dtBump [(n, u)]) t0 t1 l ∧ l.head? = some t0 ∧
      l.Pairwise (· > ·) ∧ ∀ x ∈ l, t1 ≤ x ∧ x ≤ t0 := by
  obtain ⟨l, h1, h2⟩ := loop_backward _ hdec t0 t1 h
  exact ⟨l, by rw [drange_single_dtBump (by omega) hu (by omega), loopBranchC_eq _ (Or.inr hdec), h1], h2⟩

/-! ### month, quarter, year bumps move strictly in the direction of their sign: a theorem of the Gregorian arithmetic -/

/-- a month step moves strictly forward for `k > 0`, strictly backward for `k < 0` —
for every instant and every day of month; likewise quarters and years (the bound of 27 days is
`Pyg.DRange.month_step_strict`) -/
theorem month_step_strict (t k : Int) :
    (0 < k → t < bump1 t k .m ∧ t < bump1 t k .q ∧ t < bump1 t k .y) ∧
    (k < 0 → bump1 t k .m < t ∧ bump1 t k .q < t ∧ bump1 t k .y < t) :=
  ⟨fun h => ⟨bump1_inc t k .m (by omega), bump1_inc t k .q (by omega), bump1_inc t k .y (by omega)⟩,
   fun h => ⟨bump1_dec t k .m (by omega), bump1_dec t k .q (by omega), bump1_dec t k .y (by omega)⟩⟩

/-- every unit, every instant: a positive count moves strictly forward, a negative one strictly backward -/
theorem all_parts_move_forward (parts : List (Int × Per)) (hne : parts ≠ []) (hp : ∀ p ∈ parts, 1 ≤ p.1) :
    ∀ t, t < dtBump parts t := fun t => dtBump_inc parts t hne hp

theorem all_parts_move_backward (parts : List (Int × Per)) (hne : parts ≠ []) (hp : ∀ p ∈ parts, p.1 ≤ -1) :
    ∀ t, dtBump parts t < t := fun t => dtBump_dec parts t hne hp

/-- in particular for parts made of d, w, h, n, s, b only -/
theorem fixed_parts_move_forward (parts : List (Int × Per)) (hne : parts ≠ [])
    (hp : ∀ p ∈ parts, p.2.fixed = true ∧ 1 ≤ p.1) : ∀ t, t < dtBump parts t :=
  all_parts_move_forward parts hne fun p h => (hp p h).2

theorem fixed_parts_move_backward (parts : List (Int × Per)) (hne : parts ≠ [])
    (hp : ∀ p ∈ parts, p.2.fixed = true ∧ p.1 ≤ -1) : ∀ t, dtBump parts t < t :=
  all_parts_move_backward parts hne fun p h => (hp p h).2

/-- a single period with a positive count, any unit but `b` — in particular months, quarters, years — without a
monotonicity hypothesis: the list is `t0, step t0, step (step t0), …` while `≤ t1`, strictly increasing, inside `[t0,t1]`.
(The model's rrule step is the real rrule only from a day of month ≤ 28 — "a day of month that exists in every
month"; the theorem about the model needs no such restriction.) -/
theorem single_forward_all (n : Int) (u : Per) (hu : u ≠ .b) (hn : 0 < n) (t0 t1 : Int) (h : t0 < t1) :
    ∃ l, drange t0 t1 (.period [(n, u)]) = .ok l ∧ IsRangeUp (rruleStep n u) t0 t1 l ∧ l.head? = some t0 ∧
      l.Pairwise (· < ·) ∧ ∀ x ∈ l, t0 ≤ x ∧ x ≤ t1 :=
  single_forward n u hu hn t0 t1 h (rruleStep_inc n u (by omega))

/-- months / quarters / years forward; from midnight of a day of month ≤ 28 the `i`-th element is `t0` plus `i·n` units
exactly (the day of month does not drift) -/
theorem single_forward_month (n : Int) (u : Per) (hu : u.fixed = false) (hn : 0 < n) (t0 t1 : Int) (h : t0 < t1) :
    ∃ l, drange t0 t1 (.period [(n, u)]) = .ok l ∧ IsRangeUp (rruleStep n u) t0 t1 l ∧ l.head? = some t0 ∧
      l.Pairwise (· < ·) ∧ (∀ x ∈ l, t0 ≤ x ∧ x ≤ t1) ∧
      (t0 % DAY = 0 → Civil.day (dayOf t0) ≤ 28 → ∀ i, i < l.length → l[i]? = some (bump1 t0 (i * n) u)) := by
  have hb := Per.ne_b_of_fixed_false hu
  obtain ⟨l, h1, h2, h3, h4, h5⟩ := single_forward_all n u hb hn t0 t1 h
  refine ⟨l, h1, h2, h3, h4, h5, fun hm hd i hi => ?_⟩
  rw [h2.get i hi, ← iter_bump1_month n u hu i t0 hm hd]
  congr 1
  exact iter_congr _ _ (fun t => t % DAY = 0)
    (fun t ht => ⟨rruleStep_of_midnight n u t (Or.inr ht), bump1_midnight t n u hu⟩) i t0 hm

/-- a single period with a negative count, any unit but `b`, from `t0` back to `t1`, without a monotonicity hypothesis:
the list is `t0, dt_bump t0, …` while `≥ t1`, strictly decreasing, inside `[t1, t0]` -/
theorem single_backward_all (n : Int) (u : Per) (hu : u ≠ .b) (hn : n < 0) (t0 t1 : Int) (h : t1 < t0) :
    ∃ l, drange t0 t1 (.period [(n, u)]) = .ok l ∧ IsRangeDown (dtBump [(n, u)]) t0 t1 l ∧ l.head? = some t0 ∧
      l.Pairwise (· > ·) ∧ ∀ x ∈ l, t1 ≤ x ∧ x ≤ t0 :=
  single_backward n u hu hn t0 t1 h fun t => bump1_dec t n u (by omega)

/-- months / quarters / years backward; from midnight of a day of month ≤ 28 the `i`-th element is `t0` plus `i·n` units
exactly (`n < 0`) -/
theorem single_backward_month (n : Int) (u : Per) (hu : u.fixed = false) (hn : n < 0) (t0 t1 : Int) (h : t1 < t0) :
    ∃ l, drange t0 t1 (.period [(n, u)]) = .ok l ∧ IsRangeDown (dtBump [(n, u)]) t0 t1 l ∧ l.head? = some t0 ∧
      l.Pairwise (· > ·) ∧ (∀ x ∈ l, t1 ≤ x ∧ x ≤ t0) ∧
      (t0 % DAY = 0 → Civil.day (dayOf t0) ≤ 28 → ∀ i, i < l.length → l[i]? = some (bump1 t0 (i * n) u)) := by
  have hb := Per.ne_b_of_fixed_false hu
  obtain ⟨l, h1, h2, h3, h4, h5⟩ := single_backward_all n u hb hn t0 t1 h
  refine ⟨l, h1, h2, h3, h4, h5, fun hm hd i hi => ?_⟩
  rw [h2.get i hi, ← iter_bump1_month n u hu i t0 hm hd]
  rfl

/-- compound periods whose parts all have positive counts, any units (m, q, y, b included): no hypothesis -/
theorem compound_forward_all (p q : Int × Per) (rest : List (Int × Per)) (t0 t1 : Int) (h : t0 < t1)
    (hp : ∀ x ∈ p :: q :: rest, 1 ≤ x.1) :
    ∃ l, drange t0 t1 (.period (p :: q :: rest)) = .ok l ∧ IsRangeUp (dtBump (p :: q :: rest)) t0 t1 l ∧
      l.head? = some t0 ∧ l.Pairwise (· < ·) ∧ ∀ x ∈ l, t0 ≤ x ∧ x ≤ t1 :=
  compound_forward p q rest t0 t1 h (all_parts_move_forward _ (by simp) hp)

theorem compound_backward_all (p q : Int × Per) (rest : List (Int × Per)) (t0 t1 : Int) (h : t1 < t0)
    (hp : ∀ x ∈ p :: q :: rest, x.1 ≤ -1) :
    ∃ l, drange t0 t1 (.period (p :: q :: rest)) = .ok l ∧ IsRangeDown (dtBump (p :: q :: rest)) t0 t1 l ∧
      l.head? = some t0 ∧ l.Pairwise (· > ·) ∧ ∀ x ∈ l, t1 ≤ x ∧ x ≤ t0 :=
  compound_backward p q rest t0 t1 h (all_parts_move_backward _ (by simp) hp)

/-- a negative count of any unit but `b` (months, quarters and years included) with `t0 < t1` raises `ValueError` -/
theorem single_away_neg_all (n : Int) (u : Per) (hu : u ≠ .b) (hn : n < 0) (t0 t1 : Int) (h : t0 < t1) :
    drange t0 t1 (.period [(n, u)]) = .error .value := by
  rw [drange_single_dtBump (by omega) hu (by omega)]
  exact loopBranchC_away _ t0 t1 (Or.inl ⟨h, Int.le_of_lt (bump1_dec t0 n u (by omega))⟩)

/-- a single period string with a positive count (any unit) and `t1 < t0` points away from `t1`: `ValueError` -/
theorem single_away_pos (n : Int) (u : Per) (hn : 0 < n) (t0 t1 : Int) (h : t1 < t0) :
    drange t0 t1 (.period [(n, u)]) = .error .value := by
  have hne : t0 ≠ t1 := by omega
  have hn' : n > 0 := hn
  have hd := tdDays_neg (t1 - t0) (by omega)
  have hi : 0 < n * (if u = Per.q then 3 else 1) := by split <;> omega
  have : tdDays (t1 - t0) * (n * (if u = Per.q then 3 else 1)) < 0 := Int.mul_neg_of_neg_of_pos hd hi
  simp only [drange, hne, if_false, hn', or_true, if_true, this, true_or]

/-- a negative count of a fixed-length unit with `t0 < t1` raises `ValueError`, also when `t1` is less than a day ahead
(the fixed-length instance of `single_away_neg_all`) -/
theorem single_away_neg (n : Int) (u : Per) (hu : u ≠ .b) (hf : u.fixed = true) (hn : n < 0) (t0 t1 : Int) (h : t0 < t1) :
    drange t0 t1 (.period [(n, u)]) = .error .value :=
  single_away_neg_all n u hu hn t0 t1 h

/-- single period strings (the rrule branch) give the list obtained by iterating the period step: for units of fixed
length always, for month-based units from midnight (the rrule step keeps the time of day, `dt_bump` drops it).
No monotonicity hypothesis. -/
theorem single_eq_iter_step (n : Int) (u : Per) (hu : u ≠ .b) (hn : 0 < n) (t0 t1 : Int) (h : t0 < t1)
    (hmid : u.fixed = false → t0 % DAY = 0) :
    drange t0 t1 (.period [(n, u)]) = loopBranch (dtBump [(n, u)]) t0 t1 := by
  rw [drange_single_rrule n u hu hn t0 t1 h, loopBranch_up h (bump1_inc t0 n u (by omega))]
  congr 1
  refine upTo_congr _ _ (fun t => u.fixed = true ∨ t % DAY = 0) (fun t ht => ⟨rruleStep_of_midnight n u t ht, ?_⟩) t0 t1 ?_
  · by_cases hf : u.fixed = true
    · exact Or.inl hf
    · exact Or.inr (bump1_midnight t n u (by simpa using hf))
  · by_cases hf : u.fixed = true
    · exact Or.inl hf
    · exact Or.inr (hmid (by simpa using hf))

/-! ### `n`, `timedelta(n)` and `'nd'` give identical lists -/

/-- `timedelta(n)` and `'nd'` give identical lists for any endpoints (no whole-day condition: intraday endpoints are inside the
quantifier for these two spellings; `int_td_str_agree` needs `hal` only for the integer spelling) -/
theorem td_str_agree_any (t0 t1 n : Int) (hn : n ≠ 0) :
    drange t0 t1 (.td (DAY * n)) = drange t0 t1 (.period [(n, .d)]) := by
  have hstep : dtBump [(n, Per.d)] = (· + DAY * n) := rfl
  rcases Int.lt_trichotomy t0 t1 with hlt | rfl | hgt
  · rw [drange_td (by omega)]
    rcases Int.lt_or_gt_of_ne hn with hneg | hpos
    · rw [drange_single_dtBump (by omega) (by decide) (by omega), hstep,
        loopBranchC_eq _ (Or.inr fun t => by unfold DAY; omega)]
    · rw [single_eq_iter_step n .d (by decide) hpos t0 t1 hlt (fun h => nomatch h), hstep]
  · rw [singleton, singleton]
  · rw [drange_td (by omega)]
    rcases Int.lt_or_gt_of_ne hn with hneg | hpos
    · rw [drange_single_dtBump (by omega) (by decide) (by omega), hstep,
        loopBranchC_eq _ (Or.inr fun t => by unfold DAY; omega)]
    · rw [single_away_pos n .d hpos t0 t1 hgt, loopBranch_away _ t0 t1 (Or.inr ⟨hgt, by unfold DAY; omega⟩)]

theorem int_td_str_agree (t0 t1 n : Int) (hn : n ≠ 0) (hal : (t1 - t0) % DAY = 0) :
    drange t0 t1 (.int n) = drange t0 t1 (.td (DAY * n)) ∧
    drange t0 t1 (.int n) = drange t0 t1 (.period [(n, .d)]) := by
  have h : drange t0 t1 (.int n) = drange t0 t1 (.td (DAY * n)) := by
    by_cases hne : t0 = t1
    · subst hne
      rw [singleton, singleton]
    · rw [int_eq_iterate t0 t1 n hne hn hal, drange_td hne]
  exact ⟨h, h.trans (td_str_agree_any t0 t1 n hn)⟩

/-! ### compound tenors of any signs and units: never an empty or unbounded list -/

/-- the checked `dt_bump` loop, for an arbitrary step and `t0 < t1`: either the exact range — `l[i] = step^i t0`, all
inside `[t0,t1]`, the next iterate beyond `t1`, starts at `t0`, strictly increasing — or `ValueError`, and then some
iterate reached inside the range failed to move strictly forward.  No hypothesis on the step. -/
theorem loopC_forward (step : Int → Int) (t0 t1 : Int) (h : t0 < t1) :
    (∃ l, loopBranchC step t0 t1 = .ok l ∧ IsRangeUp step t0 t1 l ∧ l.head? = some t0 ∧ l.Pairwise (· < ·) ∧
      ∀ x ∈ l, t0 ≤ x ∧ x ≤ t1) ∨
    (loopBranchC step t0 t1 = .error .value ∧
      ∃ i, (∀ j, j ≤ i → iter step j t0 ≤ t1) ∧ step (iter step i t0) ≤ iter step i t0) := by
  rw [loopBranchC_up h]
  rcases iterUpC_spec step t1 ((t1 - t0).toNat + 1) t0 (by omega) with ⟨l, e, hr, hp, hm⟩ | hbad
  · exact Or.inl ⟨l, e, hr, hr.head (by omega), hp, hm⟩
  · exact Or.inr hbad

theorem loopC_backward (step : Int → Int) (t0 t1 : Int) (h : t1 < t0) :
    (∃ l, loopBranchC step t0 t1 = .ok l ∧ IsRangeDown step t0 t1 l ∧ l.head? = some t0 ∧ l.Pairwise (· > ·) ∧
      ∀ x ∈ l, t1 ≤ x ∧ x ≤ t0) ∨
    (loopBranchC step t0 t1 = .error .value ∧
      ∃ i, (∀ j, j ≤ i → t1 ≤ iter step j t0) ∧ iter step i t0 ≤ step (iter step i t0)) := by
  rw [loopBranchC_down h]
  rcases iterDownC_spec step t1 ((t0 - t1).toNat + 1) t0 (by omega) with ⟨l, e, hr, hp, hm⟩ | hbad
  · exact Or.inl ⟨l, e, hr, hr.head (by omega), hp, hm⟩
  · exact Or.inr hbad

/-- every compound period string — mixed signs, any units — takes that loop -/
theorem compound_is_loopC (p q : Int × Per) (rest : List (Int × Per)) (t0 t1 : Int) (h : t0 ≠ t1) :
    drange t0 t1 (.period (p :: q :: rest)) = loopBranchC (dtBump (p :: q :: rest)) t0 t1 :=
  drange_compound h p q rest

/-- so a compound tenor gives the exact strictly increasing range or raises `ValueError` — it never returns an empty
list and never runs on for ever -/
theorem compound_never_unbounded (p q : Int × Per) (rest : List (Int × Per)) (t0 t1 : Int) (h : t0 < t1) :
    (∃ l, drange t0 t1 (.period (p :: q :: rest)) = .ok l ∧ IsRangeUp (dtBump (p :: q :: rest)) t0 t1 l ∧
      l.head? = some t0 ∧ l.Pairwise (· < ·) ∧ ∀ x ∈ l, t0 ≤ x ∧ x ≤ t1) ∨
    drange t0 t1 (.period (p :: q :: rest)) = .error .value := by
  rw [compound_is_loopC p q rest t0 t1 (by omega)]
  rcases loopC_forward (dtBump (p :: q :: rest)) t0 t1 h with hl | ⟨e, _⟩
  · exact Or.inl hl
  · exact Or.inr e

/-- mirror image of `compound_never_unbounded` for `t1 < t0`: a compound tenor of any signs and units gives the exact strictly
decreasing range or raises `ValueError` — never an empty list, never an unbounded one -/
theorem compound_never_unbounded_backward (p q : Int × Per) (rest : List (Int × Per)) (t0 t1 : Int) (h : t1 < t0) :
    (∃ l, drange t0 t1 (.period (p :: q :: rest)) = .ok l ∧ IsRangeDown (dtBump (p :: q :: rest)) t0 t1 l ∧
      l.head? = some t0 ∧ l.Pairwise (· > ·) ∧ ∀ x ∈ l, t1 ≤ x ∧ x ≤ t0) ∨
    drange t0 t1 (.period (p :: q :: rest)) = .error .value := by
  rw [compound_is_loopC p q rest t0 t1 (by omega)]
  rcases loopC_backward (dtBump (p :: q :: rest)) t0 t1 h with hl | ⟨e, _⟩
  · exact Or.inl hl
  · exact Or.inr e

/-- a mixed-sign tenor that turns round (defect F15): `'1m-30d'` from 2001-01-28 (a day of month every month has)
towards 2001-06-01 -/
def f15Step : Int → Int := dtBump [(1, .m), (-30, .d)]
def f15T0 : Int := (Civil.ord 2001 1 28 - 1) * DAY
def f15T1 : Int := (Civil.ord 2001 6 1 - 1) * DAY

/-- a mixed-sign tenor need not move strictly forward at every instant (the hypothesis `hinc` of `compound_forward`
fails for it): `'1m-30d'` passes the direction test at `t0` (01-28 → 01-29), walks 01-29, 01-30, 01-31, 02-01 and then
steps back to 01-30: the orbit is periodic and never passes `t1`, so a `while t <= t1` loop that tests the direction at
`t0` only would never exit.  `drange` checks every step (`loopBranchC`) and raises `ValueError`. -/
theorem mixed_sign_not_monotone :
    f15T0 < f15Step f15T0 ∧ f15Step (iter f15Step 4 f15T0) < iter f15Step 4 f15T0 ∧
    iter f15Step 5 f15T0 = iter f15Step 2 f15T0 ∧ (∀ i, iter f15Step i f15T0 ≤ f15T1) ∧
    drange f15T0 f15T1 (.period [(1, .m), (-30, .d)]) = .error .value := by
  -- the orbit stays among five days, a set closed under the step, all of them before `t1`
  have hcl : ∀ x ∈ [f15T0, f15T0 + DAY, f15T0 + 2 * DAY, f15T0 + 3 * DAY, f15T0 + 4 * DAY],
      f15Step x ∈ [f15T0, f15T0 + DAY, f15T0 + 2 * DAY, f15T0 + 3 * DAY, f15T0 + 4 * DAY] ∧ x ≤ f15T1 := by decide +kernel
  refine ⟨by decide +kernel, by decide +kernel, by decide +kernel, fun i => ?_, by rfl⟩
  exact (hcl _ (iter_mem_of_closed f15Step _ (fun x hx => (hcl x hx).1) i f15T0 (by simp))).2

/-! ### business-day bumps: the weekdays of the daily grid, every `k`-th of them -/

/-- `'kb'` (k ≥ 1) is every k-th element of the `'1b'` list, `'-kb'` every k-th of the reversed list -/
theorem kb_stride (k : Int) (hk : 1 ≤ k) (t0 t1 : Int) (h : t0 < t1) :
    drange t0 t1 (.period [(k, .b)]) =
      .ok (if k.natAbs > 1 then stride k.natAbs ((daily t0 t1).filter fun t => wdT t < 5)
           else (daily t0 t1).filter fun t => wdT t < 5) := by
  have := Int.mul_nonneg (tdDays_nonneg (t1 - t0) (by omega)) (show (0 : Int) ≤ k by omega)
  have hk0 : ¬ k < 0 := by omega
  rw [drange_single_b k t0 t1 (by omega), if_neg (by omega), show min t0 t1 = t0 by omega,
    show max t0 t1 = t1 by omega]
  simp only [orient, hk0, if_false]

theorem kb_stride_backward (k : Int) (hk : k ≤ -1) (t0 t1 : Int) (h : t1 < t0) :
    drange t0 t1 (.period [(k, .b)]) =
      .ok (if k.natAbs > 1 then stride k.natAbs ((daily t1 t0).filter fun t => wdT t < 5).reverse
           else ((daily t1 t0).filter fun t => wdT t < 5).reverse) := by
  have hk0 : k < 0 := by omega
  have := Int.mul_pos_of_neg_of_neg (tdDays_neg (t1 - t0) (by omega)) hk0
  rw [drange_single_b k t0 t1 (by omega), if_neg (by omega), show min t0 t1 = t1 by omega,
    show max t0 t1 = t0 by omega]
  simp only [orient, hk0, if_true]

/-- `'1b'` lists exactly the weekdays of the daily grid between the endpoints, in increasing order -/
theorem b_is_weekday_list (t0 t1 : Int) (h : t0 < t1) :
    ∃ l, drange t0 t1 (.period [(1, .b)]) = .ok l ∧ l.Pairwise (· < ·) ∧
      ∀ x, x ∈ l ↔ t0 ≤ x ∧ x ≤ t1 ∧ (x - t0) % DAY = 0 ∧ wdT x < 5 :=
  ⟨_, kb_stride 1 (by omega) t0 t1 h, weekdays_spec t0 t1⟩

-- `DRange.stride_getElem?`, restated here to be listed with the property
theorem stride_getElem? {α} (k : Nat) (hk : 1 ≤ k) (l : List α) (i : Nat) : (stride k l)[i]? = l[k * i]? :=
  DRange.stride_getElem? k hk l i

/-- `'kb'` against the specification of `'1b'`: with `l1` = every weekday of the daily grid from `t0` up to `t1` in
increasing order (the `'1b'` list, characterised by its members), the `'kb'` list is `l1[0], l1[k], l1[2k], …` -/
theorem kb_every_kth (k : Int) (hk : 1 ≤ k) (t0 t1 : Int) (h : t0 < t1) :
    ∃ l1 lk, drange t0 t1 (.period [(1, .b)]) = .ok l1 ∧ drange t0 t1 (.period [(k, .b)]) = .ok lk ∧
      l1.Pairwise (· < ·) ∧ (∀ x, x ∈ l1 ↔ t0 ≤ x ∧ x ≤ t1 ∧ (x - t0) % DAY = 0 ∧ wdT x < 5) ∧
      ∀ i, lk[i]? = l1[k.natAbs * i]? := by
  refine ⟨_, _, kb_stride 1 (by omega) t0 t1 h, kb_stride k hk t0 t1 h, (weekdays_spec t0 t1).1, (weekdays_spec t0 t1).2,
    fun i => ?_⟩
  rw [stride_if_eq k.natAbs (by omega)]
  exact stride_getElem? k.natAbs (by omega) _ i

/-- `'-1b'` as a specification: exactly the weekdays of the daily grid (anchored at the lower endpoint `t1`, i.e. at
`t0` as well when the endpoints are whole days apart) between the endpoints, in decreasing order -/
theorem b_backward_list (t0 t1 : Int) (h : t1 < t0) :
    ∃ l, drange t0 t1 (.period [(-1, .b)]) = .ok l ∧ l.Pairwise (· > ·) ∧
      ∀ x, x ∈ l ↔ t1 ≤ x ∧ x ≤ t0 ∧ (x - t1) % DAY = 0 ∧ wdT x < 5 :=
  ⟨_, kb_stride_backward (-1) (by omega) t0 t1 h, weekdays_reverse_spec t1 t0⟩

/-- `'-kb'`: every k-th element of the `'-1b'` list -/
theorem kb_every_kth_backward (k : Int) (hk : k ≤ -1) (t0 t1 : Int) (h : t1 < t0) :
    ∃ l1 lk, drange t0 t1 (.period [(-1, .b)]) = .ok l1 ∧ drange t0 t1 (.period [(k, .b)]) = .ok lk ∧
      l1.Pairwise (· > ·) ∧ (∀ x, x ∈ l1 ↔ t1 ≤ x ∧ x ≤ t0 ∧ (x - t1) % DAY = 0 ∧ wdT x < 5) ∧
      ∀ i, lk[i]? = l1[k.natAbs * i]? := by
  refine ⟨_, _, kb_stride_backward (-1) (by omega) t0 t1 h, kb_stride_backward k hk t0 t1 h,
    (weekdays_reverse_spec t1 t0).1, (weekdays_reverse_spec t1 t0).2, fun i => ?_⟩
  rw [stride_if_eq k.natAbs (by omega)]
  exact stride_getElem? k.natAbs (by omega) _ i

/-- a business-day bump pointing away from `t1` raises `ValueError` -/
theorem b_away (k : Int) (t0 t1 : Int) (hal : (t1 - t0) % DAY = 0)
    (h : (t0 < t1 ∧ k ≤ -1) ∨ (t1 < t0 ∧ 1 ≤ k)) : drange t0 t1 (.period [(k, .b)]) = .error .value := by
  have : tdDays (t1 - t0) * k < 0 := by
    rcases h with ⟨a, b⟩ | ⟨a, b⟩
    · exact Int.mul_neg_of_pos_of_neg (tdDays_pos _ (by omega) hal) (by omega)
    · exact Int.mul_neg_of_neg_of_pos (tdDays_neg _ (by omega)) (by omega)
  rw [drange_single_b k t0 t1 (by omega), if_pos (Or.inl this)]

/-! ### the hand-written step `DRange.dtBump` refines the C09 model of `dt_bump` (`Pyg.Bump`, generated kernels + `Pyg.Greg`) -/

/-- `DRange.dtBump` refines the C09 model: for a tenor written as tokens `ks` (sign, digits, unit letter) standing
for the parts, from any instant `t ≥ 0` (0001-01-01 or later), whenever `Bump.bumpCs` — the tokenizer loop of
`dt_bump` — returns a value, that value is `dtBump parts t`; and for a single part it returns that value whenever
`dtBump` lands in the representable range `[0, MAXUS)` (for a business-day part: and the three datetimes the code
constructs on the way are representable too - it raises OverflowError otherwise, `Pyg.Props.C09.b_intermediate_overflow`) -/
theorem dtbump_is_c09 (ks : List Bump.Tok) (wf : ∀ k ∈ ks, k.WF) (parts : List (Int × Per)) (hks : TokParts ks parts)
    (t : Int) (ht : 0 ≤ t) :
    (∀ t', Bump.bumpCs (ks.flatMap Bump.Tok.text) t = .ok t' → t' = dtBump parts t) ∧
    (∀ k n u, ks = [k] → parts = [(n, u)] → 0 ≤ dtBump parts t → dtBump parts t < Bump.MAXUS →
      (u = Per.b → ∀ j ∈ Gen.bOffPath (Bump.wdOf t) n, Bump.InRange (t + j * Bump.DAYUS)) →
      Bump.bumpCs (ks.flatMap Bump.Tok.text) t = .ok (dtBump parts t)) := by
  rw [Pyg.Props.C09.tenor_left_to_right ks wf t]
  refine ⟨fun t' h => ((runToks_iff ks parts hks t t' ht).1 h).1, ?_⟩
  intro k n u hk hp h0 h1 hb
  subst hk
  subst hp
  exact (runToks_iff _ _ hks t _ ht).2 ⟨rfl, ⟨⟨h0, h1⟩, hb⟩, trivial⟩

theorem dtBump_single_c09 (k : Bump.Tok) (wf : k.WF) (n : Int) (u : Per)
    (hk : k.value = n ∧ k.unit = u.letter) (t : Int) (ht : 0 ≤ t) :
    (∀ t', Bump.bumpCs k.text t = .ok t' → t' = dtBump [(n, u)] t) ∧
    (0 ≤ dtBump [(n, u)] t → dtBump [(n, u)] t < Bump.MAXUS →
      (u = Per.b → ∀ j ∈ Gen.bOffPath (Bump.wdOf t) n, Bump.InRange (t + j * Bump.DAYUS)) →
      Bump.bumpCs k.text t = .ok (dtBump [(n, u)] t)) := by
  have h := dtbump_is_c09 [k] (fun x hx => by simp at hx; subst hx; exact wf) [(n, u)]
    (by simp only [TokParts, and_true]; exact hk) t ht
  rw [show [k].flatMap Bump.Tok.text = k.text by simp] at h
  exact ⟨h.1, h.2 k n u rfl rfl⟩

/-- a list of iterates of `dtBump [(n, u)]` inside `[lo, hi] ⊆ [0, MAXUS)` is a chain of the C09 `dt_bump` on the token text:
every element is sent to its successor, and a value returned from the last element is the next iterate, so it has whatever
property `Q` that iterate has (for a business-day part the offsets on the way from an element to its successor must be in range) -/
theorem iterates_chain_c09 (k : Bump.Tok) (wf : k.WF) (n : Int) (u : Per)
    (hk : k.value = n ∧ k.unit = u.letter) {t0 lo hi : Int} {l : List Int} {Q : Int → Prop}
    (hit : ∀ i, i < l.length → l[i]? = some (iter (dtBump [(n, u)]) i t0)) (hQ : Q (iter (dtBump [(n, u)]) l.length t0))
    (hin : ∀ x ∈ l, lo ≤ x ∧ x ≤ hi) (h0 : 0 ≤ lo) (h1 : hi < Bump.MAXUS)
    (hb : u = Per.b → ∀ x ∈ l, dtBump [(n, u)] x ∈ l →
      ∀ j ∈ Gen.bOffPath (Bump.wdOf x) n, Bump.InRange (x + j * Bump.DAYUS)) :
    (∀ i x y, l[i]? = some x → l[i + 1]? = some y → Bump.bumpCs k.text x = .ok y) ∧
    (∀ x, l.getLast? = some x → ∀ y, Bump.bumpCs k.text x = .ok y → Q y) := by
  have hc09 := dtBump_single_c09 k wf n u hk
  refine ⟨fun i x y hx hy => ?_, fun x hx y hy => ?_⟩
  · obtain rfl := iterates_next hit hx hy
    have hx0 := hin x (List.mem_of_getElem? hx)
    have hy1 := hin _ (List.mem_of_getElem? hy)
    exact (hc09 x (by omega)).2 (by omega) (by omega)
      (fun e => hb e x (List.mem_of_getElem? hx) (List.mem_of_getElem? hy))
  · rw [(iterates_refined_chain hit fun x hx => (hc09 x (by have := hin x hx; omega)).1).2 x hx y hy]
    exact hQ

/-- single periods enumerate `t0, dt_bump(t0), dt_bump(dt_bump(t0)), …` with the C09 model's `dt_bump`:
for the token `k` = `<n><unit>` (n > 0, unit ≠ b) and `0 ≤ t0 < t1 < MAXUS` (both endpoints representable), month-based
units from midnight: the list starts at `t0`, every element is the C09 `dt_bump` of its predecessor, all lie in
`[t0, t1]`, and the C09 `dt_bump` of the last element — if it does not overflow — is beyond `t1` -/
theorem single_eq_iter_dtbump (k : Bump.Tok) (wf : k.WF) (n : Int) (u : Per) (hk : k.value = n ∧ k.unit = u.letter)
    (hu : u ≠ .b) (hn : 0 < n) (t0 t1 : Int) (h0 : 0 ≤ t0) (h : t0 < t1) (h1 : t1 < Bump.MAXUS)
    (hmid : u.fixed = false → t0 % DAY = 0) :
    ∃ l, drange t0 t1 (.period [(n, u)]) = .ok l ∧ l.head? = some t0 ∧
      (∀ i x y, l[i]? = some x → l[i + 1]? = some y → Bump.bumpCs k.text x = .ok y) ∧
      (∀ x, l.getLast? = some x → ∀ y, Bump.bumpCs k.text x = .ok y → t1 < y) ∧
      (∀ x ∈ l, t0 ≤ x ∧ x ≤ t1) ∧ l.Pairwise (· < ·) := by
  obtain ⟨l, e1, e2, e3, e4, e5⟩ := loop_forward (dtBump [(n, u)]) (fun t => bump1_inc t n u (by omega)) t0 t1 h
  obtain ⟨c1, c2⟩ := iterates_chain_c09 k wf n u hk e2.get e2.2 e5 h0 h1 (fun hb => absurd hb hu)
  exact ⟨l, by rw [single_eq_iter_step n u hu hn t0 t1 h hmid, e1], e3, c1, c2, e5, e4⟩

/-- compound tenors (any parts of one sign) against the C09 model: whenever the C09 `dt_bump` of an element of the
list returns a value, that value is the next element — or, after the last element, lies beyond `t1` -/
theorem compound_c09 (ks : List Bump.Tok) (wf : ∀ k ∈ ks, k.WF) (p q : Int × Per) (rest : List (Int × Per))
    (hks : TokParts ks (p :: q :: rest)) (t0 t1 : Int) (h0 : 0 ≤ t0) (h : t0 < t1)
    (hp : ∀ x ∈ p :: q :: rest, 1 ≤ x.1) :
    ∃ l, drange t0 t1 (.period (p :: q :: rest)) = .ok l ∧ l.head? = some t0 ∧
      (∀ i x y, l[i]? = some x → Bump.bumpCs (ks.flatMap Bump.Tok.text) x = .ok y →
        (l[i + 1]? = some y ∨ (i + 1 = l.length ∧ t1 < y))) ∧
      (∀ x ∈ l, t0 ≤ x ∧ x ≤ t1) ∧ l.Pairwise (· < ·) := by
  obtain ⟨l, e1, e2, e3, e4, e5⟩ := compound_forward_all p q rest t0 t1 h hp
  refine ⟨l, e1, e3, fun i x y hx hy => ?_, e5, e4⟩
  refine (iterates_refined e2.get
    (fun x hx => (dtbump_is_c09 ks wf _ hks x (by have := e5 x hx; omega)).1) hx hy).imp_right fun ⟨a, b⟩ => ⟨a, ?_⟩
  rw [b]
  exact e2.2

/-! ### non-vacuity (2000-01-01 00:00 = 63082281600000000 µs, a Saturday) -/

example : drange 63082281600000000 (63082281600000000 + 9 * DAY) (.int 3)
    = .ok [63082281600000000, 63082281600000000 + 3 * DAY, 63082281600000000 + 6 * DAY, 63082281600000000 + 9 * DAY] := by rfl
example : drange (63082281600000000 + 9 * DAY) 63082281600000000 (.period [(-3, .d)])
    = .ok [63082281600000000 + 9 * DAY, 63082281600000000 + 6 * DAY, 63082281600000000 + 3 * DAY, 63082281600000000] := by rfl
example : drange 63082281600000000 (63082281600000000 + 4 * DAY) (.period [(1, .b)])
    = .ok [63082281600000000 + 2 * DAY, 63082281600000000 + 3 * DAY, 63082281600000000 + 4 * DAY] := by rfl
-- the side hypotheses of `int_td_str_agree`, `fixed_parts_move_forward`, `single_forward_month`, `single_eq_iter_dtbump`,
-- `compound_c09` on instances
example : (3 : Int) ≠ 0 ∧ ((63082281600000000 + 9 * DAY) - 63082281600000000) % DAY = 0 := by decide
example : ∀ p ∈ [((1 : Int), Per.w), (2, Per.b), (12, Per.h)], p.2.fixed = true ∧ 1 ≤ p.1 := by decide
example : (63082281600000000 : Int) % DAY = 0 ∧ Civil.day (dayOf 63082281600000000) ≤ 28 := by decide
example : (⟨.none, ['3'], 'm'⟩ : Bump.Tok).WF ∧ (⟨.none, ['3'], 'm'⟩ : Bump.Tok).value = 3 ∧
    (⟨.none, ['3'], 'm'⟩ : Bump.Tok).unit = Per.m.letter ∧ (0 : Int) ≤ 63082281600000000 ∧
    (63082281600000000 : Int) + 400 * DAY < Bump.MAXUS := by decide
example : TokParts [⟨.none, ['1'], 'm'⟩, ⟨.plus, ['2'], 'd'⟩] [(1, .m), (2, .d)] :=
  ⟨⟨by decide, rfl⟩, ⟨by decide, rfl⟩, trivial⟩
/-- months forward from 2000-01-01 (a Saturday): 01-01, 04-01, 07-01, 10-01 -/
example : drange 63082281600000000 (63082281600000000 + 300 * DAY) (.period [(3, .m)])
    = .ok [63082281600000000, 63082281600000000 + 91 * DAY, 63082281600000000 + 182 * DAY,
      63082281600000000 + 274 * DAY] := by rfl

/-! ### the away clause for compound tenors and for every spelling of a zero bump -/

/-- a compound tenor whose parts all point backwards, asked to go forwards (and the mirror image): `ValueError` -/
theorem compound_away_neg (p q : Int × Per) (rest : List (Int × Per)) (t0 t1 : Int) (h : t0 < t1)
    (hp : ∀ x ∈ p :: q :: rest, x.1 ≤ -1) : drange t0 t1 (.period (p :: q :: rest)) = .error .value := by
  rw [compound_is_loopC p q rest t0 t1 (by omega)]
  have := all_parts_move_backward (p :: q :: rest) (by simp) hp t0
  exact loopC_away _ t0 t1 (Or.inl ⟨h, by omega⟩)

theorem compound_away_pos (p q : Int × Per) (rest : List (Int × Per)) (t0 t1 : Int) (h : t1 < t0)
    (hp : ∀ x ∈ p :: q :: rest, 1 ≤ x.1) : drange t0 t1 (.period (p :: q :: rest)) = .error .value := by
  rw [compound_is_loopC p q rest t0 t1 (by omega)]
  have := all_parts_move_forward (p :: q :: rest) (by simp) hp t0
  exact loopC_away _ t0 t1 (Or.inr ⟨h, by omega⟩)

example : drange 63082281600000000 (63082281600000000 + 9 * DAY) (.period [(-1, .m), (-2, .d)]) = .error .value :=
  compound_away_neg _ _ _ _ _ (by decide) (by decide)

/-- `'0b'` (also `'+0b'`, `'-0b'`: the count is 0) stands still: `ValueError`, whichever side `t1` is on and whatever the
weekday of `t0` (defect F16: not the ascending '1b' list, which for `t1 < t0` would not even start at `t0`) -/
theorem zero_b_away (t0 t1 : Int) (h : t0 ≠ t1) : drange t0 t1 (.period [(0, .b)]) = .error .value := by
  rw [drange_single_b 0 t0 t1 h, if_pos (Or.inr rfl)]

/-- a zero count of any unit raises `ValueError` when `t0 ≠ t1` (month-based units at midnight, as the property claims them):
`'0d'`, `'0w'`, `'0h'`, `'0n'`, `'0s'`, `'0b'`, `'0m'`, `'0q'`, `'0y'` never return an empty or unbounded list
(`0` and `timedelta(0)`: `int_zero_away`, `td_zero_away`) -/
theorem period_zero_away (u : Per) (t0 t1 : Int) (h : t0 ≠ t1) (hm : u.fixed = false → u ≠ .b → t0 % DAY = 0) :
    drange t0 t1 (.period [(0, u)]) = .error .value := by
  by_cases hu : u = .b
  · subst hu; exact zero_b_away t0 t1 h
  · have hs : bump1 t0 0 u = t0 := by
      by_cases hf : u.fixed = false
      · rw [bump1_month t0 0 u hf, Int.mul_zero, monthBump_zero t0 (hm hf hu)]
      · cases u <;> first | exact absurd rfl hu | exact absurd rfl hf | simp [bump1]
    rw [drange_single_dtBump h hu (Int.le_refl 0)]
    exact loopBranchC_away _ t0 t1
      ((Int.lt_or_gt_of_ne h).imp (fun a => ⟨a, Int.le_of_eq hs⟩) (fun a => ⟨a, Int.le_of_eq hs.symm⟩))

theorem int_zero_away (t0 t1 : Int) (h : t0 ≠ t1) : drange t0 t1 (.int 0) = .error .value := by
  rw [drange_int h]
  simp [drangeInt]

theorem td_zero_away (t0 t1 : Int) (h : t0 ≠ t1) : drange t0 t1 (.td 0) = .error .value := by
  rw [drange_td h]
  exact loopBranch_away _ t0 t1
    ((Int.lt_or_gt_of_ne h).imp (fun a => ⟨a, Int.le_of_eq (Int.add_zero t0)⟩) (fun a => ⟨a, Int.le_of_eq (Int.add_zero t0).symm⟩))

-- 2000-01-10 (Mon) back to 2000-01-01 with '0b'
example : drange (63082281600000000 + 9 * DAY) 63082281600000000 (.period [(0, .b)]) = .error .value := zero_b_away _ _ (by decide)
example : drange 63082281600000000 (63082281600000000 + 9 * DAY) (.period [(0, .q)]) = .error .value :=
  period_zero_away .q _ _ (by decide) (fun _ _ => by decide)

/-! ### the C09 link for the backward lists and for tenors of mixed signs -/

/-- mirror image of `single_eq_iter_dtbump`: a single period with a negative count (`n < 0`, unit ≠ b) from `t0` back to
`t1`, `0 ≤ t1 < t0 < MAXUS`: every element of the list is the C09 `dt_bump` (`Bump.bumpCs` on the token text) of its
predecessor, and the C09 `dt_bump` of the last element, if it returns a value, is before `t1` -/
theorem single_backward_c09 (k : Bump.Tok) (wf : k.WF) (n : Int) (u : Per) (hk : k.value = n ∧ k.unit = u.letter)
    (hu : u ≠ .b) (hn : n < 0) (t0 t1 : Int) (h1 : 0 ≤ t1) (h : t1 < t0) (h0 : t0 < Bump.MAXUS) :
    ∃ l, drange t0 t1 (.period [(n, u)]) = .ok l ∧ l.head? = some t0 ∧
      (∀ i x y, l[i]? = some x → l[i + 1]? = some y → Bump.bumpCs k.text x = .ok y) ∧
      (∀ x, l.getLast? = some x → ∀ y, Bump.bumpCs k.text x = .ok y → y < t1) ∧
      (∀ x ∈ l, t1 ≤ x ∧ x ≤ t0) ∧ l.Pairwise (· > ·) := by
  obtain ⟨l, e1, e2, e3, e4, e5⟩ := single_backward_all n u hu hn t0 t1 h
  obtain ⟨c1, c2⟩ := iterates_chain_c09 (Q := (· < t1)) k wf n u hk e2.get e2.2 e5 h1 h0 (fun hb => absurd hb hu)
  exact ⟨l, e1, e3, c1, c2, e5, e4⟩

/-- mirror image of `compound_c09`: compound tenors whose counts are all ≤ -1 -/
theorem compound_backward_c09 (ks : List Bump.Tok) (wf : ∀ k ∈ ks, k.WF) (p q : Int × Per) (rest : List (Int × Per))
    (hks : TokParts ks (p :: q :: rest)) (t0 t1 : Int) (h1 : 0 ≤ t1) (h : t1 < t0)
    (hp : ∀ x ∈ p :: q :: rest, x.1 ≤ -1) :
    ∃ l, drange t0 t1 (.period (p :: q :: rest)) = .ok l ∧ l.head? = some t0 ∧
      (∀ i x y, l[i]? = some x → Bump.bumpCs (ks.flatMap Bump.Tok.text) x = .ok y →
        (l[i + 1]? = some y ∨ (i + 1 = l.length ∧ y < t1))) ∧
      (∀ x ∈ l, t1 ≤ x ∧ x ≤ t0) ∧ l.Pairwise (· > ·) := by
  obtain ⟨l, e1, e2, e3, e4, e5⟩ := compound_backward_all p q rest t0 t1 h hp
  refine ⟨l, e1, e3, fun i x y hx hy => ?_, e5, e4⟩
  refine (iterates_refined e2.get
    (fun x hx => (dtbump_is_c09 ks wf _ hks x (by have := e5 x hx; omega)).1) hx hy).imp_right fun ⟨a, b⟩ => ⟨a, ?_⟩
  rw [b]
  exact e2.2

/-- compound tenors of any signs and units: if `drange` returns a list (it raises ValueError otherwise,
`compound_never_unbounded`), then from every element the C09 `dt_bump`, whenever it returns a value, returns the next
element — after the last one a value outside `[min t0 t1, max t0 t1]`.  Needs `0 ≤ min t0 t1` only (no definedness:
the first half of `dtbump_is_c09`) -/
theorem compound_mixed_c09 (ks : List Bump.Tok) (wf : ∀ k ∈ ks, k.WF) (p q : Int × Per) (rest : List (Int × Per))
    (hks : TokParts ks (p :: q :: rest)) (t0 t1 : Int) (h0 : 0 ≤ min t0 t1) (l : List Int)
    (hl : drange t0 t1 (.period (p :: q :: rest)) = .ok l) :
    l.head? = some t0 ∧
      (∀ i x y, l[i]? = some x → l[i + 1]? = some y →
        ∀ y', Bump.bumpCs (ks.flatMap Bump.Tok.text) x = .ok y' → y' = y) ∧
      (∀ x, l.getLast? = some x → ∀ y', Bump.bumpCs (ks.flatMap Bump.Tok.text) x = .ok y' → t0 ≠ t1 →
        y' < min t0 t1 ∨ max t0 t1 < y') ∧
      (∀ x ∈ l, min t0 t1 ≤ x ∧ x ≤ max t0 t1) := by
  have key := fun (l' : List Int) hit (hnn : ∀ x ∈ l', 0 ≤ x) =>
    iterates_refined_chain (l := l') (t0 := t0) hit fun x hx => (dtbump_is_c09 ks wf _ hks x (hnn x hx)).1
  rcases Int.lt_trichotomy t0 t1 with hlt | heq | hgt
  · rw [compound_is_loopC p q rest t0 t1 (by omega)] at hl
    rcases loopC_forward (dtBump (p :: q :: rest)) t0 t1 hlt with ⟨l', e1, e2, e3, _, e5⟩ | ⟨e, _⟩
    · rw [e1] at hl; cases hl
      obtain ⟨k1, k2⟩ := key l e2.get (fun x hx => by have := e5 x hx; omega)
      refine ⟨e3, k1, fun x hx y' hy' _ => Or.inr ?_, fun x hx => by have := e5 x hx; omega⟩
      rw [k2 x hx y' hy']; have := e2.2; omega
    · rw [e] at hl; cases hl
  · subst heq
    rw [singleton] at hl; cases hl
    refine ⟨rfl, fun i x y hx hy => by simp at hy, fun _ _ _ _ hne => absurd rfl hne, fun x hx => by simp at hx; omega⟩
  · rw [compound_is_loopC p q rest t0 t1 (by omega)] at hl
    rcases loopC_backward (dtBump (p :: q :: rest)) t0 t1 hgt with ⟨l', e1, e2, e3, _, e5⟩ | ⟨e, _⟩
    · rw [e1] at hl; cases hl
      obtain ⟨k1, k2⟩ := key l e2.get (fun x hx => by have := e5 x hx; omega)
      refine ⟨e3, k1, fun x hx y' hy' _ => Or.inl ?_, fun x hx => by have := e5 x hx; omega⟩
      rw [k2 x hx y' hy']; have := e2.2; omega
    · rw [e] at hl; cases hl

-- hypotheses satisfiable: '-2m' from day 400 back to day 0
example : ∃ l, drange (400 * DAY) 0 (.period [(-2, .m)]) = .ok l ∧ l.head? = some (400 * DAY) :=
  let ⟨l, h1, h2, _⟩ := single_backward_c09 (Bump.numTok (-2) 'm') (Bump.numTok_wf _ _ (by decide)) (-2) .m
    ⟨Bump.numTok_value _ _, rfl⟩ (by decide) (by decide) (400 * DAY) 0 (by decide) (by decide) (by decide)
  ⟨l, h1, h2⟩

-- '-1m-1d'
example : ∃ l, drange (400 * DAY) 0 (.period [(-1, .m), (-1, .d)]) = .ok l ∧ l.head? = some (400 * DAY) :=
  let ⟨l, h1, h2, _⟩ := compound_backward_c09 [Bump.numTok (-1) 'm', Bump.numTok (-1) 'd']
    (by intro k hk; simp at hk; rcases hk with rfl | rfl <;> exact Bump.numTok_wf _ _ (by decide))
    (-1, .m) (-1, .d) [] ⟨⟨Bump.numTok_value _ _, rfl⟩, ⟨Bump.numTok_value _ _, rfl⟩, trivial⟩
    (400 * DAY) 0 (by decide) (by decide) (by decide)
  ⟨l, h1, h2⟩

-- a mixed tenor that does return a list: '2d-1d' over three days
example : drange 0 (3 * DAY) (.period [(2, .d), (-1, .d)]) = .ok [0, DAY, 2 * DAY, 3 * DAY] := by rfl
example : TokParts [Bump.numTok 2 'd', Bump.numTok (-1) 'd'] [(2, .d), (-1, .d)] :=
  ⟨⟨Bump.numTok_value _ _, rfl⟩, ⟨Bump.numTok_value _ _, rfl⟩, trivial⟩

/-! ### the tokenizer `DRange.parsePeriod` and the C09 tokenizer read the `period` regex alike

`String.toNat?` of a run of digits is the C09 `digitsVal` (`toNat?_digits`, from the lemmas of `Std.Data.String.ToNat`), so one
round of `parsePeriod` is one `Bump.nextToken`, on every text (`go_step`); hence `parsePeriod` of a text made of well-formed tokens
are those tokens (`parsePeriod_toks`), and `parsePeriod (Bump.tenors ps)` are the parts the text was written from. -/

theorem toNat?_digits (ds : List Char) (hne : ds ≠ []) (hd : ∀ c ∈ ds, c.isDigit = true) :
    (String.ofList ds).toNat? = some (Pyg.Bump.digitsVal ds) := by
  have hf : ds.filter (· != '_') = ds := List.filter_eq_self.2 fun c hc => by
    have := hd c hc
    simp only [bne_iff_ne, ne_eq]
    rintro rfl
    revert this
    decide
  rw [String.toNat?_eq_some_ofDigitChars (String.isNat_of_isDigit (by simpa using hne) (by simpa using hd)),
    String.toList_ofList, hf]
  rfl

theorem unitOf_none (u : Char) (hu : u ∉ Gen.periodUnits) : unitOf u = none := by
  unfold unitOf
  split <;> first | rfl | (exfalso; apply hu; decide)

/-- what `parsePeriod` does after the optional sign is what `nextToken` does after `signSplit` -/
theorem go_body (neg : Bool) (cs : List Char) (fuel : Nat) (acc : List (Int × Per)) :
    (match cs.takeWhile Char.isDigit, cs.dropWhile Char.isDigit with
      | [], _ => none
      | _, u :: rest' =>
        match unitOf u, (String.ofList (cs.takeWhile Char.isDigit)).toNat? with
        | some u, some n => parsePeriod.go rest' fuel ((if neg = true then -(n : Int) else n, u) :: acc)
        | _, _ => none
      | _, [] => none) =
    match (match Bump.spanDigits cs with
      | ([], _) => none
      | (_, []) => none
      | (ds, u :: rest) =>
        if u ∈ Gen.periodUnits then
          some (if neg = true then - (Bump.digitsVal ds : Int) else (Bump.digitsVal ds : Int), u, rest)
        else none) with
    | some (n, c, rest) => (unitOf c).bind fun u => parsePeriod.go rest fuel ((n, u) :: acc)
    | none => none := by
  have hd := (Bump.spanDigits_spec cs).2.1
  rw [Bump.spanDigits_eq] at hd ⊢
  generalize cs.takeWhile Char.isDigit = ds at hd
  generalize cs.dropWhile Char.isDigit = rest
  cases ds with
  | nil => rfl
  | cons d ds =>
    cases rest with
    | nil => rfl
    | cons u rest =>
      simp only [toNat?_digits (d :: ds) (by simp) hd]
      by_cases hu : u ∈ Gen.periodUnits
      · rw [if_pos hu]
        cases h : unitOf u <;> simp [h]
      · rw [if_neg hu, unitOf_none u hu]

/-- the two tokenizers read the `period` regex alike, on every text: one round of `parsePeriod` is one `Bump.nextToken` of the
C09 model followed by the unit table `unitOf` (lower-case letters only: `parsePeriod` lower-cases the whole text first) -/
theorem go_step (cs : List Char) (hne : cs ≠ []) (fuel : Nat) (acc : List (Int × Per)) :
    parsePeriod.go cs (fuel + 1) acc =
      match Bump.nextToken cs with
      | some (n, c, rest) => (unitOf c).bind fun u => parsePeriod.go rest fuel ((n, u) :: acc)
      | none => none := by
  unfold Bump.nextToken
  obtain ⟨c, r, rfl⟩ := List.exists_cons_of_ne_nil hne
  by_cases h1 : c = '-'
  · subst h1
    rw [parsePeriod.go]
    exact go_body true r fuel acc
  · by_cases h2 : c = '+'
    · subst h2
      rw [parsePeriod.go]
      exact go_body false r fuel acc
    · have hs : Bump.signSplit (c :: r) = (false, c :: r) := by
        unfold Bump.signSplit
        split <;> simp_all
      rw [parsePeriod.go, hs]
      · exact go_body false (c :: r) fuel acc
      · intro e
        cases e
      · intro r' e
        cases e
        exact h1 rfl
      · intro r' e
        cases e
        exact h2 rfl

/-- the `Per` of a unit letter (`d` for anything else) -/
def perOf (c : Char) : Per := (unitOf c).getD .d

theorem unitOf_lowerUnit : ∀ c ∈ Gen.periodUnits, unitOf c.toLower = some (perOf c.toLower) := by decide

theorem go_toks : ∀ (ks : List Bump.Tok) (fuel : Nat) (acc : List (Int × Per)), (∀ k ∈ ks, k.WF) → ks.length + 1 ≤ fuel →
    parsePeriod.go ((ks.map C09.lowerTok).flatMap Bump.Tok.text) fuel acc =
      some (acc.reverse ++ ks.map fun k => (k.value, perOf k.unit.toLower))
  | [], fuel + 1, acc, _, _ => by simp [parsePeriod.go]
  | k :: ks, fuel + 1, acc, wf, h => by
    have wk := wf k (by simp)
    rw [List.map_cons, List.flatMap_cons, go_step _ (List.append_ne_nil_of_left_ne_nil (List.ne_nil_of_length_pos (Bump.Tok.text_length_pos _)) _),
      Bump.nextToken_text _ (C09.lowerTok_wf k wk), C09.lowerTok_value]
    show (unitOf k.unit.toLower).bind _ = _
    rw [unitOf_lowerUnit _ wk.2.2, Option.bind_some, go_toks ks fuel _ (fun x hx => wf x (by simp [hx])) (by simpa using h)]
    simp

/-- `parsePeriod` of any text the `period` regex reads — well-formed tokens as written: optional sign, any digit string, unit
letter in either case — are the tokens' values with their (lower-cased) units -/
theorem parsePeriod_toks (ks : List Bump.Tok) (wf : ∀ k ∈ ks, k.WF) :
    parsePeriod (String.ofList (ks.flatMap Bump.Tok.text)) = some (ks.map fun k => (k.value, perOf k.unit.toLower)) := by
  unfold parsePeriod String.toLower
  rw [String.toList_map, String.length_ofList]
  show parsePeriod.go (Bump.lower _) _ [] = _
  rw [C09.lower_tokens ks wf, go_toks ks _ [] wf (by have := Bump.length_le_text ks; omega)]
  rfl

theorem parsePeriod_tenors (ps : List (Int × Char)) (hu : ∀ p ∈ ps, Bump.LowerUnit p.2) :
    parsePeriod (Bump.tenors ps) = some (ps.map fun p => (p.1, perOf p.2)) := by
  rw [Bump.tenors_text, parsePeriod_toks _ (fun k hk => by
    obtain ⟨p, hp, rfl⟩ := List.mem_map.1 hk
    exact Bump.numTok_wf p.1 p.2 (hu p hp).1), List.map_map]
  congr 1
  apply List.map_congr_left
  intro p hp
  rw [Function.comp, Bump.numTok_value]
  show (p.1, perOf p.2.toLower) = _
  rw [(hu p hp).2]

theorem parsePeriod_tenor (n : Int) (c : Char) (hu : Bump.LowerUnit c) :
    parsePeriod (Bump.tenor n c) = some [(n, perOf c)] := by
  rw [← Bump.tenors_single]
  exact parsePeriod_tenors [(n, c)] (fun p hp => by rw [List.mem_singleton.1 hp]; exact hu)

/-- the text of a tenor written from parts: `'%d%s' % (n, letter)` for each part -/
def partsText (ps : List (Int × Per)) : String := Bump.tenors (ps.map fun p => (p.1, p.2.letter))

theorem letter_lowerUnit (u : Per) : Bump.LowerUnit u.letter := by cases u <;> decide

theorem parsePeriod_tenors_letters (ps : List (Int × Per)) : parsePeriod (partsText ps) = some ps := by
  unfold partsText
  rw [parsePeriod_tenors _ (fun p hp => by
    obtain ⟨q, _, rfl⟩ := List.mem_map.1 hp
    exact letter_lowerUnit q.2), List.map_map]
  congr 1
  conv => rhs; rw [← List.map_id ps]
  apply List.map_congr_left
  intro p _
  show (p.1, perOf p.2.letter) = p
  rw [show perOf p.2.letter = p.2 by unfold perOf; rw [unitOf_letter]; rfl]

example : parsePeriod (Bump.tenors [(1, 'y'), (-3, 'm'), (2, 'd')]) = some [(1, .y), (-3, .m), (2, .d)] :=
  parsePeriod_tenors _ (by decide)
example : parsePeriod (Bump.tenor (-3) 'b') = some [(-3, .b)] := parsePeriod_tenor _ _ (by decide)
example : (String.ofList ['5', '8', '7']).toNat? = some 587 := toNat?_digits _ (by decide) (by decide)

/-- the tokens `'%d%s' % (n, letter)` stand for the parts they were written from: `TokParts` holds for every text of
that form -/
theorem tokParts_numToks : ∀ ps : List (Int × Per), TokParts (ps.map fun p => Bump.numTok p.1 p.2.letter) ps
  | [] => trivial
  | _ :: ps => ⟨⟨Bump.numTok_value _ _, rfl⟩, tokParts_numToks ps⟩

theorem period_text_c09 (ps : List (Int × Per)) (t : Int) (ht : 0 ≤ t) :
    parsePeriod (partsText ps) = some ps ∧
    ∀ t', Bump.bumpStr t (partsText ps) = .ok t' → t' = dtBump ps t := by
  refine ⟨parsePeriod_tenors_letters ps, fun t' h => ?_⟩
  unfold partsText at h
  rw [C09.bumpStr_tenors_toks t _ (fun p hp => by
    obtain ⟨q, _, rfl⟩ := List.mem_map.1 hp
    exact letter_lowerUnit q.2), List.map_map] at h
  exact ((runToks_iff _ ps (tokParts_numToks ps) t t' ht).1 h).1

/-! ### the 'b' instance of "single period strings give the list obtained by iterating dt_bump"

The theorems `single_eq_iter_step`, `single_eq_iter_dtbump`, `single_backward_c09` carry `u ≠ .b`: the business-day branch of
the code is not a loop but "rrule(DAILY), keep the weekdays, take every k-th".  From a weekday `t0` the two descriptions
coincide — that is the content of `kb_eq_iter_dtbump` (the closed-form offset `bOff` of `dt_bump(·,'kb')` is the k-th next
weekday of the grid);
from a weekend `t0` they do not, and the statement's second sentence ("for business-day bumps it lists weekdays only")
is the one the code follows: `kb_weekend_grids_differ`. -/

/-- `'kb'` (k ≥ 1) from a weekday `t0`: the list is exactly the `dt_bump(·, 'kb')` loop `t0, dt_bump(t0), …` while `≤ t1` -/
theorem kb_eq_iter_dtbump (k : Int) (hk : 1 ≤ k) (t0 t1 : Int) (h : t0 < t1) (hwd : wdT t0 < 5) :
    drange t0 t1 (.period [(k, .b)]) = loopBranch (dtBump [(k, .b)]) t0 t1 := by
  rw [kb_stride k hk t0 t1 h, dtBump_b, loopBranch_up h (bStep_inc k hk t0)]
  have key := strideGo_weekdays k.natAbs (by omega) t1 _ t0 0 (Nat.le_refl _) hwd
  have ek : ((k.natAbs : Nat) : Int) = k := by omega
  rw [ek, show ((0 : Nat) : Int) = 0 from rfl, bOff_zero _ hwd, Int.mul_zero, Int.add_zero] at key
  congr 1
  rw [stride_if_eq k.natAbs (by omega)]
  exact key

/-- `'kb'` (k ≤ -1) from a weekday `t0` down to `t1`, endpoints a whole number of days apart (the quantifier's condition
for business-day bumps: the code anchors the daily grid at the lower endpoint): the `dt_bump(·, 'kb')` loop while `≥ t1` -/
theorem kb_eq_iter_dtbump_backward (k : Int) (hk : k ≤ -1) (t0 t1 : Int) (h : t1 < t0) (hal : (t1 - t0) % DAY = 0)
    (hwd : wdT t0 < 5) :
    drange t0 t1 (.period [(k, .b)]) = loopBranch (dtBump [(k, .b)]) t0 t1 := by
  rw [kb_stride_backward k hk t0 t1 h, dtBump_b, loopBranch_down h (bStep_dec k hk t0)]
  have hrev : ((daily t1 t0).filter fun t => wdT t < 5).reverse = (dailyDown t0 t1).filter isWd := by
    rw [← List.filter_reverse, reverse_daily t1 t0 (by unfold DAY at *; omega)]; rfl
  have key := strideGo_weekdays_down k.natAbs (by omega) t1 _ t0 0 (Nat.le_refl _) hwd
  have ek : -((k.natAbs : Nat) : Int) = k := by omega
  rw [ek, show (-((0 : Nat) : Int)) = 0 from rfl, bOff_zero _ hwd, Int.mul_zero, Int.add_zero] at key
  rw [hrev]
  congr 1
  rw [stride_if_eq k.natAbs (by omega)]
  exact key

/-- hence the first sentence of the statement holds for `'kb'` from a weekday: the list is `iter (dt_bump 'kb') i t0`
at every index, starts at `t0`, is strictly increasing, inside `[t0, t1]`, and the next iterate is beyond `t1` -/
theorem kb_forward_range (k : Int) (hk : 1 ≤ k) (t0 t1 : Int) (h : t0 < t1) (hwd : wdT t0 < 5) :
    ∃ l, drange t0 t1 (.period [(k, .b)]) = .ok l ∧ IsRangeUp (dtBump [(k, .b)]) t0 t1 l ∧ l.head? = some t0 ∧
      l.Pairwise (· < ·) ∧ ∀ x ∈ l, t0 ≤ x ∧ x ≤ t1 := by
  rw [kb_eq_iter_dtbump k hk t0 t1 h hwd]
  exact loop_forward _ (by rw [dtBump_b]; exact bStep_inc k hk) t0 t1 h

theorem kb_backward_range (k : Int) (hk : k ≤ -1) (t0 t1 : Int) (h : t1 < t0) (hal : (t1 - t0) % DAY = 0)
    (hwd : wdT t0 < 5) :
    ∃ l, drange t0 t1 (.period [(k, .b)]) = .ok l ∧ IsRangeDown (dtBump [(k, .b)]) t0 t1 l ∧ l.head? = some t0 ∧
      l.Pairwise (· > ·) ∧ ∀ x ∈ l, t1 ≤ x ∧ x ≤ t0 := by
  rw [kb_eq_iter_dtbump_backward k hk t0 t1 h hal hwd]
  exact loop_backward _ (by rw [dtBump_b]; exact bStep_dec k hk) t0 t1 h

/-- the hypotheses of `kb_eq_iter_dtbump` are satisfiable: Mon 2000-01-03 → Fri 2000-01-14, `'2b'` -/
example : (1 : Int) ≤ 2 ∧ (63082281600000000 + 2 * DAY : Int) < 63082281600000000 + 13 * DAY ∧
    wdT (63082281600000000 + 2 * DAY) < 5 := by decide
example : drange (63082281600000000 + 2 * DAY) (63082281600000000 + 13 * DAY) (.period [(2, .b)])
    = .ok [63082281600000000 + 2 * DAY, 63082281600000000 + 4 * DAY, 63082281600000000 + 6 * DAY,
           63082281600000000 + 10 * DAY, 63082281600000000 + 12 * DAY] := by rfl

/-! ### `'kb'` = iterate `dt_bump` against the C09 token model -/

/-- the datetimes the code constructs on the way of a forward business-day step lie between the start and the result -/
theorem bOffPath_forward (w n : Int) (hw : 0 ≤ w ∧ w < 7) (hn : 1 ≤ n) :
    ∀ j ∈ Gen.bOffPath w n, 0 ≤ j ∧ j ≤ Gen.bOff w n :=
  fun j hj => (Bump.bOffPath_between w n hw j hj).1 (by omega)

/-- the datetimes constructed on the way of a backward business-day step from a weekday: not above the start, at most six days
below the result (the week count is applied first) -/
theorem bOffPath_backward (w n : Int) (hw : 0 ≤ w ∧ w < 5) (hn : n ≤ -1) :
    ∀ j ∈ Gen.bOffPath w n, Gen.bOff w n - 6 ≤ j ∧ j ≤ 0 :=
  fun j hj => (Bump.bOffPath_between w n ⟨hw.1, by omega⟩ j hj).2 (by omega) hw.2

/-- `'kb'` (k ≥ 1) from a weekday, against the C09 model's `dt_bump` (`Bump.bumpCs` on the token text `'<k>b'`, i.e. through the
tokenizer, `int(…)`, the generated business-day block and the range checks): for `0 ≤ t0 < t1 < MAXUS`, `t0` a weekday, the list
starts at `t0`, every element is the C09 `dt_bump(·, 'kb')` of its predecessor — the bump is defined there, no hypothesis on it —, all
lie in `[t0, t1]`, strictly increasing, and the C09 bump of the last element, if it does not overflow, is beyond `t1` -/
theorem kb_c09 (k : Bump.Tok) (wf : k.WF) (n : Int) (hk : k.value = n ∧ k.unit = Per.b.letter) (hn : 1 ≤ n)
    (t0 t1 : Int) (h0 : 0 ≤ t0) (h : t0 < t1) (h1 : t1 < Bump.MAXUS) (hwd : wdT t0 < 5) :
    ∃ l, drange t0 t1 (.period [(n, .b)]) = .ok l ∧ l.head? = some t0 ∧
      (∀ i x y, l[i]? = some x → l[i + 1]? = some y → Bump.bumpCs k.text x = .ok y) ∧
      (∀ x, l.getLast? = some x → ∀ y, Bump.bumpCs k.text x = .ok y → t1 < y) ∧
      (∀ x ∈ l, t0 ≤ x ∧ x ≤ t1) ∧ l.Pairwise (· < ·) := by
  obtain ⟨l, e1, e2, e3, e4, e5⟩ := kb_forward_range n hn t0 t1 h hwd
  have hb : ∀ x ∈ l, dtBump [(n, Per.b)] x ∈ l →
      ∀ j ∈ Gen.bOffPath (Bump.wdOf x) n, Bump.InRange (x + j * Bump.DAYUS) := by
    intro x hx hy
    have hx0 := e5 x hx
    have hy1 := e5 _ hy
    rw [dtBump_b, bStep_eq] at hy1
    exact Bump.bdayPath_inRange x n ⟨by omega, by omega⟩ ⟨by omega, by omega⟩ (Or.inl (by omega))
  obtain ⟨c1, c2⟩ := iterates_chain_c09 k wf n Per.b hk e2.get e2.2 e5 h0 h1 (fun _ => hb)
  exact ⟨l, e1, e3, c1, c2, e5, e4⟩

/-- a business-day step lands on a weekday, whatever the start and the count -/
theorem bStep_weekday (k x : Int) : wdT (bStep k x) < 5 :=
  wdT_bStep k x

theorem iter_bStep_weekday (k t0 : Int) (hwd : wdT t0 < 5) : ∀ i : Nat, wdT (iter (dtBump [(k, Per.b)]) i t0) < 5
  | 0 => hwd
  | i + 1 => by rw [iter_succ_outer, dtBump_b]; exact bStep_weekday k _

/-- mirror image: `'kb'` (k ≤ -1) from a weekday `t0` back to `t1`, a whole number of days apart, `6 days ≤ t1 < t0 < MAXUS` (the code
applies the week count first: a datetime up to six days before the result is constructed on the way): every element is the C09
`dt_bump(·, 'kb')` of its predecessor, and that of the last one, if it does not overflow, is before `t1` -/
theorem kb_backward_c09 (k : Bump.Tok) (wf : k.WF) (n : Int) (hk : k.value = n ∧ k.unit = Per.b.letter) (hn : n ≤ -1)
    (t0 t1 : Int) (h1 : 6 * DAY ≤ t1) (h : t1 < t0) (h0 : t0 < Bump.MAXUS) (hal : (t1 - t0) % DAY = 0) (hwd : wdT t0 < 5) :
    ∃ l, drange t0 t1 (.period [(n, .b)]) = .ok l ∧ l.head? = some t0 ∧
      (∀ i x y, l[i]? = some x → l[i + 1]? = some y → Bump.bumpCs k.text x = .ok y) ∧
      (∀ x, l.getLast? = some x → ∀ y, Bump.bumpCs k.text x = .ok y → y < t1) ∧
      (∀ x ∈ l, t1 ≤ x ∧ x ≤ t0) ∧ l.Pairwise (· > ·) := by
  obtain ⟨l, e1, e2, e3, e4, e5⟩ := kb_backward_range n hn t0 t1 h hal hwd
  have hit := e2.get
  have hb : ∀ x ∈ l, dtBump [(n, Per.b)] x ∈ l →
      ∀ j ∈ Gen.bOffPath (Bump.wdOf x) n, Bump.InRange (x + j * Bump.DAYUS) := by
    intro x hx hy
    have hx0 := e5 x hx
    have hy1 := e5 _ hy
    obtain ⟨i, hi⟩ := List.getElem?_of_mem hx
    have hwx : wdT x < 5 := by rw [(iterates_get hit hi).2]; exact iter_bStep_weekday n t0 hwd i
    rw [dtBump_b, bStep_eq] at hy1
    rw [wdT_eq] at hwx
    have h6 : 6 * Bump.DAYUS ≤ t1 := h1
    have hD : 0 < Bump.DAYUS := by decide
    exact Bump.bdayPath_inRange x n ⟨by omega, by omega⟩ ⟨by omega, by omega⟩ (Or.inr ⟨hwx, by omega⟩)
  obtain ⟨c1, c2⟩ := iterates_chain_c09 (Q := (· < t1)) k wf n Per.b hk hit e2.2 e5 (by unfold DAY at h1; omega) h0
    (fun _ => hb)
  exact ⟨l, e1, e3, c1, c2, e5, e4⟩

/-- side hypotheses of `kb_c09` / `kb_backward_c09` on an instance: the tokens `'2b'` / `'-2b'`, Mon 2000-01-03 ↔ Fri 2000-01-14 -/
example : (Bump.numTok 2 'b').WF ∧ (Bump.numTok 2 'b').value = 2 ∧ (Bump.numTok 2 'b').unit = Per.b.letter ∧
    (Bump.numTok (-2) 'b').WF ∧ (Bump.numTok (-2) 'b').value = -2 ∧
    (6 * DAY ≤ 63082281600000000 + 2 * DAY) ∧ ((63082281600000000 + 2 * DAY - (63082281600000000 + 13 * DAY)) % DAY = 0) ∧
    wdT (63082281600000000 + 13 * DAY) < 5 := by decide

/-- `wdT t0 < 5` is necessary: from Saturday 2020-01-11 down to Wednesday 2020-01-08 with `'-2b'`
the code lists "every 2nd weekday in reverse" = [Fri 10, Wed 08], iterating `dt_bump(·,'-2b')` gives [Sat 11, Thu 09]:
no common element.  The statement's sentence on business-day bumps ("lists weekdays only") is the one that applies. -/
theorem kb_weekend_grids_differ :
    wdT (737434 * DAY) = 5 ∧
    drange (737434 * DAY) (737431 * DAY) (.period [(-2, .b)]) = .ok [737433 * DAY, 737431 * DAY] ∧
    loopBranch (dtBump [(-2, .b)]) (737434 * DAY) (737431 * DAY) = .ok [737434 * DAY, 737432 * DAY] := by
  refine ⟨by decide, by rfl, by rfl⟩

/-- forward the difference is the head only: `'2b'` from Saturday 2000-01-01: [Mon 3, Wed 5, Fri 7] against [Sat 1, Wed 5, Fri 7] -/
example : drange 63082281600000000 (63082281600000000 + 6 * DAY) (.period [(2, .b)])
      = .ok [63082281600000000 + 2 * DAY, 63082281600000000 + 4 * DAY, 63082281600000000 + 6 * DAY] ∧
    loopBranch (dtBump [(2, .b)]) 63082281600000000 (63082281600000000 + 6 * DAY)
      = .ok [63082281600000000, 63082281600000000 + 4 * DAY, 63082281600000000 + 6 * DAY] := ⟨by rfl, by rfl⟩

/-- the two sentences "t0 == t1 gives [t0]" and "business-day bumps list weekdays only" conflict on a weekend `t0 == t1`: the code (and
`singleton`) follow the first — `drange(Sat, Sat, '1b') == [Sat]`, a weekend day in a 'b' list — while one day
further `drange(Sat, Sun, '1b') == []`.  The singleton sentence governs; `b_is_weekday_list` has `t0 < t1`.
`737434 * DAY` is the Saturday of `kb_weekend_grids_differ`. -/
theorem b_list_singleton_weekend :
    wdT (737434 * DAY) = 5 ∧ drange (737434 * DAY) (737434 * DAY) (.period [(1, .b)]) = .ok [737434 * DAY]
    ∧ drange (737434 * DAY) (737435 * DAY) (.period [(1, .b)]) = .ok [] := by
  refine ⟨by decide, singleton _ _, by rfl⟩

/-- intraday endpoints, not a whole number of days apart: 2000-01-01 00:00 → 2000-01-03 12:00 -/
example : drange 63082281600000000 (63082281600000000 + 2 * DAY + 12 * HOUR) (.td (DAY * 1))
    = drange 63082281600000000 (63082281600000000 + 2 * DAY + 12 * HOUR) (.period [(1, .d)]) :=
  td_str_agree_any _ _ 1 (by decide)

/-! #### the ends of the datetime range as an explicit hypothesis

The model's instants are unbounded integers; python's `datetime` ends at `MAXUS` = 10000-01-01 (and starts at 0 = 0001-01-01).
Every loop branch of the code computes one iterate beyond `t1` before it stops (`t = t + bump` / `dt_bump(t, bump)`), so within one
bump of `datetime.max` / `datetime.min` the real code raises `OverflowError` where `td_forward`, `td_away`, `int_td_str_agree` … give
a list / `ValueError`.  The range theorems describe the code exactly when every instant the loop constructs is representable;
`loop_forward_representable` / `loop_backward_representable` state when that is: `0 ≤ t0` and `t1 + B < MAXUS` for a step that
advances by at most `B` (mirror: `t0 < MAXUS`, `0 ≤ t1 - B`). -/

theorem loop_forward_representable (step : Int → Int) (B : Int) (hstep : ∀ t, t < step t ∧ step t ≤ t + B) (t0 t1 : Int)
    (h : t0 < t1) (h0 : 0 ≤ t0) (hb : t1 + B < Bump.MAXUS) :
    ∃ l, loopBranch step t0 t1 = .ok l ∧ IsRangeUp step t0 t1 l ∧
      ∀ i, i ≤ l.length → 0 ≤ iter step i t0 ∧ iter step i t0 < Bump.MAXUS := by
  obtain ⟨l, e1, e2, _, _, _⟩ := loop_forward step (fun t => (hstep t).1) t0 t1 h
  refine ⟨l, e1, e2, fun i hi => ?_⟩
  have hge := le_iter_of_inc step (fun t => (hstep t).1) i t0
  refine ⟨by omega, ?_⟩
  cases i with
  | zero =>
    rw [iter_zero]
    have := (hstep t0).1
    have := (hstep t0).2
    omega
  | succ j =>
    rw [iter_succ_outer]
    have := (e2.1 j (by omega)).2
    have := (hstep (iter step j t0)).2
    omega

theorem loop_backward_representable (step : Int → Int) (B : Int) (hstep : ∀ t, step t < t ∧ t - B ≤ step t) (t0 t1 : Int)
    (h : t1 < t0) (h0 : t0 < Bump.MAXUS) (hb : 0 ≤ t1 - B) :
    ∃ l, loopBranch step t0 t1 = .ok l ∧ IsRangeDown step t0 t1 l ∧
      ∀ i, i ≤ l.length → 0 ≤ iter step i t0 ∧ iter step i t0 < Bump.MAXUS := by
  obtain ⟨l, e1, e2, _, _, _⟩ := loop_backward step (fun t => (hstep t).1) t0 t1 h
  refine ⟨l, e1, e2, fun i hi => ?_⟩
  have hle := iter_le_of_dec step (fun t => (hstep t).1) i t0
  refine ⟨?_, by omega⟩
  cases i with
  | zero =>
    rw [iter_zero]
    have := (hstep t0).1
    have := (hstep t0).2
    omega
  | succ j =>
    rw [iter_succ_outer]
    have := (e2.1 j (by omega)).2
    have := (hstep (iter step j t0)).2
    omega

/-- instance: a timedelta bump `us > 0` with `0 ≤ t0 < t1` and `t1 + us < MAXUS` — every instant the loop computes, the final
overshooting one included, is a representable datetime (so the code returns the list of `td_forward` and cannot overflow) -/
theorem td_forward_representable (t0 t1 us : Int) (hus : 0 < us) (h : t0 < t1) (h0 : 0 ≤ t0) (hb : t1 + us < Bump.MAXUS) :
    ∃ l, drange t0 t1 (.td us) = .ok l ∧ ∀ i, i ≤ l.length → 0 ≤ t0 + us * i ∧ t0 + us * i < Bump.MAXUS := by
  obtain ⟨l, e1, _, e3⟩ := loop_forward_representable (· + us) us (fun t => ⟨by omega, by omega⟩) t0 t1 h h0 hb
  refine ⟨l, by rw [drange_td (by omega), e1], fun i hi => ?_⟩
  rw [← iter_add us i t0]
  exact e3 i hi

/-- the bound is needed: 9999-12-25 → 9999-12-31 in steps of one day passes `td_forward`, but the iterate after the last element
is 10000-01-01 = `MAXUS`, which python cannot represent (`drange(dt(9999,12,25), dt(9999,12,31), timedelta(1))` raises
OverflowError on the real code) -/
example : (Bump.MAXUS - 7 * DAY) + DAY * 7 = Bump.MAXUS ∧
    drange (Bump.MAXUS - 7 * DAY) (Bump.MAXUS - DAY) (.td DAY) = .ok [Bump.MAXUS - 7 * DAY, Bump.MAXUS - 6 * DAY,
      Bump.MAXUS - 5 * DAY, Bump.MAXUS - 4 * DAY, Bump.MAXUS - 3 * DAY, Bump.MAXUS - 2 * DAY, Bump.MAXUS - DAY] := ⟨by decide, by rfl⟩

/-! ### `date_range`, the endpoint resolution `drange` begins with (anchor `_calendar.date_range`, _drange.py:226-276; model PygModel/DateRange.lean)

An endpoint is `None`, a bump or a date.  The theorems say, through the returned pair, which instant each endpoint denotes: a bump
at the end is applied to the start when that is a date and to today otherwise; a bump at the start is applied to the end when that is
a date and to today otherwise; only an open end (`t1 = None`) sorts the pair; `today` matters exactly when one of these rules names it.
`bumpOne` is the C09 model of a single `dt_bump` argument. -/

open Pyg.DateRange Pyg.Bump in
/-- two dates: the pair as given (not sorted: `drange` decides the direction from it), whatever today is -/
theorem dateRange_dates (today a b : Int) : dateRange today (.date a) (.date b) = .ok (a, b) := rfl

open Pyg.DateRange Pyg.Bump in
/-- with two dates `drange(t0, t1, bump)` is the enumeration from these instants: all the `drange` theorems of this file are
about the function the caller calls -/
theorem drangeE_dates (today a b : Int) (bump : DRange.Bump) : drangeE today (.date a) (.date b) bump = drange a b bump := rfl

open Pyg.DateRange Pyg.Bump in
/-- a date and a bump (`drange(2000, '10b', ..)`): the range runs from the date to the bump applied to the date, whatever today is -/
theorem dateRange_date_bump (today t0 : Int) (b : BumpArg) (p : Int × Int) :
    dateRange today (.date t0) (.bump b) = .ok p ↔ p.1 = t0 ∧ bumpOne t0 b = .ok p.2 := by
  show (Bump.dtBump t0 [b]).map (fun r => (t0, r)) = .ok p ↔ _
  rw [C09.dtBump_single, Res.map_eq_ok_iff]
  exact ⟨fun ⟨r, hr, e⟩ => e ▸ ⟨rfl, hr⟩, fun ⟨h1, h2⟩ => ⟨p.2, h2, h1 ▸ rfl⟩⟩

open Pyg.DateRange Pyg.Bump in
/-- a bump and a date (`drange('-10b', t1, ..)`): the range runs from the bump applied to the end date to that date -/
theorem dateRange_bump_date (today t1 : Int) (b : BumpArg) (p : Int × Int) :
    dateRange today (.bump b) (.date t1) = .ok p ↔ bumpOne t1 b = .ok p.1 ∧ p.2 = t1 := by
  show (Bump.dtBump t1 [b]).map (fun r => (r, t1)) = .ok p ↔ _
  rw [C09.dtBump_single, Res.map_eq_ok_iff]
  exact ⟨fun ⟨r, hr, e⟩ => e ▸ ⟨hr, rfl⟩, fun ⟨h1, h2⟩ => ⟨p.1, h1, h2 ▸ rfl⟩⟩

open Pyg.DateRange Pyg.Bump in
/-- two bumps (`drange('-10b', '10b', ..)`): both applied to today, the pair not sorted -/
theorem dateRange_bump_bump (today : Int) (b0 b1 : BumpArg) (p : Int × Int) :
    dateRange today (.bump b0) (.bump b1) = .ok p ↔ bumpOne today b0 = .ok p.1 ∧ bumpOne today b1 = .ok p.2 := by
  show ((Bump.dtBump today [b0]).bind fun r0 => (Bump.dtBump today [b1]).map fun r1 => (r0, r1)) = .ok p ↔ _
  rw [C09.dtBump_single, C09.dtBump_single]
  refine Res.bind_eq_ok.trans ⟨fun ⟨r0, h0, h⟩ => ?_, fun ⟨h0, h1⟩ => ⟨p.1, h0, Res.map_eq_ok_iff.2 ⟨p.2, h1, rfl⟩⟩⟩
  obtain ⟨r1, h1, rfl⟩ := Res.map_eq_ok_iff.1 h
  exact ⟨h0, h1⟩

open Pyg.DateRange Pyg.Bump in
/-- the docstring's `date_range(-100, 100) == [dt_bump(t, -100), dt_bump(t, 100)]`: integers below 1500 are day offsets from today -/
theorem dateRange_int_int (today m n : Int) (hm : 0 ≤ today + m * DAYUS ∧ today + m * DAYUS < MAXUS)
    (hn : 0 ≤ today + n * DAYUS ∧ today + n * DAYUS < MAXUS) :
    dateRange today (.bump (.int m)) (.bump (.int n)) = .ok (today + m * DAYUS, today + n * DAYUS) := by
  rw [dateRange_bump_bump]
  simp only [bumpOne]
  exact ⟨(checkRange_ok _ _).2 ⟨hm, rfl⟩, (checkRange_ok _ _).2 ⟨hn, rfl⟩⟩

open Pyg.DateRange Pyg.Bump in
/-- an open end (`t1 = None`): one member of the pair is today, the other is `TMIN` (no start either), the date, or the bump applied to
today; with a start the pair is sorted as `(min, max)` (so `drange(-10)` and `drange(10)` both run forward) -/
theorem dateRange_open_end (today : Int) (e0 : Endpoint) (p : Int × Int) (h : dateRange today e0 .none = .ok p) :
    match e0 with
    | .none => p = (TMINUS, today)
    | .date t0 => p = (min today t0, max today t0)
    | .bump b0 => ∃ r, bumpOne today b0 = .ok r ∧ p = (min today r, max today r) := by
  cases e0 with
  | none => simp only [dateRange] at h; cases h; rfl
  | date t0 =>
    simp only [dateRange, sorted2] at h
    split at h <;> cases h <;> simp only [Prod.mk.injEq] <;> omega
  | bump b0 =>
    simp only [dateRange] at h
    rw [C09.dtBump_single] at h
    obtain ⟨r, hb, rfl⟩ := Res.map_eq_ok h
    refine ⟨r, hb, ?_⟩
    unfold sorted2
    split <;> simp only [Prod.mk.injEq] <;> omega

open Pyg.DateRange Pyg.Bump in
/-- an open end gives an ordered pair with today as one end whenever a start is given or today is not before 1900 -/
theorem dateRange_open_end_sorted (today : Int) (e0 : Endpoint) (p : Int × Int) (h : dateRange today e0 .none = .ok p)
    (hs : e0 ≠ .none ∨ TMINUS ≤ today) : p.1 ≤ p.2 ∧ (p.1 = today ∨ p.2 = today) := by
  have h' := dateRange_open_end today e0 p h
  cases e0 with
  | none =>
    simp only at h'; subst h'
    rcases hs with hs | hs
    · exact absurd rfl hs
    · exact ⟨hs, Or.inr rfl⟩
  | date t0 => simp only at h'; subst h'; simp only; omega
  | bump b0 => obtain ⟨r, _, rfl⟩ := h'; simp only; omega

open Pyg.DateRange Pyg.Bump in
/-- `today` matters only where the rules above name it: with an end date, or with a start date and an end bump, the range is the same
on every day it is asked for -/
theorem dateRange_today_irrelevant (today today' : Int) (e0 e1 : Endpoint)
    (h : (∃ t1, e1 = .date t1) ∨ ((∃ b1, e1 = .bump b1) ∧ ∃ t0, e0 = .date t0)) :
    dateRange today e0 e1 = dateRange today' e0 e1 := by
  rcases h with ⟨t1, rfl⟩ | ⟨⟨b1, rfl⟩, ⟨t0, rfl⟩⟩
  · cases e0 <;> rfl
  · rfl

open Pyg.DateRange Pyg.Bump in
/-- `date_range` fails only when a bump does (an instant outside years 1..9999, a malformed text): dates and `None` always resolve -/
theorem dateRange_total_dates (today : Int) (e0 e1 : Endpoint) (h0 : ∀ b, e0 ≠ .bump b) (h1 : ∀ b, e1 ≠ .bump b) :
    ∃ p, dateRange today e0 e1 = .ok p := by
  cases e0 with
  | bump b => exact absurd rfl (h0 b)
  | none => cases e1 with
    | bump b => exact absurd rfl (h1 b)
    | none => exact ⟨_, rfl⟩
    | date t => exact ⟨_, rfl⟩
  | date t0 => cases e1 with
    | bump b => exact absurd rfl (h1 b)
    | none => exact ⟨_, rfl⟩
    | date t => exact ⟨_, rfl⟩

open Pyg.DateRange Pyg.Bump in
/-- the example of the Python docstring: `date_range(2000, '10b') == [dt(2000,1,1), dt(2000,1,17)]` (here with today = 0;
by `dateRange_today_irrelevant` on any day) -/
example : dateRange 0 (.date (mkDate 2000 1 1)) (.bump (.str "10b")) = .ok (mkDate 2000 1 1, mkDate 2000 1 17) := by decide +kernel

end Pyg.Props.C10
