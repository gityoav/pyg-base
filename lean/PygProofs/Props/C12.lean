/-
  C12 — df_fillna / nona fill or drop exactly the missing cells, arrays and pandas alike.  `RowKept`, `nanBefore` and `cell`
  (Lemmas/FillLemmas.lean) occur in statements.
  Columns are `List (Option Int)` (`none` = NaN); `xs[i]? = some none` reads "position i exists and is NaN".
-/
import PygProofs.Lemmas.FillAliasLemmas

namespace Pyg.Props.C12
open Pyg Pyg.Fill

/-- `ffill` never changes a non-NaN cell or the length of a column -/
theorem ffill_keeps (lim : Option Nat) (xs : Col) (i : Nat) (v : Int) (h : xs[i]? = some (some v)) :
    (ffill lim xs)[i]? = some (some v) ∧ (ffill lim xs).length = xs.length :=
  ⟨ffill_keep _ _ _ _ h, ffill_length _ _⟩

theorem bfill_keeps (lim : Option Nat) (xs : Col) (i : Nat) (v : Int) (h : xs[i]? = some (some v)) :
    (bfill lim xs)[i]? = some (some v) ∧ (bfill lim xs).length = xs.length :=
  ⟨bfill_keep _ _ _ _ h, bfill_length _ _⟩

/-- `ffill` without limit: a NaN at `i` whose nearest earlier observation is `v` at `j` becomes `v` -/
theorem ffill_nolimit (xs : Col) (j i : Nat) (v : Int) (hji : j < i) (hj : xs[j]? = some (some v))
    (hnan : ∀ m, j < m → m ≤ i → xs[m]? = some Option.none) :
    (ffill Option.none xs)[i]? = some (some v) :=
  ffillAux_get _ _ _ xs j i v (Nat.le_of_lt hji) hj hnan

/-- `ffill(limit = l)`: the NaN at `i` is filled with the nearest earlier observation (at `j`) iff it lies
within `l` positions of it, otherwise it stays NaN -/
theorem ffill_limit (l : Nat) (xs : Col) (j i : Nat) (v : Int) (hji : j < i) (hj : xs[j]? = some (some v))
    (hnan : ∀ m, j < m → m ≤ i → xs[m]? = some Option.none) :
    (ffill (some l) xs)[i]? = some (if i - j ≤ l then some v else Option.none) :=
  ffillAux_get _ _ _ xs j i v (Nat.le_of_lt hji) hj hnan

/-- NaNs before the first observation are never forward-filled -/
theorem ffill_leading (lim : Option Nat) (xs : Col) (i : Nat) (h : ∀ m, m ≤ i → xs[m]? = some Option.none) :
    (ffill lim xs)[i]? = some Option.none := ffill_prefix lim xs i h

theorem bfill_nolimit (xs : Col) (i j : Nat) (v : Int) (hij : i < j) (hj : xs[j]? = some (some v))
    (hnan : ∀ m, i ≤ m → m < j → xs[m]? = some Option.none) :
    (bfill Option.none xs)[i]? = some (some v) :=
  bfill_get _ xs i j v (Nat.le_of_lt hij) hj hnan

/-- the mirror image for `bfill(limit = l)`: nearest later observation, within `l` positions -/
theorem bfill_limit (l : Nat) (xs : Col) (i j : Nat) (v : Int) (hij : i < j) (hj : xs[j]? = some (some v))
    (hnan : ∀ m, i ≤ m → m < j → xs[m]? = some Option.none) :
    (bfill (some l) xs)[i]? = some (if j - i ≤ l then some v else Option.none) :=
  bfill_get _ xs i j v (Nat.le_of_lt hij) hj hnan

/-- NaNs after the last observation are never back-filled -/
theorem bfill_trailing (lim : Option Nat) (xs : Col) (i : Nat) (hi : i < xs.length)
    (h : ∀ m, i ≤ m → m < xs.length → xs[m]? = some Option.none) :
    (bfill lim xs)[i]? = some Option.none := bfill_suffix lim xs i hi h

/-- a constant replaces every NaN and nothing else -/
theorem const_fill (c : Int) (xs : Col) :
    fillConst c Option.none xs = xs.map fun o => some (o.getD c) := by
  induction xs with
  | nil => rfl
  | cons x xs ih => cases x <;> exact congrArg (_ :: ·) ih

theorem const_keeps (c : Int) (lim : Option Nat) (xs : Col) (i : Nat) (v : Int) (h : xs[i]? = some (some v)) :
    (fillConst c lim xs)[i]? = some (some v) ∧ (fillConst c lim xs).length = xs.length :=
  ⟨fillConst_keep _ _ _ _ _ h, fillConst_length _ _ _⟩

/-- with `limit = l` (pandas `fillna(value, limit)`) exactly the first `l` NaNs of the column are replaced -/
theorem const_fill_limit (c : Int) (l : Nat) (xs : Col) (i : Nat) (h : xs[i]? = some Option.none) :
    (fillConst c (some l) xs)[i]? = some (if nanBefore xs i < l then some c else Option.none) := by
  rw [fillConst_eq, List.getElem?_mapIdx, h]
  rfl

theorem fillna_nil (lim : Option Nat) (f : Frame) : fillna [] lim f = .ok f := rfl

theorem fillna_single (m : Method) (lim : Option Nat) (f : Frame) : fillna [m] lim f = step lim f m := by
  simp [fillna, List.foldlM]

/-- `df_fillna(x, ms₁ ++ ms₂) = df_fillna(df_fillna(x, ms₁), ms₂)`, errors included -/
theorem seq_fold (ms₁ ms₂ : List Method) (lim : Option Nat) (f : Frame) :
    fillna (ms₁ ++ ms₂) lim f = (fillna ms₁ lim f).bind (fillna ms₂ lim) := by
  simp [fillna, List.foldlM_append]
  rfl

theorem seq_cons (m : Method) (ms : List Method) (lim : Option Nat) (f : Frame) :
    fillna (m :: ms) lim f = (step lim f m).bind (fillna ms lim) := rfl

/-- `'nona'`: the rows of the result are exactly the rows of the input that hold a non-NaN cell, in order,
each with its timestamp and cells unchanged; the columns stay -/
theorem nona_rows (lim : Option Nat) (f : Frame) :
    ∃ g, step lim f .nona = .ok g ∧ g.rows = f.rows.filter (fun r => r.2.any (·.isSome)) ∧
      g.names = f.names ∧ g.Rect :=
  ⟨_, rfl, Frame.rows_gather_valid f, Frame.names_gather _ _, Frame.rect_gather _ _⟩

/-- `nona(x)` (the function, `edge=None`) keeps exactly the rows holding a non-NaN cell, in order, with the columns -/
theorem nona_fn_rows (f : Frame) :
    ∃ g, nona Option.none f = .ok g ∧ g.rows = f.rows.filter (fun r => r.2.any (·.isSome)) ∧ g.names = f.names :=
  ⟨_, rfl, Frame.rows_gather_valid f, Frame.names_gather _ _⟩

/-- `edge = -1` ("cut only historic values") is exactly the method 'fnna': `df.loc[res.index[0]:]`, a label slice closed at the first surviving label -/
theorem nona_edge_first_eq_fnna (lim : Option Nat) (f : Frame) : nona (some (-1)) f = step lim f .fnna := by
  rw [nona_eq_edgeCases, step, Frame.firstValidRowTime, ← List.head?_filter]
  cases (List.range f.nrows).filter f.rowValid <;> rfl

/-- `edge = -1` on a sorted index: the result is the input from its first row holding a non-NaN cell (position `p0`) on -
the leading all-NaN rows are dropped, every later row (all-NaN or not) is kept; nothing is left when no row is valid -/
theorem nona_edge_first (f : Frame) (hs : f.Sorted) :
    ∃ g p0, nona (some (-1)) f = .ok g ∧ g.rows = f.rows.drop p0 ∧ g.names = f.names ∧ p0 ≤ f.nrows ∧
      (∀ j, j < p0 → f.rowValid j = false) ∧ (p0 < f.nrows → f.rowValid p0 = true) := by
  by_cases hne : (List.range f.nrows).filter f.rowValid = []
  · refine ⟨f.gather [], f.nrows, nona_no_valid _ hne, ?_, Frame.names_gather _ _, Nat.le_refl _, List.filter_range_eq_nil hne,
      fun h => absurd h (Nat.lt_irrefl _)⟩
    rw [List.drop_of_length_le (by rw [Frame.rows, List.length_map, List.length_range]; exact Nat.le_refl _)]
    rfl
  · obtain ⟨h1, h2, h3⟩ := List.headD_filter_range f.nrows f.rowValid hne
    refine ⟨_, _, ?_, Frame.rows_gather_drop f _, Frame.names_gather _ _, Nat.le_of_lt h1, h3, fun _ => h2⟩
    rw [nona_eq_edgeCases, Frame.isEmpty_idx_gather, List.isEmpty_eq_false_iff.mpr hne, edgeCases_first, Frame.filter_ge_first f hs hne]

/-- `edge = 1` ("cut only latest values") on a sorted index: the result is the first `q` rows of the input, where row `q - 1`
is the LAST row holding a non-NaN cell - the trailing all-NaN rows are dropped, every earlier row (all-NaN or not) is kept;
nothing is left (`q = 0`) when no row is valid -/
theorem nona_edge_last (f : Frame) (hs : f.Sorted) :
    ∃ g q, nona (some 1) f = .ok g ∧ g.rows = f.rows.take q ∧ g.names = f.names ∧ q ≤ f.nrows ∧
      (∀ j, q ≤ j → j < f.nrows → f.rowValid j = false) ∧ (0 < q → f.rowValid (q - 1) = true) := by
  by_cases hne : (List.range f.nrows).filter f.rowValid = []
  · exact ⟨f.gather [], 0, nona_no_valid _ hne, rfl, Frame.names_gather _ _, Nat.zero_le _,
      fun j _ => List.filter_range_eq_nil hne j, fun h => absurd h (Nat.lt_irrefl _)⟩
  · obtain ⟨h1, h2, h3⟩ := List.getLastD_filter_range f.nrows f.rowValid hne
    refine ⟨_, _, ?_, Frame.rows_gather_take f _, Frame.names_gather _ _, h1, fun j hj => h3 j hj, fun _ => h2⟩
    rw [nona_eq_edgeCases, Frame.isEmpty_idx_gather, List.isEmpty_eq_false_iff.mpr hne, edgeCases_last, Frame.filter_le_last f hs hne]

/-- `'fnna'` on a sorted index: only the leading all-NaN rows go — the result is the input from its first
row holding a non-NaN cell (position `p0`) on; nothing is left when no such row exists (`p0 = nrows`) -/
theorem fnna_rows (lim : Option Nat) (f : Frame) (hs : f.Sorted) :
    ∃ g p0, step lim f .fnna = .ok g ∧ g.rows = f.rows.drop p0 ∧ g.names = f.names ∧ p0 ≤ f.nrows ∧
      (∀ j, j < p0 → f.rowValid j = false) ∧ (p0 < f.nrows → f.rowValid p0 = true) := by
  rw [← nona_edge_first_eq_fnna]
  exact nona_edge_first f hs

/-- any other `edge` on an object with a valid row: the code falls off the end of `_nona` (returns `None`); the model answers
`err Other` -/
theorem nona_edge_unknown (f : Frame) (e : Int) (he : e ≠ 1 ∧ e ≠ -1)
    (hne : (List.range f.nrows).filter f.rowValid ≠ []) : nona (some e) f = .error .other := by
  rw [nona_eq_edgeCases, Frame.isEmpty_idx_gather, List.isEmpty_eq_false_iff.mpr hne]
  exact edgeCases_other he.1 he.2 _ _ _

/-- on a sorted index: forward fill (with the limit) up to the last valid observation (position `p`),
then NaN (`ffill_na`, `inv = none`) or 0 (`ffill_0`, `inv = some 0`) -/
theorem ffill_tail (inv : Option Int) (lim : Option Nat) (idx : List Int) (xs : Col) (p : Nat) (v : Int)
    (hs : idx.Pairwise (· < ·)) (hl : idx.length = xs.length)
    (hp : xs[p]? = some (some v)) (hlast : ∀ m, p < m → m < xs.length → xs[m]? = some Option.none)
    (i : Nat) (hi : i < xs.length) :
    (ffillTail inv lim idx xs)[i]? = if i ≤ p then (ffill lim xs)[i]? else some inv :=
  ffillTail_get inv lim idx xs p v hs hl hp hlast i hi

/-- a column without any observation is returned as it is -/
theorem ffill_tail_allnan (inv : Option Int) (lim : Option Nat) (idx : List Int) (xs : Col)
    (h : ∀ m, m < xs.length → xs[m]? = some Option.none) : ffillTail inv lim idx xs = xs :=
  ffillTail_allnan inv lim idx xs h

/-- under an admissible limit the frame-level step is `ffillTail` on every column (`pd.concat(axis=1)` of the per-column results) -/
theorem step_ffill_na (lim : Option Nat) (f : Frame) (hl : limOk lim = true) :
    step lim f .ffillNa = .ok (f.mapCols (ffillTail Option.none lim f.idx)) ∧
    step lim f .ffill0 = .ok (f.mapCols (ffillTail (some 0) lim f.idx)) := by
  rw [step_ffillNa, step_ffill0, tailStep, tailStep, hl]
  exact ⟨rfl, rfl⟩

/-- the methods that never look at labels (a number, ffill, bfill) keep the index, the columns and every non-NaN cell for ANY
index (decreasing, shuffled, repeated labels) and any column lengths - the hypothesis `f.Sorted` of `fill_keeps_values` is
needed by 'ffill_na' / 'ffill_0' only -/
theorem fill_keeps_values_any_index (lim : Option Nat) (m : Method) (f g : Frame)
    (hm : m = .ffill ∨ m = .bfill ∨ ∃ c, m = .const c) (h : step lim f m = .ok g) :
    g.idx = f.idx ∧ g.names = f.names ∧ ∀ j i v, cell f j i = some (some v) → cell g j i = some (some v) := by
  obtain ⟨k, _, hk, e⟩ := step_label_free lim hm
  cases Res.eq_of_ite_eq_ok ((e f).symm.trans h)
  exact mapCols_keeps k f fun c _ => hk c.2

/-- the filling methods (constant, ffill, bfill, ffill_na, ffill_0) keep the index, the columns and every
non-NaN cell of a frame; the removing methods are covered by `nona_rows` / `fnna_rows` (surviving rows unchanged) -/
theorem fill_keeps_values (lim : Option Nat) (m : Method) (f g : Frame) (hm : m ≠ .fnna ∧ m ≠ .nona)
    (hs : f.Sorted) (hr : f.Rect) (h : step lim f m = .ok g) :
    g.idx = f.idx ∧ g.names = f.names ∧ ∀ j i v, cell f j i = some (some v) → cell g j i = some (some v) := by
  rcases Method.filling_cases hm with hm | hm
  · exact fill_keeps_values_any_index lim m f g hm h
  · obtain ⟨inv, e⟩ := step_tail lim hm
    cases Res.eq_of_ite_eq_ok ((e f).symm.trans h)
    exact mapCols_keeps _ f fun c hc => ffillTail_keep inv lim f.idx c.2 hs (hr c hc).symm

/-- a LIST of label-free methods (a number, ffill, bfill) keeps the index, the column names and every non-NaN cell, for any index -/
theorem fillna_keeps_any_index (ms : List Method) (lim : Option Nat) (f g : Frame)
    (hms : ∀ m ∈ ms, m = .ffill ∨ m = .bfill ∨ ∃ c, m = .const c) (h : fillna ms lim f = .ok g) :
    g.idx = f.idx ∧ g.names = f.names ∧ ∀ j i v, cell f j i = some (some v) → cell g j i = some (some v) := by
  exact fillna_rel (P := fun _ => True) CellsKept.refl CellsKept.trans
    (fun m hm f g _ h => ⟨fill_keeps_values_any_index lim m f g (hms m hm) h, trivial⟩) trivial h

/-- a list of FILLING methods (no 'nona' / 'fnna'): the index and the columns stay and every non-NaN cell of the input
is still there, at the same place, after the whole list -/
theorem fillna_keeps (ms : List Method) (lim : Option Nat) (f g : Frame) (hms : ∀ m ∈ ms, m ≠ .fnna ∧ m ≠ .nona)
    (hs : f.Sorted) (hr : f.Rect) (h : fillna ms lim f = .ok g) :
    g.idx = f.idx ∧ g.names = f.names ∧ ∀ j i v, cell f j i = some (some v) → cell g j i = some (some v) := by
  exact fillna_rel (P := fun f => f.Sorted ∧ f.Rect) CellsKept.refl CellsKept.trans
    (fun m hm f g hp h => ⟨fill_keeps_values lim m f g (hms m hm) hp.1 hp.2 h, step_wellformed hp.1 hp.2 h⟩) ⟨hs, hr⟩ h

/-- ONE step of any method: rows are only removed (never added, reordered or relabelled), the columns stay, and every
row of the result is a row of the input with all its non-NaN cells intact -/
theorem step_rows_kept (lim : Option Nat) (m : Method) (f g : Frame) (hs : f.Sorted) (hr : f.Rect)
    (h : step lim f m = .ok g) :
    g.idx.Sublist f.idx ∧ g.names = f.names ∧ ∀ r ∈ g.rows, ∃ r0 ∈ f.rows, RowKept r0 r := by
  by_cases hm : m = .fnna ∨ m = .nona
  · obtain ⟨pos, hp, rfl⟩ := step_gather hm h
    obtain ⟨k1, k2⟩ := gather_sublist_rows f pos hp
    exact ⟨k1, Frame.names_gather _ _, fun r hr' => ⟨r, k2 r hr', RowKept.refl r⟩⟩
  · have a : CellsKept f g := fill_keeps_values lim m f g ⟨fun e => hm (.inl e), fun e => hm (.inr e)⟩ hs hr h
    refine ⟨a.1 ▸ List.Sublist.refl _, a.2.1, fun r hrr => ?_⟩
    obtain ⟨i, hi, rfl⟩ := List.mem_map.mp hrr
    have hig : i < g.nrows := List.mem_range.mp hi
    have hif : i < f.nrows := by rw [Frame.nrows, ← a.1]; exact hig
    exact ⟨f.row i, List.mem_map.mpr ⟨i, List.mem_range.mpr hif, rfl⟩, rowKept_of_cells a hr (step_wellformed hs hr h).2 hig⟩

/-- ANY method list (removing methods included): "df_fillna never changes a non-NaN cell", tracked by row.  The
timestamps of the result are a sub-sequence of the input's, the columns stay, and every row of the result is the row of
the input with that timestamp (unique: the index is strictly increasing) with all its non-NaN cells intact. -/
theorem fillna_rows_kept (ms : List Method) (lim : Option Nat) (f g : Frame) (hs : f.Sorted) (hr : f.Rect)
    (h : fillna ms lim f = .ok g) :
    g.idx.Sublist f.idx ∧ g.names = f.names ∧ ∀ r ∈ g.rows, ∃ r0 ∈ f.rows, RowKept r0 r := by
  refine fillna_rel (P := fun f => f.Sorted ∧ f.Rect) (fun _ => ⟨List.Sublist.refl _, rfl, fun r hr' => ⟨r, hr', RowKept.refl r⟩⟩)
    (fun a b => ⟨b.1.trans a.1, b.2.1.trans a.2.1, fun r hr' => ?_⟩)
    (fun m _ f g hp h => ⟨step_rows_kept lim m f g hp.1 hp.2 h, step_wellformed hp.1 hp.2 h⟩) ⟨hs, hr⟩ h
  obtain ⟨r1, hr1, k1⟩ := b.2.2 r hr'
  obtain ⟨r0, hr0, k0⟩ := a.2.2 r1 hr1
  exact ⟨r0, hr0, k0.trans k1⟩

/-- the hypothesis `hs` of `ffill_tail` / `f.Sorted` of `fill_keeps_values` is needed: on a decreasing index 'ffill_0' overwrites a value - `res[res.index > last_valid] = 0`
compares LABELS, and the rows whose label is later than the last valid row's label stand BEFORE it.  The real code does the same
(`df_fillna(pd.Series([2., 1., nan], [d3, d2, d1]), 'ffill_0')` is `[0, 1, 1]`).  The property's quantifier ranges over values and
NaN patterns, not over index orders; the strictly increasing index is a declared assumption of the check. -/
theorem ffill_tail_needs_sorted : ∃ (idx : List Int) (xs : Col) (i : Nat) (v : Int), idx.length = xs.length ∧
    xs[i]? = some (some v) ∧ (ffillTail (some 0) Option.none idx xs)[i]? ≠ some (some v) :=
  ⟨[3, 2, 1], [some 2, some 1, Option.none], 0, 2, by decide⟩

/-- the sortedness hypothesis is needed at frame level too: without `f.Sorted` the conclusion of `fill_keeps_values` fails
for 'ffill_0' -/
theorem fill_keeps_values_needs_sorted : ∃ (f g : Frame) (v : Int), f.Rect ∧ step Option.none f .ffill0 = .ok g ∧
    cell f 0 0 = some (some v) ∧ cell g 0 0 ≠ some (some v) :=
  ⟨{ idx := [3, 2, 1], cols := [("a", [some 2, some 1, Option.none])] },
   { idx := [3, 2, 1], cols := [("a", [some 0, some 1, some 1])] }, 2, by decide, rfl, by decide, by decide⟩

/-- every step, hence every method list, keeps the index strictly increasing and the frame rectangular -/
theorem fillna_wellformed (ms : List Method) (lim : Option Nat) (f g : Frame) (hs : f.Sorted) (hr : f.Rect)
    (h : fillna ms lim f = .ok g) : g.Sorted ∧ g.Rect :=
  List.foldlM_inv (P := fun f => f.Sorted ∧ f.Rect) (fun _ _ _ _ hp h => step_wellformed hp.1 hp.2 h) ⟨hs, hr⟩ h

/-- Given a numpy array (the column values alone) the result equals the values of the result for ANY
Series / DataFrame that carries those values over a strictly increasing index: the array path goes through a
`RangeIndex` (lines 211-212) and no method's values depend on the labels.  Errors agree as well. -/
theorem array_agrees (ms : List Method) (lim : Option Nat) (f : Frame) (hs : f.Sorted) (hr : f.Rect)
    (hne : f.cols ≠ []) : fillnaArr ms lim f.vals = (fillna ms lim f).map Frame.vals := by
  cases ms with
  | nil => rfl
  | cons m ms => exact ((fillna_same lim (m :: ms) (same_ofArr f hs hr hne)).map_eq fun _ _ h => h.vals).symm

/-- the same for the function `nona` with `edge = None`: the array result is the values of the pandas result (every `edge`: `nona_edge_array_agrees`) -/
theorem nona_array_agrees (f g : Frame) (hs : f.Sorted) (hr : f.Rect) (hne : f.cols ≠ [])
    (h : nona Option.none f = .ok g) : nonaArr f.vals = g.vals := by
  have hsame := same_ofArr f hs hr hne
  cases h
  rw [nonaArr, ← hsame.rowValid, ← hsame.nrows, vals_gather, vals_gather, vals_ofArr]

/-- the clause "given a numpy array the result equals the values of the result for the
corresponding Series/DataFrame" for `nona(x, edge)`, every `edge`: the array is cut by POSITION (`nonaArrE`: `take` / `drop` at
the last / first row holding a value), the pandas object by LABEL (`nona`: `df.loc[:res.index[-1]]` / `df.loc[res.index[0]:]`);
over a strictly increasing index the two agree (errors too).  Finding C12-E1: an array path that ignores `edge` (`nonaArr`)
does not (`nona_edge_array_ignored`). -/
theorem nona_edge_array_agrees (e : Option Int) (f : Frame) (hs : f.Sorted) (hr : f.Rect) (hne : f.cols ≠ []) :
    nonaArrE e f.vals = (nona e f).map Frame.vals := by
  have hsame := same_ofArr f hs hr hne
  rw [nonaArrE_eq_edgeCases, nona_eq_edgeCases, edgeCases_map, ← hsame.rowValid, ← hsame.nrows, Frame.isEmpty_idx_gather]
  refine edgeCases_congr rfl (nona_array_agrees f _ hs hr hne rfl) (fun hem => ?_) (fun hem => ?_)
  · rw [Frame.filter_le_last f hs (List.isEmpty_eq_false_iff.mp hem), Frame.vals_gather_take f hr]
  · rw [Frame.filter_ge_first f hs (List.isEmpty_eq_false_iff.mp hem), Frame.vals_gather_drop f hr]

/-- the hypotheses of `nona_edge_array_agrees` on an array with a leading, an interior and a trailing NaN; the array side
for both edges, the pandas side for `edge = -1` -/
example : let f : Frame := { idx := [3, 5, 9, 10, 12], cols := [("a", [Option.none, some 1, Option.none, some 5, Option.none])] }
    f.Sorted ∧ f.Rect ∧ f.cols ≠ [] ∧
    (nonaArrE (some 1) f.vals).toOption = some [[Option.none, some 1, Option.none, some 5]] ∧
    (nonaArrE (some (-1)) f.vals).toOption = some [[some 1, Option.none, some 5, Option.none]] ∧
    (nona (some (-1)) f).toOption.map Frame.vals = some [[some 1, Option.none, some 5, Option.none]] := by decide

/-- witness of finding C12-E1: the array path without `edge` (`nonaArr`: the interior NaN row goes as well) differs from the
pandas values of `nona(x, edge = -1)` -/
theorem nona_edge_array_ignored : ∃ f : Frame, f.Sorted ∧ f.Rect ∧ f.cols ≠ [] ∧
    (nona (some (-1)) f).toOption.map Frame.vals ≠ some (nonaArr f.vals) :=
  ⟨{ idx := [3, 5, 9, 10, 12], cols := [("a", [Option.none, some 1, Option.none, some 5, Option.none])] }, by decide⟩

example : ffill (some 1) [Option.none, some 1, Option.none, Option.none, some 5, Option.none] =
    [Option.none, some 1, some 1, Option.none, some 5, some 5] := by decide
example : bfill (some 1) [Option.none, Option.none, some 1, Option.none] =
    [Option.none, some 1, some 1, Option.none] := by decide
example : fillConst 7 (some 1) [Option.none, some 1, Option.none] = [some 7, some 1, Option.none] := by decide
example : ffillTail (some 0) Option.none [10, 20, 30, 40] [some 1, Option.none, some 3, Option.none] =
    [some 1, some 1, some 3, some 0] := by decide
/-- the hypotheses of `ffill_limit` hold on a non-trivial column (j = 1, i = 3, limit 2) -/
example : let xs : Col := [Option.none, some 4, Option.none, Option.none, some 9]
    (1 < 3) ∧ xs[1]? = some (some 4) ∧ (∀ m, 1 < m → m ≤ 3 → xs[m]? = some Option.none) ∧
    (ffill (some 2) xs)[3]? = some (some 4) ∧ (ffill (some 1) xs)[3]? = some Option.none := by
  refine ⟨by decide, by decide, ?_, by decide, by decide⟩
  intro m h1 h2
  have : m = 2 ∨ m = 3 := by omega
  rcases this with rfl | rfl <;> decide
/-- `fnna_rows` / `nona_rows` on a 2-column frame with a leading and an interior all-NaN row -/
example : let f : Frame := { idx := [1, 2, 3, 4], cols := [("a", [Option.none, some 1, Option.none, some 2]),
                                                           ("b", [Option.none, Option.none, Option.none, some 5])] }
    f.Sorted ∧ f.Rect ∧
    (step Option.none f .nona).toOption.map (·.idx) = some [2, 4] ∧
    (step Option.none f .fnna).toOption.map (·.idx) = some [2, 3, 4] := by decide

/-- `fillna_rows_kept` on a list that fills and removes -/
example : let f : Frame := { idx := [1, 2, 3, 4], cols := [("a", [Option.none, some 1, Option.none, some 2]),
                                                           ("b", [Option.none, Option.none, Option.none, some 5])] }
    f.Sorted ∧ f.Rect ∧
    (fillna [.fnna, .ffill, .const 7] (some 1) f).toOption =
      some { idx := [2, 3, 4], cols := [("a", [some 1, some 1, some 2]), ("b", [some 7, Option.none, some 5])] } := by decide

/-- `array_agrees` on a frame with gaps in its index and a method list that drops and fills -/
example : let f : Frame := { idx := [3, 5, 9, 10], cols := [("a", [Option.none, some 1, Option.none, Option.none])] }
    f.Sorted ∧ f.Rect ∧ f.cols ≠ [] ∧
    (fillnaArr [.fnna, .ffill0] Option.none f.vals).toOption = some [[some 1, some 0, some 0]] := by decide

/-- `nona_edge_last` / `nona_edge_first`: an interior all-NaN row (label 3) stays, only the trailing / leading ones go -/
example : let f : Frame := { idx := [1, 2, 3, 4, 5], cols := [("a", [Option.none, some 1, Option.none, some 2, Option.none]),
                                                              ("b", [Option.none, Option.none, Option.none, some 5, Option.none])] }
    f.Sorted ∧
    (nona (some 1) f).toOption.map (·.idx) = some [1, 2, 3, 4] ∧
    (nona (some (-1)) f).toOption.map (·.idx) = some [2, 3, 4, 5] ∧
    (nona Option.none f).toOption.map (·.idx) = some [2, 4] := by decide

/-- whatever the method list: the caller's object (cell 0) holds at the end what it held at the start, and EVERY item
assignment went into a cell allocated during this call (`0 < w`: never the caller's object) -/
theorem input_not_modified (series : Bool) (ms : List Method) (lim : Option Nat) (df : Frame) (s : FillAlias.Store)
    (h : FillAlias.call series ms lim df = .ok s) :
    s.cells[0]? = some df ∧ (∀ w ∈ s.writes, 0 < w ∧ w < s.cells.length) ∧ s.res < s.cells.length :=
  let i := List.foldlM_inv (fun m _ _ _ hi h => FillAlias.inv_runStep series lim m hi h) (FillAlias.inv_init df) h
  ⟨i.input, i.fresh, i.bound⟩

/-- the store refines the pure model: the object the function returns (`res`) holds exactly `fillna ms lim df`, and the two
fail together.  (`series`: the 1-d branch with the in-place tail assignment; a Series has one column.) -/
theorem store_value (series : Bool) (ms : List Method) (lim : Option Nat) (df : Frame)
    (h1 : series = true → ∃ c, df.cols = [c]) :
    match FillAlias.call series ms lim df, fillna ms lim df with
    | .ok s, .ok g => FillAlias.cur s = g
    | .error e, .error e' => e = e'
    | _, _ => False := by
  have : ResRel (FillAlias.Sim series) (FillAlias.call series ms lim df) (fillna ms lim df) :=
    foldlM_rel (fun m _ _ => FillAlias.runStep_sim series lim m _ _) ms ⟨rfl, Nat.zero_lt_one, h1⟩
  revert this
  -- the `match` of the statement is not `ResRel` up to unfolding (it yields `cur s = g`, not `Sim`): case by case
  cases FillAlias.call series ms lim df <;> cases fillna ms lim df <;> intro this
  · exact this
  · exact this
  · exact this
  · exact this.1

/-- no method: the function returns THE INPUT OBJECT itself (`df_fillna(x, None) is x`), nothing is allocated or written -/
theorem no_method_returns_input (series : Bool) (lim : Option Nat) (df : Frame) :
    FillAlias.call series [] lim df = .ok { cells := [df], res := 0, writes := [] } := rfl

/-- `input_not_modified` / `store_value` on the in-place branch: 'ffill_0' on a Series writes into cell 1 (the `ffill` copy) -/
example : let df : Frame := { idx := [1, 2, 3, 4], cols := [("", [some 1, Option.none, some 3, Option.none])] }
    (FillAlias.call true [.ffill0] Option.none df).toOption.map (fun s => s.cells[0]?) = some (some df) ∧
    (FillAlias.call true [.ffill0] Option.none df).toOption.map (fun s => (s.res, s.writes)) = some (1, [1]) ∧
    (FillAlias.call true [.ffill0] Option.none df).toOption.map (fun s => (FillAlias.cur s).cols) =
      some [("", [some 1, some 1, some 3, some 0])] := by decide

section NonaStore
open Pyg.FillAlias

/-- Series / DataFrame, every `edge`: the caller's object (cell 0) holds what it held, nothing was
written, the object returned is NOT the caller's object and shares no buffer with it (`aliasesInput`: following the view links
from the returned cell never reaches cell 0), and it holds exactly the pure model's `nona edge f` -/
theorem nona_input_not_modified (edge : Option Int) (f : Frame) (s : NStore Frame) (h : nonaPd edge f = .ok s) :
    s.cells[0]? = some ⟨f, Option.none⟩ ∧ s.writes = [] ∧ s.ret ≠ 0 ∧ s.aliasesInput = false ∧
      (nona edge f).toOption = s.result := by
  rw [nonaPd_eq_edgeCases] at h
  rw [nona_eq_edgeCases]
  -- `hn`: the pure dispatch takes the same one of its three arguments
  rcases edgeCases_ok h with ⟨rfl, hn⟩ | ⟨rfl, hn⟩ | ⟨rfl, hn⟩
  all_goals
    rw [hn]
    exact alloc_owned _ _ _ rfl rfl

/-- numpy array, every `edge`, the slice copied (`df[:k].copy()`): the five facts of
`nona_input_not_modified`; the value is `nonaArrE` (the array path of the statement: cut by position) -/
theorem nona_array_input_not_modified (edge : Option Int) (cols : List Col) (s : NStore (List Col))
    (h : nonaArrS true edge cols = .ok s) :
    s.cells[0]? = some ⟨cols, Option.none⟩ ∧ s.writes = [] ∧ s.ret ≠ 0 ∧ s.aliasesInput = false ∧
      (nonaArrE edge cols).toOption = s.result := by
  rw [nonaArrS_eq_edgeCases] at h
  rw [nonaArrE_eq_edgeCases]
  rcases edgeCases_ok h with ⟨rfl, hn⟩ | ⟨rfl, hn⟩ | ⟨rfl, hn⟩
  all_goals
    rw [hn]
    exact alloc_owned _ _ _ rfl rfl

/-- the `.copy()` is what makes it true (finding C12-E2): without it `nona(array, edge = 1 / -1)` returns the basic slice, a
view of the argument - same value, but writing into the result writes into the caller's array -/
theorem nona_array_view_without_copy (e : Int) (he : e = 1 ∨ e = -1) (cols : List Col) (s : NStore (List Col))
    (hv : ((List.range (ofArr cols).nrows).filter (ofArr cols).rowValid).isEmpty = false)
    (h : nonaArrS false (some e) cols = .ok s) : s.aliasesInput = true ∧ (nonaArrE (some e) cols).toOption = s.result := by
  rw [nonaArrS_eq_edgeCases] at h
  dsimp only at h
  rw [hv] at h
  rw [nonaArrE_eq_edgeCases, hv]
  rcases he with rfl | rfl
  · rw [edgeCases_last] at h ⊢
    cases h
    exact alloc_view _ _
  · rw [edgeCases_first] at h ⊢
    cases h
    exact alloc_view _ _

end NonaStore

example : (FillAlias.nonaArrS false (some 1) [[some 1, Option.none, some 5, Option.none]]).toOption.map (·.aliasesInput) = some true ∧
    (FillAlias.nonaArrS true (some 1) [[some 1, Option.none, some 5, Option.none]]).toOption.map (·.aliasesInput) = some false ∧
    (FillAlias.nonaArrS true (some 1) [[some 1, Option.none, some 5, Option.none]]).toOption.bind (·.result) =
      some [[some 1, Option.none, some 5]] := by decide

end Pyg.Props.C12
