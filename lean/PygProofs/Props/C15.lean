/-
  C15 — tree flatten / rebuild are inverse; `tree_update` is a non-destructive deep merge; `table_to_tree` / `tree_to_table`
  are inverse.  The value model (PygModel/Tree.lean, TreeTable.lean) is purely functional, so "neither t nor u is modified" is
  stated on the heap model (PygModel/TreeHeap.lean: dict nodes with aliasing), where it is not true by construction: the
  `*_shallow_false` theorems run the one-level `copy(tree)` the library had before `_tree_copy` (findings F7, C15-T1).
-/
import PygProofs.Lemmas.TreeHeapAbs
import PygProofs.Lemmas.TreeTableRows

namespace Pyg.Props.C15
open Pyg Pyg.Tree Pyg.DA Pyg.TreeHeap

/-- `tree_keys` and `tree_values` are the paths and the leaves of `tree_items`, in the same order -/
theorem keys_values_of_items (t : Val) :
    keys t = (items t).map (·.1) ∧ values t = (items t).map (·.2) :=
  ⟨keys_eq t, values_eq t⟩

/-- `tree_getitem(t, path)` returns the leaf for every listed path (distinct keys per branch) -/
theorem getitem_paths (t : Val) (h : wf t = true) (p : Path) (v : Val) (hm : (p, v) ∈ items t) :
    getItem t p = .ok v := getItem_items t h p v hm

/-- on a tree of `dictattr` / `Dict` nodes item access falls back to dotted paths for missing keys only: whenever the plain
walk `getItem` finds a value, the class-aware walk `getItemC` finds the same one -/
theorem getitem_dotted_of_getitem (b : Bool) : ∀ (p : Path) (t : Val) (v : Val), getItem t p = .ok v →
    getItemC b t p = .ok v
  | [], t, v, h => (getItemC_nil b t).trans ((getItem_nil t).symm.trans h)
  | k :: rest, t, v, h => by
      obtain ⟨kvs, w, rfl, hl, hr⟩ := getItem_cons_ok.1 h
      rw [getItemC_of_lookup b hl]
      exact getitem_dotted_of_getitem b rest w v hr

/-- `tree_getitem(t, path)` returns the leaf for every listed path in all three dict classes -/
theorem getitem_paths_any_class (b : Bool) (t : Val) (h : wf t = true) (p : Path) (v : Val) (hm : (p, v) ∈ items t) :
    getItemC b t p = .ok v := getitem_dotted_of_getitem b p t v (getitem_paths t h p v hm)

-- the dotted fallback only matters for unlisted paths: `tree_getitem(dictattr(a = dictattr(b = 1)), ['a.b'])` is 1, on a
-- plain dict it raises KeyError
#guard (match getItemC true (.dict [("a", .dict [("b", .cell (.int 1))])]) ["a.b"] with | .ok (.cell (.int 1)) => true | _ => false)
#guard (match getItemC false (.dict [("a", .dict [("b", .cell (.int 1))])]) ["a.b"] with | .error .key => true | _ => false)

/-- for plain dicts the class-aware walk IS the plain walk -/
theorem getitem_plain : ∀ (p : Path) (t : Val), getItemC false t p = getItem t p
  | [], t => (getItemC_nil false t).trans (getItem_nil t).symm
  | k :: rest, .dict kvs => by
      cases h : lookup k kvs with
      | some w => rw [getItemC_of_lookup false h, getItem_dict_cons, h]; exact getitem_plain rest w
      | none => rw [getItem_dict_cons, h]; exact (getItemC_dict_cons false kvs k rest).trans (by rw [h]; rfl)
  | k :: rest, .cell _ => rfl
  | k :: rest, .list _ => rfl
  | k :: rest, .tuple _ => rfl

/-- the join / split round trip of dot-free keys: joining a non-empty list of keys none of
which holds a dot and splitting the string on dots (`splitDots` = core's `String.split '.'`, the function the model and the driver
op `gets` use) gives the list back.  From core's `String.toList_split_intercalate`. -/
theorem splitDots_intercalate (p : List String) (hp : p ≠ []) (hd : ∀ k ∈ p, '.' ∉ k.toList) :
    splitDots (".".intercalate p) = p := by
  have h := String.toList_split_intercalate (c := '.') (l := p) hd
  have e : String.singleton '.' = "." := by decide
  rw [e] at h
  simp only [splitDots, h, hp, if_false]

/-- paths spelled as dotted strings (`tree_getitem(t, 'a.b.c')`, a call form the property lists): the code splits the string on dots first
(`_dict.py`: `item.split('.')`; model / driver op `gets`: `splitDots`), so the string spelling `s` of a listed path `p` reads `p`'s
leaf whenever splitting gives `p` back (`hs`) -/
theorem getitem_string_paths (b : Bool) (t : Val) (h : wf t = true) (p : Path) (v : Val) (hm : (p, v) ∈ items t)
    (s : String) (hs : splitDots s = p) : getItemC b t (splitDots s) = .ok v := by
  rw [hs]
  exact getitem_paths_any_class b t h p v hm

/-- every non-empty listed path whose keys are dot-free reads its leaf through its dotted spelling `'.'.join(p)`
(`getitem_string_paths` with `splitDots_intercalate`).  `p ≠ []` is needed: a bare leaf lists the empty path, and
`''.split('.')` is `['']`. -/
theorem getitem_dotted_spelling (b : Bool) (t : Val) (h : wf t = true) (p : Path) (v : Val) (hm : (p, v) ∈ items t)
    (hp : p ≠ []) (hd : ∀ k ∈ p, '.' ∉ k.toList) : getItemC b t (splitDots (".".intercalate p)) = .ok v :=
  getitem_string_paths b t h p v hm _ (splitDots_intercalate p hp hd)

example : getItemC true (.dict [("a", .dict [("b", .cell (.int 6))])]) (splitDots (".".intercalate ["a", "b"])) = .ok (.cell (.int 6)) :=
  getitem_dotted_spelling true _ (by decide) ["a", "b"] _ (by decide) (by simp) (by decide)

/-- a key holding a dot: `{'a.b': 5, 'a': {'b': 6}}` has distinct keys and lists the two paths `('a.b',)` with leaf 5 and
`('a', 'b')` with leaf 6, each read back as a list path.  The string `'a.b'` splits into the second one (the `#guard`s below;
the library: `tree_getitem({'a.b':5,'a':{'b':6}}, 'a.b') == 6`), so "tree_getitem returns the leaf for every listed path" is
about list paths; for string spellings it holds for dot-free keys only. -/
theorem getitem_string_dotted_key_witness :
    wf (.dict [("a.b", .cell (.int 5)), ("a", .dict [("b", .cell (.int 6))])]) = true ∧
    items (.dict [("a.b", .cell (.int 5)), ("a", .dict [("b", .cell (.int 6))])]) =
      [(["a.b"], Val.cell (.int 5)), (["a", "b"], Val.cell (.int 6))] ∧
    getItemC true (.dict [("a.b", .cell (.int 5)), ("a", .dict [("b", .cell (.int 6))])]) ["a.b"] = .ok (.cell (.int 5)) ∧
    getItemC true (.dict [("a.b", .cell (.int 5)), ("a", .dict [("b", .cell (.int 6))])]) ["a", "b"] = .ok (.cell (.int 6)) := by
  refine ⟨by decide, by decide, ?_, ?_⟩ <;> simp [getItemC, lookup, pure, Except.pure]

#guard ".".intercalate ["a", "b", "c"] == "a.b.c" && splitDots "a.b.c" == ["a", "b", "c"] && splitDots "a" == ["a"] && splitDots "" == [""]
#guard splitDots "a..b." == "a..b.".splitOn "." && splitDots ".a" == ["", "a"]     -- python's 'a..b.'.split('.') == ['a', '', 'b', '']
#guard splitDots (".".intercalate ["a.b"]) == ["a", "b"]            -- a key holding a dot does not survive the round trip
#guard (match getItemC true (.dict [("a.b", .cell (.int 5)), ("a", .dict [("b", .cell (.int 6))])]) (splitDots "a.b") with
  | .ok v => v == .cell (.int 6) | _ => false)

/-- `tree_get(t, path, default)` is `tree_getitem` with the default in place of every error -/
theorem tree_get_spec (d : Val) : ∀ (p : Path) (t : Val),
    treeGet t p d = match getItem t p with
      | .ok v => v
      | .error _ => d
  | [], t => by rw [treeGet_nil, getItem_nil]
  | k :: rest, .dict kvs => by
      rw [treeGet_dict_cons, getItem_dict_cons]
      cases lookup k kvs with
      | none => rfl
      | some w => exact tree_get_spec d rest w
  | k :: rest, .cell _ => rfl
  | k :: rest, .list _ => rfl
  | k :: rest, .tuple _ => rfl

/-- `tree_setitem(t, path, v)`: `ValueError` for an empty path, otherwise the path write `setKVs` -/
theorem tree_setitem_spec (kvs : List (String × Val)) (p : Path) (v : Val) (ig : List Val) :
    treeSetItem kvs p v ig = if p = [] then .error .value else .ok (setKVs kvs p v ig) := by
  cases p <;> rfl

/-- path insertion creating branches on demand: what is written at a non-empty path (no ignore list) is read back there -/
theorem setitem_get (kvs : List (String × Val)) (p : Path) (v : Val) (hp : p ≠ []) :
    getItem (.dict (setKVs kvs p v [])) p = .ok v := getItem_setKVs p kvs v hp

/-- a path write leaves every top-level key other than the first key of the path alone -/
theorem setitem_frame (kvs : List (String × Val)) (p : Path) (v : Val) (ig : List Val) (j : String)
    (hj : p.head? ≠ some j) : lookup j (setKVs kvs p v ig) = lookup j kvs :=
  lookup_setKVs_other p kvs v ig j hj

/-- frame at any depth: a path write at `p` changes nothing that is read through a path `q` that parts from `p` at some
position (equal before it, different keys at it; neither is a prefix of the other) -/
theorem setitem_frame_deep (v : Val) (ig : List Val) : ∀ (p q : Path) (kvs : List (String × Val)) (w : Val),
    (∃ i, i < p.length ∧ i < q.length ∧ p[i]? ≠ q[i]? ∧ p.take i = q.take i) →
    getItem (.dict kvs) q = .ok w → getItem (.dict (setKVs kvs p v ig)) q = .ok w :=
  getItem_setKVs_branch v ig

/-- the branching hypothesis is satisfiable: `a.b` and `a.c` part at position 1; writing `a.b` keeps `a.c` -/
example : ∃ i, i < ["a", "b"].length ∧ i < ["a", "c"].length ∧ ["a", "b"][i]? ≠ ["a", "c"][i]? ∧
    ["a", "b"].take i = ["a", "c"].take i := ⟨1, by decide, by decide, by decide, by decide⟩
example : getItem (.dict (setKVs [("a", .dict [("c", .cell (.int 1))])] ["a", "b"] (.cell (.int 2)) [])) ["a", "c"] =
    .ok (.cell (.int 1)) := rfl

/-- the `ignore` rule: an existing leaf survives exactly when the new value is in `ignore`; a new
key is written whatever its value -/
theorem ignore_spec (kvs : List (String × Val)) (k : String) (v : Val) (ig : List Val) :
    lookup k (setKVs kvs [k] v ig) =
      match lookup k kvs with
      | some old => if ig.contains v then some old else some v
      | none => some v := by
  rw [setKVs_single]
  cases h : lookup k kvs with
  | none => exact (lookup_set k k v kvs).trans (if_pos rfl)
  | some old =>
    rw [Option.isSome_some, Bool.true_and]
    by_cases hi : ig.contains v = true
    · rw [if_pos hi, h]
      exact (if_pos hi).symm
    · rw [if_neg hi, lookup_set, if_pos rfl]
      exact (if_neg hi).symm

/-- `items_to_tree(tree_items(t)) == t` for every tree (a dict) with distinct keys in every branch
and no empty branch below the root, at any depth — whatever the `ignore` list. -/
theorem items_roundtrip (kvs : List (String × Val)) (ig : List Val)
    (hw : wf (.dict kvs) = true) (hn : noEmpty (.dict kvs) = true) :
    itemsToTree (items (.dict kvs)) [] ig = .ok kvs := by
  rw [itemsToTree_items ig [] kvs hw hn]
  exact congrArg Except.ok (mergeKVs_nil_left ig kvs hw)

/-- the tree must be a dict: a bare leaf flattens to the keyless item `(leaf,)`, which
`items_to_tree` rejects (`ValueError`, as the code) -/
theorem items_roundtrip_leaf (v : Val) (hv : ∀ s, v ≠ .dict s) (base : List (String × Val)) (ig : List Val) :
    itemsToTree (items v) base ig = .error Err.value := by
  rw [items_leaf v hv]
  rfl

/-- the hypothesis "no empty branch" is needed: an empty branch has no items and is lost -/
theorem items_roundtrip_empty_branch_false :
    itemsToTree (items (.dict [("a", .dict [])])) [] [] = .ok [] := by rfl

/-- `tree_update(t, u) ==` the recursive merge (`u`'s leaves override unless ignored, branches on
both sides are merged, leaf-vs-branch conflicts go to `u`, the rest of `t` is kept), for every dict
`t` (no hypothesis on `t`) and every dict `u` with distinct keys and no empty branch. -/
theorem update_is_merge (a b : List (String × Val)) (ig : List Val)
    (hw : wf (.dict b) = true) (hn : noEmpty (.dict b) = true) :
    update (.dict a) (.dict b) ig = .ok (merge ig (.dict a) (.dict b)) := by
  rw [update_dict, itemsToTree_items ig a b hw hn]
  rfl

/-- why `update_is_merge` asks for `noEmpty u`: an empty branch of `u` has no item, so `tree_update` ignores it while the
recursive merge would hang it in -/
theorem update_is_merge_empty_branch_false :
    update (.dict [("a", .cell (.int 1))]) (.dict [("a", .dict [])]) [] = .ok (.dict [("a", .cell (.int 1))]) ∧
    merge [] (.dict [("a", .cell (.int 1))]) (.dict [("a", .dict [])]) = .dict [("a", .dict [])] :=
  ⟨rfl, by decide⟩

/-- what the merge is, key by key (this pins the executable specification `merge` down): a key of
`u` holds `u`'s value merged into what `t` had there (`mergeAt`: a leaf of `u` overrides unless
ignored and the key existed; a branch of `u` is merged into `t`'s branch, or replaces `t`'s leaf,
or is hung as it is on a new key), every other key keeps `t`'s value. -/
theorem merge_lookup (ig : List Val) (k : String) : ∀ (b a : List (String × Val)),
    (b.map (·.1)).Nodup →
    lookup k (mergeKVs ig a b) =
      match lookup k b with
      | some v => some (mergeAt ig k a v)
      | none => lookup k a :=
  lookup_mergeKVs ig k

/-- `mergeAt` for a leaf of `u`: it overrides, unless it is ignored and the key exists in `t` -/
theorem mergeAt_leaf (ig : List Val) (k : String) (a : List (String × Val)) (v : Val)
    (hv : ∀ s, v ≠ .dict s) :
    mergeAt ig k a v = match lookup k a with
      | some old => if ig.contains v then old else v
      | none => v := Tree.mergeAt_leaf ig k a v hv

/-- `mergeAt` for a branch of `u`: merged into the branch `t` has there (`subOf`: the empty one if `t` has a leaf or nothing) -/
theorem mergeAt_branch (ig : List Val) (k : String) (a s : List (String × Val)) :
    mergeAt ig k a (.dict s) = .dict (mergeKVs ig (subOf k a) s) := mergeAt_dict ig k a s

/-- `tree_update(t, {}) == t` -/
theorem update_empty (kvs : List (String × Val)) (ig : List Val) :
    update (.dict kvs) (.dict []) ig = .ok (.dict kvs) := by
  rfl

/-- `tree_update(t, t) == t` (any ignore list) for `t` with distinct keys and no empty branch -/
theorem update_idem (a : List (String × Val)) (ig : List Val)
    (hw : wf (.dict a) = true) (hn : noEmpty (.dict a) = true) :
    update (.dict a) (.dict a) ig = .ok (.dict a) := by
  rw [update_is_merge a a ig hw hn, merge_self ig _ hw]

/-- the one-leaf case of `update_is_merge` -/
theorem update_one_leaf (kvs : List (String × Val)) (k : String) (v : Val) (ig : List Val)
    (hv : ∀ s, v ≠ .dict s) :
    update (.dict kvs) (.dict [(k, v)]) ig = .ok (merge ig (.dict kvs) (.dict [(k, v)])) := by
  apply update_is_merge
  · exact (wf_dict _).2 ⟨List.pairwise_singleton _ k, (wfKVs_cons k v []).2 ⟨wf.eq_2 v hv, rfl⟩⟩
  · exact (noEmptyKVs_cons k v []).2 ⟨hv [], noEmpty.eq_2 v hv, rfl⟩

/-- the one-key path write `setKVs kvs [k] v ig` leaves every other top-level key alone (`setitem_frame` for `p = [k]`) -/
theorem update_leaf_other (kvs : List (String × Val)) (k j : String) (v : Val) (ig : List Val)
    (hj : j ≠ k) : lookup j (setKVs kvs [k] v ig) = lookup j kvs :=
  lookup_setKVs_other [k] kvs v ig j (by simp [Ne.symm hj])

private def i (n : Int) : Val := .cell (.int n)
private def t0 : Val := .dict [("a", .dict [("b", i 1), ("z", .dict [("q", i 5)])]), ("c", i 3)]
private def u0 : Val := .dict [("a", .dict [("c", i 2), ("z", i 7)]), ("c", .dict [("n", .cell .none)])]

example : wf t0 = true ∧ noEmpty t0 = true := ⟨rfl, rfl⟩
example : wf u0 = true ∧ noEmpty u0 = true := ⟨rfl, rfl⟩
example : (["a", "z", "q"], i 5) ∈ items t0 := by decide
example : ((itemsToTree (items t0) [] []).toOption.map Val.dict) = some t0 := rfl
-- overlapping branches, leaf over branch, branch over leaf; update = merge; update t t = t
example : (update t0 u0 []).toOption = some (merge [] t0 u0) := rfl
example : (update t0 u0 []).toOption = some (.dict [("a", .dict [("b", i 1), ("z", i 7), ("c", i 2)]),
    ("c", .dict [("n", .cell .none)])]) := rfl
example : (update t0 t0 []).toOption = some t0 := rfl
example : (update t0 (.dict [("c", .cell .none), ("d", .cell .none)]) [.cell .none]).toOption =
    some (.dict [("a", .dict [("b", i 1), ("z", .dict [("q", i 5)])]), ("c", i 3), ("d", .cell .none)]) := rfl

/-- in the heap model of `tree_update` with `_tree_copy` (dict nodes in a heap, `copy`,
`base()`, item assignments; PygModel/TreeHeap.lean), for any heap (sharing, cycles, dangling addresses
allowed), any addresses `t`, `u` and any fuel: if the call returns, every item assignment it made
targets a node allocated during the call, so every node that existed before the call — in particular
every node reachable from `t` or `u`, at any depth — is unchanged; the result is a new node. -/
theorem update_frame (f : Nat) (m : Mem) (t u : Nat) (ig : List Val) (m' : Mem) (r : Nat)
    (h : treeUpdateH f m t u ig = .ok (m', r)) :
    (∃ writes, m'.log = writes ++ m.log ∧ ∀ a ∈ writes, m.heap.length ≤ a) ∧
    (∀ a, a < m.heap.length → m'.heap[a]? = m.heap[a]?) ∧ r = m.heap.length :=
  have ⟨hr, hs, _⟩ := treeUpdateH_safe h
  ⟨hs.log, hs.same, hr⟩

/-- whatever read back as a tree before a `tree_update` call (`readH`; in particular both operands) reads back as the same
tree after it -/
theorem update_operands_unchanged (f : Nat) (m : Mem) (t u : Nat) (ig : List Val) (m' : Mem) (r : Nat)
    (h : treeUpdateH f m t u ig = .ok (m', r)) (g : Nat) (x : Ref) (v : Val)
    (hx : readH m.heap g x = some v) : readH m'.heap g x = some v :=
  (treeUpdateH_safe h).2.1.readH (Nat.le_refl _) g x v hx

/-- freshness of the result of `tree_update`: the result is a new node, and in every dict node allocated by the call the
pointers a key lookup finds lead to nodes allocated by the call.  So, as far as key lookups see, the result shares no dict node
with `t` or `u` at any depth (a node of the heap holding a key twice keeps its shadowed entry; python dicts have none). -/
theorem update_result_fresh (f : Nat) (m : Mem) (t u : Nat) (ig : List Val) (m' : Mem) (r : Nat)
    (h : treeUpdateH f m t u ig = .ok (m', r)) :
    r = m.heap.length ∧
    ∀ x, m.heap.length ≤ x → ∀ k b, lookup k (node m' x) = some (.ptr b) → m.heap.length ≤ b :=
  ⟨(treeUpdateH_safe h).1, (treeUpdateH_safe h).2.2⟩

/-- an item assignment into a node allocated by a `tree_update` call (the result is one), made after the call, does not
change what `t`, `u` or any other tree that existed before the call read back as -/
theorem update_result_write_safe (f : Nat) (m : Mem) (t u : Nat) (ig : List Val) (m' : Mem) (r : Nat)
    (h : treeUpdateH f m t u ig = .ok (m', r)) (a : Nat) (ha : m.heap.length ≤ a) (k : String) (x : Ref)
    (g : Nat) (y : Ref) (v : Val) (hy : readH m.heap g y = some v) : readH (store m' a k x).heap g y = some v :=
  ((treeUpdateH_safe h).2.1.trans (Safe_store _ m' a k x ha)).readH (Nat.le_refl _) g y v hy

-- `t = {'a': {'b': 1}}` at address 1, `u = {'a': {'c': 2}}` at address 3
private def mF7 : Mem :=
  ⟨[[("b", .val (.cell (.int 1)))], [("a", .ptr 0)], [("c", .val (.cell (.int 2)))], [("a", .ptr 2)]], []⟩

/-- F7: `tree_update` with the one-level `copy(tree)` violates the frame property:
`t = {'a': {'b': 1}}; tree_update(t, {'a': {'c': 2}})` writes `c` into the node of `t['a']` -/
theorem update_frame_shallow_false :
    ∃ m', treeUpdateShallow 3 mF7 1 3 [] = .ok (m', 4) ∧ m'.log = [0] ∧
      m'.heap[0]? = some [("b", .val (.cell (.int 1))), ("c", .val (.cell (.int 2)))] ∧
      readH mF7.heap 3 (.ptr 1) = some (.dict [("a", .dict [("b", .cell (.int 1))])]) ∧
      readH m'.heap 3 (.ptr 1) = some (.dict [("a", .dict [("b", .cell (.int 1)), ("c", .cell (.int 2))])]) :=
  ⟨_, rfl, rfl, rfl, rfl, rfl⟩

/-- with `_tree_copy` on the same heap: the call succeeds and writes only the new nodes 4 and 5 -/
example : ∃ m', treeUpdateH 3 mF7 1 3 [] = .ok (m', 4) ∧ m'.log = [5, 4] ∧
    readH m'.heap 3 (.ptr 1) = some (.dict [("a", .dict [("b", .cell (.int 1))])]) ∧
    readH m'.heap 3 (.ptr 4) = some (.dict [("a", .dict [("b", .cell (.int 1)), ("c", .cell (.int 2))])]) :=
  ⟨_, rfl, rfl, rfl, rfl⟩

/-- the heap model refines the pure model: if `t` and `u` represent the pure trees `tv` (distinct
keys) and `uv` in the heap (`Own false`: sharing between branches allowed), the fuel covers their
depths, and the pure `tree_update` returns `w`, then the heap `tree_update` returns a new node that
represents `w` in tree shape — and reading that node back (`readH`) gives exactly `w`. -/
theorem update_abstraction (f : Nat) (m : Mem) (t u : Nat) (ig : List Val) (tv uv w : Val)
    (fpt fpu : List Nat) (ht : Own false m.heap tv (.ptr t) fpt) (hu : Own false m.heap uv (.ptr u) fpu)
    (hwt : wf tv = true) (hdt : depth tv ≤ f) (hdu : depth uv ≤ f)
    (hup : update tv uv ig = .ok w) :
    ∃ m' fp, treeUpdateH f m t u ig = .ok (m', m.heap.length) ∧
      Own true m'.heap w (.ptr m.heap.length) fp ∧
      ∀ g, depth w ≤ g → readH m'.heap g (.ptr m.heap.length) = some w := by
  obtain ⟨a, rfl⟩ := Own_ptr_dict ht
  obtain ⟨hnd, hne, rfl⟩ := update_dict_eq_ok.1 hup
  obtain ⟨m1, fp1, hcopy, hown1, _⟩ := copyH_abs f (.dict a) m t fpt ht hdt hwt
  obtain ⟨fp2, hown2⟩ := setItemsH_abs ig m.heap.length (items uv) (items_snd_leaf uv) m1 a fp1 hown1
  exact ⟨_, fp2, treeUpdateH_ok.2 ⟨_, itemsH_of_Own uv (.ptr u) fpu f hu hdu, itemsToTreeH_ok.2 ⟨hnd, hne, m1, hcopy, rfl⟩⟩,
    hown2, fun g hg => readH_of_Own _ _ fp2 g hown2 hg⟩

/-- with `update_is_merge`: on the heap, `tree_update` builds the recursive merge in new nodes -/
theorem update_heap_is_merge (f : Nat) (m : Mem) (t u : Nat) (ig : List Val) (a b : List (String × Val))
    (fpt fpu : List Nat) (ht : Own false m.heap (.dict a) (.ptr t) fpt)
    (hu : Own false m.heap (.dict b) (.ptr u) fpu)
    (hwt : wf (.dict a) = true) (hwu : wf (.dict b) = true) (hnu : noEmpty (.dict b) = true)
    (hdt : depth (.dict a) ≤ f) (hdu : depth (.dict b) ≤ f) :
    ∃ m', treeUpdateH f m t u ig = .ok (m', m.heap.length) ∧
      ∀ g, depth (merge ig (.dict a) (.dict b)) ≤ g →
        readH m'.heap g (.ptr m.heap.length) = some (merge ig (.dict a) (.dict b)) := by
  obtain ⟨m', _, h1, _, h3⟩ := update_abstraction f m t u ig _ _ _ fpt fpu ht hu hwt hdt hdu
    (update_is_merge a b ig hwu hnu)
  exact ⟨m', h1, h3⟩

/-- the hypothesis `Own false` of `update_abstraction` / `update_heap_is_merge` admits sharing: an operand whose two
branches are the same dict object (node 0) is a representation -/
example : Own false [[("b", .val (.cell (.int 1)))], [("x", .ptr 0), ("y", .ptr 0)]]
    (.dict [("x", .dict [("b", .cell (.int 1))]), ("y", .dict [("b", .cell (.int 1))])]) (.ptr 1) [1, 0, 0] := by
  have leaf : Own false [[("b", .val (.cell (.int 1)))], [("x", .ptr 0), ("y", .ptr 0)]]
      (.dict [("b", .cell (.int 1))]) (.ptr 0) [0] :=
    Own_dict.2 ⟨0, _, [], rfl, rfl, rfl, (fun e => nomatch e),
      OwnKVs_cons.2 ⟨_, _, [], [], rfl, rfl, ⟨rfl, rfl⟩, ⟨rfl, rfl⟩, (fun e => nomatch e)⟩⟩
  exact Own_dict.2 ⟨1, _, [0, 0], rfl, rfl, rfl, (fun e => nomatch e),
    OwnKVs_cons.2 ⟨.ptr 0, _, [0], [0], rfl, rfl, leaf,
      OwnKVs_cons.2 ⟨.ptr 0, _, [0], [], rfl, rfl, leaf, ⟨rfl, rfl⟩, (fun e => nomatch e)⟩, (fun e => nomatch e)⟩⟩

/-- the hypotheses of `update_heap_is_merge` can be met for every pair of pure trees, end to end: lay `t = dict a` (distinct keys) and `u = dict b` (distinct keys, no empty branch) out in
any heap, run the heap `tree_update` with enough fuel: it returns a new node that reads back as the
recursive merge, and `t` and `u` read back unchanged. -/
theorem update_on_heap (m0 : Mem) (a b : List (String × Val)) (ig : List Val)
    (hwt : wf (.dict a) = true) (hwu : wf (.dict b) = true) (hnu : noEmpty (.dict b) = true)
    (f : Nat) (hft : depth (.dict a) ≤ f) (hfu : depth (.dict b) ≤ f) :
    ∃ t u m', (allocTree m0 (.dict a)).2 = .ptr t ∧
      (allocTree (allocTree m0 (.dict a)).1 (.dict b)).2 = .ptr u ∧
      treeUpdateH f (allocTree (allocTree m0 (.dict a)).1 (.dict b)).1 t u ig =
        .ok (m', (allocTree (allocTree m0 (.dict a)).1 (.dict b)).1.heap.length) ∧
      (∀ g, depth (merge ig (.dict a) (.dict b)) ≤ g →
        readH m'.heap g (.ptr (allocTree (allocTree m0 (.dict a)).1 (.dict b)).1.heap.length) =
          some (merge ig (.dict a) (.dict b))) ∧
      readH m'.heap f (.ptr t) = some (.dict a) ∧ readH m'.heap f (.ptr u) = some (.dict b) := by
  obtain ⟨fp1, h1, _, _, _⟩ := allocTree_Own (.dict a) m0
  obtain ⟨fp2, h2, _, _, hsame2⟩ := allocTree_Own (.dict b) (allocTree m0 (.dict a)).1
  have hlt1 := Own.lt _ _ fp1 h1
  have h1' := Own.congr _ _ fp1 h1 fun x hx => hsame2 x (hlt1 x hx)
  generalize (allocTree (allocTree m0 (.dict a)).1 (.dict b)).1 = m2 at *
  cases hr1 : (allocTree m0 (.dict a)).2 with
  | val w => rw [hr1] at h1'; exact absurd rfl ((Own_val h1').2.2 a)
  | ptr t =>
    cases hr2 : (allocTree (allocTree m0 (.dict a)).1 (.dict b)).2 with
    | val w => rw [hr2] at h2; exact absurd rfl ((Own_val h2).2.2 b)
    | ptr u =>
      rw [hr1] at h1'
      rw [hr2] at h2
      obtain ⟨m', hrun, hread⟩ := update_heap_is_merge f m2 t u ig a b fp1 fp2
        (Own.weaken _ _ _ h1') (Own.weaken _ _ _ h2) hwt hwu hnu hft hfu
      exact ⟨t, u, m', rfl, rfl, hrun, hread,
        update_operands_unchanged f m2 t u ig m' _ hrun f _ _ (readH_of_Own _ _ fp1 f h1' hft),
        update_operands_unchanged f m2 t u ig m' _ hrun f _ _ (readH_of_Own _ _ fp2 f h2 hfu)⟩

section table
open Pyg.TreeTable

/-- "table_to_tree and tree_to_table with the same pattern are inverse on rows with unique paths",
direction table → tree → table, for every pattern (literal and wildcard segments anywhere, repeated names allowed, at
least two segments) and every table: if the rows bind the pattern (`rowItem` succeeds: `its` are the items `(path, leaf)`
written for the rows), the paths are distinct and the leaves are not dicts, then `table_to_tree(None, P, rows)` returns a
tree `t` such that
* `tree_to_table(t, P)` is, up to row order, exactly the table of the rows restricted to the names of `P`
  (`List.Perm`: nothing else comes out and every row comes out as often as it occurs — soundness and completeness;
  `restrict` is pinned down by `restrict_spec` below);
* every row's leaf is read back at the row's path (`tree_getitem`).
The row order is that of `tree_items` (rows sharing a first key are grouped), hence a permutation and not an equality. -/
theorem table_tree_inverse (P : List Seg) (rows : List Row) (its : List (Path × Val))
    (h2 : 2 ≤ P.length)
    (hits : rows.mapM (rowItem P) = .ok its)
    (hnd : (its.map (·.1)).Nodup)
    (hleaf : ∀ pv ∈ its, ∀ s, pv.2 ≠ .dict s) :
    ∃ t, toTree P rows = .ok t ∧
      (toTable P (.dict t)).Perm (rows.map (restrict P)) ∧
      (∀ pv ∈ its, getItem (.dict t) pv.1 = .ok pv.2) := by
  have hlen : ∀ pv ∈ its, pv.1.length + 1 = P.length := by
    intro pv hm
    obtain ⟨row, _, hrow⟩ := List.mem_of_mapM_ok hits pv hm
    exact rowItem_length P row pv hrow
  have hne : ∀ pv ∈ its, pv.1 ≠ [] := by
    intro pv hm e
    have := hlen pv hm
    rw [e] at this
    simp at this; omega
  have hbr : (its.map (·.1)).Pairwise Branch :=
    pairwise_branch_of_nodup (n := P.length - 1) (fun p hp => by
      obtain ⟨x, hx, rfl⟩ := List.mem_map.1 hp
      have := hlen x hx
      omega) hnd
  have hU : Uni (P.length - 1) (.dict (buildOn [] its)) := by
    have e : P.length - 1 = P.length - 2 + 1 := by omega
    rw [e]
    exact Uni_buildOn _ its [] (Uni_empty _) fun pv hm => ⟨by have := hlen pv hm; omega, hleaf pv hm⟩
  refine ⟨buildOn [] its, toTree_eq_buildOn P rows its [] hits hne, ?_, build_reads_back its [] hbr hne⟩
  rw [toTable_eq_filterMap P _ (by intro e; rw [e] at h2; simp at h2) hU, ← filterMap_rowOf_of_mapM P rows its hits]
  exact (items_buildOn_branch its [] (fun pv hm => ⟨hne pv hm, hleaf pv hm⟩) hbr fun _ _ _ h => nomatch h).filterMap _

-- `'markets/%market/weight/%weight'` with two rows (columns in a different order, an extra column): the rows bind the
-- pattern to two distinct paths with non-dict leaves (`hits`); the row made of an item; the tree built; the restricted rows
private def exP : List Seg := [.lit "markets", .wild "market", .lit "weight", .wild "weight"]
private def exRows : List Row :=
  [[("market", .cell (.str "TY")), ("weight", .cell (.int 3)), ("zzz", .cell .none)],
   [("weight", .cell (.int 7)), ("market", .cell (.str "ES"))]]
example : exRows.mapM (rowItem exP) = .ok [(["markets", "TY", "weight"], .cell (.int 3)), (["markets", "ES", "weight"], .cell (.int 7))] := rfl
example : rowOf exP ["markets", "ES", "weight"] (.cell (.int 7)) = some [("weight", .cell (.int 7)), ("market", .cell (.str "ES"))] := rfl
example : toTree exP exRows = .ok [("markets", .dict [("TY", .dict [("weight", .cell (.int 3))]), ("ES", .dict [("weight", .cell (.int 7))])])] := rfl
example : exRows.map (restrict exP) = [[("weight", .cell (.int 3)), ("market", .cell (.str "TY"))],
    [("weight", .cell (.int 7)), ("market", .cell (.str "ES"))]] := rfl

/-- `rowOf P (rowItem P row) = row` on the pattern's names: the row `tree_to_table` makes of the item that
`table_to_tree` writes for `row` is `row` restricted to the names of `P` -/
theorem rowOf_rowItem_restrict (P : List Seg) (row : Row) (pv : Path × Val) (h : rowItem P row = .ok pv) :
    rowOf P pv.1 pv.2 = some (restrict P row) :=
  rowOf_of_segs row P pv.1 pv.2 ((rowItem_ok_iff P row pv.1 pv.2).1 h)

/-- what "restricted to the names of `P`" is: cell by cell the row's cell for a name of the pattern and nothing for any
other column, no column twice; and for a pattern with distinct names the columns are the names, last wildcard first
(the order in which `tree_to_table` updates its row dicts) -/
theorem restrict_spec (P : List Seg) (row : Row) :
    (∀ m, lookup m (restrict P row) = if m ∈ names P then lookup m row else none) ∧
    ((restrict P row).map (·.1)).Nodup ∧
    ((names P).Nodup → restrict P row = (names P).reverse.filterMap fun n => (lookup n row).map fun x => (n, x)) :=
  ⟨fun m => restrict_lookup row m P, restrict_keys_nodup row P, restrict_eq_of_nodup row P⟩

/-- the completeness half on its own: the row of every item written is in `tree_to_table(t, P)` -/
theorem table_tree_rows_complete (P : List Seg) (rows : List Row) (its : List (Path × Val))
    (h2 : 2 ≤ P.length) (hits : rows.mapM (rowItem P) = .ok its) (hnd : (its.map (·.1)).Nodup)
    (hleaf : ∀ pv ∈ its, ∀ s, pv.2 ≠ .dict s) :
    ∃ t, toTree P rows = .ok t ∧ ∀ pv ∈ its, ∀ r, rowOf P pv.1 pv.2 = some r → r ∈ toTable P (.dict t) := by
  obtain ⟨t, ht, hp, _⟩ := table_tree_inverse P rows its h2 hits hnd hleaf
  refine ⟨t, ht, ?_⟩
  intro pv hm r hr
  obtain ⟨row, hrow, hi⟩ := List.mem_of_mapM_ok hits pv hm
  rw [rowOf_rowItem_restrict P row pv hi] at hr
  cases hr
  exact hp.mem_iff.2 (List.mem_map.2 ⟨row, hrow, rfl⟩)

/-- the hypothesis "distinct paths" is needed: two rows with one path, the later leaf overwrites the earlier -/
theorem table_tree_inverse_dup_path_false :
    let P : List Seg := [.wild "a", .wild "b"]
    let rows : List Row := [[("a", .cell (.str "x")), ("b", .cell (.int 1))], [("a", .cell (.str "x")), ("b", .cell (.int 2))]]
    (toTree P rows).map (fun t => toTable P (.dict t)) = .ok [[("b", .cell (.int 2)), ("a", .cell (.str "x"))]] := rfl

/-- the hypothesis "leaves are not dicts" is needed: a dict leaf is a branch for `tree_to_table`, the last wildcard
then binds its keys -/
theorem table_tree_inverse_dict_leaf_false :
    let P : List Seg := [.wild "a", .wild "b"]
    let rows : List Row := [[("a", .cell (.str "x")), ("b", .dict [("k", .cell (.int 1))])]]
    (toTree P rows).map (fun t => toTable P (.dict t)) = .ok [[("b", .cell (.str "k")), ("a", .cell (.str "x"))]] := rfl

/-- the direction tree → table → tree, for every pattern of at least two segments with
distinct names and every tree (a dict) with distinct keys in every branch, no empty branch below the root, all of whose
items match the pattern (`rowOf` is defined on them): `table_to_tree(None, P, tree_to_table(t, P)) == t` (same key
order).  Distinct names, matching items and "no empty branch" are needed: see the three `…_false` witnesses below; a
one-segment pattern has no place for a leaf (`table_to_tree` raises `ValueError`). -/
theorem tree_table_inverse (P : List Seg) (kvs : List (String × Val))
    (h2 : 2 ≤ P.length) (hn : (names P).Nodup)
    (hw : wf (.dict kvs) = true) (hne : noEmpty (.dict kvs) = true)
    (hm : ∀ pv ∈ items (.dict kvs), (rowOf P pv.1 pv.2).isSome = true) :
    toTree P (toTable P (.dict kvs)) = .ok kvs := by
  have hrow : ∀ pv ∈ items (.dict kvs), ∃ r, rowOf P pv.1 pv.2 = some r := fun pv hpv =>
    Option.isSome_iff_exists.1 (hm pv hpv)
  have hlen : ∀ pv ∈ items (.dict kvs), pv.1.length = P.length - 1 := by
    intro pv hpv
    obtain ⟨r, hr⟩ := hrow pv hpv
    have := rowOf_length P pv.1 pv.2 r hr
    omega
  have hU : Uni (P.length - 1) (.dict kvs) :=
    Uni_of_items (P.length - 1) (.dict kvs) hw hne hlen (fun e => by omega)
  have hP : P ≠ [] := by intro e; rw [e] at h2; simp at h2
  rw [toTable_eq_filterMap P _ hP hU]
  have hmap : ((items (.dict kvs)).filterMap fun pv => rowOf P pv.1 pv.2).mapM (rowItem P) = .ok (items (.dict kvs)) := by
    apply mapM_filterMap_inv
    intro pv hpv
    obtain ⟨r, hr⟩ := hrow pv hpv
    exact ⟨r, hr, rowItem_rowOf P pv.1 pv.2 r hn hr⟩
  exact (toTree_eq_buildOn P _ (items (.dict kvs)) [] hmap (itemsKVs_path_ne kvs)).trans
    (congrArg Except.ok ((buildOn_eq_build [] _).trans ((build_kvs [] kvs hne []).trans (mergeKVs_nil_left [] kvs hw))))

-- the hypotheses of `tree_table_inverse` hold of this tree and `exP`, and so does its conclusion
private def exT : List (String × Val) :=
  [("markets", .dict [("TY", .dict [("weight", .cell (.int 3))]), ("ES", .dict [("weight", .cell (.int 7))])])]
example : wf (.dict exT) = true ∧ noEmpty (.dict exT) = true ∧ (names exP).Nodup ∧
    ∀ pv ∈ items (.dict exT), (rowOf exP pv.1 pv.2).isSome = true := by decide
example : toTree exP (toTable exP (.dict exT)) = .ok exT := rfl

/-- "all items match" is needed: a sibling key that does not match the literal is lost
(`{'a': 1, 'b': 2}` with `'a/%x'` comes back as `{'a': 1}`) -/
theorem tree_table_inverse_sibling_false :
    let P : List Seg := [.lit "a", .wild "x"]
    toTree P (toTable P (.dict [("a", .cell (.int 1)), ("b", .cell (.int 2))])) = .ok [("a", .cell (.int 1))] := rfl

/-- "distinct names" is needed: with `'%a/%a/%b'` the item `x/y/1` has a row (`rowOf` is defined: the outer key wins the
column `a`), but that row is written back at `x/x` -/
theorem tree_table_inverse_dup_names_false :
    (∀ pv ∈ items (.dict [("x", .dict [("y", .cell (.int 1))])]),
      (rowOf [.wild "a", .wild "a", .wild "b"] pv.1 pv.2).isSome = true) ∧
    toTree [.wild "a", .wild "a", .wild "b"] (toTable [.wild "a", .wild "a", .wild "b"]
      (.dict [("x", .dict [("y", .cell (.int 1))])])) = .ok [("x", .dict [("x", .cell (.int 1))])] := by
  refine ⟨?_, rfl⟩
  decide

/-- "no empty branch" is needed: an empty branch has no items, hence no rows -/
theorem tree_table_inverse_empty_branch_false :
    let P : List Seg := [.wild "a", .wild "b"]
    toTree P (toTable P (.dict [("x", .dict [])])) = .ok [] := rfl

/-- `table_to_tree(tree, pattern, rows, base = type(tree))` on the heap (with `_tree_copy`; the sibling of `update_frame`): every item
assignment targets a node allocated during the call, every node that existed before — the caller's tree at any depth — is unchanged,
the result is a new node and, as far as key lookups see, shares no dict node with the caller's tree -/
theorem table_to_tree_frame (f : Nat) (m : Mem) (its : List (Path × Val)) (t : Nat) (m' : Mem) (r : Nat)
    (h : tableToTreeH f m its t = .ok (m', r)) :
    (∃ writes, m'.log = writes ++ m.log ∧ ∀ a ∈ writes, m.heap.length ≤ a) ∧
    (∀ a, a < m.heap.length → m'.heap[a]? = m.heap[a]?) ∧ r = m.heap.length ∧
    (∀ x, m.heap.length ≤ x → ∀ k b, lookup k (node m' x) = some (.ptr b) → m.heap.length ≤ b) ∧
    ∀ g y v, readH m.heap g y = some v → readH m'.heap g y = some v := by
  obtain ⟨m1, hc, rfl⟩ := tableToTreeH_ok h
  obtain ⟨hr, hs, hc⟩ := copy_setItems_safe hc its []
  exact ⟨hs.log, hs.same, hr, hc, fun g y v hy => hs.readH (Nat.le_refl _) g y v hy⟩

-- `t = {'m': {'TY': {'w': 1}}}` at address 2
private def mT : Mem := ⟨[[("w", .val (.cell (.int 1)))], [("TY", .ptr 0)], [("m", .ptr 1)]], []⟩

/-- C15-T1: `table_to_tree` with the one-level `copy(tree)` violates `table_to_tree_frame`: `t = {'m': {'TY': {'w': 1}}}`,
`table_to_tree(t, 'm/%k/w/%w', [dict(k = 'TY', w = 9)])` writes `w = 9` into the node of `t['m']['TY']` -/
theorem table_to_tree_frame_shallow_false :
    ∃ m', tableToTreeShallow mT [(["m", "TY", "w"], .cell (.int 9))] 2 = .ok (m', 3) ∧ m'.log = [0] ∧
      readH mT.heap 4 (.ptr 2) = some (.dict [("m", .dict [("TY", .dict [("w", .cell (.int 1))])])]) ∧
      readH m'.heap 4 (.ptr 2) = some (.dict [("m", .dict [("TY", .dict [("w", .cell (.int 9))])])]) :=
  ⟨_, rfl, rfl, rfl, rfl⟩

/-- with `_tree_copy` on the same heap the call writes only new nodes and leaves the caller's tree as it was -/
example : ∃ m', tableToTreeH 4 mT [(["m", "TY", "w"], .cell (.int 9))] 2 = .ok (m', 3) ∧ (∀ a ∈ m'.log, 3 ≤ a) ∧
    readH m'.heap 4 (.ptr 2) = some (.dict [("m", .dict [("TY", .dict [("w", .cell (.int 1))])])]) ∧
    readH m'.heap 4 (.ptr 3) = some (.dict [("m", .dict [("TY", .dict [("w", .cell (.int 9))])])]) :=
  ⟨_, rfl, by decide, rfl, rfl⟩

/-- `table_to_tree(None, …)` is the base-tree form on the empty tree -/
theorem toTree_eq_toTreeOn (P : List Seg) (rows : List Row) : toTree P rows = toTreeOn [] P rows := rfl

/-- `table_to_tree(tree, P, rows)` as a value: when the rows bind the pattern (items `its`, none with an empty path — patterns of
at least two segments) it is the sequence of path writes of the items into the base tree; with pairwise branching paths every
item is read back at its path, and every leaf of the base tree whose path branches off all written paths is still there -/
theorem table_to_tree_on_base (base : List (String × Val)) (P : List Seg) (rows : List Row) (its : List (Path × Val))
    (hits : rows.mapM (rowItem P) = .ok its) (hne : ∀ pv ∈ its, pv.1 ≠ []) :
    toTreeOn base P rows = .ok (buildOn base its) ∧
    ((its.map (·.1)).Pairwise Branch → ∀ pv ∈ its, getItem (.dict (buildOn base its)) pv.1 = .ok pv.2) ∧
    ∀ p w, (∀ pv ∈ its, Branch pv.1 p) → getItem (.dict base) p = .ok w → getItem (.dict (buildOn base its)) p = .ok w :=
  ⟨toTree_eq_buildOn P rows its base hits hne, fun hp => build_reads_back its base hp hne,
   fun p w hb hg => build_keeps [] p w its base hb hg⟩

end table

end Pyg.Props.C15
