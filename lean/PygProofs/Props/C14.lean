/-
  C14 — eq is a NaN-aware, type-strict equivalence on values, containers and pandas.

  The model has no object identity, so "x and a structural copy of x that holds different NaN
  objects" are the same `EVal`: reflexivity *is* copy-equality.
-/
import PygProofs.Lemmas.EqDictLemmas
import PygProofs.Lemmas.EqRLemmas
import PygProofs.Lemmas.ResDec

namespace Pyg.Props.C14
open Pyg Pyg.EqM Pyg.EqRM

-- shorthands of the examples; a `flt` cell counts quarters, so `f 4` is `1.0` and equals `i 1`
private def nan : EVal := .cell .nan
private def i (n : Int) : EVal := .cell (.int n)
private def f (q : Int) : EVal := .cell (.flt q)

/-- `eq` is defined on every pair and returns a boolean (the model is a total function into `Bool`;
the implementation side of "never raises" is observed by the correspondence check). -/
theorem eq_bool (a b : EVal) : eq a b = true ∨ eq a b = false := by
  cases eq a b <;> simp

/-- reflexivity, NaN at any depth included - in cells and (axis labels are compared
one by one with `eq`, fix C14-F4) also in the index / column labels of pandas objects. -/
theorem eq_refl (a : EVal) : eq a a = true :=
  eqN_refl _

theorem eq_symm (a b : EVal) : eq a b = eq b a := eqN_symm _ _

theorem eq_trans (a b c : EVal) : eq a b = true → eq b c = true → eq a c = true :=
  eqN_trans _ _ _

theorem eq_congr (a b c : EVal) (h : eq a b = true) : eq a c = eq b c :=
  Bool.eq_iff_iff.2 ⟨eq_trans b a c ((eq_symm b a).trans h), eq_trans a b c h⟩

-- NaN at depth, int == float, dict items in another order
example : eq (.list [i 1, .tuple [nan, .dict 0 [("b", nan), ("a", f 8)]]])
    (.list [f 4, .tuple [nan, .dict 0 [("a", i 2), ("b", nan)]]]) = true := by decide
-- the hypotheses of `eq_trans` hold on non-trivial values
example : eq (.arr [2] [i 1, nan]) (.arr [2] [f 4, nan]) = true ∧
    eq (.arr [2] [f 4, nan]) (.arr [2] [.cell (.bool true), nan]) = true := by decide

/-- a float NaN equals exactly the float NaNs -/
theorem nan_eq (c : Cell) : eq (.cell .nan) (.cell c) = (c == .nan) := by
  cases c <;> rfl

/-- NaT (`pd.NaT`, which `np.datetime64('NaT')` / `np.timedelta64('NaT')` are read as, fix C14-F6) equals exactly NaT: a copy of
itself, and nothing else - not the float NaN, not `None` -/
theorem nat_eq (b : EVal) : eq .nat b = true ↔ b = .nat :=
  eq_rigid rfl b

/-- a duration (`timedelta`, `pd.Timedelta`, `np.timedelta64` in the units pandas holds: W, D, h, m, s, ms, us, ns - NOT years / months,
see `cdelta_eq`, and not ps / fs / as, see `ftd_eq`) equals exactly the same duration: never a number
(numpy's own `==` says `np.timedelta64(1, 'D') == 1`; `eq` does not go through it, fix C14-F6), never a container -/
theorem tdelta_eq (d : Int) (b : EVal) : eq (.tdelta d) b = true ↔ b = .tdelta d :=
  eq_rigid rfl b

/-- an `np.timedelta64` in YEARS or MONTHS (`cdelta m` = `m` months, a year is 12) equals exactly the year / month durations of as
many months: never a number (numpy: `1 == timedelta64(1,'Y') == timedelta64(12,'M') == 12`, an intransitive chain that `eq` does not follow, fix C14-F9),
never a `tdelta` (numpy has no common unit for months and days), never a container -/
theorem cdelta_eq (m : Int) (b : EVal) : eq (.cdelta m) b = true ↔ b = .cdelta m :=
  eq_rigid rfl b

/-- that chain on the model: one year is twelve months, and neither is the number that counts it -/
example : eq (.cell (.int 1)) (.cdelta 12) = false ∧ eq (.cdelta (12 * 1)) (.cdelta 12) = true ∧ eq (.cdelta 12) (.cell (.int 12)) = false
    ∧ eq (.cdelta 12) (.tdelta 12) = false ∧ eq (.arr [1] [.cdelta 12]) (.arr [1] [.cell (.int 12)]) = false := by decide

/-- an `np.datetime64` in `ps` / `fs` / `as` (fix C14-F10; `fdt a` = the instant in attoseconds) equals exactly the fine `np.datetime64` of the same
instant: never a `datetime` / `Timestamp` / coarser `np.datetime64` (the `dt` cell; `Timestamp.__eq__` truncates to ns, so through `==` `datetime(1970,1,1)`,
`Timestamp(0)` and `datetime64(0,'ps')` form an intransitive chain and 0 ps and 1 ps both equal `Timestamp(0)`), never a number, a date or a container -/
theorem fdt_eq (a : Int) (b : EVal) : eq (.fdt a) b = true ↔ b = .fdt a :=
  eq_rigid rfl b

/-- that chain on the model: the Timestamp equals the datetime (one `dt` cell), neither equals the picosecond value at the same instant;
1 ps is 1000 fs; 0 ps and 1 ps differ; cell by cell in arrays and lists -/
example : eq (.cell (.dt 0)) (.fdt 0) = false ∧ eq (.fdt 0) (.cell (.dt 0)) = false ∧ eq (.fdt (1000000 * 1)) (.fdt (1000 * 1000)) = true
    ∧ eq (.fdt 0) (.fdt 1000000) = false ∧ eq (.fdt 0) (.cell (.int 0)) = false ∧ eq (.fdt 0) (.date 0) = false
    ∧ eq (.arr [1] [.fdt 0]) (.arr [1] [.cell (.dt 0)]) = false ∧ eq (.list [.fdt 0]) (.list [.fdt 0]) = true := by decide

/-- an `np.timedelta64` in `ps` / `fs` / `as` (`ftd a` = the duration in attoseconds; the branch of fix C14-F9) equals exactly the
fine `np.timedelta64` of the same duration: never a `timedelta` / `pd.Timedelta` / coarser `np.timedelta64` (`1000 ps` is not `eq` to `1 ns`: pandas holds the one,
not the other), never a year / month duration, never the number that counts it, never a fine `np.datetime64` -/
theorem ftd_eq (a : Int) (b : EVal) : eq (.ftd a) b = true ↔ b = .ftd a :=
  eq_rigid rfl b

example : eq (.ftd (1000000 * 1)) (.ftd (1000 * 1000)) = true ∧ eq (.ftd 1000000000) (.tdelta 0) = false ∧ eq (.ftd 0) (.tdelta 0) = false
    ∧ eq (.ftd 1) (.cell (.int 1)) = false ∧ eq (.cell (.int 1)) (.ftd 1) = false ∧ eq (.ftd 0) (.cdelta 0) = false ∧ eq (.ftd 0) (.fdt 0) = false
    ∧ eq (.arr [1] [.ftd 1000000]) (.arr [1] [.ftd 1000000]) = true ∧ eq (.arr [1] [.ftd 1]) (.arr [1] [.cell (.int 1)]) = false := by decide

/-- a date equals exactly that date: not the datetime (`Timestamp`, `np.datetime64` of any unit) at its midnight -/
theorem date_eq (d : Int) (b : EVal) : eq (.date d) b = true ↔ b = .date d :=
  eq_rigid rfl b

-- NaT inside containers: a structural copy is eq; NaT is not NaN
example : eq (.arr [2] [.cell (.dt 5), .nat]) (.arr [2] [.cell (.dt 5), .nat]) = true := by decide
example : eq .nat (.cell .nan) = false ∧ eq (.cell .nan) .nat = false ∧ eq (.tdelta 1) (.cell (.int 1)) = false := by decide
-- a date is not the datetime at its midnight
example : eq (.date 5) (.cell (.dt 5)) = false := by decide

/-- type strictness: `eq` is False whenever the kinds differ (`EVal.kind` = constructor, plus the exact class for dicts and for list / tuple
subclasses; all scalars are one kind): list vs tuple vs array vs Series vs DataFrame vs dict, a dict vs a dict subclass, a namedtuple vs the
plain tuple or another subclass, a `pd.Index` vs the list / array / Series of its labels, a scalar vs any container. -/
theorem eq_type_strict (a b : EVal) (h : a.kind ≠ b.kind) : eq a b = false :=
  Bool.eq_false_iff.2 fun he => h (eq_kind he)

-- the hypothesis of `eq_type_strict`: list vs tuple, dict vs dict subclass, scalar vs 0-d array
example : (EVal.list [i 1]).kind ≠ (EVal.tuple [i 1]).kind := by decide
example : (EVal.dict 0 [("a", i 1)]).kind ≠ (EVal.dict 1 [("a", i 1)]).kind := by decide
example : (i 1).kind ≠ (EVal.arr [] [i 1]).kind := by decide

/-- lists / tuples: equal iff same length and all elements equal -/
theorem eq_list (xs ys : List EVal) : eq (.list xs) (.list ys) = all2 eq xs ys :=
  eqArr_normList xs ys

theorem eq_tuple (xs ys : List EVal) : eq (.tuple xs) (.tuple ys) = all2 eq xs ys :=
  eqArr_normList xs ys

/-- instances of list / tuple subclasses (namedtuples, `class L(list)`): the unfolding equation - same class, same length, all elements `eq` -/
theorem eq_sub (c d : Nat) (xs ys : List EVal) : eq (.sub c xs) (.sub d ys) = (c == d && all2 eq xs ys) :=
  congrArg (c == d && ·) (eqArr_normList xs ys)

/-- **list / tuple subclasses, as an iff through observations**: an instance of subclass `c` is `eq` to exactly the instances of THE SAME class with
the same length and an `eq` element at every position - never to a plain list or tuple holding the same elements (`eq(P(1,2), (1,2))` is False although
python's `==` is True), never to an instance of another subclass, an array, a scalar. -/
theorem eq_sub_iff (c : Nat) (xs : List EVal) (b : EVal) :
    eq (.sub c xs) b = true ↔ ∃ ys, b = .sub c ys ∧ xs.length = ys.length ∧ ∀ k (h1 : k < xs.length) (h2 : k < ys.length), eq xs[k] ys[k] = true := by
  refine eq_seq_iff (C := .sub c) (fun h => ?_) (fun ys => by rw [eq_sub, beq_self_eq_true, Bool.true_and])
  cases b
  case sub d ys =>
    rw [eq_sub, Bool.and_eq_true, beq_iff_eq] at h
    exact ⟨ys, h.1 ▸ rfl⟩
  all_goals cases h

/-- the same for the plain containers (the clause "False whenever container types differ (list vs tuple ...)" as an iff) -/
theorem eq_list_iff (xs : List EVal) (b : EVal) :
    eq (.list xs) b = true ↔ ∃ ys, b = .list ys ∧ xs.length = ys.length ∧ ∀ k (h1 : k < xs.length) (h2 : k < ys.length), eq xs[k] ys[k] = true := by
  refine eq_seq_iff (C := .list) (fun h => ?_) (eq_list xs)
  cases b
  case list ys => exact ⟨ys, rfl⟩
  all_goals cases h

theorem eq_tuple_iff (xs : List EVal) (b : EVal) :
    eq (.tuple xs) b = true ↔ ∃ ys, b = .tuple ys ∧ xs.length = ys.length ∧ ∀ k (h1 : k < xs.length) (h2 : k < ys.length), eq xs[k] ys[k] = true := by
  refine eq_seq_iff (C := .tuple) (fun h => ?_) (eq_tuple xs)
  cases b
  case tuple ys => exact ⟨ys, rfl⟩
  all_goals cases h

-- a namedtuple `P(1, nan)` (class 1): eq to a copy with another NaN object and with `1.0` for `1`, not to the tuple, not to `Q(1, nan)` (class 2),
-- not to the list subclass instance (class 3); an empty list-subclass instance is not the empty list
example : eq (.sub 1 [.cell (.int 1), .cell .nan]) (.sub 1 [.cell (.flt 4), .cell .nan]) = true
    ∧ eq (.sub 1 [.cell (.int 1), .cell .nan]) (.tuple [.cell (.int 1), .cell .nan]) = false
    ∧ eq (.tuple [.cell (.int 1), .cell .nan]) (.sub 1 [.cell (.int 1), .cell .nan]) = false
    ∧ eq (.sub 1 [.cell (.int 1), .cell .nan]) (.sub 2 [.cell (.int 1), .cell .nan]) = false
    ∧ eq (.sub 3 []) (.list []) = false ∧ eq (.sub 3 []) (.sub 3 []) = true ∧ eq (.sub 3 []) (.sub 4 []) = false
    ∧ eq (.sub 1 [.cell (.int 1)]) (.sub 1 [.cell (.int 1), .cell (.int 2)]) = false := by decide

/-- arrays are equal only if (and if) shape and all cells match -/
theorem eq_arr (s t : List Nat) (xs ys : List EVal) :
    eq (.arr s xs) (.arr t ys) = (s == t && all2 eq xs ys) :=
  congrArg (s == t && ·) (eqArr_normList xs ys)

-- shapes matter although the cells agree
example : eq (.arr [2, 1] [i 1, i 2]) (.arr [1, 2] [i 1, i 2]) = false := by decide

/-- pandas objects are equal only if (and if) index, columns and all cells match -/
theorem eq_series (i j : List Cell) (xs ys : List EVal) :
    eq (.series i xs) (.series j ys) = (idxEq i j && all2 eq xs ys) :=
  congrArg (idxEq i j && ·) (eqArr_normList xs ys)

theorem eq_frame (i j c d : List Cell) (xs ys : List EVal) :
    eq (.frame i c xs) (.frame j d ys) = (idxEq i j && idxEq c d && all2 eq xs ys) :=
  congrArg (idxEq i j && idxEq c d && ·) (eqArr_normList xs ys)

example : eq (.series [.int 0, .int 1] [i 1, i 2]) (.series [.int 1, .int 2] [i 1, i 2]) = false := by decide
example : eq (.frame [.int 0] [.str "a"] [i 1]) (.frame [.int 0] [.str "b"] [i 1]) = false := by decide

/-- labels that match are equally many and pairwise `cellEq` (`==`, or both NaN); `idxEq_iff` is the equivalence -/
theorem idxEq_spec (i j : List Cell) (h : idxEq i j = true) :
    i.length = j.length ∧ ∀ k (h1 : k < i.length) (h2 : k < j.length), cellEq i[k] j[k] = true :=
  (all2_iff_get cellEq i j).1 h

/-- axis labels match iff there are equally many and the labels at every position are the same (`==`, or both NaN) -/
theorem idxEq_iff (i j : List Cell) : idxEq i j = true ↔ LabelsSame i j := by
  simp only [idxEq, LabelsSame, all2_iff_get, cellEq_iff_same]

/-- a `pd.Index` as a value: the unfolding equation - the labels one by one (NaN-aware; a string label is no datetime label) -/
theorem eq_index (i j : List Cell) : eq (.index i) (.index j) = idxEq i j := by
  simp only [eq, EVal.norm, eqN]

/-- **`pd.Index` as a value, as an iff**: an Index is `eq` to exactly the Index objects with the same number of labels and the same label at every position
(`LabelsSame`: NaN with NaN, otherwise python `==`) - never to the list, tuple, array or Series of its labels, never to a scalar.  The SUBCLASS of the Index
(`RangeIndex`, `DatetimeIndex`, ...) is not part of the value: the branch tests `isinstance(y, pd.Index)`, which is what makes a Series over a `RangeIndex`
`eq` to the same Series over `Index([0, 1, ...])`. -/
theorem eq_index_iff (i : List Cell) (b : EVal) : eq (.index i) b = true ↔ ∃ j, b = .index j ∧ LabelsSame i j := by
  constructor
  · intro h
    cases b
    case index j => exact ⟨j, rfl, (idxEq_iff i j).1 h⟩
    all_goals cases h
  · rintro ⟨j, rfl, h⟩
    exact (idxEq_iff i j).2 h

/-- two Series / two DataFrames are `eq` only if their axes are `eq` AS VALUES: the axis comparison inside the pandas branch is the `pd.Index` branch -/
theorem eq_series_index (i j : List Cell) (xs ys : List EVal) (h : eq (.series i xs) (.series j ys) = true) : eq (.index i) (.index j) = true := by
  rw [eq_series, Bool.and_eq_true] at h; rw [eq_index]; exact h.1

theorem eq_frame_index (i j c d : List Cell) (xs ys : List EVal) (h : eq (.frame i c xs) (.frame j d ys) = true) :
    eq (.index i) (.index j) = true ∧ eq (.index c) (.index d) = true := by
  rw [eq_frame, Bool.and_eq_true, Bool.and_eq_true] at h; rw [eq_index, eq_index]; exact h.1

example : eq (.index [.int 1, .nan]) (.index [.flt 4, .nan]) = true ∧ eq (.index [.int 1]) (.list [.cell (.int 1)]) = false
    ∧ eq (.list [.cell (.int 1)]) (.index [.int 1]) = false ∧ eq (.index [.int 1]) (.arr [1] [.cell (.int 1)]) = false
    ∧ eq (.index [.int 0]) (.series [.int 0] [.cell (.int 0)]) = false ∧ eq (.cell (.int 1)) (.index [.int 1]) = false
    ∧ eq (.index []) (.index []) = true ∧ eq (.index [.int 1, .int 2]) (.index [.int 1]) = false
    ∧ eq (.index [.str "2020-01-01"]) (.index [.dt 63713433600000000]) = false := by decide

-- NaN labels are labels like any other; a string label is not the datetime it spells
example : eq (.series [.nan] [i 1]) (.series [.nan] [i 1]) = true := by decide
example : eq (.series [.str "2020-01-01"] [i 1]) (.series [.dt 63713433600000000] [i 1]) = false := by decide

/-- dicts are equal only if the exact classes, the sizes and the key sets agree -/
theorem eq_dict_class (c d : Nat) (a b : List (String × EVal)) (h : eq (.dict c a) (.dict d b) = true) :
    c = d ∧ a.length = b.length ∧ ∀ k, (k ∈ a.map (·.1) ↔ k ∈ b.map (·.1)) := by
  rw [eq_dict, Bool.and_eq_true, beq_iff_eq] at h
  -- the sorted item lists have the same keys, and sorting permutes
  have hp : (a.map (·.1)).Perm (b.map (·.1)) :=
    ((sortK_perm a).map _).symm.trans (all2_itemRel_keys eq _ _ h.2 ▸ (sortK_perm b).map _)
  exact ⟨h.1, by simpa only [List.length_map] using hp.length_eq, fun k => hp.mem_iff⟩

/-- dicts are equal exactly if they are the same mapping up to `eq`: same exact class, same size, and every item of the left is
found under its key on the right with an `eq` value - for ALL values (NaN, arrays, pandas objects, subclasses inside), whatever
the insertion orders.  (`eq_dict_class` is the class / size / key-set part; this adds the values.) -/
theorem eq_dict_iff (c d : Nat) (a b : List (String × EVal))
    (ha : (a.map (·.1)).Nodup) (hb : (b.map (·.1)).Nodup) :
    eq (.dict c a) (.dict d b) = true ↔
      c = d ∧ a.length = b.length ∧ ∀ x ∈ a, ∃ w, EVal.lookup x.1 b = some w ∧ eq x.2 w = true :=
  eq_dict_iff_mapRel c d a b ha hb

-- `eq_dict_iff` on a dict subclass holding NaN and an array, items reordered
example : eq (.dict 1 [("b", nan), ("a", .arr [2] [i 1, nan])]) (.dict 1 [("a", .arr [2] [f 4, nan]), ("b", nan)]) = true := by decide

/-- **independent specification**: `eq` decides the relation `Same` (PygProofs/Lemmas/EqDictLemmas.lean), which is given by rules that
never mention `eq`, normalisation or sorting: scalars - NaN with NaN, otherwise python `==`; list / tuple / array / Series /
DataFrame - same constructor, same shape, same axis labels (NaN label with NaN label), the same thing at every position; dicts -
same exact class, same size and, as MAPPINGS, under every key of the left the right holds the same thing.  For all values of the
universe (NaN, arrays, pandas objects, dict subclasses at any depth) whose dicts have distinct keys, as every python dict has.
This extends `eq_agrees_pyeq` (below) from NaN-free plain values to everything; a model that e.g. compared dict items in insertion
order, ignored a shape, or let a NaN label differ from itself could not satisfy it. -/
theorem eq_iff_same (a b : EVal) (ka : a.keysOk = true) (kb : b.keysOk = true) : eq a b = true ↔ Same a b := by
  induction a, b using EVal.pairInduct with
  | cell x y => exact (cellEq_iff_same x y).trans ⟨.cell, fun | .cell h => h⟩
  | date x y => exact beq_iff_eq.trans ⟨fun e => e ▸ .date x, fun | .date _ => rfl⟩
  | tdelta x y => exact beq_iff_eq.trans ⟨fun e => e ▸ .tdelta x, fun | .tdelta _ => rfl⟩
  | cdelta x y => exact beq_iff_eq.trans ⟨fun e => e ▸ .cdelta x, fun | .cdelta _ => rfl⟩
  | fdt x y => exact beq_iff_eq.trans ⟨fun e => e ▸ .fdt x, fun | .fdt _ => rfl⟩
  | ftd x y => exact beq_iff_eq.trans ⟨fun e => e ▸ .ftd x, fun | .ftd _ => rfl⟩
  | nat => exact ⟨fun _ => .nat, fun _ => rfl⟩
  | index i j => exact (idxEq_iff i j).trans ⟨.index, fun | .index h => h⟩
  | list xs ys ih =>
    rw [eq_list, all2_iff_sameL xs ys ih ka kb]
    exact ⟨.list, fun | .list h => h⟩
  | tuple xs ys ih =>
    rw [eq_tuple, all2_iff_sameL xs ys ih ka kb]
    exact ⟨.tuple, fun | .tuple h => h⟩
  | sub c d xs ys ih =>
    rw [eq_sub, Bool.and_eq_true, beq_iff_eq, all2_iff_sameL xs ys ih ka kb]
    exact ⟨fun ⟨e, h⟩ => e ▸ .sub c h, fun | .sub _ h => ⟨rfl, h⟩⟩
  | arr s t xs ys ih =>
    rw [eq_arr, Bool.and_eq_true, beq_iff_eq, all2_iff_sameL xs ys ih ka kb]
    exact ⟨fun ⟨e, h⟩ => e ▸ .arr s h, fun | .arr _ h => ⟨rfl, h⟩⟩
  | series i j xs ys ih =>
    rw [eq_series, Bool.and_eq_true, idxEq_iff, all2_iff_sameL xs ys ih ka kb]
    exact ⟨fun ⟨hi, h⟩ => .series hi h, fun | .series hi h => ⟨hi, h⟩⟩
  | frame i j c d xs ys ih =>
    rw [eq_frame, Bool.and_eq_true, Bool.and_eq_true, idxEq_iff, idxEq_iff, all2_iff_sameL xs ys ih ka kb]
    exact ⟨fun ⟨⟨hi, hc⟩, h⟩ => .frame hi hc h, fun | .frame hi hc h => ⟨⟨hi, hc⟩, h⟩⟩
  | dict c d xs ys ih =>
    simp only [EVal.keysOk, Bool.and_eq_true, decide_eq_true_eq, EVal.keysOkKVs_eq] at ka kb
    rw [eq_dict_iff_mapRel c d xs ys ka.1 kb.1, same_dict_iff c d xs ys kb.1]
    exact and_congr_right fun _ => MapRel.congr fun v hv w hw => ih v hv w hw (keysOkList_mem ka.2 v hv) (keysOkList_mem kb.2 w hw)
  | other a b h => exact ⟨fun he => absurd (eq_ctorIdx he) h, fun hs => absurd hs.ctorIdx_eq h⟩

-- `Same` is inhabited on non-trivial values (through eq_iff_same) and refuted on others
example : Same (.dict 1 [("b", nan), ("a", .series [.nan, .int 1] [i 1, nan])]) (.dict 1 [("a", .series [.nan, .flt 4] [f 4, nan]), ("b", nan)]) :=
  (eq_iff_same _ _ (by decide) (by decide)).1 (by decide)
example : ¬ Same (.arr [2, 1] [i 1, i 2]) (.arr [1, 2] [i 1, i 2]) :=
  fun h => absurd ((eq_iff_same _ _ (by decide) (by decide)).2 h) (by decide)

/-- on NaN-free plain values `eq` agrees with Python `==` (`pyEqV`): for ALL values built from None,
bools, ints, floats other than NaN, strings, datetimes, dates and arbitrarily nested lists, tuples
and plain dicts (`EVal.plain`), every dict having distinct (string) keys as every python dict has
(`EVal.keysOk`).  On dicts `eq` compares the key-sorted item lists position by position while
python compares mappings (same size, every item of the left found on the right, whatever the
insertion orders); the two coincide because the key-sorted form of a mapping is unique. -/
theorem eq_agrees_pyeq (a b : EVal) (ha : a.plain = true) (hb : b.plain = true)
    (ka : a.keysOk = true) (kb : b.keysOk = true) : eq a b = pyEqV a b := by
  induction a, b using EVal.pairInduct with
  | cell x y => exact cellEq_eq_pyEq x y (bne_iff_ne.1 ha)
  | date x y => rfl
  | tdelta x y => rfl
  | cdelta | fdt | ftd | nat | sub | index | arr | series | frame => cases ha
  | list xs ys ih | tuple xs ys ih =>
    -- both branches are `eqArr` on the normalised elements against `pyEqArr`
    refine (eqArr_normList xs ys).trans (.trans ?_ (pyEqArr_eq_all2 xs ys).symm)
    exact all2_mono _ _ xs ys fun x hx y hy =>
      ih x hx y hy (plainList_mem ha x hx) (plainList_mem hb y hy) (keysOkList_mem ka x hx) (keysOkList_mem kb y hy)
  | dict c d xs ys ih =>
    simp only [EVal.plain, EVal.keysOk, Bool.and_eq_true, beq_iff_eq, decide_eq_true_eq, EVal.plainKVs_eq, EVal.keysOkKVs_eq] at ha hb ka kb
    -- both sides compare the dicts as mappings (the classes are both `dict`); the values agree by induction
    rw [Bool.eq_iff_iff, eq_dict_iff_mapRel c d xs ys ka.1 kb.1, pyEqV_dict_iff, ha.1, hb.1]
    exact (and_iff_right rfl).trans <| MapRel.congr fun v hv w hw => Bool.eq_iff_iff.1 <|
      ih v hv w hw (plainList_mem ha.2 v hv) (plainList_mem hb.2 w hw) (keysOkList_mem ka.2 v hv) (keysOkList_mem kb.2 w hw)
  | other a b h => exact (Bool.eq_false_iff.2 fun he => h (eq_ctorIdx he)).trans (pyEqV_of_ctorIdx_ne h).symm

/-- special case without dicts (no key hypothesis needed): scalars, dates, nested lists / tuples -/
theorem eq_agrees_pyeq_seq (a b : EVal) (ha : a.seqPlain = true) (hb : b.seqPlain = true) :
    eq a b = pyEqV a b :=
  eq_agrees_pyeq a b (seqPlain_plain a ha).1 (seqPlain_plain b hb).1 (seqPlain_plain a ha).2 (seqPlain_plain b hb).2

/-- the key hypothesis cannot be dropped: with a repeated key (not a python dict) the two differ -/
theorem eq_agrees_pyeq_needs_keysOk :
    let x := EVal.dict 0 [("a", .cell (.int 1)), ("a", .cell (.int 2))]
    x.plain = true ∧ eq x x = true ∧ pyEqV x x = false := by decide

-- the hypotheses of `eq_agrees_pyeq` / `eq_agrees_pyeq_seq`, and an instance with reordered dict items
example : (EVal.list [i 1, .tuple [f 10, .cell (.str "a")]]).seqPlain = true := by decide
private def d1 : EVal := .dict 0 [("b", .list [i 1, .dict 0 [("y", f 8), ("x", .date 3)]]), ("a", .tuple [])]
private def d2 : EVal := .dict 0 [("a", .tuple []), ("b", .list [f 4, .dict 0 [("x", .date 3), ("y", i 2)]])]
example : d1.plain = true ∧ d2.plain = true ∧ d1.keysOk = true ∧ d2.keysOk = true := by decide
example : eq d1 d2 = true ∧ pyEqV d1 d2 = true := by decide

/-- python `==` of two `collections.OrderedDict`s (class 3 on the wire; reference function, CPython `odict_richcompare`): equal as mappings AND
the keys in the same insertion order.  Python's `==` of an `OrderedDict` with a plain `dict` is the order-blind mapping comparison. -/
def pyEqOD (a b : List (String × EVal)) : Bool :=
  pyEqV (.dict 0 a) (.dict 0 b) && (a.map (·.1) == b.map (·.1))

/-- the clause "agrees with ==" is about NaN-free PLAIN values, and `EVal.plain` means the exact class `dict`: an `OrderedDict` is a dict
subclass, `eq` compares its key-SORTED items like those of every dict, so two OrderedDicts holding the same items in another insertion order
are `eq` (`eq_dict_iff`: class, size, every item found under its key) while python's `==` tells them apart - `eq_agrees_pyeq` cannot be
extended to class-3 dicts. -/
theorem eq_ordered_dict_ignores_order :
    let a : List (String × EVal) := [("a", .cell (.int 1)), ("b", .cell (.int 2))]
    let b : List (String × EVal) := [("b", .cell (.int 2)), ("a", .cell (.int 1))]
    eq (.dict 3 a) (.dict 3 b) = true ∧ pyEqOD a b = false ∧ pyEqOD a a = true ∧ eq (.dict 3 a) (.dict 0 a) = false := by decide

/-- membership built on `eq`: an element of the sequence is found -/
theorem in_of_mem (x : EVal) (s : List EVal) (h : x ∈ s) : in_ x s = true := by
  simp only [in_, List.any_eq_true]
  exact ⟨x, h, eq_refl x⟩

/-- `in_` is exactly "some element is `eq`" -/
theorem in_iff (x : EVal) (s : List EVal) : in_ x s = true ↔ ∃ y ∈ s, eq x y = true := by
  simp [in_, List.any_eq_true]

/-- `in_` respects `eq` on the probe -/
theorem in_congr (x y : EVal) (s : List EVal) (h : eq x y = true) : in_ x s = in_ y s := by
  simp only [in_]
  congr 1
  funext z
  exact eq_congr x y z h

/-! `eqR : EVal → EVal → Res Bool` (PygModel/EqR.lean) is the repaired `eq` with the python operations that raise on some
operands (`minR`, `veqShape`, `unzipR`) as explicit error outcomes, behind the guards the code has. -/

/-- **eq never raises**: for ALL pairs of values — whatever shapes, lengths, nesting — no error branch of `eqR` is
taken: every raising primitive is reached only on operands its guard has let through.  (The comparison of axis
labels and of `pd.Index` values is `idxEq` in `eqR` as in `eq`: it is not routed through the raising primitives.) -/
theorem eqR_never_raises (a b : EVal) : ∃ v, eqR a b = .ok v :=
  eqNR_total a.norm b.norm

/-- **… and returns what the boolean model returns**, for all values whose cells fit their shape (`EVal.sized`: an
ndarray has as many cells as its shape says, a Series one per index label, a DataFrame one per index × column label —
true of every numpy / pandas object) -/
theorem eqR_eq (a b : EVal) (ha : a.sized = true) (hb : b.sized = true) : eqR a b = .ok (eq a b) :=
  eqNR_eq a.norm b.norm (norm_sized a ha) (norm_sized b hb)

/-- (the statement relates `eqR` to `eq`; `Same` enters only through `eq_iff_same`)  on such values the raising reading answers `ok true`
exactly when `eq` is true, so what is proved above of `eq a b = true` (equivalence, type-strictness, `Same`) is proved of `eqR`'s outcome -/
theorem eqR_true_iff_same (a b : EVal) (ha : a.sized = true) (hb : b.sized = true) :
    eqR a b = .ok true ↔ eq a b = true := by
  rw [eqR_eq a b ha hb, Except.ok.injEq]

/-- the hypothesis of `eqR_eq` cannot be dropped: a "Series" with more cells than labels is compared cell by cell by
the boolean model, while the code (and `eqR`) would never look at cells of an empty-index object — such a value is not
a pandas object -/
theorem eqR_eq_needs_sized :
    ∃ a b : EVal, eqR a b = .ok true ∧ eq a b = false := by
  refine ⟨.series [] [.cell (.int 1)], .series [] [.cell (.int 2)], by decide, by decide⟩

/-- non-vacuity: an object array holding a dict, an empty list and NaN; shapes (2,2) vs (4,) -/
example :
    let x : EVal := .arr [2, 2] [.dict 0 [("b", .cell .nan), ("a", .list [])], .cell (.int 1), .tuple [], .arr [0, 3] []]
    let y : EVal := .arr [2, 2] [.dict 0 [("a", .list []), ("b", .cell .nan)], .cell (.flt 4), .tuple [], .arr [0, 3] []]
    x.sized = true ∧ y.sized = true ∧ eqR x y = .ok true ∧
    eqR x (.arr [4] [.cell (.int 1), .cell (.int 1), .cell (.int 1), .cell (.int 1)]) = .ok false := by
  decide

/-! `eqPinned` has the ndarray branch of the pinned tree (finding F6c): `len(x) == len(y)` instead of a shape test, then `veq`
with numpy broadcasting.  Each behaviour below is reproduced on the pinned `_eq.py`. -/

/-- `eq(np.array(1), np.array(1))` raises `TypeError` there (`len()` of a 0-d array); repaired: True -/
theorem pinned_raises_0d :
    eqPinned (.arr [] [.cell (.int 1)]) (.arr [] [.cell (.int 1)]) = .error .type ∧
    eqR (.arr [] [.cell (.int 1)]) (.arr [] [.cell (.int 1)]) = .ok true := by
  decide

/-- shapes (2,3) and (2,): same `len`, not broadcastable — `ValueError`; repaired: False -/
theorem pinned_raises_not_broadcastable :
    let x : EVal := .arr [2, 3] [.cell (.int 1), .cell (.int 2), .cell (.int 3), .cell (.int 1), .cell (.int 2), .cell (.int 3)]
    let y : EVal := .arr [2] [.cell (.int 1), .cell (.int 2)]
    eqPinned x y = .error .value ∧ eqR x y = .ok false := by
  decide

/-- shapes (2,1) and (2,0): broadcast to size 0, `np.vectorize` raises `ValueError`; repaired: False -/
theorem pinned_raises_vectorize_size0 :
    let x : EVal := .arr [2, 1] [.cell (.int 1), .cell (.int 2)]
    let y : EVal := .arr [2, 0] []
    eqPinned x y = .error .value ∧ eqR x y = .ok false := by
  decide

/-- and where it does not raise it compares after broadcasting: `[[1,2],[1,2]]` equals `[1,2]`, empty arrays of shapes
(0,3) and (0,5) are equal — "arrays are equal only if shape and all cells match" -/
theorem pinned_broadcasts :
    let x : EVal := .arr [2, 2] [.cell (.int 1), .cell (.int 2), .cell (.int 1), .cell (.int 2)]
    let y : EVal := .arr [2] [.cell (.int 1), .cell (.int 2)]
    eqPinned x y = .ok true ∧ eqR x y = .ok false ∧
    eqPinned (.arr [0, 3] []) (.arr [0, 5] []) = .ok true ∧ eqR (.arr [0, 3] []) (.arr [0, 5] []) = .ok false := by
  decide

/-- the guards are what keeps the primitives from raising: each primitive does raise on the operands its guard
excludes -/
theorem primitives_raise :
    minR [] = .error .value ∧ lenR [] = .error .type ∧ veqShape [2, 3] [2] = .error .value ∧
    veqShape [0, 3] [0, 3] = .error .value ∧ unzipR ([] : List (String × Nat)) = .error .value := by
  decide

end Pyg.Props.C14
