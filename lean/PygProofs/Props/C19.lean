/-
  C19 — container lifting maps leaf-wise, preserves shape and is schedule independent: `loop(list, tuple, dict)`, `zipper` / `lens`,
  `as_list` / `as_tuple`, `waiter`.  Beyond the property text: the pandas / numpy / dict-subclass branches of `loops`, the text
  helpers as closed models, failing awaitables, a log-based gather.
-/
import PygProofs.Lemmas.LiftXLemmas
import PygProofs.Lemmas.ZipLemmas
import PygProofs.Lemmas.TxtLemmas
import PygProofs.Lemmas.WaiterLemmas
import PygProofs.Lemmas.ResDec  -- `DecidableEq (Res α)`, for the `decide` examples

namespace Pyg.Props.C19

/-- Compositionality: the result at position `p` of `v` is the lifted call on the sub-structure at `p`, with every
positional and every keyword companion replaced by its selected part. -/
theorem lift_sub (f : LeafFn) : ∀ (p : Path) (v : Val) (args : List Val) (kw : KW) (r v' : Val),
    wrapped f v args kw = .ok r → v.at p = some v' →
    ∃ r', r.at p = some r' ∧
      wrapped f v' (args.map (select v p)) (mapKW (select v p) (dropAxis kw)) = .ok r'
  | [], v, args, kw, r, v', h, hp => by
      cases hp
      refine ⟨r, rfl, ?_⟩
      rw [select_nil, List.map_id', mapKW_id, wrapped_dropAxis]
      exact h
  | s :: p, v, args, kw, r, v', h, hp => by
      obtain ⟨c, hc, hp'⟩ := Val.at_cons_eq_some.1 hp
      obtain ⟨y, hy1, hy2⟩ := wrapped_child h hc
      obtain ⟨r', hr1, hr2⟩ := lift_sub f p c _ _ y v' hy2 hp'
      refine ⟨r', Val.at_cons_eq_some.2 ⟨y, hy1, hr1⟩, ?_⟩
      rw [dropAxis_mapKW, dropAxis_idem, List.map_map, mapKW_mapKW, ← select_cons hc] at hr2
      exact hr2

/-- **Leaves.** The leaf of the result at `p` is `f` of the original leaf and the selected parts of the companions
(a keyword called `axis` is consumed by the decorator). -/
theorem lift_leaves (f : LeafFn) (v : Val) (args : List Val) (kw : KW) (r : Val) (p : Path) (c : Cell)
    (h : wrapped f v args kw = .ok r) (hp : v.at p = some (.cell c)) :
    ∃ y, f (.cell c) (args.map (select v p)) (mapKW (select v p) (dropAxis kw)) = .ok y ∧
      r.at p = some y := by
  obtain ⟨r', h1, h2⟩ := lift_sub f p v args kw r _ h hp
  rw [wrapped, dropAxis_mapKW, dropAxis_idem] at h2
  exact ⟨r', h2, h1⟩

/-- **Shape.** Wherever the argument holds a list, the result holds a list of the same length. -/
theorem lift_shape_list (f : LeafFn) (v : Val) (args : List Val) (kw : KW) (r : Val) (p : Path)
    (xs : List Val) (h : wrapped f v args kw = .ok r) (hp : v.at p = some (.list xs)) :
    ∃ ys, r.at p = some (.list ys) ∧ ys.length = xs.length := by
  obtain ⟨r', h1, h2⟩ := lift_sub f p v args kw r _ h hp
  rw [wrapped_list] at h2
  obtain ⟨ys, hys, rfl⟩ := Res.map_eq_ok h2
  exact ⟨ys, h1, (wrappedSeq_get xs 0 _ _ ys hys).1⟩

/-- **Shape.** Wherever the argument holds a tuple, the result holds a tuple of the same length. -/
theorem lift_shape_tuple (f : LeafFn) (v : Val) (args : List Val) (kw : KW) (r : Val) (p : Path)
    (xs : List Val) (h : wrapped f v args kw = .ok r) (hp : v.at p = some (.tuple xs)) :
    ∃ ys, r.at p = some (.tuple ys) ∧ ys.length = xs.length := by
  obtain ⟨r', h1, h2⟩ := lift_sub f p v args kw r _ h hp
  rw [wrapped_tuple] at h2
  obtain ⟨ys, hys, rfl⟩ := Res.map_eq_ok h2
  exact ⟨ys, h1, (wrappedSeq_get xs 0 _ _ ys hys).1⟩

/-- **Shape.** Wherever the argument holds a dict, the result holds a dict with the same keys in the same order. -/
theorem lift_shape_dict (f : LeafFn) (v : Val) (args : List Val) (kw : KW) (r : Val) (p : Path)
    (kvs : KW) (h : wrapped f v args kw = .ok r) (hp : v.at p = some (.dict kvs)) :
    ∃ rs, r.at p = some (.dict rs) ∧ keysOf rs = keysOf kvs := by
  obtain ⟨r', h1, h2⟩ := lift_sub f p v args kw r _ h hp
  rw [wrapped_dict] at h2
  obtain ⟨ys, hys, rfl⟩ := Res.map_eq_ok h2
  exact ⟨ys, h1, (wrappedKVs_lookup kvs _ _ ys hys).1⟩

/-- **Exceptions.** If the lifted call raises, then some leaf call raised that exception (dict keys distinct, as
in python). -/
theorem lift_error (f : LeafFn) (v : Val) (hv : v.KeysNodup) (args : List Val) (kw : KW) (e : Err)
    (h : wrapped f v args kw = .error e) :
    ∃ p c, v.at p = some (.cell c) ∧
      f (.cell c) (args.map (select v p)) (mapKW (select v p) (dropAxis kw)) = .error e := by
  induction v using Val.ind_child generalizing args kw with
  | h v ih =>
    rcases wrapped_error_child hv h with ⟨a, rfl⟩ | ⟨s, c, hc, he⟩
    · refine ⟨[], a, rfl, ?_⟩
      rw [select_nil, List.map_id', mapKW_id]
      rwa [wrapped] at h
    · obtain ⟨p, a, hp, hf⟩ := ih s c hc (KeysNodup_child hv hc) _ _ he
      refine ⟨s :: p, a, Val.at_cons_eq_some.2 ⟨c, hc, hp⟩, ?_⟩
      rw [dropAxis_mapKW, dropAxis_idem, List.map_map, mapKW_mapKW, ← select_cons hc] at hf
      exact hf

/-- The lifted call returns exactly when every leaf call returns (and then, by `lift_leaves`, its leaves are those
results). -/
theorem lift_total (f : LeafFn) (v : Val) (hv : v.KeysNodup) (args : List Val) (kw : KW) :
    (∃ r, wrapped f v args kw = .ok r) ↔
    ∀ p c, v.at p = some (.cell c) →
      ∃ y, f (.cell c) (args.map (select v p)) (mapKW (select v p) (dropAxis kw)) = .ok y := by
  constructor
  · rintro ⟨r, h⟩ p c hp
    obtain ⟨y, hy, _⟩ := lift_leaves f v args kw r p c h hp
    exact ⟨y, hy⟩
  · intro hall
    cases h : wrapped f v args kw with
    | ok r => exact ⟨r, rfl⟩
    | error e =>
      obtain ⟨p, c, hp, he⟩ := lift_error f v hv args kw e h
      obtain ⟨y, hy⟩ := hall p c hp
      rw [he] at hy; cases hy

/-- a list or tuple companion of the looped length is matched element by element -/
theorem selStep_same_length (xs cs : List Val) (i : Nat) (h : cs.length = xs.length) :
    selStep (.list xs) (.idx i) (.list cs) = getIdx cs i ∧
    selStep (.list xs) (.idx i) (.tuple cs) = getIdx cs i ∧
    selStep (.tuple xs) (.idx i) (.list cs) = getIdx cs i ∧
    selStep (.tuple xs) (.idx i) (.tuple cs) = getIdx cs i := by
  simp [selStep, itemByI, h]

/-- a companion dict with the same key set (in any order) is matched by key -/
theorem selStep_same_keys (kvs cs : KW) (k : String) (h : sortStr (keysOf cs) = sortStr (keysOf kvs)) :
    selStep (.dict kvs) (.key k) (.dict cs) = getKey cs k := by
  simp [selStep, itemByKey, h]

/-- **"the same keys" is the same key set**: the model's test `sortStr (keysOf cs) = keys` (`_item_by_key` compares the key sets,
`_loop.py:76`) succeeds exactly when one key list is a permutation of the other. -/
theorem sortStr_eq_iff_perm (a b : List String) : sortStr a = sortStr b ↔ a.Perm b :=
  ⟨perm_of_sortStr_eq a b, sortStr_eq_of_perm⟩

/-- a companion dict whose keys are a permutation of the looped dict's keys is matched by key -/
theorem selStep_same_keys_perm (kvs cs : KW) (k : String) (h : (keysOf cs).Perm (keysOf kvs)) :
    selStep (.dict kvs) (.key k) (.dict cs) = getKey cs k :=
  selStep_same_keys kvs cs k (sortStr_eq_of_perm h)

/-- a companion dict with other keys is not matched at this level: it is mapped value by value with `itemByKey` (searched: K3, or
passed whole) -/
theorem selStep_other_keys (kvs cs : KW) (k : String) (h : ¬ (keysOf cs).Perm (keysOf kvs)) :
    selStep (.dict kvs) (.key k) (.dict cs) = .dict (itemByKeyKVs k (sortStr (keysOf kvs)) cs) := by
  have : sortStr (keysOf cs) ≠ sortStr (keysOf kvs) := fun e => h (perm_of_sortStr_eq _ _ e)
  simp [selStep, itemByKey, this]

/-- scalars and strings are broadcast to every leaf -/
theorem select_scalar : ∀ (p : Path) (v : Val) (a : Cell), select v p (.cell a) = .cell a
  | [], v, a => by simp [select]
  | s :: p, v, a => by
      cases hv : v.child s with
      | none => rw [select, hv]
      | some v' => rw [select_cons hv, Function.comp, selStep_cell, select_scalar p v' a]

/-- a dict companion is passed whole through a list/tuple level, a list/tuple companion whole through a
dict level (`_item_by_i` only looks into sequences, `_item_by_key` only into dicts) -/
theorem selStep_other_kind (xs cs : List Val) (kvs ckvs : KW) (i : Nat) (k : String) :
    selStep (.list xs) (.idx i) (.dict ckvs) = .dict ckvs ∧
    selStep (.tuple xs) (.idx i) (.dict ckvs) = .dict ckvs ∧
    selStep (.dict kvs) (.key k) (.list cs) = .list cs ∧
    selStep (.dict kvs) (.key k) (.tuple cs) = .tuple cs := by
  simp [selStep, itemByI, itemByKey]

/-- in a loop over a list, a list or tuple companion of another length is mapped element by element with `itemByI`: an inner
sequence of the looped length is matched -/
theorem selStep_other_length (xs cs : List Val) (i : Nat) (h : cs.length ≠ xs.length) :
    selStep (.list xs) (.idx i) (.list cs) = .list (cs.map (itemByI i xs.length)) ∧
    selStep (.list xs) (.idx i) (.tuple cs) = .tuple (cs.map (itemByI i xs.length)) := by
  simp [selStep, itemByI, h, itemByIList_eq_map]

/-- **Everything else is broadcast** (sequences), with the hypothesis the code needs: `_item_by_i` descends through lists and
tuples only, so a list of the looped length inside a dict of the companion does not prevent broadcasting
(`rec([1,2], [{'k': [10,20]}, 5, 6])` passes the companion whole). -/
theorem selStep_broadcast_seq_sharp (xs : List Val) (i : Nat) (c : Val)
    (h : ∀ q cs, IdxPath q → (c.at q = some (.list cs) ∨ c.at q = some (.tuple cs)) → cs.length ≠ xs.length) :
    selStep (.list xs) (.idx i) c = c ∧ selStep (.tuple xs) (.idx i) c = c := by
  simp only [selStep]
  exact ⟨itemByI_no_match i xs.length c h, itemByI_no_match i xs.length c h⟩

example :
    let c : Val := .list [.dict [("k", .list [.cell (.int 10), .cell (.int 20)])], .cell (.int 5), .cell (.int 6)]
    selStep (.list [.cell (.int 1), .cell (.int 2)]) (.idx 0) c = c ∧
    c.at [.idx 0, .key "k"] = some (.list [.cell (.int 10), .cell (.int 20)]) := by decide +kernel

/-- **Everything else is broadcast** (sequences): a companion that holds no list or tuple of the looped length, at any
depth, is passed whole to every element. -/
theorem selStep_broadcast_seq (xs : List Val) (i : Nat) (c : Val)
    (h : ∀ q cs, (c.at q = some (.list cs) ∨ c.at q = some (.tuple cs)) → cs.length ≠ xs.length) :
    selStep (.list xs) (.idx i) c = c ∧ selStep (.tuple xs) (.idx i) c = c := by
  simp only [selStep]
  exact ⟨itemByI_no_match i xs.length c fun q cs _ => h q cs, itemByI_no_match i xs.length c fun q cs _ => h q cs⟩

example : selStep (.list [.cell (.int 1), .cell (.int 2)]) (.idx 1)
    (.list [.cell (.int 7), .dict [("k", .tuple [.cell (.int 8)])], .cell (.str "ab")]) =
    .list [.cell (.int 7), .dict [("k", .tuple [.cell (.int 8)])], .cell (.str "ab")] := by decide +kernel

/-- **Everything else is broadcast** (dicts): only dicts reachable from `c` through dict values matter (`_item_by_key` does not
look into lists or tuples) -/
theorem selStep_broadcast_dict_sharp (kvs : KW) (k : String) (c : Val) (hc : c.KeysNodup)
    (h : ∀ q cs, KeyPath q → c.at q = some (.dict cs) → ¬ (keysOf cs).Perm (keysOf kvs)) :
    selStep (.dict kvs) (.key k) c = c := by
  simp only [selStep]
  exact itemByKey_no_match k _ c hc
    (fun q cs hq hd e => h q cs hq hd (perm_of_sortStr_eq _ _ e))

example :
    let c : Val := .dict [("z", .list [.dict [("a", .cell (.int 5))]])]
    selStep (.dict [("a", .cell (.int 1))]) (.key "a") c = c := by decide +kernel

/-- **Everything else is broadcast** (dicts): a companion that holds no dict with the key set of the looped dict, at any
depth, is passed whole to every value (`c.KeysNodup`: python dicts). -/
theorem selStep_broadcast_dict (kvs : KW) (k : String) (c : Val) (hc : c.KeysNodup)
    (h : ∀ q cs, c.at q = some (.dict cs) → sortStr (keysOf cs) ≠ sortStr (keysOf kvs)) :
    selStep (.dict kvs) (.key k) c = c := by
  simp only [selStep]
  exact itemByKey_no_match k _ c hc fun q cs _ => h q cs

example : selStep (.dict [("a", .cell (.int 1)), ("b", .cell (.int 2))]) (.key "b")
    (.dict [("a", .cell (.int 7)), ("z", .dict [("b", .cell (.int 8))])]) =
    .dict [("a", .cell (.int 7)), ("z", .dict [("b", .cell (.int 8))])] := by decide +kernel

/-- Finding K3: a companion of another length / with other keys that holds a matching container further inside is searched,
not broadcast.  Witnesses: `loop(list)(f)([1, 2], [[10, 20], [30, 40], [50, 60]])` gives the first leaf `[10, 30, 50]`,
`loop(dict)(f)({'a': 1}, {'z': {'a': 5}})` gives the leaf `{'z': 5}`. -/
theorem broadcast_searched_inside :
    (∃ (xs cs : List Val) (i : Nat), cs.length ≠ xs.length ∧ selStep (.list xs) (.idx i) (.list cs) ≠ .list cs) ∧
    (∃ (kvs cs : KW) (k : String), sortStr (keysOf cs) ≠ sortStr (keysOf kvs) ∧
      selStep (.dict kvs) (.key k) (.dict cs) ≠ .dict cs) := by
  refine ⟨⟨[.cell (.int 1), .cell (.int 2)],
      [.list [.cell (.int 10), .cell (.int 20)], .list [.cell (.int 30), .cell (.int 40)],
       .list [.cell (.int 50), .cell (.int 60)]], 0, by decide, by decide +kernel⟩,
    ⟨[("a", .cell (.int 1))], [("z", .dict [("a", .cell (.int 5))])], "a", by decide +kernel, by decide +kernel⟩⟩

/-! `Matches v c`: the companion `c` has the shape of `v` as far as it goes — a scalar (broadcast from there on), or a
list/tuple of the same length / a dict with the same key set whose members match the members of `v`.
`follow c p` walks `c` along the path `p` until it reaches a scalar or a container that has no such child. -/

def seqItems : Val → Option (List Val)
  | .list xs => some xs
  | .tuple xs => some xs
  | _ => Option.none

inductive Matches : Val → Val → Prop
  | scalar (v : Val) (a : Cell) : Matches v (.cell a)
  /-- `v` stops here: whatever of the companion was matched down to this leaf - a scalar or a whole container - is what the leaf
  receives (`f([1,2], [[10,20],[30,40]])`: the leaf `1` receives the list `[10,20]`) -/
  | leaf (a : Cell) (c : Val) : Matches (.cell a) c
  | seq {v c : Val} {xs cs : List Val} : seqItems v = some xs → seqItems c = some cs → cs.length = xs.length →
      (∀ (i : Nat) (x y : Val), xs[i]? = some x → cs[i]? = some y → Matches x y) → Matches v c
  | dict {kvs cs : KW} : sortStr (keysOf cs) = sortStr (keysOf kvs) →
      (∀ (k : String) (x y : Val), kvs.lookup k = some x → cs.lookup k = some y → Matches x y) →
      Matches (.dict kvs) (.dict cs)

def follow : Val → Path → Val
  | c, [] => c
  | .cell a, _ :: _ => .cell a
  | c, s :: p => match c.child s with
    | some c' => follow c' p
    | Option.none => c

theorem _root_.Pyg.seqItems_eq_some {v : Val} {xs : List Val} (h : seqItems v = some xs) : v = .list xs ∨ v = .tuple xs := by
  cases v with
  | list ys => cases h; exact Or.inl rfl
  | tuple ys => cases h; exact Or.inr rfl
  | cell a | dict kvs => cases h

theorem _root_.Pyg.follow_cons_of_child {c c' : Val} {s : Step} (h : c.child s = some c') (p : Path) :
    follow c (s :: p) = follow c' p := by
  cases c with
  | cell a => cases h
  | list xs | tuple xs | dict kvs => simp only [follow, h]

theorem _root_.Pyg.matches_step {v c v' : Val} {s : Step} (h : Matches v c) (hv : v.child s = some v') :
    (∃ a, c = .cell a) ∨ ∃ c', c.child s = some c' ∧ selStep v s c = c' ∧ Matches v' c' := by
  cases h with
  | scalar _ a => exact Or.inl ⟨a, rfl⟩
  | leaf a c => cases hv
  | @seq _ _ xs cs hxs hcs hl hm =>
    -- `v` is a list or a tuple, so the step is an index below the common length
    obtain ⟨i, rfl, hxi⟩ : ∃ i, s = .idx i ∧ xs[i]? = some v' := by
      rcases seqItems_eq_some hxs with rfl | rfl <;> cases s <;> first | cases hv | exact ⟨_, rfl, hv⟩
    have hi : i < cs.length := hl ▸ (List.getElem?_eq_some_iff.1 hxi).1
    have hci : cs[i]? = some cs[i] := List.getElem?_eq_getElem hi
    refine Or.inr ⟨cs[i], ?_, ?_, hm i v' cs[i] hxi hci⟩
    · rcases seqItems_eq_some hcs with rfl | rfl <;> exact hci
    · rw [← getIdx_of_getElem? hci]
      rcases seqItems_eq_some hxs with rfl | rfl <;> rcases seqItems_eq_some hcs with rfl | rfl <;>
        exact (by rw [selStep, itemByI, if_pos hl])
  | @dict kvs cs hk hm =>
    cases s with
    | idx i => cases hv
    | key k =>
      have hmem : k ∈ keysOf cs := by
        rw [← mem_sortStr, hk, mem_sortStr]; exact mem_keys_of_lookup k v' kvs hv
      obtain ⟨y, hy⟩ := lookup_isSome_of_mem_keys k cs hmem
      refine Or.inr ⟨y, hy, ?_, hm k v' y hv hy⟩
      rw [selStep, itemByKey, if_pos hk, getKey_of_lookup hy]

/-- **Companions of the same shape are matched element by element (dicts by key) at every level**: the leaf of `v` at `p`
receives the part of `c` at the same path (or the scalar at which `c` stops on the way). -/
theorem select_matches : ∀ (p : Path) (v c : Val), Matches v c → (v.at p).isSome → select v p c = follow c p
  | [], v, c, _, _ => by simp [select, follow]
  | s :: p, v, c, h, hp => by
      obtain ⟨v', hv, hp'⟩ := Val.at_cons_isSome hp
      rw [select_cons hv, Function.comp]
      rcases matches_step h hv with ⟨a, rfl⟩ | ⟨c', hc, hsel, hm⟩
      · rw [selStep_cell, select_scalar]
        rfl
      · rw [hsel, select_matches p v' c' hm hp', follow_cons_of_child hc]

/-- `select` and `follow` on a two-level structure and a companion of the same shape (tuple for list, keys in another order,
a scalar standing for a whole sub-list) -/
example :
    let v : Val := .list [.dict [("a", .cell (.int 1)), ("b", .list [.cell (.int 2), .cell (.int 3)])], .cell (.int 4)]
    let c : Val := .tuple [.dict [("b", .cell (.str "s")), ("a", .cell (.int 10))], .cell (.int 40)]
    select v [.idx 0, .key "b", .idx 1] c = .cell (.str "s") ∧ follow c [.idx 0, .key "b", .idx 1] = .cell (.str "s") ∧
    select v [.idx 0, .key "a"] c = .cell (.int 10) := by
  decide +kernel

/-- the `leaf` constructor of `Matches`: a flat list and a companion list of the same length whose members are containers -
each leaf receives its member whole -/
example :
    let v : Val := .list [.cell (.int 1), .cell (.int 2)]
    let c : Val := .list [.list [.cell (.int 10), .cell (.int 20)], .list [.cell (.int 30), .cell (.int 40)]]
    Matches v c ∧ select v [.idx 0] c = .list [.cell (.int 10), .cell (.int 20)] ∧
    follow c [.idx 0] = .list [.cell (.int 10), .cell (.int 20)] := by
  refine ⟨?_, by decide +kernel, by decide +kernel⟩
  refine Matches.seq (xs := [.cell (.int 1), .cell (.int 2)])
    (cs := [.list [.cell (.int 10), .cell (.int 20)], .list [.cell (.int 30), .cell (.int 40)]]) rfl rfl rfl ?_
  intro i x y hx hy
  match i, hx, hy with
  | 0, hx, hy => simp at hx hy; subst hx; exact Matches.leaf _ _
  | 1, hx, hy => simp at hx hy; subst hx; exact Matches.leaf _ _
  | n + 2, hx, _ => simp at hx

/-- `Matches` for dicts, stated with the key sets -/
theorem Matches.dict_of_perm {kvs cs : KW} (h : (keysOf cs).Perm (keysOf kvs))
    (hm : ∀ (k : String) (x y : Val), kvs.lookup k = some x → cs.lookup k = some y → Matches x y) :
    Matches (.dict kvs) (.dict cs) :=
  Matches.dict (sortStr_eq_of_perm h) hm

/-- the first argument may be passed by keyword under the name of the function's first parameter -/
theorem call_first_by_keyword (f : LeafFn) (top : String) (v : Val) (kw : KW)
    (h : top ∉ keysOf kw) :
    callLifted f top [] ((top, v) :: kw) = callLifted f top [v] kw := by
  have : kw.filter (fun p => p.1 != top) = kw := List.filter_fst_ne_eq_self fun p hp e => h (List.mem_map.2 ⟨p, hp, e⟩)
  simp [callLifted, List.lookup, this]

/-- **Positional = keyword passing.** If `f` binds the positional argument after `args` to the parameter `name`, passing a
companion positionally or under that name gives the same result (`axis` excluded: the decorator consumes a keyword of
that name).  False of the unrepaired code: F9. -/
theorem pos_kw_agree (f : LeafFn) (name : String) (hname : name ≠ "axis") (v : Val) (args : List Val)
    (kw : KW) (c : Val) (hf : BindsNext f args.length name) (hk : name ∉ keysOf kw) :
    wrapped f v (args ++ [c]) kw = wrapped f v args (kw ++ [(name, c)]) :=
  wrapped_pos_kw f args.length name hname hf v args kw c rfl hk

/-- `def g(a, b = None): return (a, b)` as a `LeafFn`: binds its first companion to `b` -/
def exG : LeafFn := fun a args kw =>
  match args, kw with
  | [b], [] => .ok (.tuple [a, b])
  | [], [("b", b)] => .ok (.tuple [a, b])
  | _, _ => .error .type

example : BindsNext exG 0 "b" := by
  intro x as kw c hl hk
  cases as with
  | cons _ _ => simp at hl
  | nil =>
    cases kw with
    | nil => simp [exG]
    | cons p kw =>
      obtain ⟨k, v⟩ := p
      have hkb : k ≠ "b" := by intro e; apply hk; simp [keysOf, e]
      cases kw <;> simp [exG]

/-- `def g(a, axis='d'): return (a, axis)` as a `LeafFn` -/
def exAxis : LeafFn := fun a args kw =>
  match args, kw with
  | [], [] => .ok (.tuple [a, .cell (.str "d")])
  | [b], [] => .ok (.tuple [a, b])
  | [], [("axis", b)] => .ok (.tuple [a, b])
  | _, _ => .error .type

/-- **A keyword called `axis` never reaches the lifted function (finding K7).**  `g` binds its next positional parameter to
the name `axis`, yet `loop(list, tuple, dict)(g)([1, 2], 5)` gives every leaf the companion and `…([1, 2], axis=5)` the
default: `loops._wrapped` pops `axis` at every level (`dropAxis`).  This is why `pos_kw_agree` excludes the name. -/
theorem axis_keyword_swallowed :
    ∃ (f : LeafFn) (v c : Val), BindsNext f 0 "axis" ∧ wrapped f v [c] [] ≠ wrapped f v [] [("axis", c)] ∧
      wrapped f v [c] [] = .ok (.list [.tuple [.cell (.int 1), c], .tuple [.cell (.int 2), c]]) ∧
      wrapped f v [] [("axis", c)] = wrapped f v [] [] := by
  refine ⟨exAxis, .list [.cell (.int 1), .cell (.int 2)], .cell (.int 5), ?_, by decide +kernel, by decide +kernel, by decide +kernel⟩
  intro x as kw c hl hk
  cases as with
  | cons _ _ => simp at hl
  | nil =>
    cases kw with
    | nil => simp [exAxis]
    | cons p kw =>
      obtain ⟨k, v⟩ := p
      have hkb : k ≠ "axis" := by intro e; apply hk; simp [keysOf, e]
      cases kw <;> simp [exAxis]

/-- the F9 input: `loop(list)(f)([[1,2]], 5)` gives every inner leaf its companion -/
example : wrapped recorderPure (.list [.list [.cell (.int 1), .cell (.int 2)]]) [.cell (.int 5)] [] =
    .ok (.list [.list [.tuple [.cell (.int 1), .tuple [.cell (.int 5)], .dict []],
                       .tuple [.cell (.int 2), .tuple [.cell (.int 5)], .dict []]]]) := by decide +kernel

/-- hypotheses of `lift_leaves` / `lift_shape_*`: a nested value, a keyword companion of the same shape with its keys in
another order -/
example :
    let v : Val := .dict [("x", .cell (.int 1)), ("y", .tuple [.cell (.str "s"), .cell (.int 2)])]
    let c : Val := .dict [("y", .list [.cell (.int 10), .cell (.int 20)]), ("x", .cell (.int 30))]
    v.at [.key "y", .idx 1] = some (.cell (.int 2)) ∧ v.KeysNodup ∧
    select v [.key "y", .idx 1] c = .cell (.int 20) ∧
    select v [.key "x"] c = .cell (.int 30) ∧
    wrapped recorderPure v [] [("b", c)] = .ok (.dict
      [("x", .tuple [.cell (.int 1), .tuple [], .dict [("b", .cell (.int 30))]]),
       ("y", .tuple [.tuple [.cell (.str "s"), .tuple [], .dict [("b", .cell (.int 10))]],
                     .tuple [.cell (.int 2), .tuple [], .dict [("b", .cell (.int 20))]]])]) := by
  exact ⟨by decide +kernel, by simp [KeysNodup_dict_iff, KeysNodup_tuple_iff, KeysNodup_cell, keysOf],
    by decide +kernel, by decide +kernel, by decide +kernel⟩

/-- an exception in a leaf propagates (here: the second leaf raises `ValueError`) -/
example : wrapped recorder (.list [.cell (.int 1), .cell (.str "!v")]) [] [] = .error .value := by
  decide +kernel

theorem itemByI_statement (n i : Nat) (hi : i < n) (c : Val) (h : isSeqOfLen n c = false → ¬ HoldsSeq n c) :
    itemByI i n c = if isSeqOfLen n c then (c.child (.idx i)).getD c else c := by
  cases hm : isSeqOfLen n c with
  | true =>
    obtain ⟨cs, hc, hl⟩ := isSeqOfLen_eq_true hm
    have hg : getIdx cs i = cs[i]'(by omega) := getIdx_of_getElem? (List.getElem?_eq_getElem (by omega))
    rcases hc with rfl | rfl <;> simp [itemByI, hl, hg, Val.child, hi]
  | false =>
    simp only [Bool.false_eq_true, ↓reduceIte]
    apply itemByI_no_match i n c
    intro q cs hq hat hlen
    exact h hm ⟨q, cs, hq, hat, hlen⟩

/-- **"Matched element by element / by key; everything else is broadcast", at one level.**  Descending into child `s` of `v`, the code hands down `pickLevel v s c` - the member of a
companion that is a sequence of the same length / a dict of the same keys, otherwise the companion whole - unless the
companion is of the K3 class (`SearchedStep`). -/
theorem selStep_statement (v v' : Val) (s : Step) (c : Val) (hv : v.child s = some v') (hc : c.KeysNodup)
    (h : ¬ SearchedStep v c) : selStep v s c = pickLevel v s c := by
  cases s with
  | idx i =>
    obtain ⟨xs, hx, hi⟩ := Val.child_idx_eq_some hv
    rw [pickLevel, selStep_idx hx, levelMatch_seq hx]
    exact itemByI_statement xs.length i (List.getElem?_eq_some_iff.1 hi).1 c fun hm hh =>
      h ((searchedStep_seq hx c).2 ⟨hm, hh⟩)
  | key k =>
    obtain ⟨kvs, rfl, hk⟩ := Val.child_key_eq_some hv
    simp only [selStep, pickLevel]
    cases hm : levelMatch (.dict kvs) c with
    | true =>
      cases c with
      | dict cs =>
        have hp : (keysOf cs).Perm (keysOf kvs) := by simpa [levelMatch] using hm
        have hmem : k ∈ keysOf cs := hp.symm.subset (mem_keys_of_lookup k v' kvs hk)
        obtain ⟨y, hy⟩ := lookup_isSome_of_mem_keys k cs hmem
        simp [itemByKey, sortStr_eq_of_perm hp, getKey_of_lookup hy, hy, Val.child]
      | cell a => cases hm
      | list cs | tuple cs => cases hm
    | false =>
      simp only [Bool.false_eq_true, ↓reduceIte]
      apply itemByKey_no_match k _ c hc
      intro q cs hq hat e
      exact h ⟨hm, ⟨q, cs, hq, hat, perm_of_sortStr_eq _ _ e⟩⟩

/-- on the K3 class (`SearchedStep`) the code hands down something else than the whole companion, which is what the statement
selects -/
theorem selStep_searched (v v' : Val) (s : Step) (c : Val) (hv : v.child s = some v') (h : SearchedStep v c) :
    selStep v s c ≠ pickLevel v s c := by
  simp only [pickLevel, h.1, Bool.false_eq_true, ↓reduceIte]
  cases s with
  | idx i =>
    obtain ⟨xs, hx, _⟩ := Val.child_idx_eq_some hv
    rw [selStep_idx hx]
    exact itemByI_searched i xs.length c ((searchedStep_seq hx c).1 h).2
  | key k =>
    obtain ⟨kvs, rfl, _⟩ := Val.child_key_eq_some hv
    obtain ⟨q, cs, hq, hat, hp⟩ := h.2
    exact itemByKey_searched k _ q c cs hq hat (sortStr_eq_of_perm hp)

/-- the boundary of finding K3, exactly -/
theorem selStep_eq_pickLevel_iff (v v' : Val) (s : Step) (c : Val) (hv : v.child s = some v') (hc : c.KeysNodup) :
    selStep v s c = pickLevel v s c ↔ ¬ SearchedStep v c :=
  ⟨fun e hs => selStep_searched v v' s c hv hs e, selStep_statement v v' s c hv hc⟩

theorem pickLevel_KeysNodup (v : Val) (s : Step) (c : Val) (hc : c.KeysNodup) : (pickLevel v s c).KeysNodup := by
  unfold pickLevel
  split
  · cases hch : c.child s with
    | none => simpa using hc
    | some c' => simpa using KeysNodup_child hc hch
  · exact hc

/-- `NotSearched` holds for a companion deeper than `v` (the leaf receives a dict), and one of another shape that hides a list of the looped
length inside a dict (not searched: passed whole) -/
example :
    let v : Val := .list [.list [.cell (.int 1), .cell (.int 2)], .list [.cell (.int 3), .cell (.int 4)]]
    let deeper : Val := .list [.list [.list [.cell (.int 10)], .dict [("k", .cell (.int 20))]], .cell (.int 30)]
    let other : Val := .list [.dict [("k", .list [.cell (.int 10), .cell (.int 20)])], .cell (.int 5), .cell (.int 6)]
    NotSearched v [.idx 0, .idx 1] deeper ∧ pickAlong v [.idx 0, .idx 1] deeper = .dict [("k", .cell (.int 20))] ∧
    NotSearched v [.idx 0, .idx 1] other ∧ pickAlong v [.idx 0, .idx 1] other = other := by
  intro v deeper other
  have hno : ¬ HoldsSeq 2 other := by
    simp [other, holdsSeq_list_iff, not_holdsSeq_dict, not_holdsSeq_cell]
  refine ⟨⟨fun h => ?_, ⟨fun h => ?_, trivial⟩⟩, by decide +kernel, ⟨fun h => hno h.2, ⟨fun h => ?_, trivial⟩⟩, by decide +kernel⟩
  · have := h.1; revert this; decide +kernel
  · have := h.1; revert this; decide +kernel
  · have h2 := h.2
    have : pickLevel v (.idx 0) other = other := by decide +kernel
    rw [this] at h2
    exact hno h2

/-- code and statement (`select`, `pickAlong`) agree on every prefix of `p` exactly when no level is of the K3 class -/
theorem select_statement_iff : ∀ (p : Path) (v c : Val), c.KeysNodup → (v.at p).isSome →
    ((∀ q, q <+: p → select v q c = pickAlong v q c) ↔ NotSearched v p c)
  | [], v, c, _, _ => by
      refine iff_of_true (fun q hq => ?_) trivial
      rw [List.prefix_nil.1 hq]
      rfl
  | s :: p, v, c, hc, hp => by
      obtain ⟨v', hv, hp'⟩ := Val.at_cons_isSome hp
      rw [notSearched_cons hv, List.forall_prefix_cons, ← selStep_eq_pickLevel_iff v v' s c hv hc,
        ← select_statement_iff p v' (pickLevel v s c) (pickLevel_KeysNodup v s c hc) hp']
      simp only [select_cons hv, Function.comp, pickAlong_cons hv]
      -- the two sides differ by `selStep v s c` for `pickLevel v s c`; `q = []` says that they are equal
      constructor
      · rintro ⟨_, h⟩
        have h1 : selStep v s c = pickLevel v s c := h [] List.nil_prefix
        exact ⟨h1, fun q hq => h1 ▸ h q hq⟩
      · rintro ⟨h1, h⟩
        exact ⟨rfl, fun q hq => h1 ▸ h q hq⟩

/-- **"Matched element by element / by key; everything else is broadcast", through every level**: for any companion the leaf of `v` at `p` receives what the statement selects
(`pickAlong`: at every level the member of a matching container, else the whole), provided no level on the way is of the
K3 class. -/
theorem select_statement : ∀ (p : Path) (v c : Val), c.KeysNodup → (v.at p).isSome → NotSearched v p c →
    select v p c = pickAlong v p c :=
  fun p v c hc hp hn => (select_statement_iff p v c hc hp).2 hn p (List.prefix_refl p)

/-- the first level of the K3 class on a path is where code and statement part -/
theorem select_searched_first : ∀ (p : Path) (s : Step) (v vp v' c : Val), c.KeysNodup → v.at p = some vp →
    vp.child s = some v' → NotSearched v p c → SearchedStep vp (pickAlong v p c) →
    select v (p ++ [s]) c ≠ pickAlong v (p ++ [s]) c
  | [], s, v, vp, v', c, _, hp, hs, _, hk => by
      cases hp
      rw [List.nil_append, select_cons hs, pickAlong_cons hs]
      exact selStep_searched v v' s c hs hk
  | t :: p, s, v, vp, v', c, hc, hp, hs, hn, hk => by
      obtain ⟨v1, hv, hp1⟩ := Val.at_cons_eq_some.1 hp
      rw [notSearched_cons hv] at hn
      rw [pickAlong_cons hv] at hk
      rw [List.cons_append, select_cons hv, pickAlong_cons hv, Function.comp, selStep_statement v v1 t c hv hc hn.1]
      exact select_searched_first p s v1 vp v' (pickLevel v t c) (pickLevel_KeysNodup v t c hc) hp1 hs hn.2 hk

/-- the situation of `select_searched_first` on `rec([[1,2],3], [[[10,20],[30,40],[50,60]], 7])`.  The outer level matches and hands
`[[10,20],[30,40],[50,60]]` down to `[1,2]`; that level is of the K3 class: the leaf `2` receives `[20,40,60]` -/
example :
    let v : Val := .list [.list [.cell (.int 1), .cell (.int 2)], .cell (.int 3)]
    let c : Val := .list [.list [.list [.cell (.int 10), .cell (.int 20)], .list [.cell (.int 30), .cell (.int 40)],
                                 .list [.cell (.int 50), .cell (.int 60)]], .cell (.int 7)]
    NotSearched v [.idx 0] c ∧ select v [.idx 0, .idx 1] c ≠ pickAlong v [.idx 0, .idx 1] c ∧
    select v [.idx 0, .idx 1] c = .list [.cell (.int 20), .cell (.int 40), .cell (.int 60)] ∧
    pickAlong v [.idx 0, .idx 1] c = .list [.list [.cell (.int 10), .cell (.int 20)], .list [.cell (.int 30), .cell (.int 40)],
                                 .list [.cell (.int 50), .cell (.int 60)]] := by
  intro v c
  refine ⟨⟨fun h => ?_, trivial⟩, by decide +kernel, by decide +kernel, by decide +kernel⟩
  have := h.1; revert this; decide +kernel

/-- **`zipper` zips equal-length sequences and broadcasts scalars and length-1 sequences**: if every argument has length `n`
or 1, the result is the `n` rows whose `j`-th entry is the `i`-th element of argument `j`, or its only element. -/
theorem zipper_spec (vs : List Val) (n : Nat) (hne : vs ≠ [])
    (hall : ∀ v ∈ vs, (items v).length = n ∨ (items v).length = 1)
    (hn : n = 1 ∨ ∃ v ∈ vs, (items v).length = n) :
    zzipper vs = .ok ((List.range n).map fun i => .tuple (vs.map fun v =>
      if (items v).length = 1 then (items v).getD 0 (.cell .none)
      else (items v).getD i (.cell .none))) := by
  obtain ⟨v0, hv0, hv0n⟩ : ∃ v ∈ vs, (items v).length = n := by
    rcases hn with rfl | h
    · obtain ⟨v, hv⟩ := List.exists_mem_of_ne_nil vs hne
      exact ⟨v, hv, (hall v hv).elim id id⟩
    · exact h
  have hl : lensOf ((vs.map items).map List.length) = .ok n := by
    rw [List.map_map]
    exact lensOf_map_ok _ vs n hne hall (Or.inr ⟨v0, hv0, hv0n⟩)
  -- the columns `zip` sees: every one has at least `n` items, one of them exactly `n`
  have hm : minLen (if n > 1 then (vs.map items).map (zbcast n) else vs.map items) = n := by
    split
    · rw [List.map_map]
      exact minLen_map_eq _ (fun v hv => Nat.le_of_eq (zbcast_length n _ (hall v hv)).symm)
        ⟨v0, hv0, zbcast_length n _ (hall v0 hv0)⟩
    · exact minLen_map_eq items (fun v hv => by rcases hall v hv with h | h <;> omega) ⟨v0, hv0, hv0n⟩
  simp only [zzipper, hl, zipN, hm]
  rw [List.map_map]
  refine congrArg Except.ok (List.map_congr_left fun i hi => congrArg Val.tuple ?_)
  have hi' : i < n := List.mem_range.1 hi
  split
  · simp only [List.map_map]
    exact List.map_congr_left fun v _ => zbcast_getD n i hi' (items v) _
  · simp only [List.map_map]
    have : i = 0 := by omega
    subst this
    exact List.map_congr_left fun v _ => (ite_self _).symm

/-- **`zipper` raises ValueError exactly when two arguments have different lengths neither of which is 1**
(and it raises nothing else). -/
theorem zipper_raises_iff (vs : List Val) (e : Err) :
    zzipper vs = .error e ↔ e = .value ∧ ∃ a ∈ vs, ∃ b ∈ vs,
      (items a).length ≠ (items b).length ∧ (items a).length ≠ 1 ∧ (items b).length ≠ 1 := by
  rw [← lensOf_map_error_iff (fun v => (items v).length) vs e]
  have hm : (vs.map items).map List.length = vs.map fun v => (items v).length := List.map_map
  cases hr : lensOf (vs.map fun v => (items v).length) with
  | error e' =>
    simp only [zzipper, hm, hr]
    exact ⟨fun h => by cases h; rfl, fun h => by cases h; rfl⟩
  | ok n =>
    simp only [zzipper, hm, hr]
    exact ⟨(fun h => nomatch h), fun h => nomatch h⟩

/-- `zipper()` is empty; `lens()` is 0 -/
theorem zipper_nil : zzipper [] = .ok [] ∧ zlens [] = .ok 0 := by decide +kernel

/-- `lens` of sequences that all have length `n` or 1 is `n` (on `len0`: here scalars and strings count 0) -/
theorem lens_spec (vs : List Val) (n : Nat) (hne : vs ≠ []) (hall : ∀ v ∈ vs, len0 v = n ∨ len0 v = 1)
    (hn : n = 1 ∨ ∃ v ∈ vs, len0 v = n) : zlens vs = .ok n :=
  lensOf_map_ok len0 vs n hne hall hn

/-- `zipper([1,2,3], [4], 'ab', (5,6,7))`: three rows, the one-item list and the string are broadcast -/
example : zzipper [.list [.cell (.int 1), .cell (.int 2), .cell (.int 3)], .list [.cell (.int 4)],
      .cell (.str "ab"), .tuple [.cell (.int 5), .cell (.int 6), .cell (.int 7)]] =
    .ok [.tuple [.cell (.int 1), .cell (.int 4), .cell (.str "ab"), .cell (.int 5)],
         .tuple [.cell (.int 2), .cell (.int 4), .cell (.str "ab"), .cell (.int 6)],
         .tuple [.cell (.int 3), .cell (.int 4), .cell (.str "ab"), .cell (.int 7)]] := by
  decide +kernel

example : zzipper [.list [.cell (.int 1), .cell (.int 2), .cell (.int 3)],
    .list [.cell (.int 4), .cell (.int 5)]] = .error .value := by decide +kernel

/-- `as_list` of the list that `as_list` returns is that list (`as_list` of any list is the list itself) -/
theorem as_list_idem (v : Val) : asList (.list (asList v)) = asList v := rfl

/-- `as_tuple` applied twice equals `as_tuple` applied once exactly when the first result is not a 1-tuple
holding a list. -/
theorem as_tuple_idem_iff (v : Val) :
    asTuple (.tuple (asTuple v)) = asTuple v ↔ ∀ xs, asTuple v ≠ [.list xs] := by
  constructor
  · intro h xs hx
    rw [hx] at h
    simp only [asTuple] at h
    -- `h : xs = [.list xs]`: impossible, the right side is larger than `xs`
    have := congrArg sizeOf h
    simp at this
    omega
  · intro h
    generalize asTuple v = ys at h
    match ys, h with
    | [], _ => rfl
    | [.list xs], h => exact absurd rfl (h xs)
    | [.cell _], _ | [.tuple _], _ | [.dict _], _ => rfl
    | a :: _ :: _, _ => cases a <;> rfl

/-- `as_tuple` is not an idempotent normaliser (finding K2): `as_tuple([[1,2]]) = ([1,2],)` and
`as_tuple(([1,2],)) = (1,2)`.  The clause of the property is false of the code; this is the witness. -/
theorem as_tuple_not_idem :
    ∃ v, asTuple (.tuple (asTuple v)) ≠ asTuple v :=
  ⟨.list [.list [.cell (.int 1), .cell (.int 2)]], by decide +kernel⟩

/-- the right-to-left direction of `as_tuple_idem_iff`: `as_tuple` is idempotent on `v` when its first result is not a 1-tuple
holding a list -/
theorem as_tuple_idem_partial (v : Val) (h : ∀ xs, asTuple v ≠ [.list xs]) :
    asTuple (.tuple (asTuple v)) = asTuple v := (as_tuple_idem_iff v).2 h

example : ∀ xs, asTuple (.tuple [.cell (.int 1), .list [.cell (.int 2)]]) ≠ [.list xs] := by
  intro xs h; simp [asTuple] at h

/-- **the K2 input class**: the first result is a 1-tuple holding a list
exactly for a list holding one list and for a 1-tuple holding such a list -/
theorem as_tuple_k2_class (v : Val) (xs : List Val) :
    asTuple v = [.list xs] ↔ v = .list [.list xs] ∨ v = .tuple [.list [.list xs]] := by
  constructor
  · intro h
    unfold asTuple at h
    split at h
    · cases h
    · right; subst h; rfl
    · rename_i ys hne
      subst h
      exact absurd rfl (hne xs)
    · left; subst h; rfl
    · rename_i h1 h2 h3 h4
      simp only [List.cons.injEq, and_true] at h
      exact absurd h (h4 xs)
  · rintro (rfl | rfl) <;> rfl

/-- In terms of the input: `as_tuple` is idempotent on `v` iff `v` is neither `[[…]]` (a list holding exactly one list) nor
`([[…]],)` - the matcher of finding K2 accepts exactly these inputs -/
theorem as_tuple_idem_iff_input (v : Val) :
    asTuple (.tuple (asTuple v)) = asTuple v ↔ ∀ xs, v ≠ .list [.list xs] ∧ v ≠ .tuple [.list [.list xs]] := by
  rw [as_tuple_idem_iff]
  constructor
  · intro h xs
    have := h xs
    rw [Ne, as_tuple_k2_class] at this
    exact ⟨fun e => this (Or.inl e), fun e => this (Or.inr e)⟩
  · intro h xs hx
    rcases (as_tuple_k2_class v xs).mp hx with e | e
    · exact (h xs).1 e
    · exact (h xs).2 e

example : asTuple (.tuple (asTuple (.tuple [.list [.list [.cell (.int 1)]]]))) ≠ asTuple (.tuple [.list [.list [.cell (.int 1)]]]) := by
  decide +kernel

/-- completion events of two different awaitables commute on every task tree (reachable or not) -/
theorem complete_comm (i j : Nat) (a b : Val) (hij : i ≠ j) (t : Task) :
    complete i a (complete j b t) = complete j b (complete i a t) := by
  induction t using Task.ind with
  | ret v => simp [complete]
  | wait k =>
    by_cases hki : k = i
    · subst hki
      have : k ≠ j := hij
      simp [complete, this]
    · by_cases hkj : k = j
      · subst hkj; simp [complete, hki]
      · simp [complete, hki, hkj]
  | gather k slots ih =>
    simp only [complete, completeList_eq_map, complete_collapse, List.map_map]
    exact congrArg (collapse k) (List.map_congr_left ih)

/-- The whole task tree — not only the final answer — depends only on the *set* of awaitables that have completed, not on
the order (or repetition) of the completion events. -/
theorem waiter_order_irrelevant (w : W) (res : Nat → Val) (σ τ : List Nat) (h : ∀ i, i ∈ σ ↔ i ∈ τ) :
    runEvents w (σ.map fun i => (i, res i)) = runEvents w (τ.map fun i => (i, res i)) := by
  rw [runEvents_eq, runEvents_eq]
  congr 1
  funext j
  have := h j
  by_cases hs : j ∈ σ <;> simp [hs, ← this]

/-- Once every awaitable of the structure has completed — in whatever order, possibly interleaved with
events for other awaitables — `waiter` has returned the structure with every awaitable replaced by its
result. -/
theorem waiter_any_schedule (w : W) (res : Nat → Val) (σ : List Nat) (h : ∀ i ∈ awaitables w, i ∈ σ) :
    (runEvents w (σ.map fun i => (i, res i))).result = some (resolve res w) := by
  rw [runEvents_eq, stateOf_done res _ w fun i hi => by simpa using h i hi]
  rfl

/-- **Schedule independence (confluence)**, as the property states it: for every permutation `σ` of the awaitables as the
order of completion, the caller receives the structure with every awaitable replaced by its result. -/
theorem waiter_confluent (w : W) (res : Nat → Val) (σ : List Nat) (h : σ.Perm (awaitables w)) :
    (runEvents w (σ.map fun i => (i, res i))).result = some (resolve res w) :=
  waiter_any_schedule w res σ fun _ hi => h.symm.subset hi

/-- `waiter` does not return before the last awaitable is done: while some awaitable is pending the caller is suspended. -/
theorem waiter_suspended (w : W) (res : Nat → Val) (σ : List Nat) (h : ∃ i ∈ awaitables w, i ∉ σ) :
    (runEvents w (σ.map fun i => (i, res i))).result = none := by
  rw [runEvents_eq]
  apply stateOf_pending res _ w
  obtain ⟨i, hi, hn⟩ := h
  exact ⟨i, hi, by simpa using hn⟩

/-- a structure without awaitables is returned as it is, immediately -/
theorem waiter_plain (w : W) (res : Nat → Val) (h : awaitables w = []) :
    (runEvents w []).result = some (resolve res w) := by
  have := waiter_any_schedule w res [] (by simp [h])
  simpa using this

/-- non-vacuity: a nested structure, three awaitables, completing in the order 2, 0, 1 -/
example :
    let w : W := .list [.aw 0, .val (.int 5), .dict [("k", .tuple [.aw 1, .aw 2])]]
    [2, 0, 1].Perm (awaitables w) ∧
    (runEvents w [(2, .cell (.int 12)), (0, .cell (.int 10))]).result = none ∧
    (runEvents w [(2, .cell (.int 12)), (0, .cell (.int 10)), (1, .cell (.int 11))]).result =
      some (.list [.cell (.int 10), .cell (.int 5),
        .dict [("k", .tuple [.cell (.int 11), .cell (.int 12)])]]) := by
  refine ⟨?_, by decide +kernel, by decide +kernel⟩
  show [2, 0, 1].Perm [0, 1, 2]
  exact (List.Perm.swap 0 2 [1]).trans (List.Perm.cons 0 (List.Perm.swap 1 2 []))

/-- **The first failure wins, at once and for good.**  After any results (`pre`), the first awaitable of the structure that
raises (`id`, exception `e`) makes `await waiter(...)` raise `e` at that moment, without waiting for the awaitables
still pending, and nothing that happens afterwards (`post`) changes that. -/
theorem waiter_first_failure_wins (w : W) (pre post : List (Nat × Outcome)) (id e : Nat)
    (hid : id ∈ awaitables w) (hpre : ∀ ev ∈ pre, ev.1 ≠ id ∧ ∃ v, ev.2 = .ok v) :
    (runEventsF w (pre ++ (id, .error e) :: post)).outcome = some (.error e) := by
  obtain ⟨hc, hw⟩ := run_ok_invariant id pre (startF w) (startF_clean w) (startF_waits id w hid) hpre
  simp only [runEventsF, List.foldl_append, List.foldl_cons]
  rw [completeF_fail id e _ hc hw, fail_absorbing]
  rfl

/-- hence the outcome depends on the completion order when two awaitables fail: "whatever order the awaitables complete in"
does not extend to exceptions (`waiter([a0, a1])`, both failing). -/
theorem waiter_failure_order_matters :
    (runEventsF (.list [.aw 0, .aw 1]) [(0, .error 7), (1, .error 8)]).outcome = some (.error 7) ∧
    (runEventsF (.list [.aw 0, .aw 1]) [(1, .error 8), (0, .error 7)]).outcome = some (.error 8) :=
  ⟨waiter_first_failure_wins _ [] [(1, .error 8)] 0 7 (by decide) (fun _ h => nomatch h),
   waiter_first_failure_wins _ [] [(0, .error 7)] 1 8 (by decide) (fun _ h => nomatch h)⟩

/-- non-vacuity with a non-empty prefix of results: `waiter({'k': (a1, 5), 'j': a2})`, `a2` returns, then `a1` raises -/
example : (runEventsF (.dict [("k", .tuple [.aw 1, .val (.int 5)]), ("j", .aw 2)])
    ([(2, .ok (.cell (.int 100)))] ++ (1, .error 9) :: [])).outcome = some (.error 9) :=
  waiter_first_failure_wins _ _ _ 1 9 (by simp [awaitables, awaitablesList, awaitablesKVs]) (by simp)

/-- **`WaiterF` refines `Waiter`.**  Run on result events only, the machine with failing awaitables is in the state of the
machine of the statement, embedded (`Task.toF`): `waiter_first_failure_wins` and the `waiter_*` theorems speak about one
machine. -/
theorem waiterF_without_failures (w : W) (evs : List (Nat × Val)) :
    runEventsF w (evs.map fun e => (e.1, (Except.ok e.2 : Outcome))) = (runEvents w evs).toF := by
  simp only [runEventsF, runEvents, startF_toF]
  exact foldF_toF evs _

theorem waiterF_outcome_without_failures (w : W) (evs : List (Nat × Val)) :
    (runEventsF w (evs.map fun e => (e.1, (Except.ok e.2 : Outcome)))).outcome = (runEvents w evs).result.map Except.ok := by
  rw [waiterF_without_failures]
  cases runEvents w evs <;> simp [Task.toF, TaskF.outcome, Task.result]

/-- schedule independence holds of the machine with failures as long as nothing fails -/
theorem waiterF_confluent (w : W) (res : Nat → Val) (σ : List Nat) (h : σ.Perm (awaitables w)) :
    (runEventsF w (σ.map fun i => (i, (Except.ok (res i) : Outcome)))).outcome = some (.ok (resolve res w)) := by
  have := waiterF_outcome_without_failures w (σ.map fun i => (i, res i))
  simp only [List.map_map] at this
  rw [waiter_confluent w res σ h] at this
  simpa [Function.comp_def] using this

/-- **`asyncio.gather` returns its children's results positionally** - of a gather node that only keeps a log of completions
`(child index, result)` in arrival order: once all children are done the log holds one record per child and the results
read off it are the children's results in the order of the children. -/
theorem gather_positional (children : List TaskL) (vs : List Val) (log : List (Nat × Val))
    (hall : allRet (TaskL.toTaskList children) = some vs) (hp : log.Perm (doneLog 0 children)) :
    log.length = children.length ∧ logResults children.length log = vs :=
  logResults_positional children vs log hall hp

example : logResults 3 [(2, .cell (.int 30)), (0, .cell (.int 10)), (1, .cell (.int 20))] =
    [.cell (.int 10), .cell (.int 20), .cell (.int 30)] := by decide +kernel

/-- **The log machine refines the slot machine**: after any sequence of completion events, forgetting the logs of the
log-based task tree gives the task tree of `PygModel.Waiter`, so the `waiter_*` theorems hold of the log-based machine too. -/
theorem waiterL_refines (w : W) (evs : List (Nat × Val)) : (runEventsL w evs).toTask = runEvents w evs := by
  obtain ⟨h1, h2⟩ := startL_refines w
  have := (foldL_refines evs (startL w) h2).1
  simpa [runEventsL, runEvents, h1] using this

theorem waiterL_result (w : W) (evs : List (Nat × Val)) : (runEventsL w evs).result = (runEvents w evs).result := by
  rw [← waiterL_refines, toTask_result]

/-- schedule independence of the log-based machine: every completion order gives the resolved structure -/
theorem waiterL_confluent (w : W) (res : Nat → Val) (σ : List Nat) (h : σ.Perm (awaitables w)) :
    (runEventsL w (σ.map fun i => (i, res i))).result = some (resolve res w) := by
  rw [waiterL_result]; exact waiter_confluent w res σ h

/-- the log-based machine does not return before the last awaitable is done -/
theorem waiterL_suspended (w : W) (res : Nat → Val) (σ : List Nat) (h : ∃ i ∈ awaitables w, i ∉ σ) :
    (runEventsL w (σ.map fun i => (i, res i))).result = none := by
  rw [waiterL_result]; exact waiter_suspended w res σ h

/-! `wrappedX T f` (PygModel/LiftX.lean) models `loops(types = T)._wrapped` with all its branches: dict subclasses (class tag),
Series, DataFrame (by column or, with `axis`, by row), 2-d ndarray, and the pandas / numpy branches of the companion
selection.  The property does not speak of these: where the code disagrees with the theorems below it diverges from the
model, it does not violate C19 - except on plain lists / tuples / dicts, where `liftx_refines` makes the two models one. -/

/-- **Refinement.** On plain values the extended model, for any type set holding list, tuple and dict
(`loop(list, tuple, dict)`, `loops(types = (list, tuple, dict))`, `loop_all`), is `wrapped`. -/
theorem liftx_refines (T : LoopTypes) (f' : XLeafFn) (f : LeafFn) (hl : T.list = true) (ht : T.tuple = true)
    (hd : T.dicts.contains 0 = true) (hf : Extends f' f) (v : Val) (args : List Val) (kw : KW) :
    wrappedX T f' v.emb (Val.embList args) (Val.embKVs kw) = (wrapped f v args kw).map Val.emb := by
  have := wrappedX_embed_upto id throughContainers_id T f' f hl ht hd hf.upTo v args kw
  rwa [Except.map_id] at this

/-- non-vacuity of `liftx_refines`: the identity leaf, the type sets of the three decorators -/
example : Extends identX (fun a _ _ => .ok a) := by intro a args kw; simp [identX, Except.map]
example : LoopTypes.ltd.list = true ∧ LoopTypes.ltd.tuple = true ∧ LoopTypes.ltd.dicts.contains 0 = true ∧
    LoopTypes.ltdPlain.dicts.contains 0 = true ∧ LoopTypes.all.dicts.contains 0 = true := by decide

/-- **Refinement up to the leaf results.**  The recording function of the `liftx` driver returns an opaque record object where
the plain recorder returns a tuple, so the two are related only up to a map `g` of the results that goes through lists,
tuples and dicts: then the extended model, mapped, is the model of the statement. -/
theorem liftx_refines_upto (g : XVal → XVal) (hg : ThroughContainers g) (T : LoopTypes) (f' : XLeafFn) (f : LeafFn)
    (hl : T.list = true) (ht : T.tuple = true) (hd : T.dicts.contains 0 = true) (hf : ExtendsUpTo g f' f)
    (v : Val) (args : List Val) (kw : KW) :
    (wrappedX T f' v.emb (Val.embList args) (Val.embKVs kw)).map g = (wrapped f v args kw).map Val.emb :=
  wrappedX_embed_upto g hg T f' f hl ht hd hf v args kw

/-- The recording functions `recorderX` and `recorder` are related up to `XVal.unobj`: what the `liftx` lines of the correspondence run compare
on plain lists / tuples / dicts is what the `lift call` lines compare. -/
theorem liftx_refines_recorder (T : LoopTypes) (hl : T.list = true) (ht : T.tuple = true) (hd : T.dicts.contains 0 = true)
    (v : Val) (args : List Val) (kw : KW) :
    (wrappedX T recorderX v.emb (Val.embList args) (Val.embKVs kw)).map XVal.unobj =
      (wrapped recorder v args kw).map Val.emb :=
  liftx_refines_upto XVal.unobj throughContainers_unobj T recorderX recorder hl ht hd recorderX_extends v args kw

/-- `loops.wrapped` (first argument positional or by keyword) refines too -/
theorem liftx_call_refines (T : LoopTypes) (f' : XLeafFn) (f : LeafFn) (hl : T.list = true) (ht : T.tuple = true)
    (hd : T.dicts.contains 0 = true) (hf : Extends f' f) (top : String) (args : List Val) (kw : KW) :
    callLiftedX T f' top (Val.embList args) (Val.embKVs kw) = (callLifted f top args kw).map Val.emb := by
  have htop : ∀ (v : Val) (as : List Val) (k : KW),
      topX T f' v.emb (Val.embList as) (Val.embKVs k) = (wrapped f v as k).map Val.emb := by
    intro v as k
    have := liftx_refines T f' f hl ht hd hf v as k
    -- `topX` differs from `wrappedX` on a Series only, and no embedded plain value is one
    cases v <;> simpa [topX, Val.emb] using this
  cases args with
  | cons a rest => simpa [callLiftedX, callLifted, Val.embList] using htop a rest kw
  | nil =>
    simp only [callLiftedX, callLifted, Val.embList, lookup_embKVs]
    cases kw.lookup top with
    | none => rfl
    | some v => exact (congrArg _ (filter_embKVs (· != top) kw)).trans (htop v [] _)

/-- `lift_sub` for the extended model (`p` runs through containers that `T` loops over); `axis` is consumed by the
outermost level (`kwAt`). -/
theorem liftx_sub (T : LoopTypes) (f : XLeafFn) : ∀ (p : Path) (v : XVal) (args : List XVal) (kw : XKW) (r v' : XVal),
    wrappedX T f v args kw = .ok r → v.atT T p = some v' →
    ∃ r', r.atT T p = some r' ∧
      wrappedX T f v' (args.map (selectX T v p)) (mapXKW (selectX T v p) (kwAt p kw)) = .ok r'
  | [], v, args, kw, r, v', h, hp => by
      cases hp
      refine ⟨r, rfl, ?_⟩
      rw [selectX_nil, List.map_id', mapXKW_id]
      exact h
  | s :: p, v, args, kw, r, v', h, hp => by
      obtain ⟨c, hc, hp'⟩ := XVal.atT_cons_eq_some.1 hp
      obtain ⟨y, hy1, hy2⟩ := wrappedX_child h hc
      obtain ⟨r', hr1, hr2⟩ := liftx_sub T f p c _ _ y v' hy2 hp'
      refine ⟨r', XVal.atT_cons_eq_some.2 ⟨y, hy1, hr1⟩, ?_⟩
      rw [kwAt_mapXKW_dropAxisX, List.map_map, mapXKW_mapXKW, ← selectX_cons hc] at hr2
      exact hr2

/-- **Dict subclasses keep their class** (`type(arg)(res)`, _loop.py:211): where the argument holds a dict of a class the
decorator loops over (for the `loop` factory: `dict`, `Dict`, `dictattr`, `OrderedDict`), the result holds a dict of the
same class with the same keys in the same order. -/
theorem lift_keeps_class (T : LoopTypes) (f : XLeafFn) (v : XVal) (args : List XVal) (kw : XKW) (r : XVal) (p : Path)
    (cls : Nat) (kvs : XKW) (h : wrappedX T f v args kw = .ok r) (hp : v.atT T p = some (.dict cls kvs))
    (hc : T.dicts.contains cls = true) :
    ∃ rs, r.atT T p = some (.dict cls rs) ∧ xkeysOf rs = xkeysOf kvs := by
  obtain ⟨r', h1, h2⟩ := liftx_sub T f p v args kw r _ h hp
  rw [wrappedX_dict hc] at h2
  obtain ⟨ys, hys, rfl⟩ := Res.map_eq_ok h2
  exact ⟨ys, h1, (wrappedXKVs_lookup kvs _ _ ys hys).1⟩

/-- lists stay lists and tuples stay tuples, of the same length -/
theorem liftx_shape_seq (T : LoopTypes) (f : XLeafFn) (v : XVal) (args : List XVal) (kw : XKW) (r : XVal) (p : Path)
    (xs : List XVal) (h : wrappedX T f v args kw = .ok r) :
    (T.list = true → v.atT T p = some (.list xs) → ∃ ys, r.atT T p = some (.list ys) ∧ ys.length = xs.length) ∧
    (T.tuple = true → v.atT T p = some (.tuple xs) → ∃ ys, r.atT T p = some (.tuple ys) ∧ ys.length = xs.length) := by
  constructor
  · intro hl hp
    obtain ⟨r', h1, h2⟩ := liftx_sub T f p v args kw r _ h hp
    rw [wrappedX_list hl] at h2
    obtain ⟨ys, hys, rfl⟩ := Res.map_eq_ok h2
    exact ⟨ys, h1, (wrappedXSeq_get xs 0 _ _ ys hys).1⟩
  · intro hl hp
    obtain ⟨r', h1, h2⟩ := liftx_sub T f p v args kw r _ h hp
    rw [wrappedX_tuple hl] at h2
    obtain ⟨ys, hys, rfl⟩ := Res.map_eq_ok h2
    exact ⟨ys, h1, (wrappedXSeq_get xs 0 _ _ ys hys).1⟩

/-- **Leaves of the extended model**: a value the decorator does not loop over - in particular a dict of a class that is
not among the looped types (a user subclass, `defaultdict`; every subclass for `loops(types = (…, dict))` used without
the factory) - is handed to `f` whole, with the selected companions. -/
theorem liftx_leaves (T : LoopTypes) (f : XLeafFn) (v : XVal) (args : List XVal) (kw : XKW) (r : XVal) (p : Path)
    (v' : XVal) (h : wrappedX T f v args kw = .ok r) (hp : v.atT T p = some v') (hleaf : v'.leafFor T = true) :
    ∃ y, f v' (args.map (selectX T v p)) (mapXKW (selectX T v p) (dropAxisX kw)) = .ok y ∧ r.atT T p = some y := by
  obtain ⟨r', h1, h2⟩ := liftx_sub T f p v args kw r _ h hp
  rw [wrappedX_leaf hleaf, dropAxisX_mapXKW, dropAxisX_kwAt] at h2
  exact ⟨r', h2, h1⟩

/-- the factory (`_dict.py:163-173`): `loop(list, tuple, dict)` and `loop_all` loop over the dict classes 0-3 (`dict`, `Dict`,
`dictattr`, `OrderedDict`), `loops(types = (list, tuple, dict))` over `dict` alone -/
theorem loop_factory_classes :
    (∀ cls, LoopTypes.ltd.dicts.contains cls = true ↔ cls = 0 ∨ cls = 1 ∨ cls = 2 ∨ cls = 3) ∧
    (∀ cls, LoopTypes.ltdPlain.dicts.contains cls = true ↔ cls = 0) ∧
    LoopTypes.all.dicts = LoopTypes.ltd.dicts := by
  refine ⟨?_, ?_, rfl⟩
  · intro cls; simp [LoopTypes.ltd]; omega
  · intro cls; simp [LoopTypes.ltdPlain]

/-- the path hypotheses of `lift_keeps_class` / `liftx_leaves` on `[Dict(b = 1, a = MyDict(x = 2))]`: the `Dict` is looped,
the user subclass inside it is a leaf -/
example :
    let v : XVal := .list [.dict 1 [("b", .cell (.int 1)), ("a", .dict 4 [("x", .cell (.int 2))])]]
    v.atT .ltd [.idx 0] = some (.dict 1 [("b", .cell (.int 1)), ("a", .dict 4 [("x", .cell (.int 2))])]) ∧
      v.atT .ltd [.idx 0, .key "a"] = some (.dict 4 [("x", .cell (.int 2))]) ∧
      (XVal.dict 4 [("x", .cell (.int 2))]).leafFor .ltd = true ∧ v.atT .ltd [.idx 0, .key "a", .key "x"] = Option.none := by
  refine ⟨?_, ?_, ?_, ?_⟩ <;> rfl

/-- **A Series that is not a timeseries is looped by label** (`loops.wrapped`, top level only): the result is a Series with
the same labels whose value at `k` is the lifted call on the value at `k`, companions selected by key (`_item_by_key`
without a position). -/
theorem liftx_series (T : LoopTypes) (f : XLeafFn) (top : String) (ks : List String) (xs args : List XVal) (kw : XKW)
    (r : XVal) (hT : T.series = true) (hwf : ks.length = xs.length)
    (h : callLiftedX T f top (.ser ks xs :: args) kw = .ok r) :
    ∃ ys, r = .ser ks ys ∧ ys.length = xs.length ∧ ∀ (j : Nat) (k : String) (x : XVal), ks[j]? = some k → xs[j]? = some x →
      ∃ y, ys[j]? = some y ∧
        wrappedX T f x (args.map (itemByKeyX k (sortStr ks) Option.none))
          (mapXKW (itemByKeyX k (sortStr ks) Option.none) kw) = .ok y := by
  simp only [callLiftedX, topX, hT, if_true] at h
  -- the calls on the values (`serCalls`) raise, or return `ys`
  split at h
  · cases h
  · rename_i ys hys
    cases h
    rw [serCalls_eq_mapM, List.mapM_eq_ok_iff, List.length_zip, hwf, Nat.min_self] at hys
    refine ⟨ys, rfl, hys.1, fun j k x hk hx => ?_⟩
    obtain ⟨y, hy, hj⟩ := hys.2 j (k, x) (List.getElem?_zip_eq_some.2 ⟨hk, hx⟩)
    exact ⟨y, hj, hy⟩

/-- below the top level (and when `pd.Series` is not among the types) a Series is a leaf -/
theorem liftx_series_leaf (T : LoopTypes) (f : XLeafFn) (ks : List String) (xs args : List XVal) (kw : XKW) :
    wrappedX T f (.ser ks xs) args kw = f (.ser ks xs) args (dropAxisX kw) :=
  wrappedX_leaf rfl f args kw

/-- the leaf function returns objects that `axis0_to_dataframe` / `axis0_to_array` cannot assemble into columns (the recording
function of the driver does) -/
def OpaqueResults (f : XLeafFn) : Prop := ∀ a args kw y, f a args kw = .ok y → y.isObj = true

theorem recorderX_opaque : OpaqueResults recorderX := by
  intro a args kw y h
  simp only [recorderX] at h
  -- a string leaf: three raising prefixes (`!v`, `!k`, `!`), else the record; any other leaf: the record
  split at h
  · split at h
    · cases h
    · split at h
      · cases h
      · split at h
        · cases h
        · cases h; rfl
  · cases h; rfl

theorem all_isObj_of_get {ys : List XVal} (h : ∀ (j : Nat) (y : XVal), ys[j]? = some y → y.isObj = true) : ys.all XVal.isObj = true := by
  rw [List.all_eq_true]
  intro y hy
  obtain ⟨j, hj⟩ := List.getElem?_of_mem hy
  exact h j y hj

/-- **A DataFrame is looped by column** (`axis` absent or not 1 / -1): one leaf call per column, in column order, on the
column as a Series; companions selected by the column label and its position.  With opaque results the result is a
Series labelled by the columns. -/
theorem liftx_frame_by_column (T : LoopTypes) (f : XLeafFn) (idx cols : List String) (rows : List (List Cell))
    (args : List XVal) (kw : XKW) (r : XVal) (hT : T.frame = true) (hax : axisIs1 kw = false) (hne : cols ≠ [])
    (hf : OpaqueResults f) (h : wrappedX T f (.frame idx cols rows) args kw = .ok r) :
    ∃ ys, r = .ser cols ys ∧ ys.length = cols.length ∧ ∀ (j : Nat) (c : String), cols[j]? = some c →
      ∃ y, ys[j]? = some y ∧
        f (frameCol idx rows j) (args.map (itemByKeyX c (sortStr cols) (some j)))
          (mapXKW (itemByKeyX c (sortStr cols) (some j)) (dropAxisX kw)) = .ok y := by
  rw [wrappedX_frame hT f idx cols rows args hax, loopFrame] at h
  -- `loopFrame`: a companion whose selection raises KeyError ends the call before any leaf call …
  split at h
  · cases h
  -- … otherwise the calls on the columns (`frameCalls`) raise, or return `ys`
  · split at h
    · cases h
    · rename_i ys hys
      rw [frameCalls_eq_mapM] at hys
      have hobj : ys.all XVal.isObj = true := List.all_eq_true.2 fun y hy =>
        (List.mem_of_mapM_ok hys y hy).elim fun _ hx => hf _ _ _ _ hx.2
      rw [List.mapM_eq_ok_iff, List.length_zipIdx] at hys
      have hemp : ys.isEmpty = false := by
        cases ys with
        | nil => exact absurd (List.length_eq_zero_iff.1 hys.1.symm) hne
        | cons _ _ => rfl
      simp only [toFrame, hemp, hobj, if_true] at h
      cases h
      refine ⟨ys, rfl, hys.1, fun j c hc => ?_⟩
      obtain ⟨y, hy, hj⟩ := hys.2 j (c, 0 + j) (by rw [List.getElem?_zipIdx, hc]; rfl)
      exact ⟨y, hj, by simpa [frameCol] using hy⟩

/-- **With `axis = 1` or `-1` a DataFrame is looped by row**: the frame and every companion are transposed (`loops.T`), the rows are looped
like columns, and the result is labelled by the index. -/
theorem liftx_frame_by_row (T : LoopTypes) (f : XLeafFn) (idx cols : List String) (rows : List (List Cell))
    (args : List XVal) (kw : XKW) (r : XVal) (hT : T.frame = true) (hax : axisIs1 kw = true) (hne : idx ≠ [])
    (hf : OpaqueResults f) (h : wrappedX T f (.frame idx cols rows) args kw = .ok r) :
    ∃ ys, r = .ser idx ys ∧ ys.length = idx.length ∧ ∀ (j : Nat) (i : String), idx[j]? = some i →
      ∃ y, ys[j]? = some y ∧
        f (frameCol cols (transposeRows cols.length rows) j) ((args.map tX).map (itemByKeyX i (sortStr idx) (some j)))
          (mapXKW (itemByKeyX i (sortStr idx) (some j)) (mapXKW tX (dropAxisX kw))) = .ok y := by
  rw [wrappedX_frameT hT f idx cols rows args hax, loopFrameT] at h
  -- `loopFrameT`: the run on the transposed frame raises, or returns `r0`, which is relabelled
  split at h
  · cases h
  · rename_i r0 hr0
    cases h
    have hax0 : axisIs1 (tXKVs (dropAxisX kw)) = false := by
      rw [tXKVs_eq_map, ← dropAxisX_mapXKW]; exact axisIs1_dropAxisX _
    have e : dropAxisX (tXKVs (dropAxisX kw)) = tXKVs (dropAxisX kw) := by
      rw [tXKVs_eq_map, dropAxisX_mapXKW, dropAxisX_idem]
    have hw : wrappedX T f (.frame cols idx (transposeRows cols.length rows)) (tXList args) (tXKVs (dropAxisX kw)) = .ok r0 := by
      rw [wrappedX_frame hT f _ _ _ _ hax0, e]
      exact hr0
    obtain ⟨ys, rfl, h1, h2⟩ := liftx_frame_by_column T f cols idx _ _ _ r0 hT hax0 hne hf hw
    refine ⟨ys, by simp [tX, relabel, h1], h1, ?_⟩
    intro j i hi
    obtain ⟨y, hy1, hy2⟩ := h2 j i hi
    refine ⟨y, hy1, ?_⟩
    rw [tXList_eq_map, tXKVs_eq_map, dropAxisX_mapXKW, dropAxisX_idem] at hy2
    exact hy2

/-- **A 2-d ndarray is looped by its last axis**: one leaf call per column, on the column as a 1-d array (a one-column array:
on the squeezed column, see `itemByIX`), companions selected by position with `_item_by_i`; with opaque results the
result is a 1-d array of them. -/
theorem liftx_array_by_column (T : LoopTypes) (f : XLeafFn) (nc : Nat) (rows : List (List Cell))
    (args : List XVal) (kw : XKW) (r : XVal) (hT : T.array = true) (hax : axisIs1 kw = false)
    (hf : OpaqueResults f) (h : wrappedX T f (.arr2 nc rows) args kw = .ok r) :
    ∃ ys, r = .arr1 ys ∧ ys.length = nc ∧ ∀ j, j < nc →
      ∃ y, ys[j]? = some y ∧
        f (itemByIX j nc (.arr2 nc rows)) (args.map (itemByIX j nc)) (mapXKW (itemByIX j nc) (dropAxisX kw)) = .ok y := by
  rw [wrappedX_arr2 hT f nc rows args hax, loopArr] at h
  -- the calls on the columns (`arrCalls`) raise, or return `ys`
  split at h
  · cases h
  · rename_i ys hys
    rw [arrCalls_eq_mapM] at hys
    have hobj : ys.all XVal.isObj = true := List.all_eq_true.2 fun y hy =>
      (List.mem_of_mapM_ok hys y hy).elim fun _ hx => hf _ _ _ _ hx.2
    simp only [toArr, hobj, if_true] at h
    cases h
    rw [List.mapM_eq_ok_iff, List.length_range'] at hys
    refine ⟨ys, rfl, hys.1, fun j hj => ?_⟩
    obtain ⟨y, hy, hj'⟩ := hys.2 j (0 + j) (by rw [List.getElem?_range' hj, Nat.one_mul])
    exact ⟨y, hj', by simpa using hy⟩

theorem liftx_array_column (nc : Nat) (rows : List (List Cell)) (j : Nat) (h : nc ≠ 1) :
    itemByIX j nc (.arr2 nc rows) = .arr1 (colOf rows j) := by
  simp [itemByIX, h]

theorem liftx_array1_leaf (T : LoopTypes) (f : XLeafFn) (xs args : List XVal) (kw : XKW) :
    wrappedX T f (.arr1 xs) args kw = f (.arr1 xs) args (dropAxisX kw) :=
  wrappedX_leaf rfl f args kw

/-- the side conditions of `liftx_series`, `liftx_frame_by_column`, `liftx_frame_by_row` and `liftx_array_by_column` on the
leaf function, the keywords and the type set hold for the recording function, `axis = 1` and `loop_all` (the calls themselves
are evaluated by the correspondence run, against pandas / numpy) -/
example : OpaqueResults recorderX ∧ axisIs1 [("axis", .cell (.int 1))] = true ∧ axisIs1 [("b", .cell (.int 1))] = false ∧
    LoopTypes.all.frame = true ∧ LoopTypes.all.array = true ∧ LoopTypes.all.series = true :=
  ⟨recorderX_opaque, rfl, rfl, rfl, rfl, rfl⟩

/-- `_item_by_i`: a 1-d array or a (non-timeseries) Series of the looped length gives its `i`-th element, a 2-d array /
DataFrame with that many columns (and more than one) its `i`-th column. -/
theorem sel_by_position_indexed (i n : Nat) (xs : List XVal) (ks idx cols : List String) (nc : Nat)
    (rows : List (List Cell)) (hx : xs.length = n) (hnc : nc = n) (hcols : cols.length = n) (h1 : n ≠ 1) :
    itemByIX i n (.arr1 xs) = xgetIdx xs i ∧ itemByIX i n (.ser ks xs) = xgetIdx xs i ∧
    itemByIX i n (.arr2 nc rows) = .arr1 (colOf rows i) ∧
    itemByIX i n (.frame idx cols rows) = .ser idx (colOf rows i) := by
  subst hnc
  simp [itemByIX, hx, hcols, h1]

/-- `_item_by_i`: a pandas / numpy companion of any other length, and not of one column, is passed whole. -/
theorem sel_by_position_other (i n : Nat) (xs : List XVal) (ks idx cols : List String) (nc : Nat)
    (rows : List (List Cell)) (hx : xs.length ≠ n) (hnc : nc ≠ n) (hcols : cols.length ≠ n) (h1 : nc ≠ 1)
    (h2 : cols.length ≠ 1) :
    itemByIX i n (.arr1 xs) = .arr1 xs ∧ itemByIX i n (.ser ks xs) = .ser ks xs ∧
    itemByIX i n (.arr2 nc rows) = .arr2 nc rows ∧
    itemByIX i n (.frame idx cols rows) = .frame idx cols rows := by
  simp [itemByIX, hx, hnc, hcols, h1, h2]

/-- `_item_by_i` squeezes a one-column DataFrame / 2-d array first: with the looped number of rows it is indexed by
row, otherwise it arrives as its column (a Series / 1-d array, not the object that was passed). -/
theorem sel_by_position_squeezed (i n : Nat) (idx : List String) (c : String) (rows : List (List Cell)) :
    (rows.length = n → itemByIX i n (.frame idx [c] rows) = xgetIdx (colOf rows 0) i ∧
                        itemByIX i n (.arr2 1 rows) = xgetIdx (colOf rows 0) i) ∧
    (rows.length ≠ n → itemByIX i n (.frame idx [c] rows) = .ser idx (colOf rows 0) ∧
                        itemByIX i n (.arr2 1 rows) = .arr1 (colOf rows 0)) := by
  constructor <;> intro h <;> simp [itemByIX, h]

/-- `_item_by_key`: a Series with the looped labels is matched by label, a DataFrame with the looped labels as its
columns gives the column, as its index the row — in dict, Series and DataFrame loops alike. -/
theorem sel_by_key_labels (k : String) (keys ks idx cols : List String) (pos : Option Nat) (xs : List XVal)
    (rows : List (List Cell)) :
    (sortStr ks = keys → itemByKeyX k keys pos (.ser ks xs) = xgetIdx xs (ks.idxOf k)) ∧
    (sortStr cols = sortStr keys → itemByKeyX k keys pos (.frame idx cols rows) = .ser idx (colOf rows (cols.idxOf k))) ∧
    (sortStr cols ≠ sortStr keys → sortStr idx = sortStr keys →
      itemByKeyX k keys pos (.frame idx cols rows) = .ser cols (rowOf rows (idx.idxOf k))) := by
  refine ⟨?_, ?_, ?_⟩ <;> intro h <;> simp [itemByKeyX, h]

/-- Only the DataFrame loop hands the position on to `_item_by_key`: there a list / tuple / 1-d array of the looped length is indexed
by position and a 2-d array with that many columns gives its column; in a dict or Series loop (`pos = none`) they are
passed whole. -/
theorem sel_by_key_position (k : String) (keys : List String) (i : Nat) (xs : List XVal) (nc : Nat)
    (rows : List (List Cell)) (hx : xs.length = keys.length) (hnc : nc = keys.length) :
    itemByKeyX k keys (some i) (.list xs) = xgetIdx xs i ∧ itemByKeyX k keys (some i) (.tuple xs) = xgetIdx xs i ∧
    itemByKeyX k keys (some i) (.arr1 xs) = xgetIdx xs i ∧ itemByKeyX k keys (some i) (.arr2 nc rows) = .arr1 (colOf rows i) ∧
    itemByKeyX k keys Option.none (.list xs) = .list xs ∧ itemByKeyX k keys Option.none (.tuple xs) = .tuple xs ∧
    itemByKeyX k keys Option.none (.arr1 xs) = .arr1 xs ∧ itemByKeyX k keys Option.none (.arr2 nc rows) = .arr2 nc rows := by
  simp [itemByKeyX, hx, hnc]

/-- a Series / DataFrame of the looped length whose labels are not the looped ones makes the DataFrame loop raise
KeyError (`value[i]` with an integer on string labels), before any leaf call -/
theorem frame_loop_keyerror (T : LoopTypes) (f : XLeafFn) (idx cols : List String) (rows : List (List Cell))
    (c : XVal) (args : List XVal) (kw : XKW) (hT : T.frame = true) (hax : axisIs1 kw = false) (hne : cols ≠ [])
    (hc : keySelRaises (sortStr cols) c = true) :
    wrappedX T f (.frame idx cols rows) (c :: args) kw = .error .key := by
  have : cols.isEmpty = false := by cases cols <;> simp_all
  simp [wrappedX_frame hT f idx cols rows (c :: args) hax, loopFrame, this, hc]

example : keySelRaises (sortStr ["x", "y"]) (.ser ["p", "q"] [.cell (.int 1), .cell (.int 2)]) = true := by decide +kernel

/-- the call the public `replace(text, old, new)` makes: `_replace(text, old = old, new = new)` (_txt.py:84-95) -/
def replaceCall (f : LeafFn) (text old new : Val) : Res Val := wrapped f text [] [("old", old), ("new", new)]
/-- the call the public `split(text, sep, dedup)` makes: `_split(text, sep = sep, dedup = dedup)` (_txt.py:186-215) -/
def splitCall (f : LeafFn) (text sep dedup : Val) : Res Val := wrapped f text [] [("sep", sep), ("dedup", dedup)]

theorem two_keyword_companions (f : LeafFn) (k1 k2 : String) (h1 : k1 ≠ "axis") (h2 : k2 ≠ "axis")
    (v c d r : Val) (p : Path) (a : Cell)
    (h : wrapped f v [] [(k1, c), (k2, d)] = .ok r) (hp : v.at p = some (.cell a)) :
    ∃ y, f (.cell a) [] [(k1, select v p c), (k2, select v p d)] = .ok y ∧ r.at p = some y := by
  obtain ⟨y, hy, hr⟩ := lift_leaves f v [] [(k1, c), (k2, d)] r p a h hp
  refine ⟨y, ?_, hr⟩
  have hd : dropAxis [(k1, c), (k2, d)] = [(k1, c), (k2, d)] := by simp [dropAxis, h1, h2]
  simpa [hd, mapKW] using hy

theorem _root_.Pyg.two_keyword_companions_pickAlong (f : LeafFn) (k1 k2 : String) (h1 : k1 ≠ "axis") (h2 : k2 ≠ "axis")
    (v c d r : Val) (p : Path) (a : Cell) (hc : c.KeysNodup) (hd : d.KeysNodup)
    (h : wrapped f v [] [(k1, c), (k2, d)] = .ok r) (hp : v.at p = some (.cell a))
    (sc : NotSearched v p c) (sd : NotSearched v p d) :
    ∃ y, f (.cell a) [] [(k1, pickAlong v p c), (k2, pickAlong v p d)] = .ok y ∧ r.at p = some y := by
  have hp' : (v.at p).isSome := by simp [hp]
  rw [← select_statement p v c hc hp' sc, ← select_statement p v d hd hp' sd]
  exact two_keyword_companions f k1 k2 h1 h2 v c d r p a h hp

/-- **`replace`: the companion clause for the public signature.**  The leaf at `p` is the leaf function applied to the text leaf
with the keywords `old` / `new` holding what the statement selects for that position (`pickAlong`), provided no level is of the
K3 class. -/
theorem replace_companions (f : LeafFn) (text old new r : Val) (p : Path) (a : Cell)
    (ho : old.KeysNodup) (hn : new.KeysNodup)
    (h : replaceCall f text old new = .ok r) (hp : text.at p = some (.cell a))
    (so : NotSearched text p old) (sn : NotSearched text p new) :
    ∃ y, f (.cell a) [] [("old", pickAlong text p old), ("new", pickAlong text p new)] = .ok y ∧ r.at p = some y :=
  two_keyword_companions_pickAlong f "old" "new" (by decide) (by decide) text old new r p a ho hn h hp so sn

/-- `split`: the leaf at `p` is the leaf function applied to the text leaf with the keywords `sep` / `dedup` holding what the
statement selects for that position (`pickAlong`), provided no level is of the K3 class. -/
theorem split_companions (f : LeafFn) (text sep dedup r : Val) (p : Path) (a : Cell)
    (hs : sep.KeysNodup) (hd : dedup.KeysNodup)
    (h : splitCall f text sep dedup = .ok r) (hp : text.at p = some (.cell a))
    (ss : NotSearched text p sep) (sd : NotSearched text p dedup) :
    ∃ y, f (.cell a) [] [("sep", pickAlong text p sep), ("dedup", pickAlong text p dedup)] = .ok y ∧ r.at p = some y :=
  two_keyword_companions_pickAlong f "sep" "dedup" (by decide) (by decide) text sep dedup r p a hs hd h hp ss sd

/-- the instance the docstring of `replace` does not mention: `n` texts and a list of `n` strings to replace are paired (text `i` has
only `olds[i]` removed) -/
theorem replace_pairs_elementwise (f : LeafFn) (xs cs : List Val) (new : Cell) (r : Val) (i : Nat) (a : Cell)
    (hl : cs.length = xs.length) (hx : xs[i]? = some (.cell a))
    (h : replaceCall f (.list xs) (.list cs) (.cell new) = .ok r) :
    ∃ y, f (.cell a) [] [("old", getIdx cs i), ("new", .cell new)] = .ok y ∧ r.at [.idx i] = some y := by
  have hp : (Val.list xs).at [.idx i] = some (.cell a) := by simp [Val.at, Val.child, hx]
  obtain ⟨y, hy, hr⟩ := two_keyword_companions f "old" "new" (by decide) (by decide) _ _ _ r _ a h hp
  refine ⟨y, ?_, hr⟩
  have e1 : select (.list xs) [.idx i] (.list cs) = getIdx cs i := by
    simp [select, Val.child, hx, (selStep_same_length xs cs i hl).1]
  simpa [e1, select_scalar] using hy

example : replaceCall recorderPure (.list [.cell (.str "a-b"), .cell (.str "c-d")])
      (.list [.cell (.str "a"), .cell (.str "d")]) (.cell (.str "")) =
    .ok (.list [.tuple [.cell (.str "a-b"), .tuple [], .dict [("old", .cell (.str "a")), ("new", .cell (.str ""))]],
                .tuple [.cell (.str "c-d"), .tuple [], .dict [("old", .cell (.str "d")), ("new", .cell (.str ""))]]]) := by
  decide +kernel

/-- the text helpers never raise (their leaf functions return every non-string as it is) -/
theorem text_helper_total (g : String → String) (v : Val) (hv : v.KeysNodup) :
    ∃ r, wrapped (textLeaf g) v [] [] = .ok r := by
  rw [lift_total (textLeaf g) v hv [] []]
  intro p c _
  cases c <;> exact ⟨_, rfl⟩

/-- the text helpers map the leaves (and keep the shape: `lift_shape_list / _tuple / _dict` apply as they stand): a string
leaf becomes `g` of it, any other leaf is unchanged. -/
theorem text_helper_leaves (g : String → String) (v r : Val) (p : Path) (c : Cell)
    (h : wrapped (textLeaf g) v [] [] = .ok r) (hp : v.at p = some (.cell c)) :
    r.at p = some (match c with | .str s => .cell (.str (g s)) | c => .cell c) := by
  obtain ⟨y, hy, hr⟩ := lift_leaves (textLeaf g) v [] [] r p c h hp
  rw [hr]
  cases c <;> exact congrArg some (Except.ok.inj hy).symm

theorem lib_lower_spec (v r : Val) (p : Path) (s : String) (h : libLower v = .ok r) (hp : v.at p = some (.cell (.str s))) :
    r.at p = some (.cell (.str (asciiLower s))) :=
  text_helper_leaves asciiLower v r p (.str s) h hp

theorem lib_upper_spec (v r : Val) (p : Path) (s : String) (h : libUpper v = .ok r) (hp : v.at p = some (.cell (.str s))) :
    r.at p = some (.cell (.str (asciiUpper s))) :=
  text_helper_leaves asciiUpper v r p (.str s) h hp

theorem lib_strip_spec (v r : Val) (p : Path) (s : String) (h : libStrip v = .ok r) (hp : v.at p = some (.cell (.str s))) :
    r.at p = some (.cell (.str (asciiStrip s))) :=
  text_helper_leaves asciiStrip v r p (.str s) h hp

/-- handing the leaf function of a text helper any further argument is python's TypeError -/
theorem text_helper_extra_argument (g : String → String) (a c : Val) (args : List Val) (kw : KW) :
    textLeaf g a (c :: args) kw = .error .type := by
  simp [textLeaf]

/-- `lower` / `upper` keep the length and act character by character -/
theorem lower_upper_chars (cs : List Char) (i : Nat) :
    (lowerChars cs).length = cs.length ∧ (upperChars cs).length = cs.length ∧
    (lowerChars cs)[i]? = cs[i]?.map lowerChar ∧ (upperChars cs)[i]? = cs[i]?.map upperChar := by
  simp [lowerChars, upperChars]

/-- `strip()`: the result is the text without a margin of white space on either side -/
theorem strip_margins (cs : List Char) :
    ∃ a b, cs = a ++ stripChars cs ++ b ∧ (∀ c ∈ a, isPyWs c = true) ∧ (∀ c ∈ b, isPyWs c = true) := by
  refine ⟨cs.takeWhile isPyWs, (((cs.dropWhile isPyWs).reverse).takeWhile isPyWs).reverse, ?_, ?_, ?_⟩
  · rw [List.append_assoc, ← dropWhile_eq_stripChars_append, List.takeWhile_append_dropWhile]
  · intro c hc; exact List.all_eq_true.1 List.all_takeWhile c hc
  · intro c hc; exact List.all_eq_true.1 List.all_takeWhile c (List.mem_reverse.1 hc)

/-- neither the first nor the last character of `strip()`'s result is white space (so the margins of `strip_margins` are
maximal) -/
theorem strip_ends (cs : List Char) (c : Char) :
    ((stripChars cs).head? = some c → isPyWs c = false) ∧ ((stripChars cs).getLast? = some c → isPyWs c = false) := by
  constructor
  · intro h
    -- the first character of the result is the first character left after the leading white space is dropped
    have hd : (cs.dropWhile isPyWs).head? = some c := by
      rw [dropWhile_eq_stripChars_append]
      cases hs : stripChars cs with
      | nil => simp [hs] at h
      | cons x xs => simp [hs] at h ⊢; exact h
    have := List.head?_dropWhile_not isPyWs cs
    rw [hd] at this
    simpa using this
  · intro h
    have : ((cs.dropWhile isPyWs).reverse.dropWhile isPyWs).head? = some c := by
      simpa [stripChars, List.getLast?_reverse] using h
    have h2 := List.head?_dropWhile_not isPyWs (cs.dropWhile isPyWs).reverse
    rw [this] at h2
    simpa using h2

example : asciiLower "Hello World" = "hello world" ∧ asciiUpper "aBc-9" = "ABC-9" ∧ asciiStrip " \t pad \n" = "pad" ∧
    libLower (.list [.cell (.str "Ab"), .dict [("k", .tuple [.cell (.int 3), .cell (.str "X y")])]])
      = .ok (.list [.cell (.str "ab"), .dict [("k", .tuple [.cell (.int 3), .cell (.str "x y")])]]) := by
  decide +kernel

/-- **`text.split(sep)`, characterised**: `sep.join(text.split(sep)) == text`, no word holds the separator, and there is no
other such list of words -/
theorem split_iff (sep : Char) (cs w : List Char) (ws : List (List Char)) :
    splitChars sep cs = w :: ws ↔ sep ∉ w ∧ (∀ x ∈ ws, sep ∉ x) ∧ joinChars sep w ws = cs := by
  constructor
  · intro h
    simp only [splitChars, List.cons.injEq] at h
    obtain ⟨rfl, rfl⟩ := h
    exact ⟨(splitAux_no_sep sep cs).1, (splitAux_no_sep sep cs).2, splitAux_join sep cs⟩
  · rintro ⟨h1, h2, h3⟩
    simp [splitChars, splitAux_unique sep cs w ws h1 h2 h3]

/-- one word more than there are separators in the text -/
theorem split_count (sep : Char) (cs : List Char) : (splitChars sep cs).length = cs.count sep + 1 := by
  simp [splitChars, splitAux_length]

example : splitChars ',' "a,,b".toList = ["a".toList, [], "b".toList] ∧ splitChars ',' [] = [[]] := by decide

/-- **`pyg_base.split` on nested text (closed model: lifting + leaf)**: the text leaf at `p` is replaced by the list of its words,
without the empty ones when `dedup` -/
theorem lib_split_spec (v r : Val) (c : Char) (dedup : Bool) (p : Path) (t : String)
    (h : libSplit v (String.singleton c) dedup = .ok r) (hp : v.at p = some (.cell (.str t))) :
    r.at p = some (.list ((if dedup then (splitChars c t.toList).filter (fun w => !w.isEmpty) else splitChars c t.toList).map
      fun w => .cell (.str (String.ofList w)))) := by
  obtain ⟨y, hy, hr⟩ := two_keyword_companions splitLeaf "sep" "dedup" (by decide) (by decide) v _ _ r p (.str t) h hp
  rw [select_scalar, select_scalar, splitLeaf_str] at hy
  cases hy
  exact hr

/-- **`text.replace(old, new)` through an independent reading**: it is `new.join(text.split(old))` - the text cut at every `old`,
the pieces glued with `new`. -/
theorem replace_eq_join_split (old : Char) (new cs : List Char) :
    ∃ w ws, splitChars old cs = w :: ws ∧ replaceChars old new cs = joinStr new w ws :=
  ⟨_, _, rfl, replaceChars_eq_join_split old new cs⟩

/-- the result of replacing holds no `old` when `new` holds none (which is why the `while` loop of `_replace` stops after one
pass) -/
theorem replace_removes_old (old : Char) (new cs : List Char) (hn : old ∉ new) : old ∉ replaceChars old new cs := by
  induction cs with
  | nil => exact List.not_mem_nil
  | cons c cs ih =>
    rw [replaceChars_cons, List.mem_append, not_or]
    refine ⟨?_, ih⟩
    by_cases h : c = old
    · rwa [if_pos h]
    · rw [if_neg h, List.mem_singleton]
      exact fun e => h e.symm

/-- a text without `old` is returned as it is -/
theorem replace_absent (old : Char) (new cs : List Char) (h : old ∉ cs) : replaceChars old new cs = cs := by
  induction cs with
  | nil => rfl
  | cons c cs ih =>
    rw [replaceChars_cons, if_neg fun e : c = old => h (e ▸ List.mem_cons_self),
      ih fun hm => h (List.mem_cons_of_mem _ hm)]
    rfl

example : replaceChars ',' "--".toList "a,,b".toList = "a----b".toList := by decide

/-- **`pyg_base.replace` on nested text (closed model: lifting + leaf)**, `old` one character, `new` a string that does not hold
it: the text leaf at `p` has every `old` replaced -/
theorem lib_replace_spec (v r : Val) (c : Char) (n : String) (p : Path) (t : String) (hn : n.toList.contains c = false)
    (h : libReplace v (String.singleton c) (.cell (.str n)) = .ok r) (hp : v.at p = some (.cell (.str t))) :
    r.at p = some (.cell (.str (String.ofList (replaceChars c n.toList t.toList)))) := by
  obtain ⟨y, hy, hr⟩ := two_keyword_companions replaceLeaf "old" "new" (by decide) (by decide) v _ _ r p (.str t) h hp
  rw [select_scalar, select_scalar, replaceLeaf_str, if_neg (Bool.eq_false_iff.1 hn)] at hy
  cases hy
  exact hr

/-- `new = None` removes the character -/
theorem lib_replace_none_spec (v r : Val) (c : Char) (p : Path) (t : String)
    (h : libReplace v (String.singleton c) (.cell .none) = .ok r) (hp : v.at p = some (.cell (.str t))) :
    r.at p = some (.cell (.str (String.ofList (replaceChars c [] t.toList)))) := by
  obtain ⟨y, hy, hr⟩ := two_keyword_companions replaceLeaf "old" "new" (by decide) (by decide) v _ _ r p (.str t) h hp
  rw [select_scalar, select_scalar, replaceLeaf_none] at hy
  cases hy
  exact hr

/-- "cannot replace indefinitely": with a text leaf anywhere and `new` holding `old` the call returns no value (which exception
it raises is not part of the statement) -/
theorem lib_replace_raises (v : Val) (c : Char) (n : String) (p : Path) (t : String) (hn : n.toList.contains c = true)
    (hp : v.at p = some (.cell (.str t))) : ∀ r, libReplace v (String.singleton c) (.cell (.str n)) ≠ .ok r := by
  intro r h
  obtain ⟨y, hy, _⟩ := two_keyword_companions replaceLeaf "old" "new" (by decide) (by decide) v _ _ r p (.str t) h hp
  rw [select_scalar, select_scalar, replaceLeaf_str, if_pos hn] at hy
  cases hy

end Pyg.Props.C19
