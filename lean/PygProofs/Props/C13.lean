/-
  C13 — df_slice keeps exactly the rows in the interval; stitching switches at bounds; df_unslice inverts.
  Property theorems; the lemmas about the model are in PygProofs.Lemmas.DfSlice*Lemmas.
-/
import PygProofs.Lemmas.DfSliceNaLemmas
import PygProofs.Lemmas.DfSliceFrameLemmas

namespace Pyg.Props.C13
open Pyg Pyg.Slice

/-! ### brackets -/

theorem brackets_oo : brackets (some ['(', ')']) = .ok (false, false) := rfl
theorem brackets_oc : brackets (some ['(', ']']) = .ok (false, true) := rfl
theorem brackets_co : brackets (some ['[', ')']) = .ok (true, false) := rfl
theorem brackets_cc : brackets (some ['[', ']']) = .ok (true, true) := rfl
/-- the letter spellings, and the fall-back `'[)'` for an empty / missing `openclose` -/
theorem brackets_letters : brackets (some ['o', 'c']) = .ok (false, true) ∧ brackets (some ['C', 'O']) = .ok (true, false) ∧
    brackets (some []) = .ok (true, false) ∧ brackets Option.none = .ok (true, false) := ⟨rfl, rfl, rfl, rfl⟩

/-- two characters parse iff each is one of `()oO` (open) / `[]cC` (closed): all 64 accepted spellings at once -/
theorem brackets_pair (a b : Char) (l u : Bool) :
    brackets (some [a, b]) = .ok (l, u) ↔
      (if l then a ∈ ['[', ']', 'c', 'C'] else a ∈ ['(', ')', 'o', 'O']) ∧
      (if u then b ∈ ['[', ']', 'c', 'C'] else b ∈ ['(', ')', 'o', 'O']) := by
  have e : brackets (some [a, b]) = (closed a).bind fun l => (closed b).bind fun u => .ok (l, u) := rfl
  rw [e, ← closed_eq_ok a l, ← closed_eq_ok b u]
  cases closed a <;> cases closed b <;> simp [Except.bind]

theorem brackets_reject_char (a b : Char) (h : a ∉ ['(', ')', 'o', 'O', '[', ']', 'c', 'C']) :
    brackets (some [a, b]) = .error .value := by
  simp only [List.mem_cons, List.not_mem_nil, or_false, not_or] at h
  simp [brackets, closed, h, bind, Except.bind]

theorem brackets_reject_second (a b : Char) (h : b ∉ ['(', ')', 'o', 'O', '[', ']', 'c', 'C']) :
    brackets (some [a, b]) = .error .value := by
  simp only [List.mem_cons, List.not_mem_nil, or_false, not_or] at h
  have e : brackets (some [a, b]) = (closed a).bind fun l => (closed b).bind fun u => .ok (l, u) := rfl
  have hb : closed b = .error .value := by simp [closed, h]
  rw [e, hb]
  unfold closed
  split
  · rfl
  · split <;> rfl

theorem brackets_reject_length (s : List Char) (h0 : s ≠ []) (h : s.length ≠ 2) : brackets (some s) = .error .value := by
  match s, h0, h with
  | [_], _, _ => rfl
  | _ :: _ :: _ :: _, _, _ => rfl

/-! ### one slice -/

/-- `_df_slice(ts, lb, ub, openclose)` is the `filter` of the input by the two bracket tests: rows and values untouched,
    order kept -/
theorem slice_spec {α} (df : Rows α) (lb ub : Bound) (oc : Option (List Char)) (l u : Bool)
    (h : brackets oc = .ok (l, u)) :
    sliceOne df lb ub oc = .ok (df.filter fun r => lbOk l lb r.1 && ubOk u ub r.1) := sliceOne_eq df lb ub oc l u h

/-- a row is in `_df_slice(ts, lb, ub, openclose)` exactly when it is a row of the input whose timestamp
    passes both bracket tests -/
theorem slice_iff {α} (df r : Rows α) (lb ub : Bound) (oc : Option (List Char)) (l u : Bool)
    (h : brackets oc = .ok (l, u)) (hr : sliceOne df lb ub oc = .ok r) (x : Int × α) :
    x ∈ r ↔ x ∈ df ∧ lbOk l lb x.1 = true ∧ ubOk u ub x.1 = true := by
  rw [slice_spec df lb ub oc l u h] at hr
  cases hr
  simp [List.mem_filter]

theorem slice_sublist {α} (df r : Rows α) (lb ub : Bound) (oc : Option (List Char))
    (hr : sliceOne df lb ub oc = .ok r) : r.Sublist df := by
  rw [sliceOne_spec] at hr
  split at hr
  · cases hr; exact List.Sublist.refl _
  · cases hb : brackets oc with
    | error e => rw [hb] at hr; cases hr
    | ok lu => rw [hb] at hr; cases hr; exact List.filter_sublist

/-- **the fast path**: on a non-decreasing index the pandas label slice `df[lb:ub]` the code takes when both
    applicable brackets are closed holds exactly the rows with `lb ≤ t ≤ ub` (a missing label: no test), in order -/
theorem label_slice_spec {α} (df : Rows α) (hs : (df.map (·.1)).Pairwise (· ≤ ·)) (a b : Option Int) :
    labelSlice df a b = df.filter fun r =>
      (match a with | some a => decide (a ≤ r.1) | Option.none => true) &&
      (match b with | some b => decide (r.1 ≤ b) | Option.none => true) := labelSlice_eq_filter df hs a b

theorem label_slice_iff {α} (df : Rows α) (hs : (df.map (·.1)).Pairwise (· ≤ ·)) (a b : Int) (x : Int × α) :
    x ∈ labelSlice df (some a) (some b) ↔ x ∈ df ∧ a ≤ x.1 ∧ x.1 ≤ b := by
  rw [label_slice_spec df hs]; simp [List.mem_filter]

/-- on an index that is not non-decreasing the label slice is not the selection `lb ≤ t ≤ ub` (finding C13-S1): on the
    decreasing index `3, 2, 1, 0` the rows with `1 ≤ t ≤ 2` are two, the label slice `[1:2]` is empty, and
    `sliceOne` - which asks `index.is_monotonic_increasing` first - returns the two rows -/
theorem label_slice_needs_sorted :
    labelSlice [((3 : Int), 'a'), (2, 'b'), (1, 'c'), (0, 'd')] (some 1) (some 2) = [] ∧
    sliceOne [((3 : Int), 'a'), (2, 'b'), (1, 'c'), (0, 'd')] (.date 1) (.date 2) (some ['[', ']']) = .ok [(2, 'b'), (1, 'c')] :=
  ⟨rfl, rfl⟩

-- the masks in plain inequalities: `Pyg.Slice.lbOk_iff` / `ubOk_iff` restated, to be listed with the property
theorem lbOk_iff (l : Bool) (lb : Bound) (t : Int) : lbOk l lb t = true ↔
    match lb with
    | .none => True
    | .date x => if l then x ≤ t else x < t
    | .time x => if l then x ≤ tod t else x < tod t := by
  cases lb <;> exact Slice.lbOk_iff l _ t

theorem ubOk_iff (u : Bool) (ub : Bound) (t : Int) : ubOk u ub t = true ↔
    match ub with
    | .none => True
    | .date x => if u then t ≤ x else t < x
    | .time x => if u then tod t ≤ x else tod t < x := by
  cases ub <;> exact Slice.ubOk_iff u _ t

/-- the four bracket pairs on date bounds, in plain inequalities -/
theorem slice_dates_iff {α} (df : Rows α) (a b : Int) (l u : Bool) (oc : Option (List Char))
    (h : brackets oc = .ok (l, u)) (r : Rows α) (hr : sliceOne df (.date a) (.date b) oc = .ok r) (x : Int × α) :
    x ∈ r ↔ x ∈ df ∧ (if l then a ≤ x.1 else a < x.1) ∧ (if u then x.1 ≤ b else x.1 < b) := by
  rw [slice_iff df r _ _ oc l u h hr, lbOk_iff, ubOk_iff]

example : sliceOne [((0 : Int), 'a'), (5, 'b'), (9, 'c')] (.date 0) (.date 9) (some ['(', ']']) = .ok [(5, 'b'), (9, 'c')] := rfl
example : sliceOne [((0 : Int), 'a'), (5, 'b'), (9, 'c')] (.date 0) (.date 9) (some ['[', ')']) = .ok [(0, 'a'), (5, 'b')] := rfl

/-- a missing bound is unbounded -/
theorem slice_unbounded_below {α} (df : Rows α) (b : Int) (l u : Bool) (oc : Option (List Char))
    (h : brackets oc = .ok (l, u)) (r : Rows α) (hr : sliceOne df .none (.date b) oc = .ok r) (x : Int × α) :
    x ∈ r ↔ x ∈ df ∧ (if u then x.1 ≤ b else x.1 < b) := by
  rw [slice_iff df r _ _ oc l u h hr, lbOk_iff, ubOk_iff]; simp

theorem slice_unbounded_above {α} (df : Rows α) (a : Int) (l u : Bool) (oc : Option (List Char))
    (h : brackets oc = .ok (l, u)) (r : Rows α) (hr : sliceOne df (.date a) .none oc = .ok r) (x : Int × α) :
    x ∈ r ↔ x ∈ df ∧ (if l then a ≤ x.1 else a < x.1) := by
  rw [slice_iff df r _ _ oc l u h hr, lbOk_iff, ubOk_iff]; simp

/-- brackets the code cannot parse are an error, not a silent default (unless there is nothing to cut) -/
theorem slice_rejects {α} (df : Rows α) (lb ub : Bound) (oc : Option (List Char)) (e : Err)
    (h : brackets oc = .error e) (hdf : df ≠ []) (hb : lb ≠ .none ∨ ub ≠ .none) :
    sliceOne df lb ub oc = .error e := by
  rw [sliceOne_spec, h, if_neg (fun hc => hc.elim hdf fun h12 => hb.elim (· h12.1) (· h12.2))]
  rfl

/-! ### times of day -/

theorem tod_range (t : Int) : 0 ≤ tod t ∧ tod t < DAY :=
  ⟨Int.emod_nonneg _ (by decide), Int.emod_lt_of_pos _ (by decide)⟩

/-- `df_slice` on one frame is the plain slice unless BOTH bounds are times of day with the start later than the end
    (a date mixed with a time of day, or start `≤` end, never wraps) -/
theorem no_wrap {α} (df : Rows α) (lb ub : Bound) (oc : Option (List Char))
    (h : ∀ a b, lb = .time a → ub = .time b → a ≤ b) : sliceWrap df lb ub oc = sliceOne df lb ub oc :=
  sliceWrap_eq_sliceOne df lb ub oc h

/-- time-of-day bounds are compared with each row's time of day (`t mod one day`) -/
theorem tod_slice_iff {α} (df : Rows α) (a b : Int) (hab : a ≤ b) (l u : Bool) (oc : Option (List Char))
    (h : brackets oc = .ok (l, u)) (r : Rows α) (hr : sliceWrap df (.time a) (.time b) oc = .ok r) (x : Int × α) :
    x ∈ r ↔ x ∈ df ∧ (if l then a ≤ tod x.1 else a < tod x.1) ∧ (if u then tod x.1 ≤ b else tod x.1 < b) := by
  rw [no_wrap df _ _ oc (fun _ _ ha hb => by cases ha; cases hb; exact hab)] at hr
  rw [slice_iff df r _ _ oc l u h hr, lbOk_iff, ubOk_iff]

/-- on a strictly increasing index a time-of-day window whose start is later than its end wraps past midnight: the result is
    the `filter` by "at or after the start OR at or before the end", each test with its own bracket; rows, values and order
    untouched -/
theorem wrap_spec {α} (df : Rows α) (hs : df.Pairwise (fun x y => x.1 < y.1)) (a b : Int) (hab : b < a) (l u : Bool)
    (oc : Option (List Char)) (h : brackets oc = .ok (l, u)) :
    sliceWrap df (.time a) (.time b) oc = .ok (df.filter fun r => lbOk l (.time a) r.1 || ubOk u (.time b) r.1) := by
  rw [sliceWrap_eq df _ _ oc l u h (fun _ => hs)]
  simp only [inWindowW_of_wraps ((wraps_eq_true_iff _ _).mpr ⟨a, b, rfl, rfl, hab⟩)]

/-- membership in the wrapped window of `wrap_spec` -/
theorem wrap_iff {α} (df r : Rows α) (hs : df.Pairwise (fun x y => x.1 < y.1)) (a b : Int) (hab : b < a) (l u : Bool)
    (oc : Option (List Char)) (h : brackets oc = .ok (l, u)) (hr : sliceWrap df (.time a) (.time b) oc = .ok r)
    (x : Int × α) :
    x ∈ r ↔ x ∈ df ∧ ((if l then a ≤ tod x.1 else a < tod x.1) ∨ (if u then tod x.1 ≤ b else tod x.1 < b)) := by
  rw [wrap_spec df hs a b hab l u oc h] at hr
  cases hr
  simp only [List.mem_filter, Bool.or_eq_true, lbOk_iff, ubOk_iff]

/-- 18:00 → 06:00 with `'[)'` keeps the 18:00 row and drops the 06:00 row (finding F5) -/
example : sliceWrap [((0 : Int), 'a'), (6 * 3600000000, 'b'), (18 * 3600000000, 'c'), (DAY, 'd')]
    (.time (18 * 3600000000)) (.time (6 * 3600000000)) (some ['[', ')']) = .ok [(0, 'a'), (18 * 3600000000, 'c'), (DAY, 'd')] := by
  rw [wrap_spec _ (by decide) _ _ (by decide) true false _ rfl]; rfl

/-! ### stitching a list of series at increasing upper bounds -/

example : Stitchable [[(0, some 1), (5, some 2)], [], [(1, some 7), (9, none)]] [4, 6, 10] :=
  ⟨rfl, by decide, rfl⟩

/-- the stitched frame is the concatenation of the pieces `pieces dfs ub n l u`: series `i` (with `n > 1`: the
    series `i .. i+n-1` side by side) cut to `(ub[i-1], ub[i]]` (the brackets as given), missing columns NaN -/
theorem stitch_eq (dfs : List TS) (ub : List Int) (h : Stitchable dfs ub) (oc : Option (List Char)) (n : Nat) (l u : Bool)
    (hb : brackets oc = .ok (l, u)) :
    ∃ F, stitch dfs Option.none (some ub) oc n = .ok (some F) ∧
      F.rows = (pieces dfs ub n l u).flatMap fun f => f.rows.map fun r => (r.1, padRow F.width r.2) := by
  rw [h.aligned.stitch_eq oc n l u hb, h.aligned.assemble n l u]
  exact ⟨_, rfl, rfl⟩

/-- with `n > 1` the stitched frame has `min n #series` columns -/
theorem stitch_width (dfs : List TS) (ub : List Int) (h : Stitchable dfs ub) (oc : Option (List Char)) (n : Nat)
    (hn : 1 < n) (l u : Bool) (hb : brackets oc = .ok (l, u)) (F : Frame)
    (hF : stitch dfs Option.none (some ub) oc n = .ok (some F)) : F.width = min n ub.length := by
  rw [(stitch_frame dfs ub h.aligned oc n l u hb F hF).1, Nat.max_eq_left (Nat.le_of_lt hn)]

/-- `stitch_once_general` with the sortedness asked of the frames that are cut, not of the series -/
theorem stitch_once_frames (dfs : List TS) (lb ub : Option (List Int)) (oc : Option (List Char)) (n : Nat)
    (l u : Bool) (hb : brackets oc = .ok (l, u)) (hlu : ¬ (l = true ∧ u = true)) (dfs' : List TS) (lbs ubs : List (Option Int))
    (hnorm : normalise dfs lb ub = .ok (dfs', lbs, ubs)) (h1 : lbs.length = dfs'.length) (h2 : ubs.length = dfs'.length)
    (hne : lbs ≠ []) (hrows : ∀ f ∈ framesOf dfs' n, f.rows.Pairwise (fun a b => a.1 < b.1))
    (hchain : ∀ i j (hi : i < ubs.length) (hj : j < lbs.length), i < j → ∃ a b, ubs[i] = some a ∧ lbs[j] = some b ∧ a ≤ b)
    (F : Frame) (hF : stitch dfs lb ub oc n = .ok (some F)) :
    F.rows.Pairwise (fun a b => a.1 < b.1) := by
  rw [stitch_general dfs lb ub oc n l u hb dfs' lbs ubs hnorm h1 h2,
    assemble_piecesG dfs' lbs ubs n l u h1 h2 hne] at hF
  cases hF
  refine pairwise_assembled (framesOf dfs' n) lbs ubs (fun a b t => inWindow l u (optDate a) (optDate b) t) _
    hrows fun i j _ hi hj _ hij x y hx hy => ?_
  obtain ⟨a, b, ha, hb', hab⟩ := hchain i j hi hj hij
  simp only [inWindow_iff, ha, hb'] at hx hy
  exact lt_of_ubOk_lbOk hlu hab hx.2 hy.1

/-- **stitch_once, every spelling**: if after `normalise` the upper bound of piece `i` is at most the lower bound of every
    later piece and the brackets are not closed on both sides, every timestamp is covered at most once, in order -/
theorem stitch_once_general (dfs : List TS) (lb ub : Option (List Int)) (oc : Option (List Char)) (n : Nat)
    (l u : Bool) (hb : brackets oc = .ok (l, u)) (hlu : ¬ (l = true ∧ u = true)) (dfs' : List TS) (lbs ubs : List (Option Int))
    (hnorm : normalise dfs lb ub = .ok (dfs', lbs, ubs)) (h1 : lbs.length = dfs'.length) (h2 : ubs.length = dfs'.length)
    (htwo : 2 ≤ dfs'.length) (hs : ∀ s ∈ dfs', s.Sorted)
    (hchain : ∀ i j (hi : i < ubs.length) (hj : j < lbs.length), i < j → ∃ a b, ubs[i] = some a ∧ lbs[j] = some b ∧ a ≤ b)
    (F : Frame) (hF : stitch dfs lb ub oc n = .ok (some F)) :
    F.rows.Pairwise (fun a b => a.1 < b.1) :=
  stitch_once_frames dfs lb ub oc n l u hb hlu dfs' lbs ubs hnorm h1 h2 (List.ne_nil_of_length_pos (by omega)) (framesOf_rows_sorted dfs' n hs) hchain F hF

theorem stitch_once_of (dfs : List TS) (ub : List Int) (h : Stitchable dfs ub) (oc : Option (List Char)) (n : Nat) (l u : Bool)
    (hb : brackets oc = .ok (l, u)) (hlu : ¬ (l = true ∧ u = true))
    (hrows : ∀ f ∈ framesOf dfs n, f.rows.Pairwise (fun a b => a.1 < b.1)) (F : Frame)
    (hF : stitch dfs Option.none (some ub) oc n = .ok (some F)) :
    F.rows.Pairwise (fun a b => a.1 < b.1) := by
  refine stitch_once_frames dfs Option.none (some ub) oc n l u hb hlu dfs (Option.none :: ub.dropLast.map some) (ub.map some)
    (normalise_ub dfs ub h.inc) h.aligned.lowers_length h.aligned.uppers_length (List.cons_ne_nil _ _) hrows ?_ F hF
  intro i j hi hj hij
  rw [List.length_map] at hi
  rw [length_lowers ub h.ne_nil] at hj
  obtain ⟨j, rfl⟩ : ∃ j', j = j' + 1 := ⟨j - 1, by omega⟩
  have hj' : j < ub.length := by omega
  refine ⟨ub[i], ub[j], List.getElem_map _, ?_, List.getElem_le_of_le h.aligned.sorted (by omega) hj'⟩
  rw [List.getElem_cons_succ, List.getElem_map, List.getElem_dropLast]

/-- with brackets that are not closed on both sides (in particular the default `'(]'`) the stitched
    index is strictly increasing: every timestamp is covered at most once, in order -/
theorem stitch_once (dfs : List TS) (ub : List Int) (h : Stitchable dfs ub) (hs : ∀ s ∈ dfs, s.Sorted)
    (oc : Option (List Char)) (n : Nat) (l u : Bool)
    (hb : brackets oc = .ok (l, u)) (hlu : ¬ (l = true ∧ u = true)) (F : Frame)
    (hF : stitch dfs Option.none (some ub) oc n = .ok (some F)) :
    F.rows.Pairwise (fun a b => a.1 < b.1) :=
  stitch_once_of dfs ub h oc n l u hb hlu (framesOf_rows_sorted dfs n hs) F hF

/-- bounds given in decreasing order (with the series in the matching order) stitch to the same frame -/
theorem stitch_decreasing (dfs : List TS) (ub : List Int) (oc : Option (List Char)) (n : Nat)
    (h1 : nonDecreasing ub = false) (h2 : nonDecreasing ub.reverse = true) :
    stitch dfs Option.none (some ub) oc n = stitch dfs.reverse Option.none (some ub.reverse) oc n := by
  rw [stitch_of_normalise (normalise_ub_dec dfs ub h1), stitch_of_normalise (normalise_ub dfs.reverse ub.reverse h2)]

/-! ### at most once / decreasing lists for the other spellings of the bounds -/

/-- lower bounds only: piece `i` is `(lb[i], lb[i+1]]`, the last one unbounded above -/
theorem normalise_lb_only (dfs : List TS) (lb : List Int) (h : nonDecreasing lb = true) :
    normalise dfs (some lb) Option.none = .ok (dfs, lb.map some, (lb.drop 1).map some ++ [Option.none]) := by
  simp [normalise, h, pure, Except.pure]

/-- both lists: piece `i` is `(lb[i], ub[i]]` -/
theorem normalise_both_lists (dfs : List TS) (lb ub : List Int) (h1 : nonDecreasing lb = true) (h2 : nonDecreasing ub = true) :
    normalise dfs (some lb) (some ub) = .ok (dfs, lb.map some, ub.map some) := by
  simp [normalise, h1, h2, pure, Except.pure]

/-- lists running in opposite directions are rejected -/
theorem normalise_rejects_mixed (dfs : List TS) (lb ub : List Int) (h : nonDecreasing ub ≠ nonDecreasing lb) :
    normalise dfs (some lb) (some ub) = .error .value := by
  simp [normalise, h]

example : normalise [[(0, some 1)], [(5, some 2)]] (some [1, 4]) (some [3, 9]) =
    .ok ([[(0, some 1)], [(5, some 2)]], [some 1, some 4], [some 3, some 9]) := rfl

/-- **stitch_once, lower bounds only**: the intervals `(lb[i], lb[i+1]]` (the last one unbounded above) of a
    non-decreasing list cover each timestamp at most once -/
theorem stitch_once_lb (dfs : List TS) (lb : List Int) (hlen : dfs.length = lb.length) (htwo : 2 ≤ lb.length)
    (hinc : nonDecreasing lb = true) (hs : ∀ s ∈ dfs, s.Sorted) (oc : Option (List Char)) (n : Nat) (l u : Bool)
    (hb : brackets oc = .ok (l, u)) (hlu : ¬ (l = true ∧ u = true)) (F : Frame)
    (hF : stitch dfs (some lb) Option.none oc n = .ok (some F)) : F.rows.Pairwise (fun a b => a.1 < b.1) := by
  have hlb := nonDecreasing_pairwise lb hinc
  refine stitch_once_general dfs (some lb) Option.none oc n l u hb hlu dfs (lb.map some) ((lb.drop 1).map some ++ [Option.none])
    (normalise_lb_only dfs lb hinc) (by simp [hlen]) (by simp [hlen]; omega) (by omega) hs ?_ F hF
  intro i j hi hj hij
  simp only [List.length_map] at hj
  have hi1 : i + 1 < lb.length := by omega
  refine ⟨lb[i + 1], lb[j], ?_, by simp, List.getElem_le_of_le hlb (by omega) hj⟩
  rw [List.getElem_append_left (by simp; omega)]; simp

/-- **stitch_once, both lists**: the intervals `(lb[i], ub[i]]` cover each timestamp at most once PROVIDED they are
    chained, `ub[i] ≤ lb[i+1]` (lower bounds non-decreasing); without that they may overlap (`stitch_both_overlap`) -/
theorem stitch_once_both (dfs : List TS) (lb ub : List Int) (hlen : dfs.length = ub.length) (hlen' : lb.length = ub.length)
    (htwo : 2 ≤ ub.length) (hil : nonDecreasing lb = true) (hiu : nonDecreasing ub = true)
    (hchain : ∀ i (h1 : i < ub.length) (h2 : i + 1 < lb.length), ub[i] ≤ lb[i + 1])
    (hs : ∀ s ∈ dfs, s.Sorted) (oc : Option (List Char)) (n : Nat) (l u : Bool)
    (hb : brackets oc = .ok (l, u)) (hlu : ¬ (l = true ∧ u = true)) (F : Frame)
    (hF : stitch dfs (some lb) (some ub) oc n = .ok (some F)) : F.rows.Pairwise (fun a b => a.1 < b.1) := by
  have hlb := nonDecreasing_pairwise lb hil
  refine stitch_once_general dfs (some lb) (some ub) oc n l u hb hlu dfs (lb.map some) (ub.map some)
    (normalise_both_lists dfs lb ub hil hiu) (by simp [hlen, hlen']) (by simp [hlen]) (by omega) hs ?_ F hF
  intro i j hi hj hij
  simp only [List.length_map] at hi hj
  exact ⟨ub[i], lb[j], by simp, by simp,
    Int.le_trans (hchain i hi (by omega)) (List.getElem_le_of_le hlb (Nat.succ_le_of_lt hij) hj)⟩

/-- the chaining hypothesis of `stitch_once_both` is needed: with both lists the intervals `(0, 5]` and `(2, 9]` overlap,
    the timestamp 3 is taken from both series -/
theorem stitch_both_overlap :
    stitch [[(3, some 1)], [(3, some 2)]] (some [0, 2]) (some [5, 9]) (some ['(', ']']) 1 =
      .ok (some ⟨1, [(3, [some 1]), (3, [some 2])]⟩) := by rfl

/-- decreasing lists, the other spellings: reversed together with the series they give the same frame -/
theorem stitch_decreasing_lb (dfs : List TS) (lb : List Int) (oc : Option (List Char)) (n : Nat)
    (h1 : nonDecreasing lb = false) (h2 : nonDecreasing lb.reverse = true) :
    stitch dfs (some lb) Option.none oc n = stitch dfs.reverse (some lb.reverse) Option.none oc n := by
  rw [stitch_of_normalise (normalise_lb_dec dfs lb h1), stitch_of_normalise (normalise_lb_only dfs.reverse lb.reverse h2)]

theorem stitch_decreasing_both (dfs : List TS) (lb ub : List Int) (oc : Option (List Char)) (n : Nat)
    (h1 : nonDecreasing lb = false) (h2 : nonDecreasing lb.reverse = true)
    (h3 : nonDecreasing ub = false) (h4 : nonDecreasing ub.reverse = true) :
    stitch dfs (some lb) (some ub) oc n = stitch dfs.reverse (some lb.reverse) (some ub.reverse) oc n := by
  rw [stitch_of_normalise (normalise_both_dec dfs lb ub h1 h3),
    stitch_of_normalise (normalise_both_lists dfs.reverse lb.reverse ub.reverse h2 h4)]

/-! ### where a row comes from -/

/-- **stitch_source for every spelling of the bounds**: once the bound lists are normalised (`normalise`: lower bounds
    only ↦ `(lb[i], lb[i+1]]` with the last interval unbounded above; upper bounds only ↦ `(ub[i-1], ub[i]]`; both lists
    ↦ `(lb[i], ub[i]]`; decreasing lists reversed together with the series), a row appears exactly when its timestamp
    passes the two tests of piece `i` and belongs to one of the series `i .. i+n-1`; column `j` carries series `i+j` -/
theorem stitch_source_general (dfs : List TS) (lb ub : Option (List Int)) (oc : Option (List Char)) (n : Nat) (hn : 1 < n)
    (l u : Bool) (hb : brackets oc = .ok (l, u)) (dfs' : List TS) (lbs ubs : List (Option Int))
    (hnorm : normalise dfs lb ub = .ok (dfs', lbs, ubs)) (h1 : lbs.length = dfs'.length) (h2 : ubs.length = dfs'.length)
    (htwo : 2 ≤ dfs'.length) (F : Frame) (hF : stitch dfs lb ub oc n = .ok (some F)) (t : Int) (vs : List (Option Int)) :
    (t, vs) ∈ F.rows ↔ ∃ i, ∃ hl : i < lbs.length, ∃ hu : i < ubs.length,
      (∃ s ∈ (dfs'.drop i).take n, t ∈ s.index) ∧
      lbOk l (optDate lbs[i]) t = true ∧ ubOk u (optDate ubs[i]) t = true ∧
      vs = padRow F.width (((dfs'.drop i).take n).map (·.get t)) := by
  rw [mem_stitch dfs lb ub oc n l u hb dfs' lbs ubs hnorm h1 h2 (List.ne_nil_of_length_pos (by omega)) F hF t vs]
  simp only [inWindow_iff, framesOf_getElem_cols dfs' n hn, mem_concatCols]
  constructor
  · rintro ⟨i, _, hl, hu, r, ⟨hex, rfl⟩, hw, rfl⟩
    exact ⟨i, hl, hu, hex, hw.1, hw.2, rfl⟩
  · rintro ⟨i, hl, hu, hex, hlo, hhi, rfl⟩
    exact ⟨i, by rw [framesOf_length]; omega, hl, hu, _, ⟨hex, rfl⟩, ⟨hlo, hhi⟩, rfl⟩

/-- the same for the DEFAULT `n = 1` (a stitched Series), every spelling of the bounds: a row `(t, v)` of series `i`
    (after `normalise`) appears exactly when `t` passes the two tests of piece `i` -/
theorem stitch_source_general_series (dfs : List TS) (lb ub : Option (List Int)) (oc : Option (List Char)) (n : Nat) (hn : n ≤ 1)
    (l u : Bool) (hb : brackets oc = .ok (l, u)) (dfs' : List TS) (lbs ubs : List (Option Int))
    (hnorm : normalise dfs lb ub = .ok (dfs', lbs, ubs)) (h1 : lbs.length = dfs'.length) (h2 : ubs.length = dfs'.length)
    (htwo : 2 ≤ dfs'.length) (F : Frame) (hF : stitch dfs lb ub oc n = .ok (some F)) (t : Int) (vs : List (Option Int)) :
    (t, vs) ∈ F.rows ↔ ∃ i, ∃ hd : i < dfs'.length, ∃ hl : i < lbs.length, ∃ hu : i < ubs.length, ∃ v,
      (t, v) ∈ dfs'[i] ∧ lbOk l (optDate lbs[i]) t = true ∧ ubOk u (optDate ubs[i]) t = true ∧
      vs = padRow F.width [v] := by
  rw [mem_stitch dfs lb ub oc n l u hb dfs' lbs ubs hnorm h1 h2 (List.ne_nil_of_length_pos (by omega)) F hF t vs]
  simp only [inWindow_iff]
  constructor
  · rintro ⟨i, hf, hl, hu, r, hr, hw, rfl⟩
    have hd : i < dfs'.length := by rwa [framesOf_length] at hf
    obtain ⟨v, hv, rfl⟩ := (mem_framesOf_series dfs' n hn i hf hd t r).mp hr
    exact ⟨i, hd, hl, hu, v, hv, hw.1, hw.2, rfl⟩
  · rintro ⟨i, hd, hl, hu, v, hv, hlo, hhi, rfl⟩
    have hf : i < (framesOf dfs' n).length := by rwa [framesOf_length]
    exact ⟨i, hf, hl, hu, [v], (mem_framesOf_series dfs' n hn i hf hd t _).mpr ⟨v, hv, rfl⟩, ⟨hlo, hhi⟩, rfl⟩

/-- a row `(t, vs)` is in the stitched frame exactly when, for the piece `i` whose interval
    `(ub[i-1], ub[i]]` holds `t` (brackets as given; the first interval is unbounded below), `t` is a timestamp of one
    of the series `i .. i+n-1`, and then column `j` carries series `i+j`'s value at `t` (NaN where it has none;
    columns beyond the last series are NaN) -/
theorem stitch_source (dfs : List TS) (ub : List Int) (h : Stitchable dfs ub) (oc : Option (List Char)) (n : Nat)
    (hn : 1 < n) (l u : Bool) (hb : brackets oc = .ok (l, u)) (F : Frame)
    (hF : stitch dfs Option.none (some ub) oc n = .ok (some F)) (t : Int) (vs : List (Option Int)) :
    (t, vs) ∈ F.rows ↔ ∃ i, ∃ hi : i < ub.length,
      (∃ s ∈ (dfs.drop i).take n, t ∈ s.index) ∧
      lbOk l (loBound ub i) t = true ∧ ubOk u (.date ub[i]) t = true ∧
      vs = padRow F.width (((dfs.drop i).take n).map (·.get t)) := by
  rw [mem_stitch_ub h.aligned oc n l u hb F hF t vs]
  simp only [framesOf_getElem_cols dfs n hn, mem_concatCols]
  constructor
  · rintro ⟨i, hi, r, ⟨hex, rfl⟩, h1, h2, rfl⟩
    exact ⟨i, hi, hex, h1, h2, rfl⟩
  · rintro ⟨i, hi, hex, h1, h2, rfl⟩
    exact ⟨i, hi, _, ⟨hex, rfl⟩, h1, h2, rfl⟩

/-- the one-column case (`n = 1`, a stitched Series): a row `(t, v)` of series `i` appears exactly when `t` lies in
    the interval of piece `i` -/
theorem stitch_source_series (dfs : List TS) (ub : List Int) (h : Stitchable dfs ub) (oc : Option (List Char)) (n : Nat)
    (hn : n ≤ 1) (l u : Bool) (hb : brackets oc = .ok (l, u)) (F : Frame)
    (hF : stitch dfs Option.none (some ub) oc n = .ok (some F)) (t : Int) (vs : List (Option Int)) :
    (t, vs) ∈ F.rows ↔ ∃ i, ∃ hi : i < ub.length, ∃ v, (t, v) ∈ dfs[i]'(by rw [h.len]; exact hi) ∧
      lbOk l (loBound ub i) t = true ∧ ubOk u (.date ub[i]) t = true ∧ vs = padRow F.width [v] := by
  have hlen := h.len
  rw [mem_stitch_ub h.aligned oc n l u hb F hF t vs]
  constructor
  · rintro ⟨i, hi, r, hr, h1, h2, rfl⟩
    obtain ⟨v, hv, rfl⟩ := (mem_framesOf_series dfs n hn i _ (by omega) t r).mp hr
    exact ⟨i, hi, v, hv, h1, h2, rfl⟩
  · rintro ⟨i, hi, v, hv, h1, h2, rfl⟩
    exact ⟨i, hi, [v], (mem_framesOf_series dfs n hn i _ (by omega) t _).mpr ⟨v, hv, rfl⟩, h1, h2, rfl⟩

/-- column `j` of such a row is series `i+j` at `t` -/
theorem stitch_column (dfs : List TS) (i j n w : Nat) (t : Int) (hj : j < n) (hij : i + j < dfs.length) :
    (padRow w (((dfs.drop i).take n).map (·.get t)))[j]? = some (dfs[i + j].get t) := by
  have hlen : j < (((dfs.drop i).take n).map (·.get t)).length := by
    simp only [List.length_map, List.length_take, List.length_drop]; omega
  unfold padRow
  rw [List.getElem?_append_left hlen]
  simp [hj, List.getElem?_drop, hij]

/-! ### df_unslice -/

/-- the slices `df_unslice` cuts from a stitched frame are the pieces it was assembled from -/
theorem unslice_slices (dfs : List TS) (ub : List Int) (h : Stitchable dfs ub) (n : Nat) (F : Frame)
    (hF : stitch dfs Option.none (some ub) (some ['(', ']']) n = .ok (some F)) (i : Nat) (hi : i < ub.length) :
    sliceWrap F.rows (loBound ub i) (.date ub[i]) (some ['(', ']']) =
      .ok ((pieces dfs ub n false true)[i]'(by
          rw [pieces_length _ _ _ _ _ h.len (by intro h0; have := h.two; simp [h0] at this)]; exact hi)
        |>.rows.map fun r => (r.1, padRow F.width r.2)) := by
  rw [no_wrap _ _ _ _ (fun _ _ _ h => Bound.noConfusion h), sliceOne_eq _ _ _ _ false true rfl, slices_eq dfs ub h.aligned n F hF i hi]

/-- what `df_unslice` returns for bound `k` of a frame stitched side by side (`n > 1`): the non-NaN values of series `k` on
    the intervals `i` with `i ≤ k < i + width` (those in which series `k` was a column) -/
theorem unslice_series (dfs : List TS) (ub : List Int) (h : Stitchable dfs ub) (hstrict : ub.Pairwise (· < ·))
    (hs : ∀ s ∈ dfs, s.Sorted) (n : Nat) (hn : 1 < n) (F : Frame)
    (hF : stitch dfs Option.none (some ub) (some ['(', ']']) n = .ok (some F))
    (k : Nat) (hk : k < ub.length) (t x : Int) :
    (t, some x) ∈ nona (((rsOf F ub).filter (·.1 == ub[k])).flatMap (·.2)) ↔
      (t, some x) ∈ dfs[k]'(by rw [h.len]; exact hk) ∧
        ∃ i, ∃ hi : i < ub.length, i ≤ k ∧ k < i + F.width ∧ inWindow false true (loBound ub i) (.date ub[i]) t = true := by
  rw [unslice_entries dfs ub h.aligned hstrict n (fun _ => hs) F hF k hk]
  simp only [List.mem_flatMap, List.mem_zipIdx_getElem]
  constructor
  · rintro ⟨⟨u, i⟩, ⟨hi, hu⟩, hx⟩
    simp only at hi hu hx
    subst hu
    split at hx
    · rename_i hc
      simp only [List.mem_filter, mem_nona] at hx
      exact ⟨hx.1.1, i, hi, hc.1, hc.2, hx.2⟩
    · cases hx
  · rintro ⟨hx, i, hi, hik, hkw, hw⟩
    refine ⟨(ub[i], i), ⟨hi, rfl⟩, ?_⟩
    rw [if_pos ⟨hik, hkw⟩]
    simp only [List.mem_filter, mem_nona]
    exact ⟨⟨hx, rfl⟩, hw⟩

def demoSeriesT : List TS := [[(0, some 1), (2, some 2), (5, some 3)], [], [(1, some 7), (2, some 8), (4, some 9), (9, some 6)]]
def demoBoundsT : List Int := [2, 5, 8]

/-- the round trip whatever values the series hold: `df_unslice` returns one series per bound, in
    bound order, and stitching those again gives the frame stitched from the series with their NaN rows dropped.  For
    NaN-free series that is the frame itself (`unslice_restitch`); with NaN values the two differ in the rows that are NaN
    in every column (finding C13-N1, `nanSeries`). -/
theorem unslice_restitch_nan (dfs : List TS) (ub : List Int) (h : Stitchable dfs ub) (hstrict : ub.Pairwise (· < ·))
    (hs : ∀ s ∈ dfs, s.Sorted) (n : Nat) :
    ∃ F U, stitch dfs Option.none (some ub) (some ['(', ']']) n = .ok (some F) ∧ unslice F ub = .ok U ∧
      U.map (·.1) = ub ∧ stitch (U.map (·.2)) Option.none (some ub) (some ['(', ']']) n =
        stitch (dfs.map nona) Option.none (some ub) (some ['(', ']']) n :=
  unslice_restitch_general dfs ub h.aligned hstrict n fun _ => hs

-- `unslice_restitch_nan` with `1 < n` / `n ≤ 1` asked on top
theorem unslice_restitch_nan_cols (dfs : List TS) (ub : List Int) (h : Stitchable dfs ub) (hstrict : ub.Pairwise (· < ·))
    (hs : ∀ s ∈ dfs, s.Sorted) (n : Nat) (hn : 1 < n) :
    ∃ F U, stitch dfs Option.none (some ub) (some ['(', ']']) n = .ok (some F) ∧ unslice F ub = .ok U ∧
      U.map (·.1) = ub ∧ stitch (U.map (·.2)) Option.none (some ub) (some ['(', ']']) n =
        stitch (dfs.map nona) Option.none (some ub) (some ['(', ']']) n :=
  unslice_restitch_general dfs ub h.aligned hstrict n fun _ => hs

theorem unslice_restitch_nan_series (dfs : List TS) (ub : List Int) (h : Stitchable dfs ub) (hstrict : ub.Pairwise (· < ·))
    (n : Nat) (hn : n ≤ 1) :
    ∃ F U, stitch dfs Option.none (some ub) (some ['(', ']']) n = .ok (some F) ∧ unslice F ub = .ok U ∧
      U.map (·.1) = ub ∧ stitch (U.map (·.2)) Option.none (some ub) (some ['(', ']']) n =
        stitch (dfs.map nona) Option.none (some ub) (some ['(', ']']) n :=
  unslice_restitch_general dfs ub h.aligned hstrict n fun h1 => absurd h1 (by omega)

/-- for every `n` and NaN-free proper series stitched at strictly increasing bounds, `df_unslice` returns one series per
    bound, in bound order, and stitching those again reproduces the frame.
    (Series holding NaN values are excluded on purpose: `df_unslice` drops NaN rows, so an all-NaN row cannot
    come back; see docs/notes/C13.md.) -/
theorem unslice_restitch (dfs : List TS) (ub : List Int) (h : Stitchable dfs ub) (hstrict : ub.Pairwise (· < ·))
    (hs : ∀ s ∈ dfs, s.Sorted) (hnn : ∀ s ∈ dfs, ∀ p ∈ s, p.2.isSome = true) (n : Nat) :
    ∃ F U, stitch dfs Option.none (some ub) (some ['(', ']']) n = .ok (some F) ∧ unslice F ub = .ok U ∧
      U.map (·.1) = ub ∧ stitch (U.map (·.2)) Option.none (some ub) (some ['(', ']']) n = .ok (some F) := by
  obtain ⟨F, U, h1, h2, h3, h4⟩ := unslice_restitch_nan dfs ub h hstrict hs n
  rw [map_nona_of_nanfree dfs hnn, h1] at h4
  exact ⟨F, U, h1, h2, h3, h4⟩

/-- the statement of `unslice_restitch` once more -/
theorem unslice_restitch_of_nan (dfs : List TS) (ub : List Int) (h : Stitchable dfs ub) (hstrict : ub.Pairwise (· < ·))
    (hs : ∀ s ∈ dfs, s.Sorted) (hnn : ∀ s ∈ dfs, ∀ p ∈ s, p.2.isSome = true) (n : Nat) :
    ∃ F U, stitch dfs Option.none (some ub) (some ['(', ']']) n = .ok (some F) ∧ unslice F ub = .ok U ∧
      U.map (·.1) = ub ∧ stitch (U.map (·.2)) Option.none (some ub) (some ['(', ']']) n = .ok (some F) :=
  unslice_restitch dfs ub h hstrict hs hnn n

/-- `unslice_restitch` with `1 < n` asked on top (the proof has no use for it) -/
theorem unslice_restitch_cols (dfs : List TS) (ub : List Int) (h : Stitchable dfs ub) (hstrict : ub.Pairwise (· < ·))
    (hs : ∀ s ∈ dfs, s.Sorted) (hnn : ∀ s ∈ dfs, ∀ p ∈ s, p.2.isSome = true) (n : Nat) (hn : 1 < n) :
    ∃ F U, stitch dfs Option.none (some ub) (some ['(', ']']) n = .ok (some F) ∧ unslice F ub = .ok U ∧
      U.map (·.1) = ub ∧ stitch (U.map (·.2)) Option.none (some ub) (some ['(', ']']) n = .ok (some F) :=
  unslice_restitch dfs ub h hstrict hs hnn n

/-- one column (`n ≤ 1`, the stitched frame is a Series): the series need not be proper ones -/
theorem unslice_restitch_series (dfs : List TS) (ub : List Int) (h : Stitchable dfs ub) (hstrict : ub.Pairwise (· < ·))
    (hnn : ∀ s ∈ dfs, ∀ p ∈ s, p.2.isSome = true) (n : Nat) (hn : n ≤ 1) :
    ∃ F U, stitch dfs Option.none (some ub) (some ['(', ']']) n = .ok (some F) ∧ unslice F ub = .ok U ∧
      U.map (·.1) = ub ∧ stitch (U.map (·.2)) Option.none (some ub) (some ['(', ']']) n = .ok (some F) := by
  obtain ⟨F, U, h1, h2, h3, h4⟩ := unslice_restitch_general dfs ub h.aligned hstrict n fun h1 => absurd h1 (Nat.not_lt.mpr hn)
  rw [map_nona_of_nanfree dfs hnn, h1] at h4
  exact ⟨F, U, h1, h2, h3, h4⟩

/-- witness for C13-N1 (series 0 holds NaN at time 1, no other column covers it): the stitched frame has the row
    `1 ↦ NaN`, the re-stitched frame lacks it - the round trip clause fails on series with NaN values -/
def nanSeries : List TS := [[(0, some 1), (1, none), (2, some 3)], [(3, some 4), (4, some 5)]]

example : Stitchable demoSeriesT demoBoundsT ∧ demoBoundsT.Pairwise (· < ·) ∧ (∀ s ∈ demoSeriesT, s.Sorted) ∧
    (∀ s ∈ demoSeriesT, ∀ p ∈ s, p.2.isSome = true) := ⟨⟨rfl, by decide, rfl⟩, by decide, by decide, by decide⟩

/-! evaluation tests of the full round trip on the model (`List.mergeSort` does not reduce in the kernel) -/

def demoSeries : List TS := [[(0, some 1), (2, some 2), (5, some 3)], [], [(1, some 7), (2, some 8), (4, some 9), (9, some 6)]]
def demoBounds : List Int := [2, 5, 8]
def okEq {α} [BEq α] (r : Res α) (x : α) : Bool := match r with | .ok y => y == x | .error _ => false

#guard okEq (stitch demoSeries Option.none (some demoBounds) (some ['(', ']']) 3)
  (some ⟨3, [(0, [some 1, none, none]), (1, [none, none, some 7]), (2, [some 2, none, some 8]), (4, [none, some 9, none])]⟩)
#guard okEq (do
    let f ← stitch demoSeries Option.none (some demoBounds) (some ['(', ']']) 3
    match f with
    | some f => do
        let u ← unslice f demoBounds
        let g ← stitch (u.map (·.2)) Option.none (some demoBounds) (some ['(', ']']) 3
        pure (g == some f && u.map (·.1) == demoBounds)
    | Option.none => pure false : Res Bool) true
#guard okEq (do
    let f ← stitch demoSeries Option.none (some demoBounds) (some ['(', ']']) 1
    match f with
    | some f => do
        let u ← unslice f demoBounds
        let g ← stitch (u.map (·.2)) Option.none (some demoBounds) (some ['(', ']']) 1
        pure (g == some f)
    | Option.none => pure false : Res Bool) true

#guard okEq (stitch nanSeries Option.none (some [2, 5]) (some ['(', ']']) 1)
  (some ⟨1, [(0, [some 1]), (1, [none]), (2, [some 3]), (3, [some 4]), (4, [some 5])]⟩)
#guard okEq (do
    let f ← stitch nanSeries Option.none (some [2, 5]) (some ['(', ']']) 1
    match f with
    | some f => do
        let u ← unslice f [2, 5]
        stitch (u.map (·.2)) Option.none (some [2, 5]) (some ['(', ']']) 1
    | Option.none => pure Option.none : Res (Option Frame))
  (some ⟨1, [(0, [some 1]), (2, [some 3]), (3, [some 4]), (4, [some 5])]⟩)

/-! ### the NaN round trip, exactly -/

/-- stitching proper (`Sorted`) series with their NaN rows dropped gives the stitched frame minus the rows that are NaN
    in every column - same width, same order; every spelling of the bound lists, every `n`, parsable brackets -/
theorem stitch_nona (dfs : List TS) (hs : ∀ s ∈ dfs, s.Sorted) (lb ub : Option (List Int)) (oc : Option (List Char))
    (n : Nat) (l u : Bool) (hb : brackets oc = .ok (l, u)) :
    stitch (dfs.map nona) lb ub oc n = (stitch dfs lb ub oc n).map (Option.map Frame.dropNaRows) :=
  stitch_map_nona dfs n (fun _ => hs) lb ub oc l u hb

/-- the round trip for ANY values: `df_unslice` returns one series per bound, in bound order,
    and stitching those again reproduces the frame up to its all-NaN rows: same width, the rows that hold a value in
    some column, in the same order (`Frame.dropNaRows F = ⟨F.width, F.rows.filter live⟩`). -/
theorem unslice_restitch_exact (dfs : List TS) (ub : List Int) (h : Stitchable dfs ub) (hstrict : ub.Pairwise (· < ·))
    (hs : ∀ s ∈ dfs, s.Sorted) (n : Nat) :
    ∃ F U, stitch dfs Option.none (some ub) (some ['(', ']']) n = .ok (some F) ∧ unslice F ub = .ok U ∧
      U.map (·.1) = ub ∧
      stitch (U.map (·.2)) Option.none (some ub) (some ['(', ']']) n = .ok (some F.dropNaRows) :=
  unslice_restitch_dropNaRows dfs ub h.aligned hstrict n fun _ => hs

/-- a row survives iff some column holds a value -/
theorem live_iff (r : Int × List (Option Int)) : live r = true ↔ ∃ v ∈ r.2, v ≠ Option.none := by
  simp only [live, List.any_eq_true, Option.isSome_iff_ne_none]

/-- hence the round trip reproduces the frame EXACTLY when no row of it is NaN in every column (C13-N1 is the other case) -/
theorem unslice_restitch_iff (dfs : List TS) (ub : List Int) (h : Stitchable dfs ub) (hstrict : ub.Pairwise (· < ·))
    (hs : ∀ s ∈ dfs, s.Sorted) (n : Nat) :
    ∃ F U, stitch dfs Option.none (some ub) (some ['(', ']']) n = .ok (some F) ∧ unslice F ub = .ok U ∧
      (stitch (U.map (·.2)) Option.none (some ub) (some ['(', ']']) n = .ok (some F) ↔ ∀ r ∈ F.rows, live r = true) := by
  obtain ⟨F, U, h1, h2, _, h4⟩ := unslice_restitch_exact dfs ub h hstrict hs n
  refine ⟨F, U, h1, h2, ?_⟩
  rw [h4, Except.ok.injEq, Option.some.injEq]
  exact Frame.dropNaRows_eq_self

example : (⟨1, [(0, [some 1]), (1, [none]), (2, [some 3])]⟩ : Frame).dropNaRows = ⟨1, [(0, [some 1]), (2, [some 3])]⟩ := rfl

/-! ### df_unslice under a DECREASING bound list (the quantifier: "all increasing or decreasing bound lists") -/

/-- the round trip for a strictly decreasing list of upper bounds (series in the matching
    order), ANY values: the stitched frame `F` is the frame of the increasing spelling, `df_unslice(F, ub)` hands back one
    series per bound IN THE ORDER OF THE BOUNDS GIVEN, and `df_slice(list(U.values()), ub = ub, n)` reproduces `F` up to its
    all-NaN rows.  (Finding C13-U1: `df_unslice` tests the direction of the list first; its body on the decreasing list as
    it stands would leave every window but the first empty, all rows filed under the first bound - the `#guard` after `decSeries` (the one on `unsliceInc`).) -/
theorem unslice_restitch_decreasing (dfs : List TS) (ub : List Int) (hlen : dfs.length = ub.length) (htwo : 2 ≤ ub.length)
    (hdec : ub.Pairwise (· > ·)) (hs : ∀ s ∈ dfs, s.Sorted) (n : Nat) :
    ∃ F U, stitch dfs Option.none (some ub) (some ['(', ']']) n = .ok (some F) ∧
      stitch dfs.reverse Option.none (some ub.reverse) (some ['(', ']']) n = .ok (some F) ∧
      unslice F ub = .ok U ∧ U.map (·.1) = ub ∧
      stitch (U.map (·.2)) Option.none (some ub) (some ['(', ']']) n = .ok (some F.dropNaRows) := by
  have hinc : ub.reverse.Pairwise (· < ·) := List.pairwise_reverse.mpr (hdec.imp (fun h => h))
  have hS : Stitchable dfs.reverse ub.reverse :=
    ⟨by simp [hlen], by simpa using htwo, pairwise_nonDecreasing _ (hinc.imp (fun h => Int.le_of_lt h))⟩
  have h1 : nonDecreasing ub = false := decreasing_not_nonDecreasing ub htwo hdec
  obtain ⟨F, U, e1, e2, e3, e4⟩ := unslice_restitch_exact dfs.reverse ub.reverse hS hinc
    (fun s hm => hs s (List.mem_reverse.mp hm)) n
  refine ⟨F, U.reverse, ?_, e1, ?_, ?_, ?_⟩
  · rw [stitch_decreasing dfs ub _ n h1 hS.inc, e1]
  · rw [unslice_dec F ub h1, ← unslice_inc F ub.reverse hS.inc, e2]; rfl
  · rw [List.map_reverse, e3, List.reverse_reverse]
  · rw [stitch_decreasing _ ub _ n h1 hS.inc, List.map_reverse, List.reverse_reverse, e4]

/-- hence, as for increasing bounds, the round trip under a decreasing list reproduces the frame EXACTLY when no row of
    it is NaN in every column -/
theorem unslice_restitch_decreasing_iff (dfs : List TS) (ub : List Int) (hlen : dfs.length = ub.length) (htwo : 2 ≤ ub.length)
    (hdec : ub.Pairwise (· > ·)) (hs : ∀ s ∈ dfs, s.Sorted) (n : Nat) :
    ∃ F U, stitch dfs Option.none (some ub) (some ['(', ']']) n = .ok (some F) ∧ unslice F ub = .ok U ∧
      (stitch (U.map (·.2)) Option.none (some ub) (some ['(', ']']) n = .ok (some F) ↔ ∀ r ∈ F.rows, live r = true) := by
  obtain ⟨F, U, h1, _, h2, _, h4⟩ := unslice_restitch_decreasing dfs ub hlen htwo hdec hs n
  refine ⟨F, U, h1, h2, ?_⟩
  rw [h4, Except.ok.injEq, Option.some.injEq]
  exact Frame.dropNaRows_eq_self

/-- three series for the decreasing bounds `decBounds` -/
def decSeries : List TS := [[(4, some 9), (6, some 10), (7, some 11)], [(2, some 5), (3, some 6), (4, some 7), (5, some 8)],
  [(0, some 1), (1, some 2), (2, some 3), (3, some 4)]]
def decBounds : List Int := [8, 4, 2]

example : decSeries.length = decBounds.length ∧ 2 ≤ decBounds.length ∧ decBounds.Pairwise (· > ·) ∧ (∀ s ∈ decSeries, s.Sorted) :=
  ⟨rfl, by decide, by decide, by decide⟩

-- df_unslice: one series per bound in the order given; stitching them again returns the 7-row frame
#guard okEq (do
    let f ← stitch decSeries Option.none (some decBounds) (some ['(', ']']) 2
    match f with
    | some f => do
        let u ← unslice f decBounds
        let g ← stitch (u.map (·.2)) Option.none (some decBounds) (some ['(', ']']) 2
        pure (g == some f && u.map (·.1) == decBounds && f.rows.length == 7)
    | Option.none => pure false : Res Bool) true
-- (the `#guard` the documents cite as unsliceInc_decreasing_loses) the direction test is what makes it work: the body
-- without it (`unsliceInc`) on the decreasing list as it stands files 7 rows under bound 8, 2 under 4, none under 2, and the re-stitched frame has 4 of the 7 rows (finding C13-U1)
#guard okEq (do
    let f ← stitch decSeries Option.none (some decBounds) (some ['(', ']']) 2
    match f with
    | some f => do
        let u ← unsliceInc f decBounds
        let g ← stitch (u.map (·.2)) Option.none (some decBounds) (some ['(', ']']) 2
        pure (u.map (fun p => (p.1, p.2.length)), g.map (·.rows.length))
    | Option.none => pure ([], Option.none) : Res (List (Int × Nat) × Option Nat)) ([(2, 0), (4, 2), (8, 7)], some 4)

/-! ### `zipper`: length-1 lists are broadcast, other mismatches rejected -/

/-- a lower-bound list of length 1 beside `m ≥ 2` upper bounds is the lower bound of every piece: the same frame as with
    the bound written out `m` times -/
theorem stitch_broadcast_lb (dfs : List TS) (a : Int) (ub : List Int) (hlen : dfs.length = ub.length) (htwo : 2 ≤ ub.length)
    (oc : Option (List Char)) (n : Nat) :
    stitch dfs (some [a]) (some ub) oc n = stitch dfs (some (List.replicate ub.length a)) (some ub) oc n := by
  have hr := nonDecreasing_replicate ub.length a
  have h1 : nonDecreasing [a] = true := rfl
  by_cases hu : nonDecreasing ub = true
  · rw [stitch_of_normalise (normalise_both_lists dfs [a] ub h1 hu), stitch_of_normalise (normalise_both_lists dfs _ ub hr hu),
      zipper3_bcast_idem _ ([a].map some) _ (by rw [framesOf_length]; omega) (Or.inr rfl)
        (Or.inl (by simp [framesOf_length, hlen])),
      framesOf_length, hlen, List.map_cons, List.map_nil, bcast_one _ (by omega), bcast_of_length _ _ (by simp),
      List.map_replicate]
  · rw [stitch_of_normalise_error (normalise_rejects_mixed dfs [a] ub (by simp [h1, hu])),
      stitch_of_normalise_error (normalise_rejects_mixed dfs _ ub (by simp [hr, hu]))]

/-- the same for an upper-bound list of length 1 beside `m ≥ 2` lower bounds -/
theorem stitch_broadcast_ub (dfs : List TS) (lb : List Int) (b : Int) (hlen : dfs.length = lb.length) (htwo : 2 ≤ lb.length)
    (oc : Option (List Char)) (n : Nat) :
    stitch dfs (some lb) (some [b]) oc n = stitch dfs (some lb) (some (List.replicate lb.length b)) oc n := by
  have hr := nonDecreasing_replicate lb.length b
  have h1 : nonDecreasing [b] = true := rfl
  by_cases hu : nonDecreasing lb = true
  · rw [stitch_of_normalise (normalise_both_lists dfs lb [b] hu h1), stitch_of_normalise (normalise_both_lists dfs lb _ hu hr),
      zipper3_bcast_idem _ _ ([b].map some) (by rw [framesOf_length]; omega) (Or.inl (by simp [framesOf_length, hlen]))
        (Or.inr rfl),
      framesOf_length, hlen, List.map_cons, List.map_nil, bcast_one _ (by omega), bcast_of_length _ _ (by simp),
      List.map_replicate]
  · rw [stitch_of_normalise_error (normalise_rejects_mixed dfs lb [b] (by simp [h1, hu])),
      stitch_of_normalise_error (normalise_rejects_mixed dfs lb _ (by simp [hr, hu]))]

/-- so with one lower bound `a` for all pieces (default `n = 1`): a row `(t, v)` of series `i` appears exactly when
    `a </≤ t` and `t </≤ ub[i]` -/
theorem stitch_source_broadcast_lb (dfs : List TS) (a : Int) (ub : List Int) (hlen : dfs.length = ub.length) (htwo : 2 ≤ ub.length)
    (hinc : nonDecreasing ub = true) (oc : Option (List Char)) (n : Nat) (hn : n ≤ 1) (l u : Bool) (hb : brackets oc = .ok (l, u))
    (F : Frame) (hF : stitch dfs (some [a]) (some ub) oc n = .ok (some F)) (t : Int) (vs : List (Option Int)) :
    (t, vs) ∈ F.rows ↔ ∃ i, ∃ hd : i < dfs.length, ∃ hu : i < ub.length, ∃ v,
      (t, v) ∈ dfs[i] ∧ lbOk l (.date a) t = true ∧ ubOk u (.date ub[i]) t = true ∧ vs = padRow F.width [v] := by
  rw [stitch_broadcast_lb dfs a ub hlen htwo] at hF
  rw [stitch_source_general_series dfs _ _ oc n hn l u hb dfs _ _
    (normalise_both_lists dfs _ ub (nonDecreasing_replicate _ a) hinc) (by simp [hlen]) (by simp [hlen]) (by omega) F hF t vs]
  constructor
  · rintro ⟨i, hd, hl, hu, v, h1, h2, h3, h4⟩
    simp only [List.length_map] at hu
    exact ⟨i, hd, hu, v, h1, by simpa [optDate] using h2, by simpa [optDate] using h3, h4⟩
  · rintro ⟨i, hd, hu, v, h1, h2, h3, h4⟩
    exact ⟨i, hd, by simp; omega, by simp; omega, v, h1, by simpa [optDate] using h2, by simpa [optDate] using h3, h4⟩

/-- a list holding ONE series beside `m ≥ 2` upper bounds: the series is cut at every bound (and the pieces concatenated) -
    the same frame as with the series written out `m` times (default `n = 1`) -/
theorem stitch_broadcast_series (s : TS) (ub : List Int) (htwo : 2 ≤ ub.length) (oc : Option (List Char)) (n : Nat) (hn : n ≤ 1) :
    stitch [s] Option.none (some ub) oc n = stitch (List.replicate ub.length s) Option.none (some ub) oc n := by
  -- for every `v` of the length of `ub`: `normalise` hands on `ub` or its reverse
  have key : ∀ v : List Int, v.length = ub.length →
      zipper3 (framesOf [s] n) (Option.none :: v.dropLast.map some) (v.map some) =
        zipper3 (framesOf (List.replicate ub.length s) n) (Option.none :: v.dropLast.map some) (v.map some) := by
    intro v hv
    have hl1 : (Option.none :: v.dropLast.map some).length = ub.length := by simp; omega
    simp only [framesOf_of_le hn, List.map_cons, List.map_nil, List.map_replicate]
    rw [zipper3_bcast _ _ _ ub.length (by omega) (Or.inr rfl) (Or.inl hl1) (Or.inl (by simp [hv])) (Or.inr (Or.inl hl1)),
      zipper3_eq _ _ _ (by simp; omega) (by simp [hv])]
    rw [bcast_one _ (by omega), bcast_self _ _ (by rw [hl1]; omega), bcast_self _ (v.map some) (by simp; omega)]
  by_cases hu : nonDecreasing ub = true
  · rw [stitch_of_normalise (normalise_ub _ ub hu), stitch_of_normalise (normalise_ub _ ub hu), key ub rfl]
  · rw [stitch_of_normalise (normalise_ub_dec _ ub (by simpa using hu)), stitch_of_normalise (normalise_ub_dec _ ub (by simpa using hu)),
      List.reverse_replicate, List.reverse_singleton, key ub.reverse (by simp)]

/-- lists of two different lengths, neither of them 1, are rejected (`lens`: `ValueError`) - never zipped short -/
theorem stitch_length_mismatch (dfs : List TS) (ub : List Int) (oc : Option (List Char)) (n : Nat)
    (h1 : dfs.length ≠ 1) (h2 : ub.length ≠ 1) (h3 : dfs.length ≠ ub.length) :
    stitch dfs Option.none (some ub) oc n = .error .value := by
  have key : ∀ (d : List TS) (v : List Int), d.length = dfs.length → v.length = ub.length →
      zipper3 (framesOf d n) (Option.none :: v.dropLast.map some) (v.map some) = .error .value := by
    intro d v hd hv
    unfold zipper3
    rw [lens3_mismatch _ _ _ (Or.inr (Or.inl ⟨by rw [framesOf_length]; omega, by simp; omega, by rw [framesOf_length]; simp; omega⟩))]
    rfl
  by_cases hu : nonDecreasing ub = true
  · rw [stitch_of_normalise (normalise_ub dfs ub hu), key dfs ub rfl rfl]
    rfl
  · rw [stitch_of_normalise (normalise_ub_dec dfs ub (by simpa using hu)), key dfs.reverse ub.reverse (by simp) (by simp)]
    rfl

/-! ### lists holding DataFrames and scalars; bound lists of times of day -/

/-- the window of one piece in plain terms: both bracket tests - or, for two times of day with the start later than the
    end, either of them (the window wraps past midnight, under every bracket pair; finding C13-W2) -/
theorem inWindowW_iff (l u : Bool) (lb ub : Bound) (t : Int) :
    inWindowW l u lb ub t = true ↔
      if wraps lb ub = true then (lbOk l lb t = true ∨ ubOk u ub t = true) else (lbOk l lb t = true ∧ ubOk u ub t = true) := by
  unfold inWindowW
  split <;> simp

theorem wraps_iff (lb ub : Bound) : wraps lb ub = true ↔ ∃ a b, lb = .time a ∧ ub = .time b ∧ b < a :=
  wraps_eq_true_iff lb ub

/-- a list of Series with date bounds is the special case: the general model IS the model all theorems on `stitch` speak about -/
theorem stitch_frames_series (dfs : List TS) (lb ub : Option (List Int)) (oc : Option (List Char)) (n : Nat) :
    stitchM (dfs.map Member.series) .date lb ub oc n = stitch dfs lb ub oc n := by
  unfold stitchM stitch
  rw [normalise_map]
  cases hn : normalise dfs lb ub with
  | error e => rfl
  | ok x =>
    obtain ⟨d, lbs, ubs⟩ := x
    simp only [Except.map, bind, Except.bind, mapM_toFrame_series, framesOfF_series, cutAllB_date]

/-- a scalar member is the constant series on the boundaries `sorted(set(lb + ub))` -/
theorem scalar_member (v : Option Int) (bs : List Int) :
    Member.toFrame .date bs (.scalar v) = .ok ⟨1, bs.map fun t => (t, [v])⟩ := rfl

/-- with times of day the constant series is no timeseries: the code raises -/
theorem scalar_member_tod (v : Option Int) (bs : List Int) : Member.toFrame .time bs (.scalar v) = .error .other := rfl

/-- the boundaries are the bounds that occur in either list -/
theorem boundaries_iff (lbs ubs : List (Option Int)) (t : Int) :
    t ∈ boundariesOf lbs ubs ↔ some t ∈ lbs ∨ some t ∈ ubs := by
  simp [boundariesOf, List.mem_filterMap]

/-- each once, in increasing order: `boundariesOf` sorts and removes duplicates -/
theorem boundaries_increasing (lbs ubs : List (Option Int)) : (boundariesOf lbs ubs).Pairwise (· < ·) :=
  List.pairwise_mergeSort_eraseDups _

/-- (`n > 1`) for a list of Series / DataFrames / scalars (`fs` = the members as frames, scalars
    made constant series) and bound lists of either kind, a row `(t, vs)` is in the stitched frame exactly when for some piece
    `i` the timestamp passes the window of piece `i` and is a timestamp of one of the members `i .. i+n-1`; the row then
    holds the rows of those members at `t` side by side (NaN for a member without `t`), padded with NaN -/
theorem stitch_source_frames (ms : List Member) (k : BKind) (lb ub : Option (List Int)) (oc : Option (List Char)) (n : Nat)
    (hn : 1 < n) (l u : Bool) (hb : brackets oc = .ok (l, u)) (ms' : List Member) (lbs ubs : List (Option Int))
    (hnorm : normalise ms lb ub = .ok (ms', lbs, ubs)) (fs : List Frame)
    (hfs : ms'.mapM (Member.toFrame k (boundariesOf lbs ubs)) = .ok fs)
    (h1 : lbs.length = fs.length) (h2 : ubs.length = fs.length) (htwo : 2 ≤ fs.length)
    (F : Frame) (hF : stitchM ms k lb ub oc n = .ok (some F)) (t : Int) (vs : List (Option Int)) :
    (t, vs) ∈ F.rows ↔ ∃ i, ∃ hl : i < lbs.length, ∃ hu : i < ubs.length,
      (∃ f ∈ (fs.drop i).take n, t ∈ f.index) ∧
      inWindowW l u (k.bound lbs[i]) (k.bound ubs[i]) t = true ∧
      vs = padRow F.width (((fs.drop i).take n).flatMap (rowAt · t)) := by
  rw [mem_stitchM ms k lb ub oc n l u hb ms' lbs ubs hnorm fs hfs h1 h2 htwo (framesOfF_sorted fs n fun h => absurd hn (by omega)) F hF t vs]
  simp only [framesOfF_getElem_cols fs n hn, mem_concatFrames]
  constructor
  · rintro ⟨i, _, hl, hu, r, ⟨hex, rfl⟩, hw, rfl⟩
    exact ⟨i, hl, hu, hex, hw, rfl⟩
  · rintro ⟨i, hl, hu, hex, hw, rfl⟩
    exact ⟨i, by rw [framesOfF_length]; omega, hl, hu, _, ⟨hex, rfl⟩, hw, rfl⟩

/-- the default `n = 1`: a row `(t, r)` of member `i` appears exactly when `t` passes the window of piece `i`
    (members with strictly increasing indexes - needed where a time-of-day window wraps: `sort_index`) -/
theorem stitch_source_frames_one (ms : List Member) (k : BKind) (lb ub : Option (List Int)) (oc : Option (List Char)) (n : Nat)
    (hn : n ≤ 1) (l u : Bool) (hb : brackets oc = .ok (l, u)) (ms' : List Member) (lbs ubs : List (Option Int))
    (hnorm : normalise ms lb ub = .ok (ms', lbs, ubs)) (fs : List Frame)
    (hfs : ms'.mapM (Member.toFrame k (boundariesOf lbs ubs)) = .ok fs) (hs : ∀ f ∈ fs, SortedRows f)
    (h1 : lbs.length = fs.length) (h2 : ubs.length = fs.length) (htwo : 2 ≤ fs.length)
    (F : Frame) (hF : stitchM ms k lb ub oc n = .ok (some F)) (t : Int) (vs : List (Option Int)) :
    (t, vs) ∈ F.rows ↔ ∃ i, ∃ hd : i < fs.length, ∃ hl : i < lbs.length, ∃ hu : i < ubs.length, ∃ r,
      (t, r) ∈ fs[i].rows ∧ inWindowW l u (k.bound lbs[i]) (k.bound ubs[i]) t = true ∧ vs = padRow F.width r := by
  rw [mem_stitchM ms k lb ub oc n l u hb ms' lbs ubs hnorm fs hfs h1 h2 htwo (framesOfF_sorted fs n fun _ => hs) F hF t vs]
  constructor
  · rintro ⟨i, hf, hl, hu, r, hr, hw, rfl⟩
    have hd : i < fs.length := by rwa [framesOfF_length] at hf
    rw [framesOfF_getElem_one fs n hn i hf hd] at hr
    exact ⟨i, hd, hl, hu, r, hr, hw, rfl⟩
  · rintro ⟨i, hd, hl, hu, r, hr, hw, rfl⟩
    have hf : i < (framesOfF fs n).length := by rwa [framesOfF_length]
    refine ⟨i, hf, hl, hu, r, ?_, hw, rfl⟩
    rw [framesOfF_getElem_one fs n hn i hf hd]
    exact hr

/-- dates in the lower-bound list and times of day in the upper-bound list: `TypeError` (after the direction checks) -/
theorem stitch_mixed_kinds (ms : List Member) (l1 l2 : List Int) (oc : Option (List Char)) (n : Nat)
    (h1 : l1 ≠ []) (h2 : l2 ≠ []) (hd : nonDecreasing l2 = nonDecreasing l1) :
    stitchB ms (some (.date, l1)) (some (.time, l2)) oc n = .error .type := by
  cases l1 with
  | nil => exact absurd rfl h1
  | cons a l1 =>
    cases l2 with
    | nil => exact absurd rfl h2
    | cons b l2 =>
      simp only [stitchB, Option.map_some, normalise, hd, bne_self_eq_false, Bool.false_eq_true, if_false]
      split <;> rfl

/-! evaluation tests (`mergeSort` does not reduce in the kernel): a Series, a two-column DataFrame and a scalar; a time-of-day
    list whose second window 18:00 -> 06:00 wraps under the default `'(]'` -/
#guard okEq (stitchM [.series [(0, some 1), (5, some 2)], .frame ⟨2, [(3, [some 7, none]), (6, [some 8, some 9])]⟩, .scalar (some 4)]
    .date Option.none (some [2, 5, 9]) (some ['(', ']']) 1)
  (some ⟨2, [(0, [some 1, none]), (3, [some 7, none]), (9, [some 4, none])]⟩)
#guard okEq (stitchM [.series [(0, some 1), (5, some 2)], .frame ⟨2, [(3, [some 7, none]), (5, [some 8, some 9])]⟩]
    .date Option.none (some [4, 9]) (some ['(', ']']) 2)
  (some ⟨3, [(0, [some 1, none, none]), (3, [none, some 7, none]), (5, [some 8, some 9, none])]⟩)
#guard okEq (stitchM [.series [(0, some 1), (6 * 3600000000, some 2)], .series [(0, some 10), (6 * 3600000000, some 20), (12 * 3600000000, some 30), (18 * 3600000000, some 40)]]
    .time (some [0, 18 * 3600000000]) (some [6 * 3600000000, 6 * 3600000000]) (some ['(', ']']) 1)
  (some ⟨1, [(6 * 3600000000, [some 2]), (0, [some 10]), (6 * 3600000000, [some 20])]⟩)

/-! ### ONE series with bound lists -/

/-- a single (non-list) series with a LIST of upper bounds and one lower bound `b0` (possibly `None`): `zipper` repeats the
    series and the lower bound, the result is a python list holding, for every upper bound, the slice `(b0, ub[i]]` -/
theorem slices_ub_list {α} (df : Rows α) (b0 : Bound) (bs : List Bound) (htwo : 2 ≤ bs.length) (oc : Option (List Char))
    (l u : Bool) (hb : brackets oc = .ok (l, u))
    (hs : ∀ b ∈ bs, wraps b0 b = true → df.Pairwise (fun x y => x.1 < y.1)) :
    slicesOfSeries df (.one b0) (.list bs) oc = .ok (.many (bs.map fun b => df.filter fun r => inWindowW l u b0 b r.1)) := by
  have hz : (bcast bs.length [b0]).zip bs = bs.map fun b => (b0, b) := by
    rw [bcast_one _ (by omega), List.zip_replicate_left]
  rw [slicesOfSeries_eq df (.one b0) (.list bs) oc l u hb htwo (Or.inr rfl)]
  · simp only [BArg.toList, BArg.isList, Bool.false_and, hz, List.map_map, Function.comp_def]
    rfl
  · intro x hx
    simp only [BArg.toList, hz, List.mem_map] at hx
    obtain ⟨b, hb', rfl⟩ := hx
    exact hs b hb'

/-- these slices are NESTED, not a partition: with date bounds `b ≤ b'` the slice up to `b` is contained in the slice up to `b'` -/
theorem slices_nested {α} (df : Rows α) (l u : Bool) (b0 : Bound) (b b' : Int) (hbb : b ≤ b') :
    (df.filter fun r => inWindowW l u b0 (.date b) r.1).Sublist (df.filter fun r => inWindowW l u b0 (.date b') r.1) := by
  have hw := wraps_date_right b0
  have : (df.filter fun r => inWindowW l u b0 (.date b) r.1) =
      (df.filter fun r => inWindowW l u b0 (.date b') r.1).filter fun r => inWindowW l u b0 (.date b) r.1 := by
    rw [List.filter_filter]
    apply List.filter_congr
    intro x _
    simp only [inWindowW_of_not_wraps (hw _), inWindow]
    cases hu : ubOk u (.date b) x.1
    · simp
    · simp [ubOk_mono u hbb hu]
  rw [this]
  exact List.filter_sublist

/-- the witness: `df_slice(ts, ub = [2, 5])` on the index `0, 3` hands back `[rows ≤ 2, rows ≤ 5]` - the row at `0` is in both
    slices (so "the pieces partition the rows" is FALSE of a single series with an upper-bound list; it holds when both
    bounds are lists and chained, `slices_chained_partition`) -/
theorem slices_not_partition :
    slicesOfSeries [((0 : Int), 'a'), (3, 'b')] (.one .none) (.list [.date 2, .date 5]) (some ['(', ']']) =
      .ok (.many [[(0, 'a')], [(0, 'a'), (3, 'b')]]) := by rfl

/-- with BOTH bounds given as lists of the same length the slices `(lb[i], ub[i]]` are concatenated (`pd.concat(res)`, the end of `df_slice`) -/
theorem slices_both_lists {α} (df : Rows α) (as bs : List Bound) (hlen : as.length = bs.length) (htwo : 2 ≤ bs.length)
    (oc : Option (List Char)) (l u : Bool) (hb : brackets oc = .ok (l, u))
    (hs : ∀ x ∈ as.zip bs, wraps x.1 x.2 = true → df.Pairwise (fun x y => x.1 < y.1)) :
    slicesOfSeries df (.list as) (.list bs) oc =
      .ok (.one ((as.zip bs).flatMap fun x => df.filter fun r => inWindowW l u x.1 x.2 r.1)) := by
  have hz : bcast bs.length as = as := bcast_of_length _ _ hlen
  rw [slicesOfSeries_eq df (.list as) (.list bs) oc l u hb htwo (Or.inl hlen)]
  · simp only [BArg.toList, BArg.isList, hz]
    rfl
  · simpa only [BArg.toList, hz] using hs

/-- a single series cut with both bounds as lists, the lower bounds being `b0` followed by the
    upper bounds shifted by one (non-decreasing dates): the pieces `(b0, ub[0]], (ub[0], ub[1]], ...` partition the rows in
    `(b0, last ub]` - their concatenation, which is what `df_slice` returns, is exactly that one slice; half-open brackets
    (`l = !u`), non-decreasing index -/
theorem slices_chained_partition {α} (df : Rows α) (hs : (df.map (·.1)).Pairwise (· ≤ ·)) (b0 : Option Int) (ub : List Int)
    (htwo : 2 ≤ ub.length) (hinc : nonDecreasing ub = true) (hne : ub ≠ []) (h0 : ∀ a, b0 = some a → a ≤ ub.head hne)
    (oc : Option (List Char)) (l u : Bool) (hb : brackets oc = .ok (l, u)) (hlu : l = !u) :
    slicesOfSeries df (.list (optDate b0 :: ub.dropLast.map Bound.date)) (.list (ub.map Bound.date)) oc =
      .ok (.one (df.filter fun r => inWindow l u (optDate b0) (.date (ub.getLast hne)) r.1)) := by
  have hnw : ∀ x ∈ (optDate b0 :: ub.dropLast.map Bound.date).zip (ub.map Bound.date), wraps x.1 x.2 = false := by
    intro x hx
    obtain ⟨c, _, hc⟩ := List.mem_map.mp (List.of_mem_zip hx).2
    rw [← hc, wraps_date_right]
  rw [slices_both_lists df _ _ (by simp; omega) (by simpa using htwo) oc l u hb (by intro x hx hw; rw [hnw x hx] at hw; cases hw)]
  congr 2
  rw [← chain_concat df hs l u hlu ub b0 hne (nonDecreasing_pairwise ub hinc) h0]
  apply List.flatMap_congr
  intro x hx
  apply List.filter_congr
  intro r _
  exact inWindowW_of_not_wraps (hnw x hx) l u r.1

example : slicesOfSeries [((0 : Int), 'a'), (3, 'b'), (5, 'c'), (7, 'd')] (.list [.none, .date 2]) (.list [.date 2, .date 5]) (some ['(', ']']) =
    .ok (.one [(0, 'a'), (3, 'b'), (5, 'c')]) := by rfl

/-! ### the hypotheses of the theorems above are satisfiable (non-trivial values) -/

/-- `stitch_once_lb`: lower bounds `[0, 4]`, two proper series - the stitched index is strictly increasing -/
example : ∃ F, stitch [[(0, some 1), (5, some 2)], [(1, some 7), (9, some 3)]] (some [0, 4]) Option.none (some ['(', ']']) 1 = .ok (some F) ∧
    F.rows.Pairwise (fun a b => a.1 < b.1) :=
  ⟨_, rfl, stitch_once_lb [[(0, some 1), (5, some 2)], [(1, some 7), (9, some 3)]] [0, 4] rfl (by decide) rfl (by decide)
    (some ['(', ']']) 1 false true rfl (by simp) _ rfl⟩

/-- `stitch_once_both`: the chained lists `lb = [0, 5]`, `ub = [5, 9]` -/
example : ∀ i (h1 : i < ([5, 9] : List Int).length) (h2 : i + 1 < ([0, 5] : List Int).length),
    ([5, 9] : List Int)[i] ≤ ([0, 5] : List Int)[i + 1] := by
  intro i h1 h2
  have : i = 0 := by simp at h2; omega
  subst this
  simp

/-- `stitch_broadcast_lb` / `stitch_source_broadcast_lb`: one lower bound `1` for both pieces -/
example : stitch [[(0, some 1), (2, some 2)], [(1, some 7), (2, some 8), (9, some 3)]] (some [1]) (some [3, 9]) (some ['(', ']']) 1 =
    .ok (some ⟨1, [(2, [some 2]), (2, [some 8]), (9, [some 3])]⟩) := by
  rw [stitch_broadcast_lb _ 1 [3, 9] rfl (by decide)]; rfl

/-- `stitch_broadcast_series`: one series cut at three bounds comes back whole up to the last bound -/
example : stitch [[(0, some 1), (2, some 2), (7, some 3)]] Option.none (some [1, 2, 5]) (some ['(', ']']) 1 =
    .ok (some ⟨1, [(0, [some 1]), (2, [some 2])]⟩) := by
  rw [stitch_broadcast_series _ [1, 2, 5] (by decide) _ 1 (by decide)]; rfl

/-- `stitch_length_mismatch`: three series, two bounds -/
example : stitch [[], [], []] Option.none (some [1, 2]) (some ['(', ']']) 1 = .error .value :=
  stitch_length_mismatch _ _ _ _ (by decide) (by decide) (by decide)

/-- `stitch_source_frames`: the hypotheses on a Series, a DataFrame and a scalar -/
example : normalise [Member.series [(0, some 1)], .frame ⟨2, [(3, [some 7, none])]⟩, .scalar (some 4)] Option.none (some [2, 5, 9]) =
    .ok ([Member.series [(0, some 1)], .frame ⟨2, [(3, [some 7, none])]⟩, .scalar (some 4)],
      [Option.none, some 2, some 5], [some 2, some 5, some 9]) := rfl

#guard (boundariesOf [Option.none, some 2, some 5] [some 2, some 5, some 9]) == [2, 5, 9]

/-! `unslice_restitch_exact` on the C13-N1 witness: the re-stitched frame is the frame without its all-NaN row -/
#guard okEq (do
    let f ← stitch nanSeries Option.none (some [2, 5]) (some ['(', ']']) 1
    match f with
    | some f => do
        let u ← unslice f [2, 5]
        let g ← stitch (u.map (·.2)) Option.none (some [2, 5]) (some ['(', ']']) 1
        pure (g == some f.dropNaRows && f.dropNaRows != f)
    | Option.none => pure false : Res Bool) true

/-! ### ONE series and ONE bound: outside `Stitchable` (which needs two), inside "all n between 1 and the number
of series" -/

/-- `df_slice([s], ub = [u], openclose, n = 1)` is the single slice of `s` up to `u` (no lower bound), as a one-column frame:
nothing is concatenated (`assemble` of one piece is the piece) -/
theorem stitch_single_eq (s : TS) (u : Int) (oc : Option (List Char)) :
    stitch [s] Option.none (some [u]) oc 1 =
      (sliceOne (ofTS s) .none (.date u) oc).map fun rows => some (⟨1, rows⟩ : Frame) := by
  have hz : zipper3 (framesOf [s] 1) [(Option.none : Option Int)] [some u] = .ok [(⟨1, ofTS s⟩, Option.none, some u)] := rfl
  rw [stitch_of_normalise (normalise_ub [s] [u] rfl)]
  show (do let dlu ← zipper3 (framesOf [s] 1) [Option.none] [some u]
           let res ← cutAll dlu oc
           pure (assemble res)) = _
  rw [hz]
  simp only [bind, Except.bind, cutAll, List.mapM_cons, List.mapM_nil, optDate]
  cases sliceOne (ofTS s) Bound.none (Bound.date u) oc <;> rfl

/-- one series, one bound: a row is in the result exactly when it is a row of `s` whose timestamp satisfies `t <(=) u` as the
closing bracket says - the clause "every timestamp in (ub[i-1], ub[i]] takes its data from series i" for the only `i`, by
membership -/
theorem stitch_single_iff (s : TS) (u : Int) (oc : Option (List Char)) (l r : Bool) (hb : brackets oc = .ok (l, r)) (F : Frame)
    (hF : stitch [s] Option.none (some [u]) oc 1 = .ok (some F)) (t : Int) (vs : List (Option Int)) :
    F.width = 1 ∧ ((t, vs) ∈ F.rows ↔ (∃ v, (t, v) ∈ s ∧ vs = [v]) ∧ ubOk r (.date u) t = true) := by
  rw [stitch_single_eq, sliceOne_eq _ _ _ oc l r hb] at hF
  cases hF
  refine ⟨rfl, ?_⟩
  simp only [List.mem_filter, mem_ofTS, inWindow_iff, lbOk_none, true_and]

example : ∃ F, stitch [[(1, some 5), (3, some 7), (4, some 9)]] Option.none (some [3]) (some ['(', ']']) 1 = .ok (some F) ∧ F.rows = [(1, [some 5]), (3, [some 7])] := by
  rw [stitch_single_eq]; exact ⟨_, rfl, by decide⟩

/-- `df_slice([s], ub = [u], n = 1)` then `df_unslice` then `df_slice` again, ANY values (NaN, gaps,
    unsorted, empty): one series comes back, filed under `u`; it is the rows of `s` up to `u` holding a value (by an independent
    description: a `filter` of `s`, not the model's slices / columns), and stitching it again gives the frame up to its all-NaN rows -/
theorem unslice_restitch_single (s : TS) (u : Int) :
    ∃ F U, stitch [s] Option.none (some [u]) (some ['(', ']']) 1 = .ok (some F) ∧ unslice F [u] = .ok U ∧
      U.map (·.1) = [u] ∧ U.map (·.2) = [nona (s.filter fun p => decide (p.1 ≤ u))] ∧
      stitch (U.map (·.2)) Option.none (some [u]) (some ['(', ']']) 1 = .ok (some F.dropNaRows) := by
  have hA : Aligned [s] [u] := ⟨rfl, List.cons_ne_nil _ _, rfl⟩
  have hst : [u].Pairwise (· < ·) := List.pairwise_singleton _ _
  obtain ⟨F, U, h1, h2, h3, h4⟩ := unslice_restitch_dropNaRows [s] [u] hA hst 1 fun h => absurd h (by omega)
  refine ⟨F, U, h1, h2, h3, ?_, h4⟩
  have hW : F.width = 1 := (stitch_frame [s] [u] hA _ 1 false true rfl F h1).1
  rw [unslice_of_strict F [u] hst (by omega)] at h2
  cases h2
  have he := unslice_entries [s] [u] hA hst 1 (fun h => absurd h (by omega)) F h1 0 Nat.one_pos
  simp only [List.getElem_cons_zero, List.zipIdx_cons, List.zipIdx_nil, List.flatMap_cons, List.flatMap_nil, List.append_nil,
    hW] at he
  simp only [List.map_cons, List.map_nil, he, nona_filter]
  rfl

example : ∃ F U, stitch [[(1, some 5), (2, Option.none), (3, some 7), (4, some 9)]] Option.none (some [3]) (some ['(', ']']) 1 = .ok (some F) ∧
    unslice F [3] = .ok U ∧ U = [(3, [(1, some 5), (3, some 7)])] := by
  obtain ⟨F, U, h1, h2, h3, h4, _⟩ := unslice_restitch_single [(1, some 5), (2, Option.none), (3, some 7), (4, some 9)] 3
  refine ⟨F, U, h1, h2, ?_⟩
  match U, h3, h4 with
  | [(k, v)], h3, h4 =>
    simp only [List.map_cons, List.map_nil, List.cons.injEq, and_true] at h3 h4
    subst h3; subst h4; decide

/-! ### bound lists with an UNBOUNDED end: `df_slice(dfs, ub = [u_0 .. u_k, None])` - "a missing bound being
unbounded" inside a bound list.  Model: `directionO`, `normaliseO`, `stitchO`, `unsliceO` (bound lists of `Option Int`). -/

/-- on bound lists of dates the extended model IS the model every other theorem speaks about -/
theorem stitchO_dates (dfs : List TS) (lb ub : Option (List Int)) (oc : Option (List Char)) (n : Nat) :
    stitchO dfs (lb.map (List.map some)) (ub.map (List.map some)) oc n = stitch dfs lb ub oc n := by
  simp only [stitchO, stitch, normaliseO_dates]

/-- the direction test sets a trailing `None` aside -/
theorem direction_open (ubs : List Int) (hne : ubs ≠ []) :
    directionO (ubs.map some ++ [Option.none]) = .ok (nonDecreasing ubs) := directionO_open ubs hne

-- an inner `None` is refused (`TypeError`: `sorted` compares it with a date)
example : directionO [some 1, Option.none, some 2] = .error .type := rfl
example : directionO [Option.none, some 4, some 2] = .ok false := rfl
example : directionO [some 2, some 4, Option.none] = .ok true := rfl

/-- an unbounded last bound behaves as ANY bound beyond every timestamp of the series (and not below the
    other bounds): the two stitched frames are the same frame, so every theorem about increasing upper bounds
    (`stitch_source`, `stitch_once`, `stitch_width`, ...) speaks about the open-ended list too -/
theorem stitch_open_eq (dfs : List TS) (ubs : List Int) (M : Int) (h : Stitchable dfs (ubs ++ [M]))
    (hM : ∀ s ∈ dfs, ∀ t ∈ s.index, t < M) (oc : Option (List Char)) (n : Nat) (l u : Bool) (hb : brackets oc = .ok (l, u)) :
    stitchO dfs Option.none (some (ubs.map some ++ [Option.none])) oc n = stitch dfs Option.none (some (ubs ++ [M])) oc n := by
  have hne : ubs ≠ [] := by intro h0; have := h.two; simp [h0] at this
  have hinc : nonDecreasing ubs = true :=
    pairwise_nonDecreasing _ (List.pairwise_append.mp (nonDecreasing_pairwise _ h.inc)).1
  have hlen : dfs.length = ubs.length + 1 := by have := h.len; simpa using this
  have hn1 : normaliseO dfs Option.none (some (ubs.map some ++ [Option.none])) =
      .ok (dfs, Option.none :: ubs.map some, ubs.map some ++ [Option.none]) := by
    simp [normaliseO, directionO_open ubs hne, hinc, bind, Except.bind, pure, Except.pure]
  have hn2 : normalise dfs Option.none (some (ubs ++ [M])) =
      .ok (dfs, Option.none :: ubs.map some, (ubs ++ [M]).map some) := by
    rw [normalise_ub dfs _ h.inc, List.dropLast_concat]
  rw [stitchO_general dfs _ _ oc n l u hb dfs _ _ hn1 (by simp [hlen]) (by simp [hlen]),
    stitch_general dfs _ _ oc n l u hb dfs _ _ hn2 (by simp [hlen]) (by simp [hlen]),
    piecesG_open dfs _ ubs n l u M hM]

/-- the row characterisation with the LAST interval unbounded above: a row `(t, vs)` is in
    `df_slice(dfs, ub = [u_0 .. u_{k-1}, None], n)` exactly when, for a piece `i ≤ k` with `t` a timestamp of one of the series
    `i .. i+n-1`, `t` passes the lower test of `u_{i-1}` (none for `i = 0`) and - for `i < k` only - the upper test of `u_i`;
    column `j` then carries series `i+j`'s value at `t`.  Stated without any auxiliary bound. -/
theorem stitch_source_open (dfs : List TS) (ubs : List Int) (hlen : dfs.length = ubs.length + 1) (hne : ubs ≠ [])
    (hinc : nonDecreasing ubs = true) (oc : Option (List Char)) (n : Nat) (hn : 1 < n) (l u : Bool)
    (hb : brackets oc = .ok (l, u)) (F : Frame)
    (hF : stitchO dfs Option.none (some (ubs.map some ++ [Option.none])) oc n = .ok (some F)) (t : Int) (vs : List (Option Int)) :
    (t, vs) ∈ F.rows ↔ ∃ i, i ≤ ubs.length ∧
      (∃ s ∈ (dfs.drop i).take n, t ∈ s.index) ∧
      lbOk l (loBound ubs i) t = true ∧ (∀ hi : i < ubs.length, ubOk u (.date ubs[i]) t = true) ∧
      vs = padRow F.width (((dfs.drop i).take n).map (·.get t)) := by
  obtain ⟨M, hM1, hM2⟩ := exists_closing dfs ubs
  have hS : Stitchable dfs (ubs ++ [M]) :=
    stitchable_closed hlen hne (nonDecreasing_pairwise _ hinc) fun b hb' => Int.le_of_lt (hM2 b hb')
  rw [stitch_open_eq dfs ubs M hS hM1 oc n l u hb] at hF
  rw [stitch_source dfs (ubs ++ [M]) hS oc n hn l u hb F hF t vs]
  have hlo := loBound_append ubs M
  constructor
  · rintro ⟨i, hi, hex, h1, h2, h3⟩
    have hi' : i ≤ ubs.length := by simp at hi; omega
    refine ⟨i, hi', hex, by rw [← hlo i hi']; exact h1, ?_, h3⟩
    intro hlt
    simpa [List.getElem_append_left hlt] using h2
  · rintro ⟨i, hi, hex, h1, h2, h3⟩
    refine ⟨i, by simp; omega, hex, by rw [hlo i hi]; exact h1, ?_, h3⟩
    by_cases hlt : i < ubs.length
    · simpa [List.getElem_append_left hlt] using h2 hlt
    · have hi' : i = ubs.length := by omega
      subst hi'
      obtain ⟨s, hs, ht⟩ := hex
      simpa using ubOk_of_lt u (hM1 s (List.mem_of_mem_drop (List.mem_of_mem_take hs)) t ht)

/-- `df_unslice(F, [u_0 .. u_{k-1}, None])` is `df_unslice(F, [u_0 .. u_{k-1}, M])` for any `M` beyond every
    row of the frame and above the other bounds, with the key `M` read as `None`: the unbounded series is filed under `None`
    in the last place (finding C13-U2) -/
theorem unslice_open_eq (F : Frame) (ubs : List Int) (M : Int) (hM : ∀ r ∈ F.rows, r.1 < M) (hne : ubs ≠ [])
    (hstrict : (ubs ++ [M]).Pairwise (· < ·)) (hpos : 0 < F.width) :
    unsliceO F (ubs.map some ++ [Option.none]) =
      (unslice F (ubs ++ [M])).map (List.map fun p => (reopen M p.1, p.2)) := by
  have hMu : M ∉ ubs := fun hm => by
    have := (List.pairwise_append.mp hstrict).2.2 M hm M (by simp); omega
  have hinc' : nonDecreasing (ubs ++ [M]) = true := pairwise_nonDecreasing _ (hstrict.imp (fun h => Int.le_of_lt h))
  have hinc : nonDecreasing ubs = true :=
    pairwise_nonDecreasing _ (List.pairwise_append.mp (nonDecreasing_pairwise _ hinc')).1
  have hnd : ((ubs ++ [M]).map (reopen M)).Nodup :=
    List.Pairwise.map (reopen M) (fun a b hab e => hab (reopen_inj M e)) (hstrict.imp (fun h => Int.ne_of_lt h))
  rw [unslice_of_strict F _ hstrict hpos]
  simp only [unsliceO, directionO_open ubs hne, hinc, if_true, handedO_open F ubs M hM hMu, bind, Except.bind, pure,
    Except.pure, Except.map]
  rw [← map_reopen M ubs hMu, List.eraseDups_of_nodup _ hnd, List.map_map, List.map_map]
  refine congrArg Except.ok (List.map_congr_left fun u _ => ?_)
  simp only [Function.comp, filter_reopen]

/-- the round trip under an UNBOUNDED last bound, ANY values: for `k ≥ 1` strictly increasing
    dates followed by `None` and `k + 1` proper series, `df_unslice` returns one series per bound IN THE ORDER OF THE BOUNDS
    (the unbounded one last, under `None`), and `df_slice(list(U.values()), ub = ub, n)` reproduces the stitched frame up to its
    all-NaN rows (exactly, when it has none: `unslice_restitch_iff`'s argument).  Finding C13-U2. -/
theorem unslice_restitch_open (dfs : List TS) (ubs : List Int) (hlen : dfs.length = ubs.length + 1) (hne : ubs ≠ [])
    (hstrict : ubs.Pairwise (· < ·)) (hs : ∀ s ∈ dfs, s.Sorted) (n : Nat) :
    ∃ F U, stitchO dfs Option.none (some (ubs.map some ++ [Option.none])) (some ['(', ']']) n = .ok (some F) ∧
      unsliceO F (ubs.map some ++ [Option.none]) = .ok U ∧
      U.map (·.1) = ubs.map some ++ [Option.none] ∧
      stitchO (U.map (·.2)) Option.none (some (ubs.map some ++ [Option.none])) (some ['(', ']']) n = .ok (some F.dropNaRows) := by
  obtain ⟨M, hM1, hM2⟩ := exists_closing dfs ubs
  have hstrict' : (ubs ++ [M]).Pairwise (· < ·) := List.pairwise_append_singleton hstrict hM2
  have hS : Stitchable dfs (ubs ++ [M]) :=
    stitchable_closed hlen hne (hstrict.imp fun h => Int.le_of_lt h) fun b hb' => Int.le_of_lt (hM2 b hb')
  have htwo := hS.two
  obtain ⟨F, U', e1, e2, e3, e4⟩ := unslice_restitch_exact dfs (ubs ++ [M]) hS hstrict' hs n
  have hFrows := hS.aligned.rows_lt hM1 _ n false true rfl F e1
  have hpos : 0 < F.width := by
    rw [(stitch_frame dfs _ hS.aligned _ n false true rfl F e1).1]; omega
  have hU : unsliceO F (ubs.map some ++ [Option.none]) = .ok (U'.map fun p => (reopen M p.1, p.2)) := by
    rw [unslice_open_eq F ubs M hFrows hne hstrict' hpos, e2]; rfl
  have hMu : M ∉ ubs := fun hm => by have := hM2 M hm; omega
  have hsnd : (U'.map fun p => (reopen M p.1, p.2)).map (·.2) = U'.map (·.2) := by
    rw [List.map_map]; rfl
  have hfst : (U'.map fun p => (reopen M p.1, p.2)).map (·.1) = ubs.map some ++ [Option.none] := by
    rw [List.map_map, ← map_reopen M ubs hMu, ← e3, List.map_map]; rfl
  refine ⟨F, _, ?_, hU, hfst, ?_⟩
  · rw [stitch_open_eq dfs ubs M hS hM1 _ n false true rfl, e1]
  · rw [hsnd]
    have hU'len : (U'.map (·.2)).length = (ubs ++ [M]).length := by rw [← e3]; simp
    have hS' : Stitchable (U'.map (·.2)) (ubs ++ [M]) := ⟨hU'len, htwo, hS.inc⟩
    have hM' : ∀ s ∈ U'.map (·.2), ∀ t ∈ s.index, t < M := by
      intro s hs' t ht
      obtain ⟨r, hr, hrt⟩ := unslice_index_sub F _ hstrict' hpos U' e2 s hs' t ht
      rw [← hrt]; exact hFrows r hr
    rw [stitch_open_eq _ ubs M hS' hM' _ n false true rfl, e4]

/-- the DECREASING spelling of an unbounded last bound, `ub = [None, u_k-1 .. u_0]` with the
    series in the matching order (`_is_non_decreasing` sets the leading `None` aside and reads the dates as decreasing): the stitched
    frame is the frame of the increasing spelling `[u_0 .. u_k-1, None]`, `df_unslice` hands back one series per bound IN THE ORDER
    GIVEN (the unbounded one FIRST, under `None`), and stitching those again with the same list gives the frame up to its all-NaN
    rows.  At least two dates: `[None, d]` does not spell a direction. -/
theorem unslice_restitch_open_decreasing (dfs : List TS) (ubs : List Int) (hlen : dfs.length = ubs.length + 1)
    (htwo : 2 ≤ ubs.length) (hstrict : ubs.Pairwise (· < ·)) (hs : ∀ s ∈ dfs, s.Sorted) (n : Nat) :
    ∃ F U, stitchO dfs.reverse Option.none (some (Option.none :: ubs.reverse.map some)) (some ['(', ']']) n = .ok (some F) ∧
      stitchO dfs Option.none (some (ubs.map some ++ [Option.none])) (some ['(', ']']) n = .ok (some F) ∧
      unsliceO F (Option.none :: ubs.reverse.map some) = .ok U ∧
      U.map (·.1) = Option.none :: ubs.reverse.map some ∧
      stitchO (U.map (·.2)) Option.none (some (Option.none :: ubs.reverse.map some)) (some ['(', ']']) n = .ok (some F.dropNaRows) := by
  have hne : ubs ≠ [] := by intro h; rw [h] at htwo; simp at htwo
  obtain ⟨F, U, e1, e2, e3, e4⟩ := unslice_restitch_open dfs ubs hlen hne hstrict hs n
  have hD : (ubs.map some ++ [Option.none]).reverse = Option.none :: ubs.reverse.map some := by simp [List.map_reverse]
  have hrne : ubs.reverse ≠ [] := by simpa using hne
  have hdec : nonDecreasing ubs.reverse = false :=
    decreasing_not_nonDecreasing _ (by simpa using htwo) (List.pairwise_reverse.mpr (hstrict.imp (fun h => h)))
  have hinc : nonDecreasing ubs = true := pairwise_nonDecreasing _ (hstrict.imp (fun h => Int.le_of_lt h))
  have h1 : directionO (Option.none :: ubs.reverse.map some) = .ok false := by
    rw [directionO_leading_none _ hrne, hdec]
  have h2 : directionO (Option.none :: ubs.reverse.map some).reverse = .ok true := by
    rw [← hD, List.reverse_reverse, directionO_open ubs hne, hinc]
  have hnd : (Option.none :: ubs.reverse.map some).Nodup := by
    rw [← hD]
    exact (nodup_open hstrict).perm (List.reverse_perm _).symm
  have hrr : (Option.none :: ubs.reverse.map some).reverse = ubs.map some ++ [Option.none] := by rw [← hD, List.reverse_reverse]
  refine ⟨F, U.reverse, ?_, e1, ?_, ?_, ?_⟩
  · rw [stitchO_reverse _ _ h1 h2, List.reverse_reverse, hrr, e1]
  · rw [unsliceO_reverse F _ h1 h2 hnd, hrr, e2]; rfl
  · rw [List.map_reverse, e3, hD]
  · rw [stitchO_reverse _ _ h1 h2, hrr, List.map_reverse, List.reverse_reverse, e4]

/-- three series for the bounds `[2, 4, None]` -/
def openSeries : List TS := [[(0, some 1), (1, some 2), (2, some 3), (3, some 4)], [(2, some 10), (3, some 20), (4, some 30), (5, some 40)],
  [(4, some 100), (6, some 200), (7, some 300)]]
def openBounds : List (Option Int) := [some 2, some 4, Option.none]

#guard (match stitchO openSeries Option.none (some openBounds) (some ['(', ']']) 1 with
  | .ok (some F) => F.rows.map (·.1) == [0, 1, 2, 3, 4, 6, 7] &&
      (match unsliceO F openBounds with
       | .ok U => U.map (·.1) == openBounds &&
           okEq (stitchO (U.map (·.2)) Option.none (some openBounds) (some ['(', ']']) 1) (some F)
       | .error _ => false)
  | _ => false)
#guard (match stitchO openSeries Option.none (some openBounds) (some ['(', ']']) 2 with
  | .ok (some F) => (match unsliceO F openBounds with
       | .ok U => U.map (·.1) == openBounds &&
           okEq (stitchO (U.map (·.2)) Option.none (some openBounds) (some ['(', ']']) 2) (some F)
       | .error _ => false)
  | _ => false)
#guard (match stitchO openSeries.reverse Option.none (some openBounds.reverse) (some ['(', ']']) 2 with
  | .ok (some F) => okEq (stitchO openSeries Option.none (some openBounds) (some ['(', ']']) 2) (some F) &&
      (match unsliceO F openBounds.reverse with
       | .ok U => U.map (·.1) == openBounds.reverse &&
           okEq (stitchO (U.map (·.2)) Option.none (some openBounds.reverse) (some ['(', ']']) 2) (some F)
       | .error _ => false)
  | _ => false)

end Pyg.Props.C13
