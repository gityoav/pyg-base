/-
  C07 — `cmp` is a total preorder over mixed types (NaN and the missing date NaT included); `sort` is the stable
  `cmp`-sort; `dictable.sort` permutes the rows by `sortIdx`, the unique key-ordered permutation with ties in original
  order.  Python's native order agrees with `cmp` wherever it is defined, so every branch of `sort` as the code takes
  them (`codeSort`) returns the `cmp`-sort.
-/
import PygProofs.Lemmas.NativeLemmas
import PygProofs.Lemmas.TableRows

namespace Pyg.Props.C07
open Pyg

/-- the integer the driver prints for `cmp a b` is -1, 0 or 1 (`cmp` is a function into `Ordering`; that the
order is total is `cmpLe_total`) -/
theorem cmp_total (a b : Val) : ordInt (cmp a b) = -1 ∨ ordInt (cmp a b) = 0 ∨ ordInt (cmp a b) = 1 := by
  cases cmp a b <;> simp [ordInt]

/-- antisymmetry: `cmp(x,y) == -cmp(y,x)` -/
theorem cmp_antisymm (a b : Val) : cmp a b = (cmp b a).swap := cmp_swap a b

theorem cmp_antisymm_int (a b : Val) : ordInt (cmp a b) = - ordInt (cmp b a) := by
  rw [cmp_antisymm a b]; cases cmp b a <;> simp [ordInt, Ordering.swap]

theorem cmp_refl (a : Val) : cmp a a = .eq := Std.ReflCmp.compare_self

theorem cmp_trans (a b c : Val) : (cmp a b).isLE → (cmp b c).isLE → (cmp a c).isLE :=
  Std.TransCmp.isLE_trans

theorem cmp_eq_trans (a b c : Val) : cmp a b = .eq → cmp b c = .eq → cmp a c = .eq :=
  Std.TransCmp.eq_trans

theorem cmp_lt_trans (a b c : Val) : cmp a b = .lt → cmp b c = .lt → cmp a c = .lt :=
  Std.TransCmp.lt_trans

/-- an int against a float is compared EXACTLY, by the integers `4n` and `q` (`flt q` is `q/4`) - no rounding through float64 -/
theorem cmp_int_flt (n q : Int) : cmp (.cell (.int n)) (.cell (.flt q)) = compare (4 * n) q :=
  (cmp_cell _ _).trans (Cell.cmp_of_num ⟨rfl, rfl, rfl⟩ ⟨rfl, rfl, rfl⟩)

theorem cmp_flt_int (q n : Int) : cmp (.cell (.flt q)) (.cell (.int n)) = compare q (4 * n) := by
  rw [cmp_antisymm, cmp_int_flt]
  exact Std.OrientedOrd.eq_swap.symm

/-- `cmp` of an int and a float is 0 exactly for numerically equal values -/
theorem cmp_int_flt_eq_iff (n q : Int) : cmp (.cell (.int n)) (.cell (.flt q)) = .eq ↔ 4 * n = q := by
  rw [cmp_int_flt]; exact Int.compare_eq_eq

/-- numerically equal ints and floats compare equal (`flt q` is `q/4`) -/
theorem cmp_int_float (n : Int) : cmp (.cell (.int n)) (.cell (.flt (4 * n))) = .eq :=
  (cmp_int_flt_eq_iff n (4 * n)).2 rfl

/-- the numbers: ints, finite floats, the infinities and NaN -/
def isNumCell : Cell → Bool
  | .int _ | .flt _ | .pinf | .ninf | .nan => true
  | _ => false

/-- NaN ranks above every other number, the infinities included -/
theorem nan_top (c : Cell) (h : isNumCell c = true) (hn : c ≠ .nan) : cmp (.cell c) (.cell .nan) = .lt := by
  cases c with
  | nan => exact absurd rfl hn
  | int _ | flt _ | pinf | ninf => rfl
  | none | bool _ | dt _ | str _ => cases h

example : isNumCell .pinf = true ∧ Cell.pinf ≠ .nan ∧ cmp (.cell .pinf) (.cell .nan) = .lt := by decide

theorem nan_top_int (n : Int) : cmp (.cell (.int n)) (.cell .nan) = .lt := rfl

theorem nan_top_flt (q : Int) : cmp (.cell (.flt q)) (.cell .nan) = .lt := rfl

/-- two NaNs are equal under `cmp` whatever their identity (identity is not in the model) -/
theorem nan_eq_nan : cmp (.cell .nan) (.cell .nan) = .eq := cmp_refl _

/-- two empty dicts compare equal (the case of finding F2a) -/
theorem empty_dict : cmp (.dict []) (.dict []) = .eq := cmp_refl _

theorem cmpLe_trans (a b c : Val) : cmpLe a b = true → cmpLe b c = true → cmpLe a c = true :=
  isLE_trans_explicit a b c

theorem cmpLe_total (a b : Val) : (cmpLe a b || cmpLe b a) = true := isLE_total a b

theorem cmpNaT_val (a b : Val) : cmpNaT (.val a) (.val b) = cmp a b := rfl

/-- NaT is above every datetime -/
theorem nat_top (us : Int) : cmpNaT (.val (.cell (.dt us))) .nat = .lt := rfl

/-- NaT is equal to NaT, whatever the identity or the spelling -/
theorem nat_eq_nat : cmpNaT .nat .nat = .eq := rfl

/-- against a value NaT is placed by its type rank, that of `datetime.datetime` (`.rank = 2`): above `None`, bools and
datetimes, below dicts, numbers, lists, strings and tuples -/
theorem nat_vs_val (v : Val) : cmpNaT .nat (.val v) = if v.rank ≤ 2 then .gt else .lt := cmpNaT_nat_val v

/-- antisymmetry with the missing date among the values (the library answers 0 for two
`np.datetime64('NaT')`, not -1 both ways) -/
theorem cmpNaT_antisymm (a b : ValN) : cmpNaT a b = (cmpNaT b a).swap := cmpNaT_swap a b

/-- transitivity with the missing date among the values (the library puts NaT above every datetime;
`cmp(t, NaT) == 0 == cmp(NaT, t')` for all datetimes `t`, `t'` would break it) -/
theorem cmpNaT_trans (a b c : ValN) : (cmpNaT a b).isLE → (cmpNaT b c).isLE → (cmpNaT a c).isLE :=
  Std.TransCmp.isLE_trans

/-- a datetime, NaT, a later datetime - consistent -/
example : cmpNaT (.val (.cell (.dt 5))) .nat = .lt ∧ cmpNaT .nat (.val (.cell (.dt 9))) = .gt ∧
    cmpNaT .nat (.val (.cell .none)) = .gt ∧ cmpNaT .nat (.val (.cell (.flt 4))) = .lt ∧ cmpNaT .nat (.val (.dict [])) = .lt := by decide

example : cmp (.cell (.str "2")) (.cell (.int 2)) = .gt := by decide
example : cmp (.cell .none) (.cell (.flt 8)) = .lt := by decide
example : cmp (.list [.cell (.int 1), .cell (.int 2), .cell (.int 3)])
    (.list [.cell (.int 4), .cell (.int 5)]) = .gt := by decide
example : cmp (.dict [("a", .cell (.int 1)), ("b", .cell (.int 2))])
    (.dict [("b", .cell (.int 2)), ("a", .cell (.int 1))]) = .eq := by decide
example : cmp (.dict [("a", .cell (.int 1)), ("b", .cell (.int 2))])
    (.dict [("a", .cell (.int 1)), ("c", .cell (.int 2))]) = .lt := by decide

theorem sort_perm (xs : List Val) : (sort xs).Perm xs := List.mergeSort_perm xs cmpLe

-- `sort_sorted`, `cmp_keyId`, `keyId_le`, `sortIdx_keys`, `sortIdx_perm`, `sortIdx_ordered` below restate, in the property's
-- namespace, the `Pyg.` lemmas of the same names (Lemmas/NativeLemmas); inside this namespace the short names mean these
theorem sort_sorted (xs : List Val) : (sort xs).Pairwise (fun a b => cmpLe a b = true) :=
  Pyg.sort_sorted xs

/-- stability: elements that are `≤` keep their relative order.  A `Sublist` statement on values; the statement on
positions is `sortIdx_ordered` -/
theorem sort_stable (xs : List Val) (a b : Val) (hab : cmpLe a b = true)
    (h : [a, b].Sublist xs) : [a, b].Sublist (sort xs) :=
  List.pair_sublist_mergeSort cmpLe_trans cmpLe_total hab h

/-- more generally every already-ordered sub-sequence survives in order (again `Sublist` on values; on positions:
`sortIdx_ordered`) -/
theorem sort_stable_sublist (xs c : List Val) (hc : c.Pairwise (fun a b => cmpLe a b = true))
    (h : c.Sublist xs) : c.Sublist (sort xs) :=
  List.sublist_mergeSort cmpLe_trans cmpLe_total hc h

theorem sort_idem (xs : List Val) : sort (sort xs) = sort xs :=
  List.mergeSort_of_pairwise (sort_sorted xs)

theorem sort_of_sorted (xs : List Val) (h : xs.Pairwise (fun a b => cmpLe a b = true)) :
    sort xs = xs := List.mergeSort_of_pairwise h

theorem cmp_keyId (a b : Val × Nat) :
    cmp (keyId a) (keyId b) = (cmp a.1 b.1).then (compare a.2 b.2) :=
  Pyg.cmp_keyId a b

theorem keyId_le (a b : Val × Nat) :
    cmpLe (keyId a) (keyId b) = List.zipIdxLE cmpLe a b :=
  Pyg.keyId_le a b

/-- the keys in sorted-row order are the stable sort of the keys -/
theorem sortIdx_keys (keys : List Val) :
    ((keys.zipIdx.mergeSort (fun a b => cmpLe (keyId a) (keyId b))).map (·.1)) = sort keys :=
  Pyg.sortIdx_keys keys

/-- the row permutation of `dictable.sort` is a permutation of `0..n-1` -/
theorem sortIdx_perm (keys : List Val) : (sortIdx keys).Perm (List.range keys.length) :=
  Pyg.sortIdx_perm keys

theorem sortIdx_gather (keys : List Val) :
    (sortIdx keys).map (fun i => keys[i]?) = (sort keys).map some := by
  rw [← sortIdx_keys, sortIdx, List.map_map, List.map_map]
  exact List.map_congr_left fun p hp => mem_sortPairs.1 hp

/-- `dictable.sort` orders the rows by key and ties keep the original order: for any two
positions of the result, the earlier row's key is strictly smaller under `cmp`, or the keys
are `cmp`-equal and the earlier row also came first in the input. -/
theorem sortIdx_ordered (keys : List Val) :
    (sortIdx keys).Pairwise (fun a b => ∃ ka kb, keys[a]? = some ka ∧ keys[b]? = some kb ∧
      (cmp ka kb = .lt ∨ (cmp ka kb = .eq ∧ a < b))) :=
  Pyg.sortIdx_ordered keys

theorem sortIdx_ordered_map {α : Type} (f : α → Val) (xs : List α) :
    (sortIdx (xs.map f)).Pairwise (fun a b => ∃ xa xb, xs[a]? = some xa ∧ xs[b]? = some xb ∧
      (cmp (f xa) (f xb) = .lt ∨ (cmp (f xa) (f xb) = .eq ∧ a < b))) := by
  refine (sortIdx_ordered (xs.map f)).imp ?_
  rintro a b ⟨ka, kb, ha, hb, h⟩
  rw [List.getElem?_map, Option.map_eq_some_iff] at ha hb
  obtain ⟨xa, hxa, rfl⟩ := ha
  obtain ⟨xb, hxb, rfl⟩ := hb
  exact ⟨xa, xb, hxa, hxb, h⟩

/-- the statement "a stable permutation of the rows ordered by the keys" determines the result:
ANY permutation of the row numbers that is ordered by key with ties in original order is the
one the model returns.  (So nothing is assumed about the sorting algorithm the code uses.) -/
theorem sortIdx_unique (keys : List Val) (l : List Nat) (hp : l.Perm (List.range keys.length))
    (hs : l.Pairwise (fun a b => ∃ ka kb, keys[a]? = some ka ∧ keys[b]? = some kb ∧
      (cmp ka kb = .lt ∨ (cmp ka kb = .eq ∧ a < b)))) : l = sortIdx keys := by
  refine List.Perm.eq_of_pairwise ?_ hs (sortIdx_ordered keys) (hp.trans (sortIdx_perm keys).symm)
  rintro a b _ _ ⟨ka, kb, ha, hb, h1⟩ ⟨kb', ka', hb', ha', h2⟩
  rw [hb] at hb'; rw [ha] at ha'
  cases hb'; cases ha'
  have hsw := cmp_antisymm kb ka
  rcases h1 with h1 | ⟨h1, h1'⟩ <;> rcases h2 with h2 | ⟨h2, h2'⟩ <;>
    simp [hsw, h1, Ordering.swap] at h2
  -- left: the keys are `cmp`-equal both ways, so `a < b` and `b < a`
  omega

/-- of an already sorted key column: the identity permutation (idempotence of the sort itself is `sortIdx_twice`) -/
theorem sortIdx_idem (keys : List Val) (h : keys.Pairwise (fun a b => cmpLe a b = true)) :
    sortIdx keys = List.range keys.length := by
  rw [sortIdx, List.mergeSort_of_pairwise, List.zipIdx_map_snd, List.range_eq_range']
  rw [List.pairwise_iff_getElem] at h ⊢
  intro i j hi hj hij
  rw [List.length_zipIdx] at hi hj
  rw [List.getElem_zipIdx, List.getElem_zipIdx, cmpLe, cmp_keyId, Ordering.isLE_then_iff_and]
  exact ⟨h i j hi hj hij, .inr (Nat.isLE_compare.2 (by omega))⟩

/-- idempotence as the property states it: sorting the sorted table again moves no row.
(`(sortIdx keys).map fun i => keys[i]?.getD default` is the key column of the sorted table.) -/
theorem sortIdx_twice (keys : List Val) :
    sortIdx ((sortIdx keys).map fun i => keys[i]?.getD default) = List.range keys.length := by
  have h := sortIdx_gather keys
  have h2 : ((sortIdx keys).map fun i => keys[i]?.getD default) = sort keys := by
    have := congrArg (List.map (fun o : Option Val => o.getD default)) h
    simpa [List.map_map, Function.comp_def] using this
  rw [h2, sortIdx_idem (sort keys) (sort_sorted keys), (sort_perm keys).length_eq]

/-- wherever python's own `<`/`>` is defined between two bool-free scalars (same kind, or int against float, NaN excluded:
`Cell.native` is `none` where python raises TypeError) it gives exactly the outcome of `cmp`.  Hence a native `sorted()`
that does not raise and the `Cmp`-keyed fallback order such values alike. -/
theorem native_agrees (a b : Cell) (ha : a.isBool = false) (hb : b.isBool = false) (o : Ordering)
    (h : a.native b = some o) : cmp (.cell a) (.cell b) = o := Cell.native_agrees a b ha hb o h

/-- the same for equal-length tuples of bool-free scalars (python compares tuples by their first `!=` pair; `cmp` compares
type, length, then `cmparr`).  FLAT tuples only; the nested `((k0, .., kn), i)` tuples that `dictable.sort` / `_listby` hand to
`sorted()` are `native_agrees_keyId` -/
theorem native_agrees_tuple (xs ys : List Cell) (hlen : xs.length = ys.length)
    (hx : ∀ c ∈ xs, c.isBool = false) (hy : ∀ c ∈ ys, c.isBool = false) (o : Ordering)
    (h : nativeArr xs ys = some o) :
    cmp (.tuple (xs.map .cell)) (.tuple (ys.map .cell)) = o :=
  nativeArr_agrees xs ys hlen hx hy o h

/-- bools are where the two orders part (`True` is `1` natively, `cmp` ranks bools below all numbers): the reason why
bools take part in the cmp laws only -/
theorem native_differs_on_bool :
    (Cell.bool true).native (.flt 2) = some .gt ∧ cmp (.cell (.bool true)) (.cell (.flt 2)) = .lt := by decide

/-- the nested `((k0, .., kn), i)` tuples that `dictable.sort` sorts natively (`native_agrees_tuple` is about FLAT
tuples): wherever python's comparison of two such tuples is defined — keys of equal length over bool-free cells — it is `cmp` of
the decorated keys `keyId` -/
theorem native_agrees_keyId (xs ys : List Cell) (i j : Nat) (hlen : xs.length = ys.length)
    (hx : ∀ c ∈ xs, c.isBool = false) (hy : ∀ c ∈ ys, c.isBool = false) (o : Ordering)
    (h : nativeKeyId (xs, i) (ys, j) = some o) :
    cmp (keyId (.tuple (xs.map .cell), i)) (keyId (.tuple (ys.map .cell), j)) = o := by
  rw [cmp_keyId]
  unfold nativeKeyId at h
  cases hn : nativeArr xs ys with
  | none => rw [hn] at h; nomatch h
  | some r =>
    rw [hn] at h
    rw [native_agrees_tuple xs ys hlen hx hy r hn]
    cases r <;> exact Option.some.inj h

/-- from pairs to lists: whatever algorithm `sorted()` runs, if its output — a
permutation `l` of the row numbers — is natively increasing from each decorated key to the NEXT one (adjacent pairs only; no
comparison raised), then `l` is exactly the permutation `sortIdx` of the model, i.e. the unique stable `cmp`-sort.  Assumed about
CPython: that the output of `sorted()` is a permutation of its input (`hp`) and, on pairwise distinct elements, adjacent-wise
`<` (`hadj`). -/
theorem native_sorted_is_sortIdx (rows : List (List Cell)) (w : Nat) (hw : ∀ r ∈ rows, r.length = w)
    (hb : ∀ r ∈ rows, ∀ c ∈ r, c.isBool = false) (l : List Nat) (hp : l.Perm (List.range rows.length))
    (hadj : Adjacent (fun a b => ∃ ra rb, rows[a]? = some ra ∧ rows[b]? = some rb ∧
      nativeKeyId (ra, a) (rb, b) = some .lt) l) :
    l = sortIdx (rows.map fun r => .tuple (r.map .cell)) := by
  -- neighbours are `cmp`-increasing on the decorated keys, and that relation is transitive
  have key : Adjacent (fun a b => ∃ ra rb, rows[a]? = some ra ∧ rows[b]? = some rb ∧
      cmp (keyId (.tuple (ra.map .cell), a)) (keyId (.tuple (rb.map .cell), b)) = .lt) l := by
    refine Adjacent.imp_of_mem l (fun a _ b _ ⟨ra, rb, ha, hb', hn⟩ => ⟨ra, rb, ha, hb', ?_⟩) hadj
    have hma := List.mem_of_getElem? ha
    have hmb := List.mem_of_getElem? hb'
    exact native_agrees_keyId ra rb a b ((hw ra hma).trans (hw rb hmb).symm) (hb ra hma) (hb rb hmb) _ hn
  have hpw := Adjacent.pairwise (fun a b c ⟨ra, rb, ha, hb1, h1⟩ ⟨rb', rc, hb2, hc, h2⟩ => by
      cases hb1.symm.trans hb2
      exact ⟨ra, rc, ha, hc, cmp_lt_trans _ _ _ h1 h2⟩) l key
  refine sortIdx_unique _ l (by rw [List.length_map]; exact hp) (hpw.imp ?_)
  rintro a b ⟨ra, rb, ha, hb', hc⟩
  refine ⟨.tuple (ra.map .cell), .tuple (rb.map .cell), by rw [List.getElem?_map, ha]; rfl,
    by rw [List.getElem?_map, hb']; rfl, ?_⟩
  rw [cmp_keyId, Ordering.then_eq_lt, Nat.compare_eq_lt] at hc
  exact hc

/-- non-vacuity: `nativeKeyId` is defined and `lt` on mixed int/float keys, undefined (`TypeError`) on int against str -/
example : nativeKeyId ([.int 1, .str "a"], 0) ([.flt 4, .str "b"], 1) = some .lt ∧
    nativeKeyId ([.int 1], 0) ([.flt 4], 1) = some .lt ∧ nativeKeyId ([.int 1], 1) ([.str "a"], 0) = Option.none := by decide
/-- the hypotheses of `native_sorted_is_sortIdx` on a concrete column: the output `[1, 2, 0]` of `sorted()` for keys 3, 1, 1.0 -/
example : Adjacent (fun a b => ∃ ra rb, [[Cell.int 3], [.int 1], [.flt 4]][a]? = some ra ∧ [[Cell.int 3], [.int 1], [.flt 4]][b]? = some rb ∧
    nativeKeyId (ra, a) (rb, b) = some .lt) [1, 2, 0] :=
  ⟨⟨_, _, rfl, rfl, by decide⟩, ⟨_, _, rfl, rfl, by decide⟩, trivial⟩
#guard sortIdx ([[Cell.int 3], [.int 1], [.flt 4]].map fun r => Val.tuple (r.map .cell)) == [1, 2, 0]

/-- generic form: if a list is natively non-decreasing from each element to the NEXT one (no comparison raised), and the native
comparison agrees with `cmp` on its members, the list is non-decreasing under `cmp` on EVERY pair -/
theorem adjacent_native_pairwise {α : Type} (toV : α → Val) (P : α → Prop) (nat : α → α → Option Ordering)
    (hag : ∀ a b, P a → P b → ∀ o, nat a b = some o → cmp (toV a) (toV b) = o)
    (l : List α) (hP : ∀ a ∈ l, P a) (hadj : Adjacent (fun a b => ∃ o, nat a b = some o ∧ o ≠ .gt) l) :
    (l.map toV).Pairwise (fun a b => cmpLe a b = true) := by
  refine List.pairwise_map.2 (Adjacent.pairwise (fun a b c => cmpLe_trans (toV a) (toV b) (toV c)) l ?_)
  refine Adjacent.imp_of_mem l (fun a ha b hb ⟨o, ho, hne⟩ => ?_) hadj
  rw [cmpLe, hag a b (hP a ha) (hP b hb) o ho]
  cases o with
  | gt => exact absurd rfl hne
  | _ => rfl

/-- **`sort` on its native path returns a list that is non-decreasing under `cmp`**: whatever algorithm `sorted()` runs, if its
output `l` - a permutation of the bool-free scalars `xs` - is natively `≤` from each element to the next (no comparison raised),
then `l` is a permutation of `xs` ordered under `cmp` on every pair: the clause "returns a permutation of xs that is
non-decreasing under cmp" for the path `sort` takes when it can.  Assumed about CPython: only that the output of `sorted()` is
a permutation, adjacent-wise `≤`.  (`sort_sorted` is this clause for `List.mergeSort cmpLe`, the model's
own definition.) -/
theorem native_sorted_is_sorted (xs l : List Cell) (hb : ∀ c ∈ xs, c.isBool = false) (hp : l.Perm xs)
    (hadj : Adjacent (fun a b => ∃ o, a.native b = some o ∧ o ≠ .gt) l) :
    (l.map Val.cell).Perm (xs.map Val.cell) ∧ (l.map Val.cell).Pairwise (fun a b => cmpLe a b = true) ∧
      sort (l.map Val.cell) = l.map Val.cell :=
  have hpw := adjacent_native_pairwise Val.cell (fun c => c.isBool = false) Cell.native
    (fun a b ha hb' o h => native_agrees a b ha hb' o h) l (fun c hc => hb c (hp.mem_iff.1 hc)) hadj
  ⟨hp.map _, hpw, sort_of_sorted _ hpw⟩

/-- the same for equal-length tuples of bool-free scalars -/
theorem native_sorted_is_sorted_tuple (xs l : List (List Cell)) (w : Nat) (hw : ∀ r ∈ xs, r.length = w)
    (hb : ∀ r ∈ xs, ∀ c ∈ r, c.isBool = false) (hp : l.Perm xs)
    (hadj : Adjacent (fun a b => ∃ o, nativeArr a b = some o ∧ o ≠ .gt) l) :
    (l.map fun r => Val.tuple (r.map .cell)).Perm (xs.map fun r => Val.tuple (r.map .cell)) ∧
      (l.map fun r => Val.tuple (r.map .cell)).Pairwise (fun a b => cmpLe a b = true) ∧
      sort (l.map fun r => Val.tuple (r.map .cell)) = l.map fun r => Val.tuple (r.map .cell) := by
  have hpw : (l.map fun r => Val.tuple (r.map .cell)).Pairwise (fun a b => cmpLe a b = true) := by
    refine adjacent_native_pairwise _ (fun r => r.length = w ∧ ∀ c ∈ r, c.isBool = false) nativeArr ?_ l ?_ hadj
    · exact fun a b ha hb' o h => native_agrees_tuple a b (ha.1.trans hb'.1.symm) ha.2 hb'.2 o h
    · exact fun r hr => ⟨hw r (hp.mem_iff.1 hr), hb r (hp.mem_iff.1 hr)⟩
  exact ⟨hp.map _, hpw, sort_of_sorted _ hpw⟩

/-- the hypotheses on a concrete list: `sorted([3, 1, 1.0])` = `[1, 1.0, 3]` -/
example : Adjacent (fun a b => ∃ o, Cell.native a b = some o ∧ o ≠ .gt) [Cell.int 1, .flt 4, .int 3] :=
  ⟨⟨.eq, by decide, by decide⟩, ⟨.lt, by decide, by decide⟩, trivial⟩

/-- a listed value gets the position of its LAST occurrence as sort rank (for an order without repeats: its position) -/
theorem byvalRank_listed (vals : List Cell) (i : Nat) (hi : i < vals.length)
    (hrefl : vals[i].pyEq vals[i] = true)
    (hlast : ∀ j, i < j → (hj : j < vals.length) → vals[j].pyEq vals[i] = false) :
    byvalRank vals vals[i] = i := by
  rw [byvalRank, lastIdx?, lastIdxFrom_of_last vals 0 i hi vals[i] hrefl hlast, Nat.zero_add]

theorem byvalRank_unlisted (vals : List Cell) (x : Cell) (h : ∀ v ∈ vals, v.pyEq x = false) :
    byvalRank vals x = (dedupPy vals).length := by
  rw [byvalRank, lastIdx?, lastIdxFrom_eq_none.2 h]

/-- "unlisted ones last": for a value order without repeats every listed value ranks strictly below every unlisted one -/
theorem byval_unlisted_last (vals : List Cell) (hd : vals.Pairwise (fun a b => a.pyEq b = false))
    (x y : Cell) (hx : ∃ v ∈ vals, v.pyEq x = true) (hy : ∀ v ∈ vals, v.pyEq y = false) :
    byvalRank vals x < byvalRank vals y := by
  rw [byvalRank_unlisted vals y hy, dedupPy_of_distinct vals hd, byvalRank, lastIdx?]
  cases h : lastIdxFrom 0 vals x with
  | some j => exact Nat.zero_add vals.length ▸ (lastIdxFrom_ge vals x 0 j h).2
  | none =>
    obtain ⟨v, hv, hvx⟩ := hx
    exact absurd hvx (Bool.eq_false_iff.1 (lastIdxFrom_eq_none.1 h v hv))

/-- on rank vectors of equal length `cmp` IS the lexicographic order of the ranks -/
theorem cmp_rankKeys (as bs : List Nat) (h : as.length = bs.length) :
    cmp (.list (as.map fun (a : Nat) => Val.cell (.int (a : Int)))) (.list (bs.map fun (b : Nat) => Val.cell (.int (b : Int)))) = lexNat as bs := by
  rw [cmp_list, List.length_map, List.length_map, h, Nat.compare_eq_eq.2 rfl, lexArr_map, lexNat_eq_lexArr]
  exact congrArg (lexArr · as bs) (funext fun a => funext fun b => Cell.cmp_natCast a b)

theorem cmp_rankKey (a b : Nat) :
    cmp (.list [.cell (.int a)]) (.list [.cell (.int b)]) = compare a b :=
  (cmp_rankKeys [a] [b] rfl).trans Ordering.then_eq

theorem byvalKey_eq (orders : List (List Cell)) (row : List Cell) :
    byvalKey orders row = .list ((byvalRanks orders row).map fun (a : Nat) => Val.cell (.int (a : Int))) := by
  rw [byvalKey, byvalRanks, List.map_map]
  rfl

/-- explicit value orders, composed: in the result of `d.sort(col = vals)` the ranks of the rows are non-decreasing, and rows of
equal rank keep their original order; together with `byvalRank_listed` / `byval_unlisted_last` this is "listed values in
the given order, unlisted ones last, ties in original order". -/
theorem byval_sorted (vals : List Cell) (col : List Cell) :
    (sortIdx (col.map fun x => byvalKey [vals] [x])).Pairwise (fun a b =>
      ∃ xa xb, col[a]? = some xa ∧ col[b]? = some xb ∧
        (byvalRank vals xa < byvalRank vals xb ∨ (byvalRank vals xa = byvalRank vals xb ∧ a < b))) := by
  refine (sortIdx_ordered_map (fun x => byvalKey [vals] [x]) col).imp ?_
  rintro a b ⟨xa, xb, hxa, hxb, h⟩
  have hk (x : Cell) : byvalKey [vals] [x] = .list [.cell (.int (byvalRank vals x))] := rfl
  rw [hk, hk, cmp_rankKey, Nat.compare_eq_lt, Nat.compare_eq_eq] at h
  exact ⟨xa, xb, hxa, hxb, h⟩

/-- explicit value orders on SEVERAL columns (`rs.sort(key = [...], gender = [...])`, the docstring example;
`byval_sorted` is the single-column case): rows of the width of the orders come out in lexicographic order of their rank vectors — first
column's order first — and rows with equal rank vectors keep their original order -/
theorem byval_sorted_multi (orders : List (List Cell)) (rows : List (List Cell))
    (hw : ∀ r ∈ rows, r.length = orders.length) :
    (sortIdx (rows.map (byvalKey orders))).Pairwise (fun a b =>
      ∃ ra rb, rows[a]? = some ra ∧ rows[b]? = some rb ∧
        (lexNat (byvalRanks orders ra) (byvalRanks orders rb) = .lt ∨
          (lexNat (byvalRanks orders ra) (byvalRanks orders rb) = .eq ∧ a < b))) := by
  refine (sortIdx_ordered_map (byvalKey orders) rows).imp ?_
  rintro a b ⟨ra, rb, hra, hrb, h⟩
  have hl (r : List Cell) (hr : r ∈ rows) : (byvalRanks orders r).length = orders.length := by
    rw [byvalRanks, List.length_map, List.length_zip, hw r hr, Nat.min_self]
  rw [byvalKey_eq, byvalKey_eq, cmp_rankKeys _ _ ((hl ra (List.mem_of_getElem? hra)).trans
    (hl rb (List.mem_of_getElem? hrb)).symm)] at h
  exact ⟨ra, rb, hra, hrb, h⟩

/-- `lexNat` read off: the first column whose ranks differ decides -/
theorem lexNat_lt_iff : ∀ (as bs : List Nat), as.length = bs.length →
    (lexNat as bs = .lt ↔ ∃ i : Nat, (∀ j : Nat, j < i → as[j]? = bs[j]?) ∧ ∃ x y : Nat, as[i]? = some x ∧ bs[i]? = some y ∧ x < y)
  | [], [], _ => by simp [lexNat]
  | [], _ :: _, h | _ :: _, [], h => nomatch h
  | a :: as, b :: bs, h => by
    rw [lexNat, Ordering.then_eq_lt, Nat.compare_eq_lt, Nat.compare_eq_eq, lexNat_lt_iff as bs (Nat.succ.inj h)]
    constructor
    · rintro (hlt | ⟨rfl, i, hpre, hx⟩)
      · exact ⟨0, fun j hj => absurd hj (Nat.not_lt_zero j), a, b, rfl, rfl, hlt⟩
      · refine ⟨i + 1, fun j hj => ?_, hx⟩
        cases j with
        | zero => rfl
        | succ j => exact hpre j (Nat.lt_of_succ_lt_succ hj)
    · rintro ⟨i, hpre, x, y, hx, hy, hlt⟩
      cases i with
      | zero => cases hx; cases hy; exact .inl hlt
      | succ i =>
        exact .inr ⟨Option.some.inj (hpre 0 (Nat.succ_pos i)), i,
          fun j hj => hpre (j + 1) (Nat.succ_lt_succ hj), x, y, hx, hy, hlt⟩

/-- the docstring example `rs.sort(key = ['c','a','f','d'], gender = ['f','m'])`, ranks of the rows (c,f) (f,m) (f,f) (g,f) -/
example : byvalRanks [[.str "c", .str "a", .str "f", .str "d"], [.str "f", .str "m"]] [.str "f", .str "m"] = [2, 1] ∧
    byvalRanks [[.str "c", .str "a", .str "f", .str "d"], [.str "f", .str "m"]] [.str "g", .str "f"] = [4, 0] ∧
    lexNat [2, 0] [2, 1] = .lt ∧ lexNat [2, 1] [4, 0] = .lt := by decide

/-- the native comparisons that `native_agrees` and `native_agrees_tuple` assume defined are defined on such values -/
example : (Cell.int 1).native (.flt 8) = some .lt ∧ nativeArr [.int 1, .str "a"] [.int 2, .none] = some .lt := by decide
example : byvalRank [.str "c", .str "a", .str "f"] (.str "a") = 1 :=
  byvalRank_listed [.str "c", .str "a", .str "f"] 1 (by decide) (by decide)
    (by intro j h1 hj; have : j = 2 := by simp at hj; omega
        subst this; rfl)
example : byvalRank [.str "c", .str "a"] (.str "a") < byvalRank [.str "c", .str "a"] (.str "zz") :=
  byval_unlisted_last _ (by decide) _ _ ⟨.str "a", by decide, by decide⟩ (by decide)

/-- the hypotheses of `sort_stable` are satisfiable on mixed-type data -/
example : cmpLe (.cell (.int 1)) (.cell (.flt 4)) = true ∧
    [.cell (.int 1), .cell (.flt 4)].Sublist
      [Val.cell (.str "x"), .cell (.int 1), .cell .none, .cell (.flt 4)] := by decide

/-- the hypothesis of `sortIdx_idem` is satisfiable on a mixed-type key column -/
example : [Val.cell .none, .cell (.int 1), .cell (.flt 4), .cell .nan, .cell (.str "a")].Pairwise
    (fun a b => cmpLe a b = true) := by decide

-- evaluation tests (tests, not theorems: `List.mergeSort` is defined by well-founded recursion
-- and does not reduce in the kernel)
#guard sort [.cell (.flt 8), .cell .nan, .cell (.int 1), .cell .none] ==
    [.cell .none, .cell (.int 1), .cell (.flt 8), .cell .nan]
#guard sortIdx [.cell (.str "b"), .cell (.int 1), .cell (.str "a"), .cell (.flt 4)] == [1, 3, 2, 0]

section table
open Pyg.Table

theorem sortCellAt_gatherRows (t : Table) (idx : List Nat) (c : String) (j : Nat) (hj : j < idx.length) :
    (t.gatherRows idx).sortCellAt c j = t.sortCellAt c idx[j] := by
  rw [sortCellAt, sortCellAt, col?_gatherRows]
  cases t.col? c with
  | none => rfl
  | some xs => exact List.getD_map_of_lt _ idx _ j hj

theorem sortKeys_gatherRows (t : Table) (by_ : List String) (idx : List Nat) (ht : t ≠ [])
    (hidx : ∀ i ∈ idx, i < t.nrows) :
    (t.gatherRows idx).sortKeys by_ = idx.map fun i => (t.sortKeys by_)[i]?.getD default := by
  rw [sortKeys, nrows_gatherRows ht idx]
  refine List.map_range_eq_map idx _ _ fun j hj => ?_
  simp only [sortKeys, List.getElem?_map, List.getElem?_range (hidx idx[j] (List.getElem_mem hj)), Option.map_some,
    Option.getD_some]
  exact congrArg Val.tuple (List.map_congr_left fun c _ => congrArg Val.cell (sortCellAt_gatherRows t idx c j hj))

/-- **`dictable.sort(*by)` on the whole table** (rectangular, `by` names columns): the result has the same columns; row `j` of the
result — every cell of it, key and non-key columns alike — is row `(sortIdx keys)[j]` of `t`; that permutation is ordered by the
key tuples with ties in original order (`sortIdx_ordered`) and is the only such permutation (`sortIdx_unique`) -/
theorem dictable_sort_spec (t : Table) (n : Nat) (by_ : List String) (hr : t.Rect n) (hn : t.nrows = n) (hn0 : n ≠ 0)
    (hby0 : by_ ≠ []) (hby : ∀ c ∈ by_, c ∈ t.cols) :
    ∃ r, t.sortBy by_ = .ok r ∧ r = t.gatherRows (sortIdx (t.sortKeys by_)) ∧ r.cols = t.cols ∧ r.Rect n ∧
      (sortIdx (t.sortKeys by_)).Perm (List.range n) ∧
      (∀ j (hj : j < (sortIdx (t.sortKeys by_)).length), r.row j = t.row (sortIdx (t.sortKeys by_))[j]) ∧
      r.sortKeys by_ = (sortIdx (t.sortKeys by_)).map fun i => (t.sortKeys by_)[i]?.getD default := by
  have hlen : (t.sortKeys by_).length = n := by rw [sortKeys, List.length_map, List.length_range, hn]
  have hperm := sortIdx_perm (t.sortKeys by_)
  rw [hlen] at hperm
  have ht : t ≠ [] := fun e => hn0 (hn.symm.trans (congrArg nrows e))
  refine ⟨_, sortBy_of_cols t by_ (hn ▸ hn0) hby0 hby, rfl, cols_gatherRows _ _, ?_, hperm, ?_, ?_⟩
  · exact (hperm.length_eq.trans List.length_range) ▸ gatherRows_rect t (sortIdx (t.sortKeys by_))
  · exact fun j hj => row_gatherRows t _ j hj
  · exact sortKeys_gatherRows t by_ _ ht fun i hi => hn ▸ List.mem_range.1 (hperm.mem_iff.1 hi)

/-- **idempotent, at table level**: sorting the sorted table again returns it unchanged — all columns -/
theorem dictable_sort_idem (t : Table) (n : Nat) (by_ : List String) (hr : t.Rect n) (hn : t.nrows = n)
    (hby : ∀ c ∈ by_, c ∈ t.cols) (r : Table) (h : t.sortBy by_ = .ok r) : r.sortBy by_ = .ok r := by
  by_cases h0 : t.nrows = 0 ∨ by_ = []
  · rw [sortBy, if_pos h0] at h
    cases h
    exact if_pos h0
  · have hn0 : n ≠ 0 := fun e => h0 (.inl (hn.trans e))
    have hby0 : by_ ≠ [] := fun e => h0 (.inr e)
    obtain ⟨r', hr', rfl, hcols, hrect, hperm, _, hkeys⟩ := dictable_sort_spec t n by_ hr hn hn0 hby0 hby
    cases hr'.symm.trans h
    have ht : t ≠ [] := fun e => hn0 (hn.symm.trans (congrArg nrows e))
    have hnr : (t.gatherRows (sortIdx (t.sortKeys by_))).nrows = n := by
      rw [nrows_gatherRows ht, hperm.length_eq, List.length_range]
    have hlen : (t.sortKeys by_).length = n := by rw [sortKeys, List.length_map, List.length_range, hn]
    rw [sortBy_of_cols _ by_ (hnr ▸ hn0) hby0 (hcols ▸ hby), hkeys, sortIdx_twice, hlen, gatherRows_range hrect]

end table

#guard (match Table.sortBy [("a", [.int 3, .int 1, .int 2, .int 1]), ("b", [.str "x", .str "y", .str "z", .str "w"])] ["a"] with
  | .ok r => r == [("a", [.int 1, .int 1, .int 2, .int 3]), ("b", [.str "y", .str "w", .str "z", .str "x"])]
  | _ => false)
/-- the hypotheses of `dictable_sort_spec` / `dictable_sort_idem` are satisfiable -/
example : let t : Table := [("a", [.int 3, .int 1]), ("b", [.str "x", .str "y"])]
    t.Rect 2 ∧ t.nrows = 2 ∧ (∀ c ∈ ["a"], c ∈ t.cols) := by decide

theorem cmpPy_of_cell (a b : PyCell) (x y : Cell) (ha : a.cell? = some x) (hb : b.cell? = some y) :
    cmpPy a b = cmp (.cell x) (.cell y) := by
  rw [cmpPy, (PyCell.cell?_eq_some ha).1, (PyCell.cell?_eq_some hb).1]; rfl

theorem nativeKey_agrees (a b : PyCell) (ha : a.isBool = false) (hb : b.isBool = false) (o : Ordering)
    (h : a.nativeKey b = some o) : cmpPy a b = o := by
  unfold PyCell.nativeKey at h
  split at h
  · rename_i x y hx hy
    obtain ⟨px, bx⟩ := PyCell.cell?_eq_some hx
    obtain ⟨py, bY⟩ := PyCell.cell?_eq_some hy
    rw [cmpPy, px, py]
    exact native_agrees x y (bx.trans ha) (bY.trans hb) o h
  · cases h

theorem cmpPyLe_trans (a b c : PyCell) : cmpPyLe a b = true → cmpPyLe b c = true → cmpPyLe a c = true :=
  isLE_trans_explicit (f := cmpPy) a b c

theorem cmpPyLe_total (a b : PyCell) : (cmpPyLe a b || cmpPyLe b a) = true := isLE_total (f := cmpPy) a b

/-- **the branches of `sort` give the same result**: whichever return statement a list of scalars reaches - `Cmp` key because of
a NaN / NaT, native sort of the `as_primitive` images because of a numpy number, native sort of the objects, `Cmp` key after a
TypeError - the result is the stable `cmp`-sort of the input.  For all lists of spelled scalars without bools (python / numpy
numbers incl. NaN and ±inf, strings, datetimes, Timestamps, NaT, None).  The two `Cmp`-key branches are that merge sort by
definition; the content is the native branch, where the native order is defined on all pairs and agrees with `cmp`. -/
theorem codeSort_eq_cmpSort (xs : List PyCell) (hb : ∀ c ∈ xs, c.isBool = false) :
    codeSort xs = xs.mergeSort cmpPyLe := by
  unfold codeSort
  split
  · rfl
  · cases hns : nativeSorted xs with
    | none => rfl
    | some l =>
      show l = _
      rcases nativeSorted_eq_some hns with ⟨hlen, rfl⟩ | ⟨hall, rfl⟩
      · exact (List.mergeSort_of_length_le_one _ _ hlen).symm
      · refine List.mergeSort_congr _ _ _ fun a ha b hb' => ?_
        obtain ⟨o, ho⟩ := Option.isSome_iff_exists.1 (List.all_eq_true.1 (List.all_eq_true.1 hall a ha) b hb')
        rw [PyCell.nativeLe, ho, cmpPyLe, nativeKey_agrees a b (hb a ha) (hb b hb') o ho]
        cases o <;> rfl

/-- `sort(xs)` as the code runs it is a permutation of `xs` -/
theorem codeSort_perm (xs : List PyCell) (hb : ∀ c ∈ xs, c.isBool = false) : (codeSort xs).Perm xs := by
  rw [codeSort_eq_cmpSort xs hb]; exact List.mergeSort_perm _ _

/-- `sort(xs)` as the code runs it is non-decreasing under `cmp` on every pair, on every branch -/
theorem codeSort_sorted (xs : List PyCell) (hb : ∀ c ∈ xs, c.isBool = false) :
    (codeSort xs).Pairwise (fun a b => cmpPyLe a b = true) := by
  rw [codeSort_eq_cmpSort xs hb]; exact List.pairwise_mergeSort cmpPyLe_trans cmpPyLe_total xs

/-- `sort(xs)` as the code runs it is stable: members already in `cmp` order keep their relative order (e.g. `1` before `1.0`
before `np.int64(1)`).  A `Sublist` statement on values; the statement on positions is `sortIdx_ordered` -/
theorem codeSort_stable (xs c : List PyCell) (hb : ∀ c ∈ xs, c.isBool = false)
    (hc : c.Pairwise (fun a b => cmpPyLe a b = true)) (hs : c.Sublist xs) : c.Sublist (codeSort xs) := by
  rw [codeSort_eq_cmpSort xs hb]; exact List.sublist_mergeSort cmpPyLe_trans cmpPyLe_total hc hs

theorem codeBranch_cmpKey_iff (xs : List PyCell) : codeBranch xs = .cmpKey ↔ ∃ c ∈ xs, c.hasNan = true := by
  rw [← List.any_eq_true, codeBranch_eq]
  cases xs.any PyCell.hasNan with
  | true => exact ⟨fun _ => rfl, fun _ => rfl⟩
  | false =>
    refine ⟨fun h => ?_, fun h => (nomatch h)⟩
    rw [if_neg Bool.false_ne_true] at h
    split at h
    · split at h <;> nomatch h
    · nomatch h

/-- the TypeError fallback: no NaN / NaT, two or more members, and two of them python cannot compare (`None` with anything - itself
included -, a number with a string, a string with a datetime ...) -/
theorem codeBranch_fallback_iff (xs : List PyCell) :
    codeBranch xs = .fallback ↔ (∀ c ∈ xs, c.hasNan = false) ∧ 2 ≤ xs.length ∧ ∃ a ∈ xs, ∃ b ∈ xs, a.nativeKey b = none := by
  have hn : (∀ c ∈ xs, c.hasNan = false) ↔ xs.any PyCell.hasNan = false := by
    rw [List.any_eq_false]; simp only [Bool.not_eq_true]
  rw [← nativeSorted_eq_none, hn, codeBranch_eq]
  cases xs.any PyCell.hasNan with
  | true => exact ⟨fun h => (nomatch h), fun h => (nomatch h.1)⟩
  | false =>
    cases nativeSorted xs with
    | none => exact ⟨fun _ => ⟨rfl, rfl⟩, fun _ => rfl⟩
    | some l =>
      refine ⟨fun h => ?_, fun h => (nomatch h.2)⟩
      rw [if_neg Bool.false_ne_true, if_pos Option.isSome_some] at h
      split at h <;> nomatch h

/-- python compares two present scalars exactly when both are numbers (NaN apart, which `Cell.native` leaves undefined and `sort`
never hands to `sorted()`), both strings, or both datetimes (Timestamps included) -/
def sameNativeClass (a b : PyCell) : Bool :=
  match a.cell?, b.cell? with
  | some x, some y => (x.numKey?.isSome && y.numKey?.isSome) ||
      (match x, y with | .str _, .str _ => true | .dt _, .dt _ => true | _, _ => false)
  | _, _ => false

theorem nativeKey_isSome_iff (a b : PyCell) : (a.nativeKey b).isSome = sameNativeClass a b := by
  unfold PyCell.nativeKey sameNativeClass
  cases a.cell? with
  | none => rfl
  | some x =>
    cases b.cell? with
    | none => rfl
    | some y =>
      dsimp only
      -- the class test and `Cell.native` branch on the same pairs: two strings, two datetimes, anything else
      split
      · rfl
      · rfl
      · rename_i hs hd
        unfold Cell.native
        split
        · exact (hs _ _ rfl rfl).elim
        · exact (hd _ _ rfl rfl).elim
        · cases x.numKey? <;> cases y.numKey? <;> rfl

#guard codeBranch [.py (.int 3), .np (.int 2), .py (.int 1)] == .nativePrim
#guard codeBranch [.py (.int 3), .py .none] == .fallback
#guard codeBranch [.py .none] == .native
#guard codeBranch [.py (.int 3), .py (.flt 4), .ts 5] == .fallback
#guard codeBranch [.py (.dt 3), .ts 5, .nat] == .cmpKey
#guard codeBranch [.py (.dt 9), .ts 5] == .native
#guard (codeSort [.py (.int 3), .np (.int 2), .py .none, .py (.str "a"), .py (.flt 4)]).map PyCell.prim |>.map (fun v => match v with | .val v => v.render | .nat => "NAT")
   |> (· == ["N", "F:4", "I:2", "I:3", "S:61"])
/-- the hypothesis `hb` (no bools) of `codeSort_eq_cmpSort` and its corollaries on a list that takes the numpy branch: `sort([3, np.uint8(2), 1])` -/
example : ∀ c ∈ [PyCell.py (.int 3), .np (.int 2), .py (.int 1)], c.isBool = false := by decide

end Pyg.Props.C07
