/-
  C03 — alignment puts all timeseries on the prescribed common index, values intact: the joint index per policy, `df_reindex`
  with and without a fill method, `df_sync` member by member (series, frames with a column policy, bare arrays), `presync`.
  Beyond the statement's quantifier: `limit`, method lists, `join=<parameter name>` and dict members keyed 'index'.
-/
import PygProofs.Lemmas.AlignFill
import PygProofs.Props.C12

namespace Pyg.Props.C03
-- `.ffill` / `.bfill` are `Dir.ffill` (argument of `reindexFrame`) or `Method.ffill` (member of a method list); a bare `ffill` / `bfill`
-- is the column function `Fill.ffill` / `Fill.bfill`
open Pyg Pyg.Fill Pyg.Align

/-! ### the common index: intersection, union, first, last -/

/-- inner join: exactly the timestamps present in EVERY input index; sorted -/
theorem index_inner (ix : List Int) (ixs : List (List Int)) (hs : SortedL ix) :
    ∃ r, joinIndex .inner (ix :: ixs) = some r ∧ SortedL r ∧ ∀ t, t ∈ r ↔ ∀ j ∈ ix :: ixs, t ∈ j :=
  ⟨_, rfl, List.foldl_preserves (fun a b _ => sorted_inter a b) hs, fun t => by rw [List.mem_foldl_and mem_inter]; simp⟩

/-- outer join: exactly the timestamps present in SOME input index; sorted -/
theorem index_outer (ix : List Int) (ixs : List (List Int)) (hs : SortedL ix) :
    ∃ r, joinIndex .outer (ix :: ixs) = some r ∧ SortedL r ∧ ∀ t, t ∈ r ↔ ∃ j ∈ ix :: ixs, t ∈ j :=
  ⟨_, rfl, List.foldl_preserves (fun a b _ => sorted_union a b) hs, fun t => by rw [List.mem_foldl_or mem_union]; simp⟩

/-- left / right join: the first / the last input index -/
theorem index_left (ix : List Int) (ixs : List (List Int)) : joinIndex .left (ix :: ixs) = some ix := rfl

theorem index_right (ix : List Int) (ixs : List (List Int)) : joinIndex .right (ix :: ixs) = (ix :: ixs).getLast? :=
  List.some_getLastD_cons ix ix ixs

/-- nothing to align on: no index -/
theorem index_none (how : How) : joinIndex how [] = Option.none := rfl

/-! ### reindexing one timeseries -/

/-- the result sits on the requested index, keeps its columns and is rectangular -/
theorem reindex_index (f : Frame) (idx : List Int) (m : Option Dir) :
    (reindexFrame f idx m).idx = idx ∧ (reindexFrame f idx m).names = f.names ∧ (reindexFrame f idx m).Rect := by
  obtain ⟨g, hg, e⟩ := reindexFrame_colwise f idx m
  rw [e]
  exact ⟨rfl, colwise_wf f idx g hg⟩

/-- no fill method: every column is looked up label by label -/
theorem reindex_values (f : Frame) (idx : List Int) :
    (reindexFrame f idx Option.none).cols = f.cols.map fun c => (c.1, idx.map (valueAt f.idx c.2)) :=
  congrArg Frame.cols (reindexFrame_none f idx)

/-- the lookup `valueAt` of `reindex_values`: at a timestamp the series has (position `i` of its sorted index) it is exactly
the series' value -/
theorem reindex_keep (ix : List Int) (c : Col) (hs : SortedL ix) (i : Nat) (t : Int) (h : ix[i]? = some t) :
    valueAt ix c t = (c[i]?).join := by
  rw [valueAt, posOf_sorted hs h]
  rfl

/-- the lookup `valueAt` at a timestamp the series lacks is NaN -/
theorem reindex_missing (ix : List Int) (c : Col) (t : Int) (h : t ∉ ix) : valueAt ix c t = Option.none := by
  unfold valueAt; rw [(posOf_none ix t).mpr h]; rfl

/-- ffill (an as-of join, column by column): on a strictly increasing index every requested label `t` takes, in
every column, `lastObs` = the cell at the right-most position whose label is `≤ t` and whose cell is not NaN
(`last_observation` says so by positions); NaN when the column has no such observation.  `lastObs` is an independent
reference (one scan over labels and cells, no NaN removal, no positions); the model removes the NaN cells of the
column first (`obs`) and then looks up the as-of position (`asof_position`). -/
theorem reindex_ffill (f : Frame) (idx : List Int) (hs : f.Sorted) :
    (reindexFrame f idx (some .ffill)).cols = f.cols.map fun c => (c.1, idx.map (lastObs f.idx c.2)) := by
  simp only [reindexFrame, asofCol_ffill f.idx _ idx hs]

/-- bfill: the cell at the left-most position whose label is `≥ t` and whose cell is not NaN (`next_observation`) -/
theorem reindex_bfill (f : Frame) (idx : List Int) :
    (reindexFrame f idx (some .bfill)).cols = f.cols.map fun c => (c.1, idx.map (firstObs f.idx c.2)) := by
  simp only [reindexFrame, asofCol_bfill]

/-- what `lastObs` is, by positions: `v` sits at a position `i` with label `≤ t`, and no later position with a label
`≤ t` holds a value -/
theorem last_observation (ix : List Int) (c : Col) (t v : Int) :
    lastObs ix c t = some v ↔
      ∃ (i : Nat) (s : Int), ix[i]? = some s ∧ s ≤ t ∧ c[i]? = some (some v) ∧
        ∀ (j : Nat) (s' w : Int), i < j → ix[j]? = some s' → s' ≤ t → c[j]? ≠ some (some w) := by
  rw [lastObs_eq_lastObsG]; exact lastObsG_iff ix c t v

theorem next_observation (ix : List Int) (c : Col) (t v : Int) :
    firstObs ix c t = some v ↔
      ∃ (i : Nat) (s : Int), ix[i]? = some s ∧ t ≤ s ∧ c[i]? = some (some v) ∧
        ∀ (j : Nat) (s' w : Int), j < i → ix[j]? = some s' → t ≤ s' → c[j]? ≠ some (some w) := by
  rw [firstObs_eq_firstObsG]; exact firstObsG_iff ix c t v

/-- the composed statement for ONE cell of the result: column number `j`, requested label `idx[k] = t`.  The cell is
the value `v` iff `v` is the column's last non-NaN observation at or before `t`; it is NaN iff there is none. -/
theorem reindex_ffill_cell (f : Frame) (idx : List Int) (hs : f.Sorted) (j k : Nat) (c : String × Col) (t : Int)
    (hc : f.cols[j]? = some c) (hk : idx[k]? = some t) :
    ∃ r, (reindexFrame f idx (some .ffill)).cols[j]? = some (c.1, r) ∧ r.length = idx.length ∧
      (∀ v, r[k]? = some (some v) ↔
        ∃ (i : Nat) (s : Int), f.idx[i]? = some s ∧ s ≤ t ∧ c.2[i]? = some (some v) ∧
          ∀ (j' : Nat) (s' w : Int), i < j' → f.idx[j']? = some s' → s' ≤ t → c.2[j']? ≠ some (some w)) ∧
      (r[k]? = some Option.none ↔ lastObs f.idx c.2 t = Option.none) := by
  obtain ⟨r, h1, h2, h3⟩ := cols_map_cell (reindex_ffill f idx hs) hc hk
  refine ⟨r, h1, h2, fun v => ?_, by rw [h3, Option.some.injEq]⟩
  rw [h3, Option.some.injEq, last_observation]

theorem reindex_bfill_cell (f : Frame) (idx : List Int) (j k : Nat) (c : String × Col) (t : Int)
    (hc : f.cols[j]? = some c) (hk : idx[k]? = some t) :
    ∃ r, (reindexFrame f idx (some .bfill)).cols[j]? = some (c.1, r) ∧ r.length = idx.length ∧
      (∀ v, r[k]? = some (some v) ↔
        ∃ (i : Nat) (s : Int), f.idx[i]? = some s ∧ t ≤ s ∧ c.2[i]? = some (some v) ∧
          ∀ (j' : Nat) (s' w : Int), j' < i → f.idx[j']? = some s' → t ≤ s' → c.2[j']? ≠ some (some w)) ∧
      (r[k]? = some Option.none ↔ firstObs f.idx c.2 t = Option.none) := by
  obtain ⟨r, h1, h2, h3⟩ := cols_map_cell (reindex_bfill f idx) hc hk
  refine ⟨r, h1, h2, fun v => ?_, by rw [h3, Option.some.injEq]⟩
  rw [h3, Option.some.injEq, next_observation]

/-- with a fill method, too, a non-NaN cell at a timestamp the series has is kept (it is its own last and next
observation) -/
theorem reindex_fill_keeps (ix : List Int) (c : Col) (hs : SortedL ix) (i : Nat) (t v : Int)
    (hi : ix[i]? = some t) (hv : c[i]? = some (some v)) :
    lastObs ix c t = some v ∧ firstObs ix c t = some v := by
  rw [← lastObsAt_snd, ← firstObsAt_snd, lastObsAt_self hs hi hv, firstObsAt_self hs hi hv]
  exact ⟨rfl, rfl⟩

/-- as-of position on a sorted index: the LAST label `≤ t`; none only when every label is later than `t` -/
theorem asof_position (ix : List Int) (hs : SortedL ix) (t : Int) :
    (∀ p, posAsOf ix t = some p → (∃ s, ix[p]? = some s ∧ s ≤ t) ∧ ∀ q s, p < q → ix[q]? = some s → t < s) ∧
    (posAsOf ix t = Option.none → ∀ s ∈ ix, t < s) :=
  ⟨fun p h => posAsOf_some ix hs t p h, posAsOf_none ix hs t⟩

/-- bfill position: the FIRST label `≥ t`; none only when every label is earlier than `t` -/
theorem next_position (ix : List Int) (t : Int) :
    (∀ p, posNext ix t = some p → (∃ s, ix[p]? = some s ∧ t ≤ s) ∧ ∀ q s, q < p → ix[q]? = some s → s < t) ∧
    (posNext ix t = Option.none → ∀ s ∈ ix, s < t) :=
  ⟨fun p h => posNext_some ix t p h, posNext_none ix t⟩

/-- the result has the joint length; counted from the end, the last `min n len` entries are preserved in place; a shorter
array is NaN-padded in front -/
theorem arr_align (n : Nat) (xs : Col) :
    (alignArr n xs).length = n ∧
    (∀ k, k < n → k < xs.length → (alignArr n xs)[n - 1 - k]? = xs[xs.length - 1 - k]?) ∧
    (∀ i, i + xs.length < n → (alignArr n xs)[i]? = some Option.none) :=
  ⟨alignArr_length n xs, alignArr_suffix n xs, alignArr_pad n xs⟩

/-- inner join of bare arrays: the common length is the minimum of the lengths -/
theorem arr_len_inner (n : Nat) (ns : List Nat) :
    ∃ r, joinLen .inner (n :: ns) = some r ∧ (∀ k ∈ n :: ns, r ≤ k) ∧ r ∈ n :: ns :=
  ⟨_, rfl, List.foldl_select_bound (· ≤ ·) min Nat.le_refl (fun _ _ _ => Nat.le_trans) Nat.min_le_left Nat.min_le_right n ns,
    List.foldl_select_mem min (fun a b => (Nat.le_total a b).imp Nat.min_eq_left Nat.min_eq_right) n ns⟩

/-- outer join of bare arrays: the common length is the maximum of the lengths -/
theorem arr_len_outer (n : Nat) (ns : List Nat) :
    ∃ r, joinLen .outer (n :: ns) = some r ∧ (∀ k ∈ n :: ns, k ≤ r) ∧ r ∈ n :: ns :=
  ⟨_, rfl, List.foldl_select_bound (fun r k => k ≤ r) max Nat.le_refl (fun _ _ _ h1 h2 => Nat.le_trans h2 h1)
      Nat.le_max_left Nat.le_max_right n ns,
    List.foldl_select_mem max (fun a b => (Nat.le_total b a).imp Nat.max_eq_left Nat.max_eq_right) n ns⟩

theorem arr_len_left (n : Nat) (ns : List Nat) : joinLen .left (n :: ns) = some n := rfl

/-! ### containers: structure kept, non-timeseries passed through, one common index -/

/-- `df_sync` keeps container types, keys, order and sizes, the kind of every member, and every member that is
not a timeseries / array exactly as it was -/
theorem sync_shape (how : How) (m : Option Dir) (ch : Option How) (t t' : Tree)
    (h : sync how m ch t = .ok t') : t'.skel = t.skel := by
  cases t with
  | leaf l => cases h; rfl
  | node tag kids => exact (sync_pairs h).1

/-- a non-timeseries member is returned unchanged by both passes -/
theorem other_passthrough (ix : Index) (m : Option Dir) (cols : Option (List String)) (v : Val) :
    reindexLeaf ix m (.other v) = .ok (.other v) ∧ recolumnLeaf cols (.other v) = .ok (.other v) :=
  ⟨rfl, rfl⟩

/-- after `df_sync` EVERY timeseries anywhere in the container sits on the joint index -/
theorem sync_common_index (how : How) (m : Option Dir) (ch : Option How) (tag : Tag) (kids : List (String × Tree))
    (t' : Tree) (ix : List Int) (hix : dfIndex how (Tree.node tag kids).flatTop = .times ix)
    (h : sync how m ch (.node tag kids) = .ok t') :
    ∀ l ∈ t'.leaves, ∀ s f, l = .ts s f → f.idx = ix := by
  intro l hl s f e
  obtain ⟨l0, _, l1, hr, hc⟩ := (sync_pairs h).2.exists_of_mem_right l hl
  obtain ⟨f0, e0, hidx⟩ := colPass_ts _ _ l1 s f (e ▸ hc)
  rw [← hidx]; exact reindexLeaf_ts ix m l0 s f0 (e0 ▸ hix ▸ hr)

/-- the arguments a `presync`-decorated function receives: every timeseries on the joint index, structure and
non-timeseries members kept -/
theorem presync_common_index (how : How) (m : Option Dir) (args t' : Tree) (ix : List Int)
    (hix : dfIndex how args.flatTop = .times ix) (h : presyncArgs how m args = .ok t') :
    (∀ l ∈ t'.leaves, ∀ s f, l = .ts s f → f.idx = ix) ∧ t'.skel = args.skel :=
  have h' : reindexTree (.times ix) m args = .ok t' := hix ▸ h
  ⟨reindexTree_ts ix m _ _ h', skel_reindexTree _ m _ _ h'⟩

/-- the common column set: inner = the names present in EVERY multi-column header (no name twice), outer = present in
SOME header, left / right = the first / last header -/
theorem joinCols_inner (c : List String) (cs : List (List String)) (hn : c.Nodup) :
    ∃ r, joinCols .inner (c :: cs) = some r ∧ r.Nodup ∧ ∀ x, x ∈ r ↔ ∀ h ∈ c :: cs, x ∈ h :=
  ⟨_, rfl, List.foldl_preserves (fun a b _ => nodup_interS a b) hn, fun x => by rw [List.mem_foldl_and mem_interS]; simp⟩

theorem joinCols_outer (c : List String) (cs : List (List String)) (hn : ∀ h ∈ c :: cs, h.Nodup) :
    ∃ r, joinCols .outer (c :: cs) = some r ∧ r.Nodup ∧ ∀ x, x ∈ r ↔ ∃ h ∈ c :: cs, x ∈ h :=
  ⟨_, rfl, List.foldl_preserves (fun a b hb ha => nodup_unionS a b ha (hn b (List.mem_cons_of_mem _ hb))) (hn c List.mem_cons_self),
    fun x => by rw [List.mem_foldl_or mem_unionS]; simp⟩

theorem joinCols_left (c : List String) (cs : List (List String)) : joinCols .left (c :: cs) = some c := rfl

theorem joinCols_right (c : List String) (cs : List (List String)) : joinCols .right (c :: cs) = (c :: cs).getLast? :=
  List.some_getLastD_cons c c cs

/-- a multi-column frame is put onto the common column set: its own columns keep their values, the others are NaN;
Series and one-column frames are left alone -/
theorem recolumn_spec (cs : List String) (f : Frame) (hm : isMulti f = true) :
    ∃ g, recolumnLeaf (some cs) (.ts false f) = .ok (.ts false g) ∧ g.idx = f.idx ∧ g.names = cs ∧
      ∀ c ∈ cs, ∀ col, g.cols.find? (·.1 == c) = some col →
        col.2 = match f.cols.find? (·.1 == c) with
                | some fc => fc.2
                | Option.none => List.replicate f.idx.length Option.none := by
  refine ⟨{ idx := f.idx, cols := cs.map fun c => (c, match f.cols.find? (·.1 == c) with
                                                      | some col => col.2
                                                      | Option.none => List.replicate f.idx.length Option.none) },
    by simp only [recolumnLeaf, hm]; rfl, rfl, by simp [Frame.names, List.map_map, Function.comp_def], ?_⟩
  intro c _ col hcol
  have h1 := List.find?_some hcol
  have h2 := List.mem_of_find?_eq_some hcol
  simp only [List.mem_map] at h2
  obtain ⟨c', _, rfl⟩ := h2
  simp at h1; subst h1; rfl

theorem recolumn_single (cols : Option (List String)) (s : Bool) (f : Frame) (h : s = true ∨ isMulti f = false) :
    recolumnLeaf cols (.ts s f) = .ok (.ts s f) := by
  cases s with
  | true => simp [recolumnLeaf]
  | false =>
    have hm : isMulti f = false := by rcases h with h | h; cases h; exact h
    cases cols <;> simp [recolumnLeaf, hm]

/-! ### containers, position by position: member `k` of the result is the aligned member `k` of the input -/

/-- `df_sync` works member by member: the result has as many members as the input, and member `k` of the result is
member `k` of the input reindexed onto the joint index and then (with a column policy) put on the common column set. -/
theorem sync_pointwise (how : How) (m : Option Dir) (ch : Option How) (tag : Tag) (kids : List (String × Tree)) (t' : Tree)
    (h : sync how m ch (.node tag kids) = .ok t') :
    t'.leaves.length = (Tree.node tag kids).leaves.length ∧
    ∀ (k : Nat) (l : Leaf), (Tree.node tag kids).leaves[k]? = some l →
      ∃ l1 l', reindexLeaf (dfIndex how (Tree.node tag kids).flatTop) m l = .ok l1 ∧
        colPass ch (multiCols (Tree.node tag kids).flatTop) l1 = .ok l' ∧ t'.leaves[k]? = some l' := by
  have p := (sync_pairs h).2
  refine ⟨p.length_eq, fun k l hk => ?_⟩
  obtain ⟨l', hl', l1, hr, hc⟩ := p.get k l hk
  exact ⟨l1, l', hr, hc, hl'⟩

/-- a timeseries member: member `k` of the result is that series / frame reindexed onto the joint index (its values
are then given by `reindex_values` / `reindex_ffill` / `reindex_bfill`), on the common column set when it has several columns -/
theorem sync_member (how : How) (m : Option Dir) (ch : Option How) (tag : Tag) (kids : List (String × Tree)) (t' : Tree)
    (ix : List Int) (hix : dfIndex how (Tree.node tag kids).flatTop = .times ix)
    (h : sync how m ch (.node tag kids) = .ok t') (k : Nat) (s : Bool) (f : Frame)
    (hk : (Tree.node tag kids).leaves[k]? = some (.ts s f)) :
    ∃ l', t'.leaves[k]? = some l' ∧
      colPass ch (multiCols (Tree.node tag kids).flatTop) (.ts s (reindexFrame f ix m)) = .ok l' := by
  obtain ⟨l1, l', h1, h2, h3⟩ := (sync_pointwise how m ch tag kids t' h).2 k _ hk
  rw [hix] at h1
  cases h1
  exact ⟨l', h3, h2⟩

/-- a Series member of `df_sync`'s result (or any member when no column policy applies) is exactly its reindexed self -/
theorem sync_member_series (how : How) (m : Option Dir) (ch : Option How) (tag : Tag) (kids : List (String × Tree)) (t' : Tree)
    (ix : List Int) (hix : dfIndex how (Tree.node tag kids).flatTop = .times ix)
    (h : sync how m ch (.node tag kids) = .ok t') (k : Nat) (s : Bool) (f : Frame)
    (hk : (Tree.node tag kids).leaves[k]? = some (.ts s f)) (hs : ch = Option.none ∨ s = true ∨ isMulti f = false) :
    t'.leaves[k]? = some (.ts s (reindexFrame f ix m)) := by
  obtain ⟨l', h1, h2⟩ := sync_member how m ch tag kids t' ix hix h k s f hk
  cases ch with
  | none => cases h2; exact h1
  | some c =>
    have hm : s = true ∨ isMulti (reindexFrame f ix m) = false := by
      rw [isMulti_reindexFrame]; exact hs.resolve_left nofun
    rw [colPass, recolumn_single _ s _ hm] at h2
    cases h2; exact h1

/-- a frame with several columns comes out on the joint index AND on the common column set, each of its own columns
with the reindexed values, the others NaN -/
theorem sync_member_frame (how : How) (m : Option Dir) (c : How) (tag : Tag) (kids : List (String × Tree)) (t' : Tree)
    (ix : List Int) (cs : List String) (hix : dfIndex how (Tree.node tag kids).flatTop = .times ix)
    (hcs : joinCols c (multiCols (Tree.node tag kids).flatTop) = some cs)
    (h : sync how m (some c) (.node tag kids) = .ok t') (k : Nat) (f : Frame)
    (hk : (Tree.node tag kids).leaves[k]? = some (.ts false f)) (hm : isMulti f = true) :
    ∃ g, t'.leaves[k]? = some (.ts false g) ∧ g.idx = ix ∧ g.names = cs ∧
      ∀ c ∈ cs, ∀ col, g.cols.find? (·.1 == c) = some col →
        col.2 = match (reindexFrame f ix m).cols.find? (·.1 == c) with
                | some fc => fc.2
                | Option.none => List.replicate ix.length Option.none := by
  obtain ⟨l', h1, h2⟩ := sync_member how m (some c) tag kids t' ix hix h k false f hk
  simp only [colPass, hcs] at h2
  obtain ⟨g, hg, gi, gn, gv⟩ := recolumn_spec cs (reindexFrame f ix m) ((isMulti_reindexFrame f ix m).trans hm)
  rw [hg] at h2; cases h2
  rw [reindexFrame_idx] at gi gv
  exact ⟨g, h1, gi, gn, gv⟩

/-- a bare array in an all-array container: member `k` of the result is that array aligned at the end to the joint length -/
theorem sync_member_arr (how : How) (ch : Option How) (tag : Tag) (kids : List (String × Tree)) (t' : Tree)
    (n : Nat) (hix : dfIndex how (Tree.node tag kids).flatTop = .len n)
    (h : sync how Option.none ch (.node tag kids) = .ok t') (k : Nat) (xs : Col)
    (hk : (Tree.node tag kids).leaves[k]? = some (.arr xs)) :
    t'.leaves[k]? = some (.arr (alignArr n xs)) := by
  obtain ⟨l1, l', h1, h2, h3⟩ := (sync_pointwise how Option.none ch tag kids t' h).2 k _ hk
  rw [hix, reindexLeaf_arr_len] at h1
  cases h1
  rw [colPass_of_not_ts _ _ (.arr _) (fun _ _ e => nomatch e)] at h2
  cases h2; exact h3

/-- a member that is no timeseries and no array is, at its position, returned as it is -/
theorem sync_member_other (how : How) (m : Option Dir) (ch : Option How) (tag : Tag) (kids : List (String × Tree)) (t' : Tree)
    (h : sync how m ch (.node tag kids) = .ok t') (k : Nat) (v : Val)
    (hk : (Tree.node tag kids).leaves[k]? = some (.other v)) : t'.leaves[k]? = some (.other v) := by
  obtain ⟨l1, l', h1, h2, h3⟩ := (sync_pointwise how m ch tag kids t' h).2 k _ hk
  cases h1
  rw [colPass_of_not_ts _ _ (.other v) (fun _ _ e => nomatch e)] at h2
  cases h2; exact h3

/-- the arguments a `presync`-decorated function receives, position by position -/
theorem presync_pointwise (how : How) (m : Option Dir) (args t' : Tree) (h : presyncArgs how m args = .ok t') :
    t'.leaves.length = args.leaves.length ∧
    ∀ (k : Nat) (l : Leaf), args.leaves[k]? = some l →
      ∃ l', reindexLeaf (dfIndex how args.flatTop) m l = .ok l' ∧ t'.leaves[k]? = some l' := by
  have p := pairs_reindexTree _ m _ _ h
  refine ⟨p.length_eq, fun k l hk => ?_⟩
  obtain ⟨l', h1, h2⟩ := p.get k l hk
  exact ⟨l', h2, h1⟩

theorem presync_member (how : How) (m : Option Dir) (args t' : Tree) (ix : List Int)
    (hix : dfIndex how args.flatTop = .times ix) (h : presyncArgs how m args = .ok t') (k : Nat) (s : Bool) (f : Frame)
    (hk : args.leaves[k]? = some (.ts s f)) : t'.leaves[k]? = some (.ts s (reindexFrame f ix m)) := by
  obtain ⟨l', h1, h2⟩ := (presync_pointwise how m args t' h).2 k _ hk
  rw [hix] at h1; cases h1; exact h2

/-! ### the joint index is taken over EVERY timeseries of the container -/

/-- in a container without tuples (the statement: nested lists / dicts) the members the joint index is computed from
are ALL members, at any depth, in order -/
theorem flatTop_covers (tag : Tag) (kids : List (String × Tree)) (h : kidsTupleFree kids = true) :
    (Tree.node tag kids).flatTop = (Tree.node tag kids).leaves := by
  simp only [Tree.flatTop, Tree.leaves]; exact flatKids_eq_leaves kids h

/-- after `df_sync` of a tuple-free container EVERY timeseries anywhere in it sits on the join, under the given policy, of
the indices of all its timeseries -/
theorem sync_joint_index (how : How) (m : Option Dir) (ch : Option How) (tag : Tag) (kids : List (String × Tree))
    (t' : Tree) (ix : List Int) (hf : kidsTupleFree kids = true)
    (hix : joinIndex how (tsIndexes (Tree.node tag kids).leaves) = some ix)
    (h : sync how m ch (.node tag kids) = .ok t') :
    ∀ l ∈ t'.leaves, ∀ s f, l = .ts s f → f.idx = ix :=
  sync_common_index how m ch tag kids t' ix (by rw [flatTop_covers tag kids hf, dfIndex, hix]) h

/-- inner join over a nested container: after `df_sync` every timeseries anywhere in the result sits on ONE index `r`,
and `t ∈ r` iff EVERY timeseries anywhere in the input has `t` -/
theorem sync_index_inner (m : Option Dir) (ch : Option How) (tag : Tag) (kids : List (String × Tree)) (t' : Tree)
    (hf : kidsTupleFree kids = true)
    (hsorted : ∀ l ∈ (Tree.node tag kids).leaves, ∀ s f, l = .ts s f → f.Sorted)
    (hne : ∃ s f, Leaf.ts s f ∈ (Tree.node tag kids).leaves)
    (h : sync .inner m ch (.node tag kids) = .ok t') :
    ∃ r, SortedL r ∧ (∀ l ∈ t'.leaves, ∀ s f, l = .ts s f → f.idx = r) ∧
      ∀ t, t ∈ r ↔ ∀ s f, Leaf.ts s f ∈ (Tree.node tag kids).leaves → t ∈ f.idx := by
  obtain ⟨i0, is, hixs, hs0⟩ := tsIndexes_cons_sorted _ hne hsorted
  obtain ⟨r, hr, hsr, hmr⟩ := index_inner i0 is hs0
  refine ⟨r, hsr, sync_joint_index .inner m ch tag kids t' r hf (hixs ▸ hr) h, fun t => ?_⟩
  rw [hmr, ← hixs]
  simp only [mem_tsIndexes]
  exact ⟨fun hall s f hl => hall f.idx ⟨s, f, hl, rfl⟩, fun hall j ⟨s, f, hl, e⟩ => e ▸ hall s f hl⟩

/-- outer join: `t ∈ r` iff SOME timeseries anywhere in the input has `t` -/
theorem sync_index_outer (m : Option Dir) (ch : Option How) (tag : Tag) (kids : List (String × Tree)) (t' : Tree)
    (hf : kidsTupleFree kids = true)
    (hsorted : ∀ l ∈ (Tree.node tag kids).leaves, ∀ s f, l = .ts s f → f.Sorted)
    (hne : ∃ s f, Leaf.ts s f ∈ (Tree.node tag kids).leaves)
    (h : sync .outer m ch (.node tag kids) = .ok t') :
    ∃ r, SortedL r ∧ (∀ l ∈ t'.leaves, ∀ s f, l = .ts s f → f.idx = r) ∧
      ∀ t, t ∈ r ↔ ∃ s f, Leaf.ts s f ∈ (Tree.node tag kids).leaves ∧ t ∈ f.idx := by
  obtain ⟨i0, is, hixs, hs0⟩ := tsIndexes_cons_sorted _ hne hsorted
  obtain ⟨r, hr, hsr, hmr⟩ := index_outer i0 is hs0
  refine ⟨r, hsr, sync_joint_index .outer m ch tag kids t' r hf (hixs ▸ hr) h, fun t => ?_⟩
  rw [hmr, ← hixs]
  simp only [mem_tsIndexes]
  exact ⟨fun ⟨j, ⟨s, f, hl, e⟩, ht⟩ => ⟨s, f, hl, e ▸ ht⟩, fun ⟨s, f, hl, ht⟩ => ⟨f.idx, ⟨s, f, hl, rfl⟩, ht⟩⟩

/-! ### left / right join over a nested container: the index of the FIRST / LAST timeseries in depth-first order -/

/-- `'lj'`: every timeseries of the result carries the index of the FIRST timeseries met when the members (at any depth,
list / dict order) are read from the left - bare arrays and other objects before it do not count -/
theorem sync_index_left (m : Option Dir) (ch : Option How) (tag : Tag) (kids : List (String × Tree)) (t' : Tree)
    (hf : kidsTupleFree kids = true) (pre post : List Leaf) (s0 : Bool) (f0 : Frame)
    (hsplit : (Tree.node tag kids).leaves = pre ++ .ts s0 f0 :: post) (hpre : ∀ l ∈ pre, ∀ s f, l ≠ .ts s f)
    (h : sync .left m ch (.node tag kids) = .ok t') :
    ∀ l ∈ t'.leaves, ∀ s f, l = .ts s f → f.idx = f0.idx := by
  refine sync_joint_index .left m ch tag kids t' f0.idx hf ?_ h
  rw [hsplit, tsIndexes_append, tsIndexes_eq_nil pre hpre]; rfl

/-- `'rj'`: every timeseries of the result carries the index of the LAST timeseries in that order -/
theorem sync_index_right (m : Option Dir) (ch : Option How) (tag : Tag) (kids : List (String × Tree)) (t' : Tree)
    (hf : kidsTupleFree kids = true) (pre post : List Leaf) (s0 : Bool) (f0 : Frame)
    (hsplit : (Tree.node tag kids).leaves = pre ++ .ts s0 f0 :: post) (hpost : ∀ l ∈ post, ∀ s f, l ≠ .ts s f)
    (h : sync .right m ch (.node tag kids) = .ok t') :
    ∀ l ∈ t'.leaves, ∀ s f, l = .ts s f → f.idx = f0.idx := by
  refine sync_joint_index .right m ch tag kids t' f0.idx hf ?_ h
  rw [hsplit, tsIndexes_append]
  show joinIndex .right (tsIndexes pre ++ f0.idx :: tsIndexes post) = _
  rw [tsIndexes_eq_nil post hpost]
  cases tsIndexes pre with
  | nil => rfl
  | cons i0 is => rw [List.cons_append, index_right, ← List.cons_append, List.getLast?_concat]

/-! ### a container of bare arrays only: the joint LENGTH is taken over every array, each array aligned at the end -/

/-- the filled array of `sync_arrays`: without a fill method the aligned array itself; with `'ffill'` / `'bfill'` the aligned array
forward / backward filled BY POSITION (the NaN padding in front stays NaN under ffill, is filled from the first value under bfill) -/
theorem sync_arrays_value (m : Option Dir) (n : Nat) (xs : Col) :
    fillnaArr (fillMethods m) Option.none [alignArr n xs] =
      .ok [match m with | Option.none => alignArr n xs | some .ffill => Fill.ffill Option.none (alignArr n xs)
                        | some .bfill => Fill.bfill Option.none (alignArr n xs)] := by
  cases m with
  | none => rfl
  | some d => cases d <;> rfl

/-- no timeseries anywhere in a tuple-free container holding arrays - the joint length `n` is the
inner / outer / left / right join of the lengths of ALL arrays at any depth (`joinLen`; `arr_len_inner/outer/left`: min / max /
first), and member `k` of the result is array `k` aligned AT THE END to `n` (`arr_align`) and then, if a fill method is given,
filled (`fillnaArr` of C12).  (`sync_member_arr` is the case where `dfIndex .. = .len n` is given and no method.) -/
theorem sync_arrays (how : How) (m : Option Dir) (ch : Option How) (tag : Tag) (kids : List (String × Tree)) (t' : Tree)
    (hf : kidsTupleFree kids = true) (hts : tsIndexes (Tree.node tag kids).leaves = [])
    (n : Nat) (hn : joinLen how (arrLens (Tree.node tag kids).leaves) = some n)
    (h : sync how m ch (.node tag kids) = .ok t') (k : Nat) (xs : Col)
    (hk : (Tree.node tag kids).leaves[k]? = some (.arr xs)) :
    ∃ c, fillnaArr (fillMethods m) Option.none [alignArr n xs] = .ok [c] ∧ t'.leaves[k]? = some (.arr c) := by
  have hix : dfIndex how (Tree.node tag kids).flatTop = .len n := by
    rw [flatTop_covers tag kids hf]; simp [dfIndex, hts, joinIndex, hn]
  obtain ⟨l1, l', h1, h2, h3⟩ := (sync_pointwise how m ch tag kids t' h).2 k _ hk
  rw [hix, reindexLeaf_arr_len] at h1
  cases h1
  rw [colPass_of_not_ts _ _ (.arr _) (fun _ _ e => nomatch e)] at h2
  cases h2
  exact ⟨_, sync_arrays_value m n xs, h3⟩

/-! ### an explicit index as join policy; keyword arguments of a presync-decorated function -/

theorem syncJ_how (h : How) (m : Option Dir) (ch : Option How) (t : Tree) : syncJ (.how h) m ch t = sync h m ch t := rfl

/-- `df_sync(dfs, join=<explicit index>)`: as soon as the container holds a timeseries, member `k` of the result is
member `k` of the input reindexed onto EXACTLY the supplied index (then put on the common column set), the number of
members is kept and the container structure too -/
theorem sync_explicit_member (ix : List Int) (m : Option Dir) (ch : Option How) (tag : Tag) (kids : List (String × Tree))
    (t' : Tree) (hts : tsIndexes (Tree.node tag kids).flatTop ≠ [])
    (h : syncJ (.explicit ix) m ch (.node tag kids) = .ok t') :
    t'.skel = (Tree.node tag kids).skel ∧ t'.leaves.length = (Tree.node tag kids).leaves.length ∧
    ∀ (k : Nat) (s : Bool) (f : Frame), (Tree.node tag kids).leaves[k]? = some (.ts s f) →
      ∃ l', t'.leaves[k]? = some l' ∧
        colPass ch (multiCols (Tree.node tag kids).flatTop) (.ts s (reindexFrame f ix m)) = .ok l' := by
  obtain ⟨ix', hix, hsk, p⟩ := syncJ_pairs h
  simp only [dfIndexJ, List.isEmpty_iff, if_neg hts] at hix
  cases hix
  refine ⟨hsk, p.length_eq, fun k s f hk => ?_⟩
  obtain ⟨l', hl', l1, hr, hc⟩ := p.get k _ hk
  cases hr
  exact ⟨l', hl', hc⟩

/-- a `presync`-decorated function called with positional AND keyword arguments: both the tuple of positional arguments
and the dict of keyword arguments keep their structure, and member `k` of either is that member reindexed onto the ONE
joint index computed over `list(args) + list(kwargs.values())` -/
theorem presync_call_member (j : Join) (m : Option Dir) (args kwargs : List (String × Tree)) (a k : Tree)
    (h : presyncCall j m args kwargs = .ok (a, k)) :
    ∃ ix, dfIndexJ j (flatKids (args ++ kwargs)) = .ok ix ∧
      a.skel = (Tree.node .tuple args).skel ∧ k.skel = (Tree.node .dict kwargs).skel ∧
      (∀ (i : Nat) (l : Leaf), (Tree.node .tuple args).leaves[i]? = some l →
        ∃ l', reindexLeaf ix m l = .ok l' ∧ a.leaves[i]? = some l') ∧
      (∀ (i : Nat) (l : Leaf), (Tree.node .dict kwargs).leaves[i]? = some l →
        ∃ l', reindexLeaf ix m l = .ok l' ∧ k.leaves[i]? = some l') := by
  rw [← presyncCallM_single, presyncCallM] at h
  split at h
  · cases h
  · rename_i ix hix
    obtain ⟨ha, hk⟩ := presyncOnto_ok h
    rw [reindexTreeM_single] at ha hk
    exact ⟨ix, hix, skel_reindexTree _ m _ _ ha, skel_reindexTree _ m _ _ hk,
      fun i l hl => ((pairs_reindexTree ix m _ _ ha).get i l hl).imp fun _ => And.symm,
      fun i l hl => ((pairs_reindexTree ix m _ _ hk).get i l hl).imp fun _ => And.symm⟩

/-- the joint index of a list of members `ls` (for a call: all arguments, positional and keyword): with a policy word the
join of the indices of the timeseries among them; with an explicit index that index (as soon as one is a timeseries) -/
theorem presync_call_index (j : Join) (ls : List Leaf) :
    dfIndexJ j ls = match j with
      | .how h => .ok (dfIndex h ls)
      | .explicit ix => if tsIndexes ls = [] then (if arrLens ls = [] then .ok .none else .error .other) else .ok (.times ix) := by
  cases j with
  | how h => rfl
  | explicit ix => simp [dfIndexJ, List.isEmpty_iff]

/-! ### `limit` on the as-of join (`df_reindex(ts, index, method, limit)`; `df_sync` / `presync` pass no limit on)

pandas' `reindex(index, method, limit)` is modelled by a walk along the requested labels with a counter (`limAux`).
The theorems say what that walk computes without a counter: the requested label `t` gets the column's last (next) non-NaN
observation `(s, v)` iff `s = t` - the timestamp survives - or FEWER THAN `limit` REQUESTED labels lie strictly between `s` and
`t`.  The limit counts requested labels, not days and not rows of the source. -/

/-- without a limit the walk is the as-of join of `reindex_ffill` / `reindex_bfill` -/
theorem reindex_limit_none (f : Frame) (idx : List Int) (d : Dir) :
    reindexFrameL f idx d Option.none = reindexFrame f idx (some d) := reindexFrameL_nolimit f idx d

/-- ffill with a limit, every column, against the independent reference `lastObsAt` (label and value of the last non-NaN
observation at or before `t`, characterised by `last_observation_at`) -/
theorem reindex_ffill_limit (f : Frame) (idx : List Int) (lim : Option Nat) (hs : f.Sorted) (hi : SortedL idx) :
    (reindexFrameL f idx .ffill lim).cols = f.cols.map fun c => (c.1, idx.map (ffillLim lim idx f.idx c.2)) := by
  simp only [reindexFrameL, asofColLim_ffill lim f.idx _ idx hs hi]

theorem reindex_bfill_limit (f : Frame) (idx : List Int) (lim : Option Nat) (hi : SortedL idx) :
    (reindexFrameL f idx .bfill lim).cols = f.cols.map fun c => (c.1, idx.map (bfillLim lim idx f.idx c.2)) := by
  simp only [reindexFrameL, asofColLim_bfill lim f.idx _ idx hi]

/-- the cells by cases (`ffillLim` / `bfillLim` unfolded) -/
theorem limit_cell (lim : Option Nat) (idx ix : List Int) (c : Col) (t : Int) :
    ffillLim lim idx ix c t = (match lastObsAt ix c t with
      | Option.none => Option.none
      | some (s, v) => if s = t ∨ within lim (between idx s t) = true then some v else Option.none) ∧
    bfillLim lim idx ix c t = (match firstObsAt ix c t with
      | Option.none => Option.none
      | some (s, v) => if s = t ∨ within lim (between idx t s) = true then some v else Option.none) := ⟨rfl, rfl⟩

/-- what the pair references are, by positions -/
theorem last_observation_at (ix : List Int) (c : Col) (t s v : Int) :
    lastObsAt ix c t = some (s, v) ↔
      ∃ i, ix[i]? = some s ∧ s ≤ t ∧ c[i]? = some (some v) ∧
        ∀ (j : Nat) (s' w : Int), i < j → ix[j]? = some s' → s' ≤ t → c[j]? ≠ some (some w) :=
  lastObsAt_iff ix c t s v

theorem next_observation_at (ix : List Int) (c : Col) (t s v : Int) :
    firstObsAt ix c t = some (s, v) ↔
      ∃ i, ix[i]? = some s ∧ t ≤ s ∧ c[i]? = some (some v) ∧
        ∀ (j : Nat) (s' w : Int), j < i → ix[j]? = some s' → t ≤ s' → c[j]? ≠ some (some w) :=
  firstObsAt_iff ix c t s v

/-- the composed statement for ONE cell under `limit = l`: column `j`, requested label `idx[k] = t`.  The cell is the value
`v` iff `v` is the column's last non-NaN observation at or before `t`, sitting at label `s`, AND (`s = t` or fewer than `l`
requested labels lie strictly between `s` and `t`). -/
theorem reindex_ffill_limit_cell (f : Frame) (idx : List Int) (l : Nat) (hs : f.Sorted) (hi : SortedL idx) (j k : Nat)
    (c : String × Col) (t : Int) (hc : f.cols[j]? = some c) (hk : idx[k]? = some t) :
    ∃ r, (reindexFrameL f idx .ffill (some l)).cols[j]? = some (c.1, r) ∧ r.length = idx.length ∧
      ∀ v, r[k]? = some (some v) ↔
        ∃ (i : Nat) (s : Int), f.idx[i]? = some s ∧ s ≤ t ∧ c.2[i]? = some (some v) ∧
          (∀ (j' : Nat) (s' w : Int), i < j' → f.idx[j']? = some s' → s' ≤ t → c.2[j']? ≠ some (some w)) ∧
          (s = t ∨ between idx s t < l) := by
  obtain ⟨r, h1, h2, h3⟩ := cols_map_cell (reindex_ffill_limit f idx (some l) hs hi) hc hk
  refine ⟨r, h1, h2, fun v => ?_⟩
  rw [h3, Option.some.injEq, ffillLim_eq_some_iff]
  simp only [lastObsAt_iff, within_some]
  constructor
  · rintro ⟨s, ⟨i, h1, h2, h3, h4⟩, h5⟩; exact ⟨i, s, h1, h2, h3, h4, h5⟩
  · rintro ⟨i, s, h1, h2, h3, h4, h5⟩; exact ⟨s, ⟨i, h1, h2, h3, h4⟩, h5⟩

theorem reindex_bfill_limit_cell (f : Frame) (idx : List Int) (l : Nat) (hi : SortedL idx) (j k : Nat)
    (c : String × Col) (t : Int) (hc : f.cols[j]? = some c) (hk : idx[k]? = some t) :
    ∃ r, (reindexFrameL f idx .bfill (some l)).cols[j]? = some (c.1, r) ∧ r.length = idx.length ∧
      ∀ v, r[k]? = some (some v) ↔
        ∃ (i : Nat) (s : Int), f.idx[i]? = some s ∧ t ≤ s ∧ c.2[i]? = some (some v) ∧
          (∀ (j' : Nat) (s' w : Int), j' < i → f.idx[j']? = some s' → t ≤ s' → c.2[j']? ≠ some (some w)) ∧
          (s = t ∨ between idx t s < l) := by
  obtain ⟨r, h1, h2, h3⟩ := cols_map_cell (reindex_bfill_limit f idx (some l) hi) hc hk
  refine ⟨r, h1, h2, fun v => ?_⟩
  rw [h3, Option.some.injEq, bfillLim_eq_some_iff]
  simp only [firstObsAt_iff, within_some]
  constructor
  · rintro ⟨s, ⟨i, h1, h2, h3, h4⟩, h5⟩; exact ⟨i, s, h1, h2, h3, h4, h5⟩
  · rintro ⟨i, s, h1, h2, h3, h4, h5⟩; exact ⟨s, ⟨i, h1, h2, h3, h4⟩, h5⟩

/-- "at each surviving timestamp a series keeps exactly its original value" holds under every limit: a non-NaN cell at a
requested timestamp the series has is its own last and next observation with `s = t` -/
theorem reindex_limit_keeps (f : Frame) (idx : List Int) (lim : Option Nat) (hs : f.Sorted)
    (c : String × Col) (i : Nat) (t v : Int) (hfi : f.idx[i]? = some t) (hv : c.2[i]? = some (some v)) :
    ffillLim lim idx f.idx c.2 t = some v ∧ bfillLim lim idx f.idx c.2 t = some v :=
  ⟨(ffillLim_eq_some_iff lim idx f.idx c.2 t v).mpr ⟨t, lastObsAt_self hs hfi hv, Or.inl rfl⟩,
    (bfillLim_eq_some_iff lim idx f.idx c.2 t v).mpr ⟨t, firstObsAt_self hs hfi hv, Or.inl rfl⟩⟩

/-- a limit only blanks cells: whatever the limited as-of join puts into a cell is what the unlimited one (`reindex_ffill` /
`reindex_bfill`: `lastObs` / `firstObs`) puts there -/
theorem reindex_limit_sub (ix : List Int) (c : Col) (idx : List Int) (lim : Option Nat) (t v : Int) :
    (ffillLim lim idx ix c t = some v → lastObs ix c t = some v) ∧
    (bfillLim lim idx ix c t = some v → firstObs ix c t = some v) := by
  rw [← lastObsAt_snd, ← firstObsAt_snd, ffillLim_eq_some_iff, bfillLim_eq_some_iff]
  exact ⟨fun ⟨s, h, _⟩ => by rw [h]; rfl, fun ⟨s, h, _⟩ => by rw [h]; rfl⟩

/-! ### method lists and numeric methods: the first method decides the kind of join, the TAIL goes through `df_fillna` (C12) -/

/-- a list that starts with ffill / bfill: as-of join (with the limit), then C12's `fillna` of the REST of the list with the
same limit.  All C12 theorems (`ffill_limit`, `const_fill`, `fillna_keeps`, `fillna_rows_kept`, ...) apply to that second stage. -/
theorem reindex_then_fill (f : Frame) (idx : List Int) (rest : List Method) (lim : Option Nat) (hl : limOk lim = true) :
    reindexFill f idx (.ffill :: rest) lim = fillna rest lim (reindexFrameL f idx .ffill lim) ∧
    reindexFill f idx (.bfill :: rest) lim = fillna rest lim (reindexFrameL f idx .bfill lim) := by
  simp [reindexFill, hl]

/-- any other list (a number, 'ffill_na', ['nona', ...], nothing): plain label lookup, then the WHOLE list through `fillna` -/
theorem reindex_other_then_fill (f : Frame) (idx : List Int) (ms : List Method) (lim : Option Nat)
    (h : ms.head? ≠ some .ffill ∧ ms.head? ≠ some .bfill) :
    reindexFill f idx ms lim = fillna ms lim (reindexFrame f idx Option.none) := by
  cases ms with
  | nil => rfl
  | cons m rest =>
    cases m with
    | ffill => exact (h.1 rfl).elim
    | bfill => exact (h.2 rfl).elim
    | _ => rfl

/-- `limit = 0` with ffill / bfill in front is rejected (pandas: "Limit must be greater than 0") -/
theorem reindex_limit_zero (f : Frame) (idx : List Int) (rest : List Method) :
    reindexFill f idx (.ffill :: rest) (some 0) = .error .value ∧ reindexFill f idx (.bfill :: rest) (some 0) = .error .value := by
  simp [reindexFill, limOk]

theorem reindexFrameL_wf (f : Frame) (idx : List Int) (d : Dir) (lim : Option Nat) :
    (reindexFrameL f idx d lim).idx = idx ∧ (reindexFrameL f idx d lim).names = f.names ∧ (reindexFrameL f idx d lim).Rect :=
  ⟨rfl, colwise_wf f idx (fun c => asofColLim d lim f.idx c idx) fun c => asofColLim_length d lim f.idx c idx⟩

/-- a list of FILLING methods (no 'nona' / 'fnna'; the statement's None / ffill / bfill are the lists `[]`, `[ffill]`,
`[bfill]`): the result sits on the requested index with the columns of the input, and every non-NaN cell the join stage
produced - in particular every original value at a surviving timestamp (`reindex_limit_keeps`, `reindex_keep`) - is still there -/
theorem reindex_fill_list (f g : Frame) (idx : List Int) (ms : List Method) (lim : Option Nat)
    (hms : ∀ m ∈ ms, m ≠ .fnna ∧ m ≠ .nona) (hi : SortedL idx) (h : reindexFill f idx ms lim = .ok g) :
    ∃ g0 rest, fillna rest lim g0 = .ok g ∧
      ((ms = .ffill :: rest ∧ g0 = reindexFrameL f idx .ffill lim) ∨ (ms = .bfill :: rest ∧ g0 = reindexFrameL f idx .bfill lim) ∨
       (ms = rest ∧ g0 = reindexFrame f idx Option.none)) ∧
      g.idx = idx ∧ g.names = f.names ∧
      ∀ j i v, C12.cell g0 j i = some (some v) → C12.cell g j i = some (some v) := by
  obtain ⟨g0, rest, h', hsub, hcase⟩ := reindexFill_ok h
  -- the join stage is well formed whichever branch was taken; the rest of the list goes through C12's `fillna`
  obtain ⟨w1, w2, w3⟩ : g0.idx = idx ∧ g0.names = f.names ∧ g0.Rect := by
    rcases hcase with ⟨_, rfl⟩ | ⟨_, rfl⟩ | ⟨_, rfl⟩
    · exact reindexFrameL_wf f idx .ffill lim
    · exact reindexFrameL_wf f idx .bfill lim
    · exact reindex_index f idx Option.none
  obtain ⟨a, b, c⟩ := C12.fillna_keeps rest lim g0 g (fun m hm => hms m (hsub m hm))
    (by unfold Frame.Sorted; rw [w1]; exact hi) w3 h'
  exact ⟨g0, rest, h', hcase, a.trans w1, b.trans w2, c⟩

/-! ### method lists inside `df_sync` / `df_reindex` / `presync`: containers -/

/-- one direction given as a word (the statement's None / ffill / bfill): the method-list functions `syncJM`,
`presyncCallM`, `reindexTreeM` on `fillMethods m` are `syncJ`, `presyncCall`, `reindexTree` -/
theorem syncM_single (j : Join) (m : Option Dir) (ch : Option How) (t : Tree) :
    syncJM j true (fillMethods m) ch t = syncJ j m ch t := syncJM_single j m ch t

theorem presyncM_single (j : Join) (m : Option Dir) (args kwargs : List (String × Tree)) :
    presyncCallM j true (fillMethods m) args kwargs = presyncCall j m args kwargs := presyncCallM_single j m args kwargs

theorem reindexM_single (ix : Index) (m : Option Dir) (t : Tree) :
    reindexTreeM ix true (fillMethods m) Option.none t = reindexTree ix m t := reindexTreeM_single ix m t

/-- the container structure and every non-timeseries member survive whatever the method (list) -/
theorem syncM_shape (j : Join) (bare : Bool) (ms : List Method) (ch : Option How) (t t' : Tree)
    (h : syncJM j bare ms ch t = .ok t') : t'.skel = t.skel := by
  cases t with
  | leaf l => cases h; rfl
  | node tag kids =>
    obtain ⟨_, _, hsk, _⟩ := syncJM_pairs h
    exact hsk

/-- `df_sync` / `df_reindex` with a method LIST, position by position: member `k` of the result is member `k` of the input
reindexed onto the joint index with the whole list - or, where `loops` hands the list out over a list / tuple container of the
same length (`_loop.py:_item_by_i`), with ONE method of the list (`SplitImage`) - and then put on the common column set -/
theorem syncM_pointwise (j : Join) (bare : Bool) (ms : List Method) (ch : Option How) (tag : Tag) (kids : List (String × Tree))
    (t' : Tree) (h : syncJM j bare ms ch (.node tag kids) = .ok t') :
    ∃ ix, dfIndexJ j (Tree.node tag kids).flatTop = .ok ix ∧
    t'.leaves.length = (Tree.node tag kids).leaves.length ∧
    ∀ (k : Nat) (l : Leaf), (Tree.node tag kids).leaves[k]? = some l →
      ∃ l1 l', SplitImage (fun ms' => reindexLeafM ix ms' Option.none) ms l l1 ∧
        colPass ch (multiCols (Tree.node tag kids).flatTop) l1 = .ok l' ∧ t'.leaves[k]? = some l' := by
  obtain ⟨ix, hix, _, p, _⟩ := syncJM_pairs h
  refine ⟨ix, hix, p.length_eq, fun k l hk => ?_⟩
  obtain ⟨l', hl', l1, hr, hc⟩ := p.get k l hk
  exact ⟨l1, l', hr, hc, hl'⟩

/-- a BARE method (a word, a number - never handed out): a timeseries member comes out as `reindexFill` of itself onto the
joint index, i.e. (by `reindex_then_fill`) the as-of join followed by C12's `fillna` of the rest -/
theorem syncM_member (j : Join) (ms : List Method) (ch : Option How) (tag : Tag) (kids : List (String × Tree)) (t' : Tree)
    (h : syncJM j true ms ch (.node tag kids) = .ok t') (k : Nat) (s : Bool) (f : Frame) (idx : List Int)
    (hix : dfIndexJ j (Tree.node tag kids).flatTop = .ok (.times idx))
    (hk : (Tree.node tag kids).leaves[k]? = some (.ts s f)) :
    ∃ g l', reindexFill f idx ms Option.none = .ok g ∧
      colPass ch (multiCols (Tree.node tag kids).flatTop) (.ts s g) = .ok l' ∧ t'.leaves[k]? = some l' := by
  obtain ⟨ix, hix', _, _, p⟩ := syncJM_pairs h
  cases hix.symm.trans hix'
  obtain ⟨l', hl', l1, hr, hc⟩ := (p rfl).get k _ hk
  simp only [reindexLeafM] at hr
  cases hrf : reindexFill f idx ms Option.none with
  | error e => rw [hrf] at hr; cases hr
  | ok g => rw [hrf] at hr; cases hr; exact ⟨g, l', rfl, hc, hl'⟩

/-! ### `presync(f)(..., join = <name of a parameter of f>)`: the index of that argument (`_pandas.py`, `presync`) -/

/-- the index an argument provides: a timeseries its own index, an array its length, `dict(index = x)` with a timeseries `x`
the index of `x`; a value that is no `pd.Index` (a scalar / string / None) raises `ValueError` -/
theorem named_index (s : Bool) (f : Frame) (xs : Col) (v : Val) (kids : List (String × Tree)) (k : String) :
    indexOfArg (.leaf (.ts s f)) = .ok (.times f.idx) ∧
    indexOfArg (.leaf (.arr xs)) = .ok (.len xs.length) ∧
    (asPdIndex v = Option.none → indexOfArg (.leaf (.other v)) = .error .value) ∧
    (kids.find? (·.1 == "index") = some (k, .leaf (.ts s f)) → indexOfArg (.node .dict kids) = .ok (.times f.idx)) := by
  refine ⟨rfl, rfl, fun h => by simp [indexOfArg, h], fun h => by simp [indexOfArg, h]⟩

/-- when `join` names a supplied argument, the positional arguments (a tuple) and the keyword arguments (a dict) keep their
structure, and member `k` of either is that member reindexed onto THE INDEX OF THE NAMED ARGUMENT - whatever indices the
other arguments have (no intersection / union is taken) -/
theorem presync_named_member (name : String) (ms : List Method) (pnames : List String) (args kwargs : List (String × Tree))
    (a k : Tree) (h : presyncNamed name true ms pnames args kwargs = some (.ok (a, k))) :
    ∃ key v ix, ((pnames.zip (args.map (·.2))) ++ kwargs).find? (·.1 == name) = some (key, v) ∧ indexOfArg v = .ok ix ∧
      a.skel = (Tree.node .tuple args).skel ∧ k.skel = (Tree.node .dict kwargs).skel ∧
      (∀ (i : Nat) (l : Leaf), (Tree.node .tuple args).leaves[i]? = some l →
        ∃ l', reindexLeafM ix ms Option.none l = .ok l' ∧ a.leaves[i]? = some l') ∧
      (∀ (i : Nat) (l : Leaf), (Tree.node .dict kwargs).leaves[i]? = some l →
        ∃ l', reindexLeafM ix ms Option.none l = .ok l' ∧ k.leaves[i]? = some l') := by
  simp only [presyncNamed] at h
  split at h
  · cases h
  · rename_i key v hfind
    simp only [Option.some.injEq] at h
    split at h
    · cases h
    · rename_i ix hix
      obtain ⟨ha, hk⟩ := presyncOnto_ok h
      exact ⟨key, v, ix, hfind, hix, skel_reindexTreeM _ _ _ _ _ _ ha, skel_reindexTreeM _ _ _ _ _ _ hk,
        fun i l hl => ((pairs_reindexTreeM_bare ix ms Option.none _ _ ha).get i l hl).imp fun _ => And.symm,
        fun i l hl => ((pairs_reindexTreeM_bare ix ms Option.none _ _ hk).get i l hl).imp fun _ => And.symm⟩

/-- `join` names no supplied argument: the branch is not taken -/
theorem presync_named_absent (name : String) (bare : Bool) (ms : List Method) (pnames : List String)
    (args kwargs : List (String × Tree)) (h : ∀ p ∈ (pnames.zip (args.map (·.2))) ++ kwargs, p.1 ≠ name) :
    presyncNamed name bare ms pnames args kwargs = Option.none := by
  have : ((pnames.zip (args.map (·.2))) ++ kwargs).find? (·.1 == name) = Option.none := by
    rw [List.find?_eq_none]; intro p hp; simpa using h p hp
  simp [presyncNamed, this]

/-! ### dict members keyed 'index' -/

/-- the key of a dict member plays no role in what the joint index sees: `_list` opens every dict (so `df_index`'s test
`_is_dict_indexed(member)` never fires on a member), so renaming the keys of the top-level members changes nothing in what
is flattened: a dict keyed 'index' is an ordinary dict whose values - a timeseries under 'index' included - are members like
any other; `sync_shape` / `syncM_shape` keep the keys -/
theorem index_key_ordinary (g : String → String) (tag : Tag) (kids : List (String × Tree)) :
    (Tree.node tag (kids.map fun k => (g k.1, k.2))).flatTop = (Tree.node tag kids).flatTop ∧
    (tag ≠ .tuple → (Tree.node tag (kids.map fun k => (g k.1, k.2))).flat = (Tree.node tag kids).flat) := by
  refine ⟨flatKids_rekey g kids, fun ht => ?_⟩
  cases tag with
  | tuple => exact (ht rfl).elim
  | list => exact flatKids_rekey g kids
  | dict => exact flatKids_rekey g kids

/-! ### non-vacuity -/

example : joinIndex .inner [[1, 2, 4, 7], [2, 3, 4], [0, 2, 4, 9]] = some [2, 4] := by decide +kernel
example : joinIndex .outer [[1, 4], [2, 3, 4], []] = some [1, 2, 3, 4] := by decide +kernel
example : joinIndex .right [[1, 4], [2, 3, 4], [9]] = some [9] := by decide +kernel
/-- ffill as-of across a NaN and across gaps; bfill; plain lookup -/
example : let f : Frame := { idx := [1, 2, 5], cols := [("", [some 10, Option.none, some 30])] }
    f.Sorted ∧
    (reindexFrame f [0, 1, 2, 3, 5, 9] (some .ffill)).cols = [("", [Option.none, some 10, some 10, some 10, some 30, some 30])] ∧
    (reindexFrame f [0, 1, 2, 3, 5, 9] (some .bfill)).cols = [("", [some 10, some 10, some 30, some 30, some 30, Option.none])] ∧
    (reindexFrame f [0, 1, 2, 3, 5, 9] Option.none).cols = [("", [Option.none, some 10, Option.none, Option.none, some 30, Option.none])] := by
  decide +kernel
/-- the as-of join is per column: a frame whose rows are only partly NaN (finding C03-A2: joining whole rows would give
`a = [1, NaN, NaN]`) -/
example : let f : Frame := { idx := [0, 1], cols := [("a", [some 1, Option.none]), ("b", [Option.none, some 2])] }
    (reindexFrame f [0, 1, 2] (some .ffill)).cols = [("a", [some 1, some 1, some 1]), ("b", [Option.none, some 2, some 2])] ∧
    (reindexFrame f [0, 1, 2] (some .bfill)).cols = [("a", [some 1, Option.none, Option.none]), ("b", [some 2, some 2, Option.none])] := by
  decide +kernel
/-- `sync_member` / `sync_index_inner` on a nested, tuple-free container: the hypotheses hold and the members come out in place -/
example : let t : Tree := .node .list [("", .leaf (.ts true { idx := [1, 2, 4], cols := [("", [some 1, Option.none, some 3])] })),
                                       ("", .node .dict [("k", .leaf (.ts true { idx := [2, 3, 4], cols := [("", [some 5, some 6, Option.none])] })),
                                                         ("j", .leaf (.other (.cell (.int 7))))])]
    kidsTupleFree (match t with | .node _ ks => ks | _ => []) = true ∧
    dfIndex .inner t.flatTop = .times [2, 4] ∧
    (match sync .inner (some .ffill) Option.none t with
     | .ok t' => t'.leaves.map fun l => match l with | .ts _ f => some f | _ => Option.none
     | .error _ => []) =
      [some { idx := [2, 4], cols := [("", [some 1, some 3])] }, some { idx := [2, 4], cols := [("", [some 5, some 6])] }, Option.none] := by
  decide +kernel
/-- `sync_explicit_member` / `presync_call_member`: an explicit index, a keyword argument -/
example : let s1 : Frame := { idx := [1, 2, 4], cols := [("", [some 1, Option.none, some 3])] }
    let s2 : Frame := { idx := [2, 3], cols := [("", [some 5, some 6])] }
    tsIndexes (Tree.node .list [("", .leaf (.ts true s1))]).flatTop ≠ [] ∧
    (match presyncCall (.explicit [0, 2, 3]) (some .ffill) [("", .leaf (.ts true s1))] [("k", .leaf (.ts true s2))] with
     | .ok (a, k) => (a.leaves ++ k.leaves).map fun l => match l with | .ts _ f => some f | _ => Option.none
     | .error _ => []) =
      [some { idx := [0, 2, 3], cols := [("", [Option.none, some 1, some 1])] },
       some { idx := [0, 2, 3], cols := [("", [Option.none, some 5, some 6])] }] := by
  decide +kernel
example : alignArr 2 [some 1, some 2, some 3] = [some 2, some 3] ∧
    alignArr 4 [some 1, some 2] = [Option.none, Option.none, some 1, some 2] ∧ alignArr 0 [some 1] = [] := by decide +kernel

/-- `limit`: requested labels 1,3 land on the observation at 0, labels 5,6,7 on the one at 4; with `limit = 1` only the first
of each group (from the observation outwards) is filled, bfill counts from the right; an exact match is never counted -/
example : let f : Frame := { idx := [0, 2, 4, 8], cols := [("", [some 1, Option.none, some 3, some 4])] }
    f.Sorted ∧ SortedL [1, 3, 4, 5, 6, 7, 9, 11] ∧
    (reindexFrameL f [1, 3, 4, 5, 6, 7, 9, 11] .ffill (some 1)).cols =
      [("", [some 1, Option.none, some 3, some 3, Option.none, Option.none, some 4, Option.none])] ∧
    (reindexFrameL f [1, 3, 4, 5, 6, 7, 9, 11] .bfill (some 2)).cols =
      [("", [some 3, some 3, some 3, Option.none, some 4, some 4, Option.none, Option.none])] ∧
    between [1, 3, 4, 5, 6, 7, 9, 11] 4 7 = 2 := by
  decide +kernel
/-- a method list: as-of ffill within the limit, then the constant 0 for what is left -/
example : let f : Frame := { idx := [2, 4], cols := [("", [some 1, some 3])] }
    (reindexFill f [0, 1, 2, 3, 5] [.ffill, .const 0] (some 1)).toOption =
      some { idx := [0, 1, 2, 3, 5], cols := [("", [some 0, Option.none, some 1, some 1, some 3])] } ∧
    (reindexFill f [0, 1, 2, 3, 5] [.const 0] Option.none).toOption =
      some { idx := [0, 1, 2, 3, 5], cols := [("", [some 0, some 0, some 1, some 0, some 0])] } := by
  decide +kernel
/-- `loops` hands `['ffill', 'bfill']` out over a LIST of two series (first ffill, second bfill), not over a dict -/
example : let s1 : Frame := { idx := [0, 4], cols := [("", [some 1, some 3])] }
    let s2 : Frame := { idx := [2], cols := [("", [some 5])] }
    (match reindexTreeM (.times [0, 2, 4]) false [.ffill, .bfill] Option.none (.node .list [("", .leaf (.ts true s1)), ("", .leaf (.ts true s2))]) with
     | .ok t' => t'.leaves.map fun l => match l with | .ts _ f => f.cols | _ => []
     | .error _ => []) = [[("", [some 1, some 1, some 3])], [("", [some 5, some 5, Option.none])]] ∧
    (match reindexTreeM (.times [0, 2, 4]) false [.ffill, .bfill] Option.none (.node .dict [("a", .leaf (.ts true s1)), ("b", .leaf (.ts true s2))]) with
     | .ok t' => t'.leaves.map fun l => match l with | .ts _ f => f.cols | _ => []
     | .error _ => []) = [[("", [some 1, some 1, some 3])], [("", [some 5, some 5, some 5])]] := by
  decide +kernel
/-- `presync(f)(a, b, join='p1')`: both arguments on the index of the second, no intersection taken -/
example : let s1 : Frame := { idx := [0, 4], cols := [("", [some 1, some 3])] }
    let s2 : Frame := { idx := [2, 4, 6], cols := [("", [some 5, Option.none, some 7])] }
    (match presyncNamed "p1" true [] ["p0", "p1"] [("", .leaf (.ts true s1)), ("", .leaf (.ts true s2))] [] with
     | some (.ok (a, _)) => a.leaves.map fun l => match l with | .ts _ f => some f | _ => Option.none
     | _ => []) =
      [some { idx := [2, 4, 6], cols := [("", [Option.none, some 3, Option.none])] }, some s2] := by
  decide +kernel
/-- `sync_arrays` / `sync_arrays_value`: a nested, tuple-free container of bare arrays of lengths 3, 1, 2 (one inside a dict) and a
string: the hypotheses hold; outer join = length 3, every array NaN-padded in front, `'bfill'` fills the padding, inner join = length 1 -/
example : let t : Tree := .node .list [("", .leaf (.arr [some 1, Option.none, some 3])),
                                       ("", .node .dict [("k", .leaf (.arr [some 5])), ("j", .leaf (.other (.cell (.int 7))))]),
                                       ("", .leaf (.arr [some 8, some 9]))]
    kidsTupleFree (match t with | .node _ ks => ks | _ => []) = true ∧ tsIndexes t.leaves = [] ∧
    joinLen .outer (arrLens t.leaves) = some 3 ∧ joinLen .inner (arrLens t.leaves) = some 1 ∧
    (match sync .outer (some .bfill) Option.none t with
     | .ok t' => t'.leaves.map fun l => match l with | .arr c => some c | _ => Option.none
     | .error _ => []) =
      [some [some 1, some 3, some 3], some [some 5, some 5, some 5], Option.none, some [some 8, some 8, some 9]] ∧
    (match sync .inner Option.none Option.none t with
     | .ok t' => t'.leaves.map fun l => match l with | .arr c => some c | _ => Option.none
     | .error _ => []) = [some [some 3], some [some 5], Option.none, some [some 9]] := by
  decide +kernel
/-- `sync_index_left` / `sync_index_right`: the first timeseries in depth-first order sits inside a dict behind a string and an array
is not counted; `'lj'` puts everything on ITS index, `'rj'` on the last one's -/
example : let s1 : Frame := { idx := [1, 2, 4], cols := [("", [some 1, Option.none, some 3])] }
    let s2 : Frame := { idx := [2, 3], cols := [("", [some 5, some 6])] }
    let t : Tree := .node .list [("", .leaf (.other (.cell (.int 7)))), ("", .node .dict [("k", .leaf (.ts true s1))]), ("", .leaf (.ts true s2))]
    kidsTupleFree (match t with | .node _ ks => ks | _ => []) = true ∧
    t.leaves = [.other (.cell (.int 7))] ++ .ts true s1 :: [.ts true s2] ∧
    (match sync .left Option.none Option.none t with
     | .ok t' => t'.leaves.map fun l => match l with | .ts _ f => some f.idx | _ => Option.none
     | .error _ => []) = [Option.none, some [1, 2, 4], some [1, 2, 4]] ∧
    (match sync .right Option.none Option.none t with
     | .ok t' => t'.leaves.map fun l => match l with | .ts _ f => some f.idx | _ => Option.none
     | .error _ => []) = [Option.none, some [2, 3], some [2, 3]] := by
  refine ⟨by decide +kernel, rfl, by decide +kernel, by decide +kernel⟩

/-! ### a NaN the series HOLDS at a surviving timestamp (the declared reading of clause 2)

The statement's "at each surviving timestamp a series keeps exactly its original value" is read for VALUES: a NaN cell is
not an observation.  With a fill method a NaN held at a timestamp the series has is filled exactly like a timestamp it
lacked - the as-of join runs over the non-NaN observations (`_nona(ts).reindex(index, method)`).  Without a fill method
the NaN stays (`reindex_keep`).  The theorems below pin that reading against C12's independent `ffill` / `bfill`. -/

/-- under ffill the cell of column `c` at any requested timestamp `t` - in particular one the frame has, where the
column holds NaN - is the column's last non-NaN observation at or before `t` (`lastObs`; positional reading:
`last_observation`) -/
theorem reindex_fill_own_nan (f : Frame) (idx : List Int) (hs : f.Sorted) (j k : Nat) (c : String × Col) (t : Int)
    (hc : f.cols[j]? = some c) (hk : idx[k]? = some t) :
    ∃ r, (reindexFrame f idx (some .ffill)).cols[j]? = some (c.1, r) ∧ r[k]? = some (lastObs f.idx c.2 t) := by
  obtain ⟨r, h1, _, h3⟩ := cols_map_cell (reindex_ffill f idx hs) hc hk
  exact ⟨r, h1, h3⟩

/-- the reading made visible: the series `[5, NaN]` on the days `0, 1`, reindexed with ffill onto ITS OWN index, is `[5, 5]` -
the NaN it held on day 1 is gone although day 1 "survives" -/
example : reindexFrame ⟨[0, 1], [("a", [some 5, Option.none])]⟩ [0, 1] (some .ffill) = ⟨[0, 1], [("a", [some 5, some 5])]⟩ := by decide +kernel
example : reindexFrame ⟨[0, 1], [("a", [Option.none, some 5])]⟩ [0, 1] (some .bfill) = ⟨[0, 1], [("a", [some 5, some 5])]⟩ := by decide +kernel
example : reindexFrame ⟨[0, 1], [("a", [some 5, Option.none])]⟩ [0, 1] Option.none = ⟨[0, 1], [("a", [some 5, Option.none])]⟩ := by decide +kernel

/-- `df_reindex(x, x.index, 'ffill')` IS `df_fillna(x, 'ffill')` (and `bfill`): reindexing a frame with a strictly
increasing index onto its own index with a fill method is C12's plain forward / backward fill without limit, column by
column - an independent definition (`Fill.ffill`: one left-to-right pass carrying the last value; no labels, no NaN removal,
no as-of position).  So under a fill method exactly the NaN cells change, each to the nearest earlier / later value
(C12 `ffill_keeps`, `ffill_nolimit`, `ffill_leading`). -/
theorem reindex_own_index_ffill (f : Frame) (hs : f.Sorted) (hr : f.Rect) :
    reindexFrame f f.idx (some .ffill) = f.mapCols (ffill Option.none) :=
  congrArg (Frame.mk f.idx) ((reindex_ffill f f.idx hs).trans
    (List.map_congr_left fun c hc => by rw [ffill_eq_lastObs f.idx c.2 hs (hr c hc)]))

theorem reindex_own_index_bfill (f : Frame) (hs : f.Sorted) (hr : f.Rect) :
    reindexFrame f f.idx (some .bfill) = f.mapCols (bfill Option.none) :=
  congrArg (Frame.mk f.idx) ((reindex_bfill f f.idx).trans
    (List.map_congr_left fun c hc => by rw [bfill_eq_firstObs f.idx c.2 hs (hr c hc)]))

/-- `df_reindex(x, x.index, 'ffill')` cell by cell: a non-NaN cell is kept, a NaN cell takes the nearest earlier value with
only NaN in between, a NaN before the first value stays NaN -/
theorem reindex_own_index_cells (f : Frame) (hs : f.Sorted) (hr : f.Rect) (j : Nat) (c : String × Col) (hc : f.cols[j]? = some c) :
    ∃ r, (reindexFrame f f.idx (some .ffill)).cols[j]? = some (c.1, r) ∧ r.length = c.2.length ∧
      (∀ (i : Nat) (v : Int), c.2[i]? = some (some v) → r[i]? = some (some v)) ∧
      (∀ (i' i : Nat) (v : Int), i' < i → c.2[i']? = some (some v) → (∀ m : Nat, i' < m → m ≤ i → c.2[m]? = some Option.none) → r[i]? = some (some v)) ∧
      (∀ i : Nat, (∀ m : Nat, m ≤ i → c.2[m]? = some Option.none) → r[i]? = some Option.none) := by
  refine ⟨ffill Option.none c.2, ?_, ffill_length _ _, ?_, ?_, ?_⟩
  · rw [reindex_own_index_ffill f hs hr, Frame.getElem?_cols_mapCols, hc]
    rfl
  · intro i v h; exact ffill_keep _ _ i v h
  · intro i' i v h1 h2 h3
    exact ffillAux_get _ _ _ c.2 i' i v (Nat.le_of_lt h1) h2 h3
  · intro i h; exact ffill_prefix _ _ i h

end Pyg.Props.C03
