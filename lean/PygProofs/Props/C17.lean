/-
  C17 — bitemporal store (src/pyg_base/_bitemporal.py): reading as of T sees exactly what had been published by T.
  `history log` is the store after `bi_merge`-ing the versions of `log` one by one from `None`; `specRead log T` folds the
  full publication log: per date the publications stamped `≤ T` in merge order, non-NaN overriding, NaN changing nothing.
  `Ordered` (the histories the property speaks about), `pubs`, `vis` are in Lemmas/BitempInv.lean / BitempLemmas.lean.
-/
import PygProofs.Lemmas.BitempCols

namespace Pyg.Props.C17
open Pyg Pyg.Bitemp

/-- **refinement**: the compressed store answers every as-of read exactly as the full publication log
    would: latest value stamped `≤ T`, merge order breaking ties, NaN never overriding, and a row only
    for dates published by `T`. -/
theorem read_spec (log : List Version) (h : Ordered log) (T : Option Int) :
    ∃ st, history log = some st ∧ biRead st T (-1) = specRead log T := by
  obtain ⟨st, hst, hi⟩ := history_inv h
  exact ⟨st, hst, (hi.reads h.stamps T).1⟩

example : Ordered [⟨10, [(1, some 5), (2, none)]⟩, ⟨10, [(1, some 6)]⟩, ⟨12, [(2, some 7), (3, none)]⟩] :=
  ⟨by simp, by decide, by decide⟩

/-- no row for dates first published after `T` -/
theorem read_dates (log : List Version) (h : Ordered log) (T : Int) (st : Store) (hst : history log = some st)
    (d : Int) :
    d ∈ (biRead st (some T) (-1)).index ↔ ∃ v ∈ log, v.stamp ≤ T ∧ d ∈ v.ts.index :=
  read_dates_any log h (some T) st hst d

/-- the store never holds anything that was not published -/
theorem store_rows_published (log : List Version) (h : Ordered log) (st : Store) (hst : history log = some st)
    (r : Row) (hr : r ∈ st) : ∃ v ∈ log, r.stamp = v.stamp ∧ (r.date, r.val) ∈ v.ts := by
  obtain ⟨v, hv, p, hp, rfl⟩ := mem_logRows.mp ((h.inv hst).published r hr)
  exact ⟨v, hv, rfl, hp⟩

/-- **as-of value, declaratively**: "the latest value published with stamp `≤ T`, of several sharing a stamp the one merged last,
    a NaN never overrides" - the value of the version merged last among those stamped `≤ T` that publish a non-NaN value for `d` -/
theorem read_value (log : List Version) (h : Ordered log) (T : Int) (st : Store) (hst : history log = some st)
    (d x : Int) :
    (d, some x) ∈ biRead st (some T) (-1) ↔
      ∃ before v after, log = before ++ v :: after ∧ v.stamp ≤ T ∧ (d, some x) ∈ v.ts ∧
        ∀ u ∈ after, u.stamp ≤ T → ∀ y, (d, some y) ∉ u.ts :=
  read_value_any log h (some T) st hst d x

/-- the same with positions in the log -/
theorem read_value_idx (log : List Version) (h : Ordered log) (T : Int) (st : Store) (hst : history log = some st)
    (d x : Int) :
    (d, some x) ∈ biRead st (some T) (-1) ↔
      ∃ i, ∃ hi : i < log.length, log[i].stamp ≤ T ∧ (d, some x) ∈ log[i].ts ∧
        ∀ j, ∀ hj : j < log.length, i < j → log[j].stamp ≤ T → ∀ y, (d, some y) ∉ log[j].ts := by
  rw [read_value log h T st hst]
  simpa only [and_assoc] using List.exists_split_iff_getElem log (fun v => v.stamp ≤ T ∧ (d, some x) ∈ v.ts)
    (fun u => u.stamp ≤ T → ∀ y, (d, some y) ∉ u.ts)

/-- **NaN row, declaratively**: `d` was published by `T` and every publication of `d` stamped `≤ T` is NaN -/
theorem read_nan (log : List Version) (h : Ordered log) (T : Int) (st : Store) (hst : history log = some st) (d : Int) :
    (d, Option.none) ∈ biRead st (some T) (-1) ↔
      (∃ v ∈ log, v.stamp ≤ T ∧ d ∈ v.ts.index) ∧ ∀ v ∈ log, v.stamp ≤ T → ∀ y, (d, some y) ∉ v.ts :=
  read_nan_any log h (some T) st hst d

/-- **"no asof" is "as of any time after all stamps"**: `bi_read(store)` without an as-of time returns what `bi_read(store, asof=M)`
    returns for every `M` that no stamp exceeds - for the default read and the first read. -/
theorem read_noasof (log : List Version) (h : Ordered log) (st : Store) (hst : history log = some st) (M : Int)
    (hM : ∀ v ∈ log, v.stamp ≤ M) :
    biRead st Option.none (-1) = biRead st (some M) (-1) ∧ biRead st Option.none 0 = biRead st (some M) 0 := by
  rw [(h.reads hst Option.none).1, (h.reads hst Option.none).2, (h.reads hst (some M)).1, (h.reads hst (some M)).2]
  simp only [specRead, specFirst, filter_logRows_of_bound log M hM, and_self]

/-- `read_value` for `bi_read(store)` without as-of time -/
theorem read_value_noasof (log : List Version) (h : Ordered log) (st : Store) (hst : history log = some st) (d x : Int) :
    (d, some x) ∈ biRead st Option.none (-1) ↔
      ∃ before v after, log = before ++ v :: after ∧ (d, some x) ∈ v.ts ∧ ∀ u ∈ after, ∀ y, (d, some y) ∉ u.ts := by
  simpa only [Vis, true_and, true_implies] using read_value_any log h Option.none st hst d x

/-- `read_nan` without as-of time -/
theorem read_nan_noasof (log : List Version) (h : Ordered log) (st : Store) (hst : history log = some st) (d : Int) :
    (d, Option.none) ∈ biRead st Option.none (-1) ↔
      (∃ v ∈ log, d ∈ v.ts.index) ∧ ∀ v ∈ log, ∀ y, (d, some y) ∉ v.ts := by
  simpa only [Vis, true_and, true_implies] using read_nan_any log h Option.none st hst d

/-- `read_dates` without as-of time -/
theorem read_dates_noasof (log : List Version) (h : Ordered log) (st : Store) (hst : history log = some st) (d : Int) :
    d ∈ (biRead st Option.none (-1)).index ↔ ∃ v ∈ log, d ∈ v.ts.index := by
  simpa only [Vis, true_and] using read_dates_any log h Option.none st hst d

/-! `lastVal` (the fold used by `specRead`) is determined by three equations: nothing published gives NaN,
    a later non-NaN publication overrides, a later NaN publication changes nothing. -/

theorem lastVal_nil : lastVal [] = Option.none := rfl

theorem lastVal_override (rows : Store) (r : Row) (x : Int) (h : r.val = some x) :
    lastVal (rows ++ [r]) = some x := by rw [lastVal_snoc, h]; rfl

theorem lastVal_nan_keeps (rows : Store) (r : Row) (h : r.val = Option.none) :
    lastVal (rows ++ [r]) = lastVal rows := by rw [lastVal_snoc, h]; rfl

/-- **no look-ahead**: versions stamped later than `T` never change an as-of-`T` read -/
theorem no_lookahead (log later : List Version) (h : Ordered (log ++ later)) (hl : log ≠ []) (T : Int)
    (hT : ∀ v ∈ later, T < v.stamp) (st st' : Store)
    (hst : history log = some st) (hst' : history (log ++ later) = some st') :
    biRead st' (some T) (-1) = biRead st (some T) (-1) := by
  rw [(h.reads hst' (some T)).1, ((h.of_append hl).reads hst (some T)).1]
  simp only [specRead, filter_logRows_later log later T hT]

/-- the two-history form: histories that agree on the publications stamped `≤ T` read alike as of `T` -/
theorem no_lookahead_logs (log₁ log₂ : List Version) (h₁ : Ordered log₁) (h₂ : Ordered log₂) (T : Int)
    (hT : (logRows log₁).filter (fun r => decide (r.stamp ≤ T)) = (logRows log₂).filter (fun r => decide (r.stamp ≤ T)))
    (st₁ st₂ : Store) (e₁ : history log₁ = some st₁) (e₂ : history log₂ = some st₂) :
    biRead st₁ (some T) (-1) = biRead st₂ (some T) (-1) := by
  rw [(h₁.reads e₁ (some T)).1, (h₂.reads e₂ (some T)).1]
  simp only [specRead, hT]

/-- **no look-ahead** for `what = 0` -/
theorem no_lookahead_first (log later : List Version) (h : Ordered (log ++ later)) (hl : log ≠ []) (T : Int)
    (hT : ∀ v ∈ later, T < v.stamp) (st st' : Store)
    (hst : history log = some st) (hst' : history (log ++ later) = some st') :
    biRead st' (some T) 0 = biRead st (some T) 0 := by
  rw [(h.reads hst' (some T)).2, ((h.of_append hl).reads hst (some T)).2]
  simp only [specFirst, filter_logRows_later log later T hT]

theorem no_lookahead_first_logs (log₁ log₂ : List Version) (h₁ : Ordered log₁) (h₂ : Ordered log₂) (T : Int)
    (hT : (logRows log₁).filter (fun r => decide (r.stamp ≤ T)) = (logRows log₂).filter (fun r => decide (r.stamp ≤ T)))
    (st₁ st₂ : Store) (e₁ : history log₁ = some st₁) (e₂ : history log₂ = some st₂) :
    biRead st₁ (some T) 0 = biRead st₂ (some T) 0 := by
  rw [(h₁.reads e₁ (some T)).2, (h₂.reads e₂ (some T)).2]
  simp only [specFirst, hT]

/-- **first read**: `what = 0` returns, per date published by `T`, the first published value - the fold of the
    publications sharing the date's first stamp (a same-stamp version merged later overrides, as for every
    read; this is the only reading under which the clause is true of the code, see docs/notes/C17.md). -/
theorem read_first (log : List Version) (h : Ordered log) (T : Option Int) :
    ∃ st, history log = some st ∧ biRead st T 0 = specFirst log T := by
  obtain ⟨st, hst, hi⟩ := history_inv h
  exact ⟨st, hst, (hi.reads h.stamps T).2⟩

theorem read_first_index (log : List Version) (h : Ordered log) (T : Option Int) (st : Store) (hst : history log = some st) :
    (biRead st T 0).index = (biRead st T (-1)).index := by
  rw [(h.reads hst T).1, (h.reads hst T).2, specRead_eq, specFirst_eq, perDate_index, perDate_index]

/-- no row for dates first published after `T`, for `what = 0` -/
theorem read_first_dates (log : List Version) (h : Ordered log) (T : Int) (st : Store) (hst : history log = some st) (d : Int) :
    d ∈ (biRead st (some T) 0).index ↔ ∃ v ∈ log, v.stamp ≤ T ∧ d ∈ v.ts.index := by
  rw [read_first_index log h (some T) st hst, read_dates log h T st hst]

theorem read_first_dates_noasof (log : List Version) (h : Ordered log) (st : Store) (hst : history log = some st) (d : Int) :
    d ∈ (biRead st Option.none 0).index ↔ ∃ v ∈ log, d ∈ v.ts.index := by
  rw [read_first_index log h Option.none st hst, read_dates_noasof log h st hst]

/-- every date is read once; with `read_dates` / `read_first_dates` this fixes the index of the read independently of `specRead` -/
theorem read_index_nodup (log : List Version) (h : Ordered log) (T : Option Int) (st : Store) (hst : history log = some st) :
    (biRead st T (-1)).index.Nodup ∧ (biRead st T 0).index.Nodup := by
  rw [read_first_index log h T st hst, and_self, (h.reads hst T).1, specRead_eq, perDate_index]
  exact dates_nodup _

/-- **first read, exact**: `bi_read(what=0)` is the first value published per date (the clause as written) exactly when, for
    every date, the publications sharing the date's first stamp fold to the first of them. -/
theorem read_first_literal_iff (log : List Version) (h : Ordered log) (T : Option Int) :
    ∃ st, history log = some st ∧
      (biRead st T 0 = specFirstLiteral log T ↔
        ∀ d ∈ dates (pubs log T), firstVal (group d (pubs log T)) = (group d (pubs log T)).head?.bind (·.val)) := by
  obtain ⟨st, hst, hr⟩ := read_first log h T
  refine ⟨st, hst, ?_⟩
  rw [hr, specFirst_eq, specFirstLiteral_eq, perDate, perDate, List.map_inj_left]
  simp only [pubs, group_filter]
  constructor
  · intro hh d hd; exact (Prod.mk.inj (hh d hd)).2
  · intro hh d hd; rw [hh d hd]

/-- **first read, literal - sufficient condition**: only the date's FIRST stamp matters.  If every later publication of a date
    (visible as of `T`) that shares the stamp of the date's first publication is NaN or repeats the first value, `bi_read(what=0)`
    returns the first value published per date.  `lateTie` (`5@10, 6@11, 7@11`) and `firstTieNan` (`5@10, NaN@10, 5@10`) satisfy
    this and not the hypothesis of `read_first_literal`. -/
theorem read_first_literal_sharp (log : List Version) (h : Ordered log) (T : Option Int)
    (hd : ∀ d r rest, group d (pubs log T) = r :: rest →
      ∀ r' ∈ rest, r'.stamp = r.stamp → r'.val = Option.none ∨ r'.val = r.val) :
    ∃ st, history log = some st ∧ biRead st T 0 = specFirstLiteral log T := by
  obtain ⟨st, hst, hiff⟩ := read_first_literal_iff log h T
  refine ⟨st, hst, hiff.2 ?_⟩
  intro d _
  match hg : group d (pubs log T) with
  | [] => rfl
  | r :: rest =>
    have hB : ∀ b ∈ rest.filter (·.stamp == r.stamp), b.val = Option.none ∨ b.val = r.val := by
      intro b hb
      obtain ⟨hb1, hb2⟩ := List.mem_filter.mp hb
      exact hd d r rest hg b hb1 (by simpa using hb2)
    rw [firstVal_cons]
    rcases lastVal_none_or_eq r.val _ hB with e | e
    · rw [e]; rfl
    · rw [e, Option.or_self]; rfl

theorem read_first_literal_first_stamp (log : List Version) (h : Ordered log) (T : Option Int)
    (hd : ∀ d r rest, group d (pubs log T) = r :: rest → ∀ r' ∈ rest, r'.stamp ≠ r.stamp) :
    ∃ st, history log = some st ∧ biRead st T 0 = specFirstLiteral log T :=
  read_first_literal_sharp log h T (fun d r rest hg r' hr' he => absurd he (hd d r rest hg r' hr'))

/-- **first read, literal**: if no date has two publications (visible as of `T`) with the same stamp, `bi_read(what=0)`
    returns the first value published per date. -/
theorem read_first_literal (log : List Version) (h : Ordered log) (T : Option Int)
    (hd : ∀ d, ((group d (pubs log T)).map (·.stamp)).Nodup) :
    ∃ st, history log = some st ∧ biRead st T 0 = specFirstLiteral log T := by
  refine read_first_literal_first_stamp log h T fun d r rest hg r' hr' he => ?_
  have hn := hd d
  rw [hg, List.map_cons, List.nodup_cons] at hn
  exact hn.1 (List.mem_map.mpr ⟨r', hr', he⟩)

-- two histories for which the hypothesis of `read_first_literal_sharp` holds and that of `read_first_literal` does not:
-- a tie at a later stamp (`5@10, 6@11, 7@11`), and a tie at the first stamp that repeats the first value (`5@10, NaN@10, 5@10`)
def lateTie : List Version := [⟨10, [(1, some 5)]⟩, ⟨11, [(1, some 6)]⟩, ⟨11, [(1, some 7)]⟩]
def firstTieNan : List Version := [⟨10, [(1, some 5)]⟩, ⟨10, [(1, Option.none)]⟩, ⟨10, [(1, some 5)]⟩]
#guard (history lateTie).map (fun st => (biRead st Option.none 0, specFirstLiteral lateTie Option.none)) = some ([(1, some 5)], [(1, some 5)])
#guard ((group 1 (pubs lateTie Option.none)).map (·.stamp)) = [10, 11, 11]
#guard (history firstTieNan).map (fun st => (biRead st Option.none 0, specFirstLiteral firstTieNan Option.none)) = some ([(1, some 5)], [(1, some 5)])
#guard ((group 1 (pubs firstTieNan Option.none)).map (fun r => (r.stamp, r.val))) = [(10, some 5), (10, Option.none), (10, some 5)]

theorem read_first_literal_distinct (log : List Version) (h : Ordered log) (T : Option Int)
    (hs : log.Pairwise (fun a b => a.stamp ≠ b.stamp)) :
    ∃ st, history log = some st ∧ biRead st T 0 = specFirstLiteral log T := by
  apply read_first_literal log h T
  intro d
  have hp : (group d (pubs log T)).Pairwise (fun a b => a.date = b.date → a.stamp ≠ b.stamp) :=
    (logRows_stamp_ne log h.wf hs).sublist (List.filter_sublist.trans List.filter_sublist)
  rw [List.Nodup, List.pairwise_map]
  exact hp.imp_of_mem fun ha hb hab => hab ((mem_group.mp ha).2.trans (mem_group.mp hb).2.symm)

/-- two versions with one stamp: `5` then `6` for the same date -/
def sameStamp : List Version := [⟨10, [(1, some 5)]⟩, ⟨10, [(1, some 6)]⟩]

theorem sameStamp_ordered : Ordered sameStamp := ⟨List.cons_ne_nil _ _, by decide, by decide⟩

/-- **known finding C17-K1 (witness)**: the clause "what=0 returns the first value published per date" is false of the model (and
    of the code, `law-read-first-literal`) when a second version shares the first stamp: `5@10` then `6@10` is read as `6`. -/
theorem read_first_literal_fails :
    ∃ log, Ordered log ∧ ∃ st, history log = some st ∧ biRead st Option.none 0 ≠ specFirstLiteral log Option.none ∧
      (1, some 6) ∈ biRead st Option.none 0 ∧ (1, some 5) ∈ specFirstLiteral log Option.none := by
  obtain ⟨st, hst, hr⟩ := read_first sameStamp sameStamp_ordered Option.none
  have h6 : (1, some 6) ∈ biRead st Option.none 0 := by
    rw [hr, specFirst_eq, mem_perDate]
    decide
  have h5 : (1, some 5) ∈ specFirstLiteral sameStamp Option.none := by
    rw [specFirstLiteral_eq, mem_perDate]
    decide
  refine ⟨sameStamp, sameStamp_ordered, st, hst, ?_, h6, h5⟩
  intro he
  rw [he, specFirstLiteral_eq, mem_perDate] at h6
  exact absurd h6 (by decide)

/-- **idempotence**: merging (again) a version whose values are the values the store shows as of that version's
    stamp - NaN entries allowed, they never override - leaves every as-of read and every first read unchanged.
    This covers re-merging the version merged last, and every earlier version that no later version sharing
    its stamp has overridden (for an overridden one the clause is false of the code, see docs/notes/C17.md). -/
theorem merge_idem (log : List Version) (h : Ordered log) (st : Store) (hst : history log = some st) (w : Version)
    (hvis : ∀ p ∈ w.ts, ∃ y, (p.1, y) ∈ biRead st (some w.stamp) (-1) ∧ (p.2 = Option.none ∨ p.2 = y))
    (T : Option Int) :
    biRead (biMerge (some st) (Bi w.ts w.stamp)) T (-1) = biRead st T (-1) ∧
    biRead (biMerge (some st) (Bi w.ts w.stamp)) T 0 = biRead st T 0 := by
  have hg := (h.inv hst).good
  have hr := hg.le
  -- both stores fold, per date and cut, as the rows of `st`
  obtain ⟨a1, a2, _⟩ := reads_of_specEq (mergeFrames_good st (Bi w.ts w.stamp)) (remerge_specEq st hg w hvis) hr T
  obtain ⟨b1, b2, _⟩ := reads_of_specEq hg (SpecEq.refl st) hr T
  exact ⟨a1.trans b1.symm, a2.trans b2.symm⟩

/-- **which earlier versions can be re-merged**: a version `w` of a stamp-ordered history shows, as of its stamp, exactly its own
    non-NaN values - the hypothesis `hvis` of `merge_idem` - provided no version merged after it under the SAME stamp publishes a
    different non-NaN value for one of its dates.  Such a version need not be "in the store" row by row: a row that repeats the
    value before it is compressed away. -/
theorem earlier_version_visible (before : List Version) (w : Version) (after : List Version)
    (h : Ordered (before ++ w :: after)) (st : Store) (hst : history (before ++ w :: after) = some st)
    (hno : ∀ u ∈ after, u.stamp = w.stamp → ∀ p ∈ w.ts, ∀ x, p.2 = some x → ∀ y, (p.1, some y) ∈ u.ts → y = x) :
    ∀ p ∈ w.ts, ∃ y, (p.1, y) ∈ biRead st (some w.stamp) (-1) ∧ (p.2 = Option.none ∨ p.2 = y) := by
  intro p hp
  rw [(h.reads hst (some w.stamp)).1]
  -- the date's visible column: what `before` published, the one row of `w`, what `after` published under the same stamp
  have hcol := col_split (asof := some w.stamp) (Int.le_refl w.stamp) (h.wf w (by simp)) hp before after
  refine ⟨lastVal (col p.1 (some w.stamp) (before ++ w :: after)), mem_specRead.mpr ⟨?_, rfl⟩, ?_⟩
  · rw [hcol]
    simp
  · cases hx : p.2 with
    | none => exact Or.inl rfl
    | some x =>
      right
      have hB : ∀ r ∈ col p.1 (some w.stamp) after, r.val = Option.none ∨ r.val = some x := by
        intro r hr
        obtain ⟨u, hu, (huT : u.stamp ≤ w.stamp), _, _, hpu⟩ := mem_col.mp hr
        have hge : w.stamp ≤ u.stamp := List.rel_of_pairwise_cons (List.pairwise_append.mp h.stamps).2.1 hu
        cases hv : r.val with
        | none => exact Or.inl rfl
        | some y =>
          rw [hv] at hpu
          rw [hno u hu (by omega) p hp x hx y hpu]
          exact Or.inr rfl
      rw [hcol, lastVal_append, lastVal_cons, hx]
      rcases lastVal_none_or_eq (some x) _ hB with e | e <;> rw [e] <;> rfl

/-- the version merged last is always such a version -/
theorem last_version_visible (log : List Version) (w : Version) (h : Ordered (log ++ [w])) (st : Store)
    (hst : history (log ++ [w]) = some st) :
    ∀ p ∈ w.ts, ∃ y, (p.1, y) ∈ biRead st (some w.stamp) (-1) ∧ (p.2 = Option.none ∨ p.2 = y) :=
  earlier_version_visible log w [] h st hst fun _ hu => absurd hu List.not_mem_nil

/-- **idempotence, as written**: merging a version that is already in the store - every row of it (date, stamp, value) is a
    row of the store - leaves every as-of read and every first read unchanged. -/
theorem merge_idem_rows (log : List Version) (h : Ordered log) (st : Store) (hst : history log = some st) (w : Version)
    (hin : ∀ p ∈ w.ts, (⟨p.1, w.stamp, p.2⟩ : Row) ∈ st) (T : Option Int) :
    biRead (biMerge (some st) (Bi w.ts w.stamp)) T (-1) = biRead st T (-1) ∧
    biRead (biMerge (some st) (Bi w.ts w.stamp)) T 0 = biRead st T 0 := by
  exact merge_idem log h st hst w (rows_in_store_visible st (h.inv hst).good w hin) T

/-- "already in the store" cannot mean "merged before": a version whose rows a same-stamp successor has replaced becomes, when
    merged again, the one merged last under its stamp, and the first clause of the property then demands the read to change.
    Witness: `5@10`, `6@10`, again `5@10` - log fold and store both read `5`, before the re-merge both read `6`. -/
theorem remerge_overridden_changes_read :
    ∃ log w, Ordered log ∧ w ∈ log ∧ Ordered (log ++ [w]) ∧ ∃ st, history log = some st ∧
      ¬ (∀ p ∈ w.ts, (⟨p.1, w.stamp, p.2⟩ : Row) ∈ st) ∧
      specRead (log ++ [w]) (some w.stamp) ≠ specRead log (some w.stamp) ∧
      biRead (biMerge (some st) (Bi w.ts w.stamp)) (some w.stamp) (-1) ≠ biRead st (some w.stamp) (-1) := by
  have ho : Ordered (sameStamp ++ [⟨10, [(1, some 5)]⟩]) := ⟨List.cons_ne_nil _ _, by decide, by decide⟩
  obtain ⟨st, hst, hi⟩ := history_inv sameStamp_ordered
  have hr := (hi.reads sameStamp_ordered.stamps (some 10)).1
  -- date 1 as of 10: the log with the re-merge folds to 5, the log without it to 6
  have h5 : (1, some 5) ∈ specRead (sameStamp ++ [⟨10, [(1, some 5)]⟩]) (some 10) := mem_specRead.mpr (by decide)
  have h5' : (1, some 5) ∉ specRead sameStamp (some 10) := fun hm => absurd (mem_specRead.mp hm) (by decide)
  have hne : specRead (sameStamp ++ [⟨10, [(1, some 5)]⟩]) (some 10) ≠ specRead sameStamp (some 10) :=
    fun he => h5' (he ▸ h5)
  refine ⟨sameStamp, ⟨10, [(1, some 5)]⟩, sameStamp_ordered, List.mem_cons_self, ho, st, hst, ?_, hne, ?_⟩
  · intro hall
    -- a store holding the row (1, 10, 5) would show 5 as of 10 (`rows_in_store_visible`), but it shows 6
    obtain ⟨y, hy, hy'⟩ := rows_in_store_visible st hi.good ⟨10, [(1, some 5)]⟩ hall (1, some 5) List.mem_cons_self
    rcases hy' with hy' | hy'
    · cases hy'
    · rw [← hy', hr] at hy; exact h5' hy
  · have hst' : history (sameStamp ++ [⟨10, [(1, some 5)]⟩]) = some (biMerge (some st) (Bi [(1, some 5)] 10)) := by
      rw [history_append, hst]; rfl
    rw [(ho.reads hst' (some 10)).1, hr]
    exact hne

/-- **idempotence, as a statement about the future**: after merging a version that is already in the store (every row of it is a
    row of the store; it may be stamped EARLIER than the last version, so that `log ++ [w]` is not a stamp-ordered log) the
    history goes on as if the re-merge had not happened: whatever stamp-ordered versions `later` are merged afterwards, every
    as-of read and first read is that of the history without the re-merge, the fold of `log ++ later`. -/
theorem merge_idem_future (log : List Version) (h : Ordered log) (st : Store) (hst : history log = some st) (w : Version)
    (hin : ∀ p ∈ w.ts, (⟨p.1, w.stamp, p.2⟩ : Row) ∈ st)
    (later : List Version) (hl : Ordered (log ++ later)) (T : Option Int) :
    ∃ st₁ st₂, later.foldl (fun s v => some (biMerge s (Bi v.ts v.stamp))) (some (biMerge (some st) (Bi w.ts w.stamp))) = some st₁ ∧
      history (log ++ later) = some st₂ ∧
      biRead st₁ T (-1) = biRead st₂ T (-1) ∧ biRead st₁ T 0 = biRead st₂ T 0 ∧
      biRead st₁ T (-1) = specRead (log ++ later) T ∧ biRead st₁ T 0 = specFirst (log ++ later) T :=
  (inv_remerge (h.inv hst) w hin).continue_eq hl T

-- the hypotheses are satisfiable with a version stamped EARLIER than the last one and a non-trivial continuation:
-- `3@10 (dates 1,2), 5@11, 3@12`, re-merge the first version (stamp 10), then continue with stamps 13, 13, 14
example : Ordered ([⟨10, [(1, some 3), (2, some 1)]⟩, ⟨11, [(1, some 5)]⟩, ⟨12, [(1, some 3)]⟩] ++
    [⟨13, [(1, some 3), (2, Option.none)]⟩, ⟨13, [(1, some 5)]⟩, ⟨14, [(2, some 1)]⟩]) :=
  ⟨by simp, by decide, by decide⟩
#guard (history [⟨10, [(1, some 3), (2, some 1)]⟩, ⟨11, [(1, some 5)]⟩, ⟨12, [(1, some 3)]⟩]).map
    (fun st => ([(1, some 3), (2, some 1)] : TS).all fun p => st.contains ⟨p.1, 10, p.2⟩) = some true

/-- `merge_idem_future` with the hypothesis of `merge_idem` instead of "rows of the store": the re-merged `w` is a version of the
    log whose values are NaN or the values visible as of its stamp (by `earlier_version_visible`: every version that no
    same-stamp successor contradicts). -/
theorem merge_idem_future_visible (log : List Version) (h : Ordered log) (st : Store) (hst : history log = some st) (w : Version)
    (hw : w ∈ log)
    (hvis : ∀ p ∈ w.ts, ∃ y, (p.1, y) ∈ biRead st (some w.stamp) (-1) ∧ (p.2 = Option.none ∨ p.2 = y))
    (later : List Version) (hl : Ordered (log ++ later)) (T : Option Int) :
    ∃ st₁ st₂, later.foldl (fun s v => some (biMerge s (Bi v.ts v.stamp))) (some (biMerge (some st) (Bi w.ts w.stamp))) = some st₁ ∧
      history (log ++ later) = some st₂ ∧
      biRead st₁ T (-1) = biRead st₂ T (-1) ∧ biRead st₁ T 0 = biRead st₂ T 0 ∧
      biRead st₁ T (-1) = specRead (log ++ later) T ∧ biRead st₁ T 0 = specFirst (log ++ later) T :=
  (inv_remerge_visible (h.inv hst) w (fun p hp => mem_logRows.mpr ⟨w, hw, p, hp, rfl⟩) hvis).continue_eq hl T

-- `earlier_version_visible` on a version in the middle whose row is NOT a row of the store (`5@11` repeats `5@10` and is compressed away)
example : Ordered ([⟨10, [(1, some 5)]⟩] ++ ⟨11, [(1, some 5)]⟩ :: [⟨11, [(1, Option.none)]⟩, ⟨12, [(1, some 7)]⟩]) :=
  ⟨by simp, by decide, by decide⟩
#guard (history [⟨10, [(1, some 5)]⟩, ⟨11, [(1, some 5)]⟩, ⟨11, [(1, Option.none)]⟩, ⟨12, [(1, some 7)]⟩]) =
  some [⟨1, 10, some 5⟩, ⟨1, 12, some 7⟩]

/-- `Remerged st ws st'`: starting from the store `st` the versions `ws` are merged again one after the other, each of them being in
    the store AT THAT MOMENT (every row of it is a row of the current store); `st'` is the store after the last of them -/
inductive Remerged : Store → List Version → Store → Prop
  | nil (st : Store) : Remerged st [] st
  | cons {st st' : Store} (w : Version) {ws : List Version} (hin : ∀ p ∈ w.ts, (⟨p.1, w.stamp, p.2⟩ : Row) ∈ st)
      (rest : Remerged (biMerge (some st) (Bi w.ts w.stamp)) ws st') : Remerged st (w :: ws) st'

theorem inv_remerged {st st' : Store} {log : List Version} {ws : List Version} (hr : Remerged st ws st')
    (h : Inv st (logRows log)) : Inv st' (logRows log) := by
  induction hr with
  | nil => exact h
  | cons w hin _ ih => exact ih (inv_remerge h w hin)

/-- **idempotence, n-fold**: after re-merging any number of stored versions (each one in the store when it is merged again; stamps
    in any order, the same version several times) the history goes on as if none of the re-merges had happened: with any
    stamp-ordered continuation `later` every read is the fold of `log ++ later`. -/
theorem merge_idem_many (log : List Version) (h : Ordered log) (st : Store) (hst : history log = some st)
    (ws : List Version) (st' : Store) (hws : Remerged st ws st')
    (later : List Version) (hl : Ordered (log ++ later)) (T : Option Int) :
    ∃ st₁, later.foldl (fun s v => some (biMerge s (Bi v.ts v.stamp))) (some st') = some st₁ ∧
      biRead st₁ T (-1) = specRead (log ++ later) T ∧ biRead st₁ T 0 = specFirst (log ++ later) T :=
  (inv_remerged hws (h.inv hst)).continue hl.stamps T

/-- the case without continuation: the store after the re-merges reads as the store before them -/
theorem merge_idem_many_reads (log : List Version) (h : Ordered log) (st : Store) (hst : history log = some st)
    (ws : List Version) (st' : Store) (hws : Remerged st ws st') (T : Option Int) :
    biRead st' T (-1) = biRead st T (-1) ∧ biRead st' T 0 = biRead st T 0 := by
  obtain ⟨r1, f1⟩ := (inv_remerged hws (h.inv hst)).reads h.stamps T
  obtain ⟨r2, f2⟩ := h.reads hst T
  exact ⟨r1.trans r2.symm, f1.trans f2.symm⟩

/-- `Remerged` as a computation, for `#guard` -/
def remergeChain (st : Store) : List Version → Option Store
  | [] => some st
  | w :: ws => if w.ts.all (fun p => decide ((⟨p.1, w.stamp, p.2⟩ : Row) ∈ st)) then remergeChain (biMerge (some st) (Bi w.ts w.stamp)) ws
      else Option.none

theorem remerged_of_chain (st : Store) (ws : List Version) (st' : Store) (h : remergeChain st ws = some st') : Remerged st ws st' := by
  induction ws generalizing st with
  | nil => simp only [remergeChain, Option.some.injEq] at h; subst h; exact .nil _
  | cons w ws ih =>
    simp only [remergeChain] at h
    split at h
    · rename_i hall
      exact .cons w (fun p hp => by simpa using List.all_eq_true.mp hall p hp) (ih _ h)
    · cases h

-- satisfiable, non-trivially: `3@10 (dates 1,2), 5@11, 3@12`; re-merge the version stamped 12, then the one stamped 10, then 12 again
#guard ((history [⟨10, [(1, some 3), (2, some 1)]⟩, ⟨11, [(1, some 5)]⟩, ⟨12, [(1, some 3)]⟩]).bind fun st =>
    remergeChain st [⟨12, [(1, some 3)]⟩, ⟨10, [(1, some 3), (2, some 1)]⟩, ⟨12, [(1, some 3)]⟩]).isSome
-- and a version that was overridden under its own stamp is NOT re-mergeable in this sense (`5@10, 6@10`: the row `5@10` is gone)
#guard ((history [⟨10, [(1, some 5)]⟩, ⟨10, [(1, some 6)]⟩]).bind fun st => remergeChain st [⟨10, [(1, some 5)]⟩]).isNone

/-- one `bi_merge` call of an interleaved history: a NEW version, or a version merged AGAIN -/
inductive Step
  | new (v : Version)
  | again (w : Version)

def Step.version : Step → Version
  | .new v => v
  | .again w => w

/-- the publications of an interleaved history: the new versions, in merge order (the re-merges publish nothing) -/
def news : List Step → List Version
  | [] => []
  | .new v :: ss => v :: news ss
  | .again _ :: ss => news ss

/-- the store after the calls: every step, new or again, is the same call `bi_merge(store, Bi(ts, stamp))` -/
def runSteps (st : Store) (ss : List Step) : Store :=
  ss.foldl (fun s x => biMerge (some s) (Bi x.version.ts x.version.stamp)) st

/-- `Interleaved pub st ss`: from the store `st` (publications so far: `pub`) every `again w` step of `ss` merges a version that is in the
    store AT THAT MOMENT - all its rows are rows of the current store - or a version published so far whose values are NaN or the
    values visible as of its stamp in the current store. -/
def Interleaved (pub : List Version) (st : Store) : List Step → Prop
  | [] => True
  | .new v :: ss => Interleaved (pub ++ [v]) (biMerge (some st) (Bi v.ts v.stamp)) ss
  | .again w :: ss =>
      ((∀ p ∈ w.ts, (⟨p.1, w.stamp, p.2⟩ : Row) ∈ st) ∨
        (w ∈ pub ∧ ∀ p ∈ w.ts, ∃ y, (p.1, y) ∈ biRead st (some w.stamp) (-1) ∧ (p.2 = Option.none ∨ p.2 = y))) ∧
      Interleaved pub (biMerge (some st) (Bi w.ts w.stamp)) ss

theorem inv_interleaved (ss : List Step) : ∀ (pub : List Version) (st : Store), Inv st (logRows pub) →
    SortedLe (logRows (pub ++ news ss)) → Interleaved pub st ss → Inv (runSteps st ss) (logRows (pub ++ news ss)) := by
  induction ss with
  | nil => intro pub st h _ _; simpa [news, runSteps] using h
  | cons s ss ih =>
    intro pub st h hs hi
    cases s with
    | new v =>
      simp only [news] at hs ⊢
      rw [List.append_cons] at hs ⊢
      have hs1 : SortedLe (logRows pub ++ Bi v.ts v.stamp) := by
        rw [logRows_append, logRows_append, logRows_single] at hs; exact (List.pairwise_append.mp hs).1
      exact ih _ _ (by rw [logRows_append, logRows_single]; exact inv_merge h hs1) hs hi
    | again w =>
      obtain ⟨hw, hi'⟩ := hi
      refine ih pub _ ?_ hs hi'
      rcases hw with hin | ⟨hmem, hvis⟩
      · exact inv_remerge h w hin
      · exact inv_remerge_visible h w (fun p hp => mem_logRows.mpr ⟨w, hmem, p, hp, rfl⟩) hvis

/-- **idempotence, fully interleaved**: in a history that goes on after `log`, any call may be the merge of a version that is
    already there - `again w`, at any position between the new versions, any number of them, stamps in any order, also versions
    published after `log` - as long as each is in the store when it is merged again (`Interleaved`).  The final store then reads,
    default read and first read, as the history in which none of these calls was made: the fold of `log ++ news ss`.
    (`merge_idem_future` / `merge_idem_many` are the cases `again* new*`.) -/
theorem merge_idem_interleaved (log : List Version) (h : Ordered log) (st : Store) (hst : history log = some st)
    (ss : List Step) (hi : Interleaved log st ss) (hl : Ordered (log ++ news ss)) (T : Option Int) :
    ∃ st₂, history (log ++ news ss) = some st₂ ∧
      biRead (runSteps st ss) T (-1) = biRead st₂ T (-1) ∧ biRead (runSteps st ss) T 0 = biRead st₂ T 0 ∧
      biRead (runSteps st ss) T (-1) = specRead (log ++ news ss) T ∧ biRead (runSteps st ss) T 0 = specFirst (log ++ news ss) T := by
  obtain ⟨r1, f1⟩ := (inv_interleaved ss log st (h.inv hst) (logRows_sorted _ hl.stamps) hi).reads hl.stamps T
  obtain ⟨st₂, e2, i2⟩ := history_inv hl
  obtain ⟨r2, f2⟩ := i2.reads hl.stamps T
  exact ⟨st₂, e2, r1.trans r2.symm, f1.trans f2.symm, r1, f1⟩

/-- `Interleaved` as a computation, for `#guard` -/
def interleavedChk (pub : List Version) (st : Store) : List Step → Bool
  | [] => true
  | .new v :: ss => interleavedChk (pub ++ [v]) (biMerge (some st) (Bi v.ts v.stamp)) ss
  | .again w :: ss =>
      (w.ts.all (fun p => decide ((⟨p.1, w.stamp, p.2⟩ : Row) ∈ st)) ||
        (pub.any (fun v => v.stamp == w.stamp && v.ts == w.ts) && w.ts.all fun p => (biRead st (some w.stamp) (-1)).any fun q => q.1 == p.1 && (p.2 == Option.none || p.2 == q.2))) &&
      interleavedChk pub (biMerge (some st) (Bi w.ts w.stamp)) ss

theorem interleaved_of_chk (ss : List Step) : ∀ (pub : List Version) (st : Store), interleavedChk pub st ss = true → Interleaved pub st ss := by
  induction ss with
  | nil => intros; trivial
  | cons s ss ih =>
    intro pub st h
    cases s with
    | new v => exact ih _ _ h
    | again w =>
      simp only [interleavedChk, Bool.and_eq_true, Bool.or_eq_true] at h
      refine ⟨?_, ih _ _ h.2⟩
      rcases h.1 with h1 | ⟨hc, h2⟩
      · exact Or.inl fun p hp => by simpa using List.all_eq_true.mp h1 p hp
      · have hmem : w ∈ pub := by
          obtain ⟨v, hv, he⟩ := List.any_eq_true.mp hc
          simp only [Bool.and_eq_true, beq_iff_eq] at he
          cases v; cases w; simp only at he; obtain ⟨rfl, rfl⟩ := he; exact hv
        refine Or.inr ⟨hmem, fun p hp => ?_⟩
        obtain ⟨q, hq, hqp⟩ := List.any_eq_true.mp (List.all_eq_true.mp h2 p hp)
        simp only [Bool.and_eq_true, Bool.or_eq_true, beq_iff_eq] at hqp
        exact ⟨q.2, by rw [← hqp.1]; exact hq, hqp.2⟩

-- satisfiable, non-trivially: `3@10 (dates 1,2), 5@11`; then 10 again, NEW `3@12`, 12 again (rows in the store), NEW `3@13` (a repeat: compressed away),
-- 13 again (published and visible, its row is NOT in the store), 10 again, NEW `7@13`
def ilDemo : List Step := [.again ⟨10, [(1, some 3), (2, some 1)]⟩, .new ⟨12, [(1, some 3)]⟩, .again ⟨12, [(1, some 3)]⟩, .new ⟨13, [(1, some 3)]⟩,
  .again ⟨13, [(1, some 3)]⟩, .again ⟨10, [(1, some 3), (2, some 1)]⟩, .new ⟨13, [(1, some 7)]⟩]
#guard ((history [⟨10, [(1, some 3), (2, some 1)]⟩, ⟨11, [(1, some 5)]⟩]).map fun st => interleavedChk [⟨10, [(1, some 3), (2, some 1)]⟩, ⟨11, [(1, some 5)]⟩] st ilDemo) = some true
example : Ordered ([⟨10, [(1, some 3), (2, some 1)]⟩, ⟨11, [(1, some 5)]⟩] ++ news ilDemo) := ⟨by simp [news, ilDemo], by decide, by decide⟩
#guard ((history [⟨10, [(1, some 3), (2, some 1)]⟩, ⟨11, [(1, some 5)]⟩]).map fun st => biRead (runSteps st ilDemo) Option.none (-1)) = some [(1, some 7), (2, some 1)]
-- not satisfiable for a version overridden under its own stamp (`5@10, 6@10`, again `5@10`): neither in the store nor visible
#guard ((history [⟨10, [(1, some 5)]⟩, ⟨10, [(1, some 6)]⟩]).map fun st =>
    interleavedChk [⟨10, [(1, some 5)]⟩, ⟨10, [(1, some 6)]⟩] st [.again ⟨10, [(1, some 5)]⟩]) = some false

/-- **batches**: `bi_merge` also takes a LIST of new versions in one call.  However a stamp-ordered history is cut
    into such calls, the store answers as-of reads and first reads as the full publication log does. -/
theorem read_spec_batches (batches : List (List Version)) (h : Ordered batches.flatten) (T : Option Int) :
    ∃ st, historyL batches = some st ∧ biRead st T (-1) = specRead batches.flatten T ∧
      biRead st T 0 = specFirst batches.flatten T := by
  obtain ⟨st, hst, hi⟩ := historyL_inv h
  exact ⟨st, hst, hi.reads h.stamps T⟩

theorem history_eq_batches (log : List Version) : history log = historyL (log.map fun v => [v]) := by
  unfold history historyL
  rw [List.foldl_map]
  congr 1
  funext st v
  cases st <;> rfl

/-! ### histories as the code runs them: `bi_merge` of two empty frames raises (`history` is total) -/

/-- **when a history returns**: `historyE` is an error exactly for a history whose first two versions are both empty (the second
    `bi_merge` call concatenates no group); every other history returns the store `history` describes. -/
theorem historyE_eq (log : List Version) :
    historyE log = if 2 ≤ log.length ∧ ∀ v ∈ log.take 2, v.ts = [] then .error .value else .ok (history log) := by
  match log with
  | [] => rfl
  | [v] => rfl
  | v1 :: v2 :: rest =>
    have hc : (2 ≤ (v1 :: v2 :: rest).length ∧ ∀ v ∈ (v1 :: v2 :: rest).take 2, v.ts = []) ↔
        Bi v1.ts v1.stamp ++ Bi v2.ts v2.stamp = [] := by simp [Bi_eq_nil]
    have e : historyE (v1 :: v2 :: rest) = rest.foldl mergeStepE (mergeStepE (.ok (some (Bi v1.ts v1.stamp))) v2) := rfl
    rw [e, mergeStepE_some]
    by_cases hb : Bi v1.ts v1.stamp ++ Bi v2.ts v2.stamp = []
    · rw [if_pos hb, if_pos (hc.mpr hb), foldl_mergeStepE_error]
    · rw [if_neg hb, if_neg (mt hc.mp hb), historyE_foldl_ok rest _ (mergeFrames_ne_nil _ _ hb)]
      rfl

/-- **refinement for the histories that return**: `read_spec` and `read_first` on `historyE` -/
theorem read_spec_returns (log : List Version) (h : Ordered log) (hne : log.length < 2 ∨ ∃ v ∈ log.take 2, v.ts ≠ [])
    (T : Option Int) :
    ∃ st, historyE log = .ok (some st) ∧ biRead st T (-1) = specRead log T ∧ biRead st T 0 = specFirst log T := by
  obtain ⟨st, hst, hi⟩ := history_inv h
  refine ⟨st, ?_, hi.reads h.stamps T⟩
  rw [historyE_eq, if_neg, hst]
  rintro ⟨h2, hall⟩
  rcases hne with hlt | ⟨v, hv, hvne⟩
  · omega
  · exact hvne (hall v hv)

/-- an `Ordered` history whose first two versions are both empty raises: the theorems about `history` do not speak about it -/
theorem historyE_raises (log : List Version) (h2 : 2 ≤ log.length) (hall : ∀ v ∈ log.take 2, v.ts = []) :
    historyE log = .error .value := by
  rw [historyE_eq, if_pos ⟨h2, hall⟩]

example : Ordered [⟨10, []⟩, ⟨11, []⟩] ∧ historyE [⟨10, []⟩, ⟨11, []⟩] = .error .value :=
  ⟨⟨by simp, by decide, by decide⟩, historyE_raises _ (by simp) (by simp)⟩

/-! ### batches as the code runs them: `historyLE` folds the raising `biMergeLE` that the driver compares with the code -/

/-- some `bi_merge` call of the batch history raises: a non-empty batch `b` brings the number of versions to two or more while all
    of them - those of the earlier calls `pre` and those of `b` - are empty series (`pd.concat([])`, `_bitemporal.py:289`) -/
def BatchRaises (batches : List (List Version)) : Prop :=
  ∃ pre b post, batches = pre ++ b :: post ∧ b ≠ [] ∧ 2 ≤ (pre.flatten ++ b).length ∧ ∀ v ∈ pre.flatten ++ b, v.ts = []

theorem batchRaises_iff (batches : List (List Version)) : BatchRaises batches ↔ RaisesFrom [] batches := by
  simp only [BatchRaises, RaisesFrom, CallRaises, List.nil_append]

/-- **when a history of batches returns**: `historyLE` is the `ValueError` exactly when some call raises (`BatchRaises`: the call
    that makes it two or more versions, all empty); every other history returns the store `historyL` describes. -/
theorem historyLE_eq (batches : List (List Version)) :
    (BatchRaises batches → historyLE batches = .error .value) ∧
    (¬ BatchRaises batches → historyLE batches = .ok (historyL batches)) := by
  rw [batchRaises_iff, historyLE_eq_foldl, historyL_eq]
  exact historyLE_foldl batches Option.none [] ⟨by simp, by intro s hs; cases hs⟩

/-- a history of batches whose very first version is not empty never raises -/
theorem not_batchRaises_of_first (batches : List (List Version)) (v : Version) (hv : batches.flatten.head? = some v)
    (hne : v.ts ≠ []) : ¬ BatchRaises batches := by
  rintro ⟨pre, b, post, rfl, hb, _, hall⟩
  have hp : pre.flatten ++ b ≠ [] := by simp [hb]
  have e : (pre ++ b :: post).flatten = (pre.flatten ++ b) ++ post.flatten := by simp
  rw [e, List.head?_append] at hv
  cases hh : (pre.flatten ++ b).head? with
  | none => exact hp (List.head?_eq_none_iff.mp hh)
  | some u =>
    rw [hh, Option.some_or, Option.some.injEq] at hv
    subst hv
    exact hne (hall u (List.mem_of_mem_head? (by rw [hh]; rfl)))

/-- **refinement for the batch histories that return**: `read_spec_batches` on `historyLE`.  (`read_spec_batches` speaks of the
    total `historyL`, also on histories on which the code raises.) -/
theorem read_spec_batches_returns (batches : List (List Version)) (h : Ordered batches.flatten) (hne : ¬ BatchRaises batches)
    (T : Option Int) :
    ∃ st, historyLE batches = .ok (some st) ∧ biRead st T (-1) = specRead batches.flatten T ∧
      biRead st T 0 = specFirst batches.flatten T := by
  obtain ⟨st, hst, hr⟩ := read_spec_batches batches h T
  exact ⟨st, by rw [(historyLE_eq batches).2 hne, hst], hr⟩

/-- an `Ordered` batch history on which the code raises: `[[10: empty, 11: empty], [12: ...]]` is `Ordered`, `read_spec_batches`
    yields a store for it, the code (and `historyLE`) raise -/
theorem historyLE_raises : ∃ batches, Ordered batches.flatten ∧ historyLE batches = .error .value ∧
    ∃ st, historyL batches = some st := by
  have ho : Ordered ([[⟨10, []⟩, ⟨11, []⟩], [⟨12, [(1, some 5)]⟩]] : List (List Version)).flatten :=
    ⟨List.cons_ne_nil _ _, by decide, by decide⟩
  refine ⟨_, ho, ?_, (read_spec_batches _ ho Option.none).imp fun _ h => h.1⟩
  exact (historyLE_eq _).1 ⟨[], [⟨10, []⟩, ⟨11, []⟩], [[⟨12, [(1, some 5)]⟩]], rfl, List.cons_ne_nil _ _, by decide, by decide⟩

-- the hypotheses of `read_spec_batches_returns` on a history with an empty version inside a later batch
example : Ordered ([[⟨10, [(1, some 5)]⟩], [⟨11, []⟩, ⟨11, [(1, Option.none), (2, some 7)]⟩], []] : List (List Version)).flatten ∧
    ¬ BatchRaises [[⟨10, [(1, some 5)]⟩], [⟨11, []⟩, ⟨11, [(1, Option.none), (2, some 7)]⟩], []] :=
  ⟨⟨by simp, by decide, by decide⟩, not_batchRaises_of_first _ ⟨10, [(1, some 5)]⟩ rfl (by simp)⟩

/-! ## evaluation tests (`List.mergeSort` does not reduce in the kernel, so these are `#guard`s) -/

/-- same-stamp override, NaN that must not override, a revert, a date that appears late -/
def demo : List Version :=
  [⟨10, [(1, some 5), (2, none), (3, some 1)]⟩, ⟨10, [(1, some 6), (2, none)]⟩,
   ⟨12, [(1, none), (2, some 7), (3, some 2), (4, none)]⟩, ⟨12, [(3, some 1)]⟩]

#guard (history demo).map (fun st => biRead st (some 9) (-1)) == some []
#guard (history demo).map (fun st => biRead st (some 10) (-1)) == some [(1, some 6), (2, none), (3, some 1)]
#guard (history demo).map (fun st => biRead st (some 11) (-1)) == some (specRead demo (some 11))
#guard (history demo).map (fun st => biRead st Option.none (-1)) == some [(1, some 6), (2, some 7), (3, some 1), (4, none)]
#guard (history demo).map (fun st => biRead st Option.none 0) == some [(1, some 6), (2, none), (3, some 1), (4, none)]
#guard (history demo).map (fun st => biRead st Option.none 0) == some (specFirst demo Option.none)
-- the hypothesis of `merge_idem` holds for the last version and for the (not overridden) second one ...
#guard (history demo).map (fun st => [demo[3]!, demo[1]!].all fun w => w.ts.all fun p =>
    (biRead st (some w.stamp) (-1)).any fun q => q.1 == p.1 && (p.2 == Option.none || p.2 == q.2)) == some true
-- ... and fails for the first version, which the second one (same stamp) has overridden: re-merging it changes a read
#guard (history demo).map (fun st => demo[0]!.ts.all fun p =>
    (biRead st (some 10) (-1)).any fun q => q.1 == p.1 && (p.2 == Option.none || p.2 == q.2)) == some false
#guard (history demo).map (fun st => biRead (biMerge (some st) (Bi demo[0]!.ts 10)) (some 10) (-1)) ==
    some [(1, some 5), (2, none), (3, some 1)]

-- no look-ahead is a statement about `what = -1` (`no_lookahead`) and `what = 0` (`no_lookahead_first`) only.  For the other
-- selectors it is false of the store design: a revert merged under the stamp of the version it reverts (`6@12` then `5@12` after
-- `5@11`) leaves the row (12, 5) that repeats its predecessor; the NEXT merge - whatever its stamp - drops it (`_drop_repeats`
-- line 149-153), so "the one before last as of 12" (`what = -2`) changes from 5 to 3 when a version stamped 14 arrives.  The
-- statement of C17 names `bi_read(store, asof=T)` and `what=0` only; the implementation agrees with the model on these lines.
def revertDemo : List Version := [⟨10, [(1, some 3)]⟩, ⟨11, [(1, some 5)]⟩, ⟨12, [(1, some 6)]⟩, ⟨12, [(1, some 5)]⟩]
#guard (history revertDemo).map (fun st => biRead st (some 13) (-2)) == some [(1, some 5)]
#guard (history (revertDemo ++ [⟨14, [(1, some 9)]⟩])).map (fun st => biRead st (some 13) (-2)) == some [(1, some 3)]
#guard (history (revertDemo ++ [⟨14, [(1, some 9)]⟩])).map (fun st => (biRead st (some 13) (-1), biRead st (some 13) 0)) ==
    (history revertDemo).map (fun st => (biRead st (some 13) (-1), biRead st (some 13) 0))

-- the same history handed over in batches (one call with two versions, an empty call, one call with two more)
#guard (historyL [[demo[0]!, demo[1]!], [], [demo[2]!, demo[3]!]]).map (fun st => biRead st Option.none (-1)) ==
    some (specRead demo Option.none)
#guard (historyL [demo]).map (fun st => biRead st (some 10) 0) == some (specFirst demo (some 10))

/-! ## the state-machine view: the concrete state is the stored frame, the abstract state the list of all published rows in
    merge order -/

/-- **the store invariant**: per observation date the stored rows are strictly increasing in stamp - stamps in order and ONE row
    per (date, stamp) - and NaN rows come first (once a value has been published for a date no later row of the date is NaN).
    ("No two consecutive equal values" is NOT part of it: it is false of the store, `no_consecutive_repeats_fails`.) -/
structure bi_store_invariant (st : Store) : Prop where
  stamps_increasing : ∀ d, (group d st).Pairwise (fun a b => a.stamp < b.stamp)
  nan_first : ∀ d, (group d st).Pairwise (fun a b => b.val = Option.none → a.val = Option.none)

theorem bi_store_invariant_iff_good (st : Store) : bi_store_invariant st ↔ Good st :=
  ⟨fun h d => ⟨h.1 d, h.2 d⟩, fun h => ⟨fun d => (h d).1, fun d => (h d).2⟩⟩

theorem invariant_one_row_per_date_stamp (st : Store) (h : bi_store_invariant st) (a b : Row) (ha : a ∈ st) (hb : b ∈ st)
    (hd : a.date = b.date) (hs : a.stamp = b.stamp) : a = b := by
  have hp := h.stamps_increasing a.date
  have ha' : a ∈ group a.date st := mem_group.mpr ⟨ha, rfl⟩
  have hb' : b ∈ group a.date st := mem_group.mpr ⟨hb, hd.symm⟩
  generalize group a.date st = l at hp ha' hb'
  obtain ⟨i, hi, ei⟩ := List.mem_iff_getElem.mp ha'
  obtain ⟨j, hj, ej⟩ := List.mem_iff_getElem.mp hb'
  rw [List.pairwise_iff_getElem] at hp
  rcases Nat.lt_trichotomy i j with hij | hij | hij
  · have := hp i j hi hj hij; rw [ei, ej] at this; omega
  · subst hij; rw [← ei, ← ej]
  · have := hp j i hj hi hij; rw [ei, ej] at this; omega

/-- the weak form the read uses -/
theorem invariant_stamps_nondecreasing (st : Store) (h : bi_store_invariant st) (d : Int) :
    (group d st).Pairwise (fun a b => a.stamp ≤ b.stamp) :=
  (h.stamps_increasing d).imp (by intro a b hab; omega)

/-- **init**: a frame with one row per date (`Bi` of a series, with a date, a bump or `'shift'`) has the invariant -/
theorem invariant_init (f : Store) (h : (f.map (·.date)).Nodup) : bi_store_invariant f :=
  (bi_store_invariant_iff_good f).mpr (good_of_nodup f h)

/-- **every merge establishes the invariant** - whatever the two frames are, in whatever stamp order -/
theorem invariant_merge (old new : Store) : bi_store_invariant (biMerge (some old) new) :=
  (bi_store_invariant_iff_good _).mpr (mergeFrames_good old new)

/-- **the invariant is sufficient for the reads**: a store with the invariant answers the default read, the first read and
    `what='last'` as the fold of its OWN visible rows - no reference to how it was built -/
theorem invariant_read (st : Store) (h : bi_store_invariant st) (T : Option Int) :
    biRead st T (-1) = specReadR st T ∧ biRead st T 0 = specFirstR st T ∧ biReadS st T .last = specReadR st T := by
  have hg := (bi_store_invariant_iff_good st).mp h
  obtain ⟨r1, r2, r3, _⟩ := reads_of_specEq hg (SpecEq.refl st) hg.le T
  rw [specReadR_eq, specFirstR_eq]
  exact ⟨r1, r2, r3⟩

/-- the abstraction relation: the store has the invariant, holds published rows only, and per date every as-of cut of the store
    folds to what the same cut of the publication log folds to; the log is in stamp order per date -/
def Refines (st rows : Store) : Prop := Inv st rows ∧ ∀ d, SortedLe (group d rows)

/-- **refinement, init**: the first frame is returned as it is (`bi_merge(None, new)`) and refines itself -/
theorem refines_init (f : Store) (h : bi_store_invariant f) : Refines f f :=
  ⟨⟨(bi_store_invariant_iff_good f).mp h, SpecEq.refl _, fun _ hr => hr⟩,
   fun d => ((bi_store_invariant_iff_good f).mp h d).1.le⟩

/-- **refinement, step**: merging a frame whose rows are, per date, stamped no earlier than what was published for that date
    before (and in stamp order among themselves) corresponds to appending its rows to the log -/
theorem refines_merge (st rows new : Store) (h : Refines st rows)
    (hs : ∀ d, (group d (rows ++ new)).Pairwise (fun a b => a.stamp ≤ b.stamp)) :
    Refines (biMerge (some st) new) (rows ++ new) :=
  ⟨inv_merge_cols h.1 hs, hs⟩

/-- **refinement, observation**: a store that refines a log reads as the log folds, and has the invariant -/
theorem refines_read (st rows : Store) (h : Refines st rows) (T : Option Int) :
    bi_store_invariant st ∧ biRead st T (-1) = specReadR rows T ∧ biRead st T 0 = specFirstR rows T ∧
      biReadS st T .last = specReadR rows T := by
  obtain ⟨r1, r2, r3, _⟩ := reads_of_specEq h.1.good h.1.specEq h.2 T
  rw [specReadR_eq, specFirstR_eq]
  exact ⟨(bi_store_invariant_iff_good st).mpr h.1.good, r1, r2, r3⟩

/-- a history of stamped frames: non-empty, the first frame has one row per date, and per
    date the stamps are non-decreasing in merge order.  Later frames may hold a date twice (read as two publications). -/
structure OrderedF (fs : List Store) : Prop where
  ne : fs ≠ []
  first : ∀ f ∈ fs.head?, (f.map (·.date)).Nodup
  cols : ∀ d, (group d fs.flatten).Pairwise (fun a b => a.stamp ≤ b.stamp)

/-- **refinement, history**: the store after a history of stamped frames refines the list of all published rows -/
theorem refines_history (fs : List Store) (h : OrderedF fs) : ∃ st, historyF fs = some st ∧ Refines st fs.flatten := by
  match fs, h with
  | [], h => exact absurd rfl h.ne
  | f :: rest, h =>
    obtain ⟨st, hst, hi⟩ := historyF_inv f rest (good_of_nodup f (h.first f rfl)) h.cols
    exact ⟨st, hst, hi, h.cols⟩

/-- **refinement for stamped frames**: whatever stamps the rows of the versions carry (`Bi` with a date, a bump, `'shift'`), if per
    date the stamps are non-decreasing in merge order the store reads as the fold of all published rows - default read, first
    read and `what='last'`. -/
theorem read_spec_frames (fs : List Store) (h : OrderedF fs) (T : Option Int) :
    ∃ st, historyF fs = some st ∧ bi_store_invariant st ∧ biRead st T (-1) = specReadR fs.flatten T ∧
      biRead st T 0 = specFirstR fs.flatten T ∧ biReadS st T .last = specReadR fs.flatten T := by
  obtain ⟨st, hst, hr⟩ := refines_history fs h
  exact ⟨st, hst, refines_read st _ hr T⟩

/-- **unsorted / repeated dates inside a version**: `read_spec` needs neither sorted dates nor - after the first
    version - distinct dates.  For every non-empty log in stamp order whose FIRST version has no date twice, the store reads as
    the log folds (a date held twice by a later version counts as two publications, the later row winning). -/
theorem read_spec_any_index (log : List Version) (hne : log ≠ [])
    (hfirst : ∀ v ∈ log.head?, v.ts.index.Nodup) (hs : log.Pairwise (fun a b => a.stamp ≤ b.stamp)) (T : Option Int) :
    ∃ st, history log = some st ∧ bi_store_invariant st ∧ biRead st T (-1) = specRead log T ∧
      biRead st T 0 = specFirst log T ∧ biReadS st T .last = specRead log T := by
  have hfl := frames_flatten log
  have ho : OrderedF (frames log) := by
    refine ⟨by simpa [frames] using hne, ?_, ?_⟩
    · intro f hf
      rw [frames, List.head?_map] at hf
      obtain ⟨v, hv, rfl⟩ := Option.map_eq_some_iff.mp hf
      rw [Bi_dates]
      exact hfirst v hv
    · intro d
      rw [hfl]
      exact (logRows_sorted log hs).sublist List.filter_sublist
  obtain ⟨st, hst, hr⟩ := read_spec_frames _ ho T
  rw [hfl] at hr
  exact ⟨st, (history_eq_historyF log).trans hst, hr⟩

example : ∃ st, history [⟨10, [(3, some 1), (1, some 2)]⟩, ⟨11, [(1, some 5), (1, none), (1, some 6)]⟩] = some st :=
  (read_spec_any_index _ (by simp) (by decide) (by decide) Option.none).imp fun _ h => h.1

/-- **string selector 'last'**: on every store built by a stamp-ordered history `what='last'` is the default read -/
theorem read_str_last (log : List Version) (h : Ordered log) (T : Option Int) :
    ∃ st, history log = some st ∧ biReadS st T .last = biRead st T (-1) ∧ biReadS st T .last = specRead log T := by
  obtain ⟨st, hst, _, r1, _, r3⟩ := read_spec_any_index log h.ne
    (by
      intro v hv
      have hm : v ∈ log := List.mem_of_mem_head? hv
      exact (h.wf v hm).imp (by intro a b hab; omega))
    h.stamps T
  exact ⟨st, hst, by rw [r3, r1], r3⟩

/-- **string selector 'first'** = the integer selector `what = k`, `k` the number of leading NaN rows of the date (clamped as
    `_nth` clamps): the first non-NaN value the store holds for the date, NaN if it holds none.  For every store. -/
theorem read_str_first (st : Store) (T : Option Int) :
    biReadS st T .first = (dates (sortStamp (st.filter (vis T)))).map fun d =>
      (d, nthVal (leadingNan (group d (sortStamp (st.filter (vis T))))) (group d (sortStamp (st.filter (vis T))))) := by
  rw [biReadS_eq]
  apply List.map_congr_left
  intro d _
  simp only [Sel.apply, firstNonNan_eq_nthVal]

/-- every entry of a `'first'` read is an entry of some integer read `what = k ≥ 0` -/
theorem read_str_first_is_int (st : Store) (T : Option Int) (d : Int) (y : Option Int)
    (h : (d, y) ∈ biReadS st T .first) : ∃ k : Nat, (d, y) ∈ biRead st T k := by
  rw [read_str_first, List.mem_map] at h
  obtain ⟨d', hd', he⟩ := h
  refine ⟨leadingNan (group d' (sortStamp (st.filter (vis T)))), ?_⟩
  rw [biRead_eq, List.mem_map]
  exact ⟨d', hd', he⟩

/-! ### `Bi` with a bump or `'shift'`: what is published is the series, only the stamps differ -/

theorem BiBump_rows (ts : TS) (delta now : Int) (r : Row) :
    r ∈ BiBump ts delta now ↔ ∃ p ∈ ts, r.date = p.1 ∧ r.val = p.2 ∧ r.stamp = min (p.1 + delta) now := by
  rw [mem_BiBump]
  constructor
  · rintro ⟨p, hp, rfl⟩; exact ⟨p, hp, rfl, rfl, rfl⟩
  · rintro ⟨p, hp, h1, h2, h3⟩; exact ⟨p, hp, by cases r; simp_all⟩

/-- no row is stamped in the future -/
theorem BiBump_capped (ts : TS) (delta now : Int) (r : Row) (h : r ∈ BiBump ts delta now) : r.stamp ≤ now := by
  obtain ⟨p, _, rfl⟩ := mem_BiBump.mp h
  exact Int.min_le_right _ _

/-- **a publisher that stamps with a bump**: versions `Bi(ts_i, bump)` created at times `now_1 ≤ now_2 ≤ ...` and merged in that
    order need no further hypothesis - per date the stamps `min(date + bump, now_i)` are automatically in order - so the store
    reads as the fold of all published rows. -/
theorem read_spec_bump (delta : Int) (log : List (TS × Int)) (hne : log ≠ [])
    (hfirst : ∀ v ∈ log.head?, v.1.index.Nodup) (hnow : log.Pairwise (fun a b => a.2 ≤ b.2)) (T : Option Int) :
    ∃ st, historyF (log.map fun v => BiBump v.1 delta v.2) = some st ∧ bi_store_invariant st ∧
      biRead st T (-1) = specReadR (log.map fun v => BiBump v.1 delta v.2).flatten T ∧
      biRead st T 0 = specFirstR (log.map fun v => BiBump v.1 delta v.2).flatten T := by
  have ho : OrderedF (log.map fun v => BiBump v.1 delta v.2) := by
    refine ⟨by simpa using hne, ?_, cols_of_pairwise _ ?_ ?_⟩
    · intro f hf
      rw [List.head?_map] at hf
      obtain ⟨v, hv, rfl⟩ := Option.map_eq_some_iff.mp hf
      rw [BiBump_dates]
      exact hfirst v hv
    · -- inside a version the rows of one date carry one stamp
      intro f hf d
      obtain ⟨v, _, rfl⟩ := List.mem_map.mp hf
      refine List.pairwise_of_forall_mem_list fun a ha b hb => ?_
      rw [BiBump_stamp (mem_group.mp ha).1, BiBump_stamp (mem_group.mp hb).1, (mem_group.mp ha).2, (mem_group.mp hb).2]
      exact Int.le_refl _
    · rw [List.pairwise_map]
      refine hnow.imp fun {v w} hvw a ha b hb hab => ?_
      rw [BiBump_stamp ha, BiBump_stamp hb, hab]
      omega
  obtain ⟨st, hst, hi, r1, r2, _⟩ := read_spec_frames _ ho T
  exact ⟨st, hst, hi, r1, r2⟩

theorem BiShift_dates (ts : TS) (now : Int) : (BiShift ts now).map (·.date) = ts.index := by
  unfold BiShift TS.index
  have hl : ∀ (ts : TS) (ss : List Int), ts.length ≤ ss.length →
      (List.zipWith (fun (p : Int × Option Int) s => (⟨p.1, s, p.2⟩ : Row)) ts ss).map (·.date) = ts.map (·.1) := by
    intro ts
    induction ts with
    | nil => intro ss _; simp
    | cons p ts ih =>
      intro ss hss
      cases ss with
      | nil => simp at hss
      | cons s ss => simp [List.zipWith_cons_cons, ih ss (by simpa using hss)]
  apply hl
  simp; omega

/-- `'shift'`: every row but the last is stamped with the next date of the series, the last with `now`; the published (date,
    value) pairs are those of the series -/
theorem BiShift_rows (p q : Int × Option Int) (rest : TS) (now : Int) :
    BiShift (p :: q :: rest) now = ⟨p.1, q.1, p.2⟩ :: BiShift (q :: rest) now ∧ BiShift [p] now = [⟨p.1, now, p.2⟩] := by
  constructor <;> simp [BiShift]

example : OrderedF [BiShift [(1, some 5), (2, some 6)] 3, BiShift [(1, some 5), (2, some 7), (3, none)] 4] :=
  ⟨by simp, by decide, by
    apply cols_of_pairwise
    · intro f hf d
      refine List.Pairwise.sublist List.filter_sublist ?_
      revert f
      decide
    · decide⟩

theorem revertDemo_store :
    history revertDemo = some [⟨1, 10, some 3⟩, ⟨1, 11, some 5⟩, ⟨1, 12, some 5⟩] := by
  have e1 : mergeFrames [[(⟨1, 10, some 3⟩ : Row)], [⟨1, 11, some 5⟩]] = [⟨1, 10, some 3⟩, ⟨1, 11, some 5⟩] := by
    rw [mergeFrames_single 1 _ _ (by decide) (by decide) (by unfold SortedLe; decide)]; decide
  have e2 : mergeFrames [[(⟨1, 10, some 3⟩ : Row), ⟨1, 11, some 5⟩], [⟨1, 12, some 6⟩]] =
      [⟨1, 10, some 3⟩, ⟨1, 11, some 5⟩, ⟨1, 12, some 6⟩] := by
    rw [mergeFrames_single 1 _ _ (by decide) (by decide) (by unfold SortedLe; decide)]; decide
  have e3 : mergeFrames [[(⟨1, 10, some 3⟩ : Row), ⟨1, 11, some 5⟩, ⟨1, 12, some 6⟩], [⟨1, 12, some 5⟩]] =
      [⟨1, 10, some 3⟩, ⟨1, 11, some 5⟩, ⟨1, 12, some 5⟩] := by
    rw [mergeFrames_single 1 _ _ (by decide) (by decide) (by unfold SortedLe; decide)]; decide
  simp only [history, revertDemo, List.foldl_cons, List.foldl_nil, biMerge, Bi, List.map_cons, List.map_nil, e1, e2, e3]

/-- **"no two consecutive equal visible values" is not an invariant**: after `3@10, 5@11, 6@12, 5@12` - a revert
    merged under the stamp of the version it reverts - the store holds `5@11` directly followed by `5@12`:
    `drop_duplicates(keep='last')` runs AFTER the repeat test and removes the `6@12` that separated them.  The reads the
    property names are unaffected (`read_spec`); `what=-2` sees the difference. -/
theorem no_consecutive_repeats_fails :
    ∃ log, Ordered log ∧ ∃ st, history log = some st ∧ bi_store_invariant st ∧
      ∃ pre a b post, group 1 st = pre ++ a :: b :: post ∧ a.val = b.val ∧ a.val ≠ Option.none := by
  have ho : Ordered revertDemo := ⟨by simp [revertDemo], by decide, by decide⟩
  refine ⟨revertDemo, ho, _, revertDemo_store, ?_, ?_⟩
  · exact (bi_store_invariant_iff_good _).mpr (ho.inv revertDemo_store).good
  · exact ⟨[⟨1, 10, some 3⟩], ⟨1, 11, some 5⟩, ⟨1, 12, some 5⟩, [], by decide, rfl, by simp⟩

/-! ## frames with several value columns.  `_drop_repeats` works per ROW: the mask is `repeats.min(axis=1)` (a row is dropped
    only if EVERY column repeats its forward-filled predecessor) and the rows kept are the RAW rows, not the forward-filled ones.
    So the per-column restatement of `read_spec` is FALSE for frames (model and code, probes in docs/notes/C17.md): the theorems
    below are the witnesses, and `frame_one_column` ties the frame model to the series model for width 1. -/

/-- `_drop_repeats` is per row: the row after the first is kept iff SOME column's forward-filled value differs from (or is NaN
    like) the forward-filled value above it - stated on two rows -/
theorem frame_mask_per_row (a b : RowF) (h : a.stamp ≠ b.stamp) :
    dropRepeatsF [a, b] = if allRepeat (List.zipWith Option.or b.vals a.vals) a.vals then [a] else [a, b] := by
  have h' : (b.stamp == a.stamp) = false := by simpa using fun e => h e.symm
  by_cases hr : allRepeat (List.zipWith Option.or b.vals a.vals) a.vals = true
  · simp [dropRepeatsF, ffillF, ffillFromF, hr, keepLastF]
  · simp only [Bool.not_eq_true] at hr
    simp [dropRepeatsF, ffillF, ffillFromF, hr, keepLastF, h']

/-- two-column history: `(a, b) = (1, 1)` stamped 10, then `(NaN, 2)` stamped 11 -/
def frameDemo : List (Int × TSF) := [(10, [(1, [some 1, some 1])]), (11, [(1, [Option.none, some 2])])]

theorem frameDemo_store : historyFF frameDemo = some [⟨1, 10, [some 1, some 1]⟩, ⟨1, 11, [Option.none, some 2]⟩] := by
  have e1 : mergeFramesF [[(⟨1, 10, [some 1, some 1]⟩ : RowF)], [⟨1, 11, [Option.none, some 2]⟩]] =
      [⟨1, 10, [some 1, some 1]⟩, ⟨1, 11, [Option.none, some 2]⟩] := by
    rw [mergeFramesF_single 1 _ _ (by decide) (by decide) (by decide)]; decide
  simp only [historyFF, frameDemo, List.foldl_cons, List.foldl_nil, biMergeF, BiF, List.map_cons, List.map_nil, e1]

/-- **the per-column `read_spec` fails on frames (default read)**: column `a` published `1` and then NaN - under a later stamp, in a
    row whose column `b` changed.  The row is kept RAW, so the default read shows NaN for `a`: "a NaN never overrides an earlier
    value" does not hold column by column.  The per-column log fold is `1`; `what='last'` does return `(1, 2)`. -/
theorem frame_default_read_nan_overrides :
    ∃ st, historyFF frameDemo = some st ∧
      biReadF st Option.none (-1) = [(1, [Option.none, some 2])] ∧
      specReadR (colF 0 (logRowsF frameDemo)) Option.none = [(1, some 1)] ∧
      biReadFS 2 st Option.none .last = [(1, [some 1, some 2])] := by
  refine ⟨_, frameDemo_store, ?_, ?_, ?_⟩
  · rw [biReadF_single 1 _ (by decide) (by decide) (by decide)]; decide
  · rw [specReadR_single 1 _ (by decide) (by decide)]; decide
  · rw [biReadFS_single 2 1 _ (by decide) (by decide) (by decide)]; decide

/-- `(1, 1)` stamped 10, `(5, 1)` stamped 11, `(NaN, 2)` stamped 11 again -/
def frameDemo2 : List (Int × TSF) :=
  [(10, [(1, [some 1, some 1])]), (11, [(1, [some 5, some 1])]), (11, [(1, [Option.none, some 2])])]

theorem frameDemo2_store : historyFF frameDemo2 = some [⟨1, 10, [some 1, some 1]⟩, ⟨1, 11, [Option.none, some 2]⟩] := by
  have e1 : mergeFramesF [[(⟨1, 10, [some 1, some 1]⟩ : RowF)], [⟨1, 11, [some 5, some 1]⟩]] =
      [⟨1, 10, [some 1, some 1]⟩, ⟨1, 11, [some 5, some 1]⟩] := by
    rw [mergeFramesF_single 1 _ _ (by decide) (by decide) (by decide)]; decide
  have e2 : mergeFramesF [[(⟨1, 10, [some 1, some 1]⟩ : RowF), ⟨1, 11, [some 5, some 1]⟩], [⟨1, 11, [Option.none, some 2]⟩]] =
      [⟨1, 10, [some 1, some 1]⟩, ⟨1, 11, [Option.none, some 2]⟩] := by
    rw [mergeFramesF_single 1 _ _ (by decide) (by decide) (by decide)]; decide
  simp only [historyFF, frameDemo2, List.foldl_cons, List.foldl_nil, biMergeF, BiF, List.map_cons, List.map_nil, e1, e2]

/-- **... and `what='last'` loses a published value when two versions share a stamp**: `a = 5` was published under stamp 11, the
    same-stamp successor `(NaN, 2)` replaces the whole ROW (`drop_duplicates(keep='last')`), and `5` is gone from the store:
    `what='last'` reads `a = 1`, the per-column log fold is `5`. -/
theorem frame_last_loses_value :
    ∃ st, historyFF frameDemo2 = some st ∧
      biReadFS 2 st Option.none .last = [(1, [some 1, some 2])] ∧
      specReadR (colF 0 (logRowsF frameDemo2)) Option.none = [(1, some 5)] := by
  refine ⟨_, frameDemo2_store, ?_, ?_⟩
  · rw [biReadFS_single 2 1 _ (by decide) (by decide) (by decide)]; decide
  · rw [specReadR_single 1 _ (by decide) (by decide)]; decide

/-! ### what DOES hold column by column: histories in which, per date, every version carries a NEW stamp -/

/-- a frame history with `w` value columns in which, per observation date, the stamps strictly increase in merge order (no two
    versions holding a date share a stamp) -/
structure OrderedFF (w : Nat) (log : List (Int × TSF)) : Prop where
  ne : log ≠ []
  width : ∀ r ∈ logRowsF log, r.vals.length = w
  cols : ∀ d, (groupF d (logRowsF log)).Pairwise (fun a b => a.stamp < b.stamp)

/-- **frames, column by column (`what='last'`)**: if per date every version carries a new stamp, `bi_read(store, asof=T,
    what='last')` is, in EVERY column, the fold of that column's publications stamped `≤ T` - the per-column `read_spec`.
    (With a shared stamp it fails: `frame_last_loses_value`.) -/
theorem frame_read_last_columns (w : Nat) (log : List (Int × TSF)) (h : OrderedFF w log) (T : Option Int) :
    ∃ st, historyFF log = some st ∧ ∀ c, c < w →
      (biReadFS w st T .last).map (fun p => (p.1, (p.2[c]?).join)) = specReadR (colF c (logRowsF log)) T := by
  obtain ⟨st, hst, hcols⟩ := historyFF_cols w log h.ne h.width h.cols
  refine ⟨st, hst, fun c hc => ?_⟩
  obtain ⟨hs, he⟩ := hcols c hc
  have := biReadFS_col c w hc st T .last
  simp only [cell] at this
  rw [this, biReadS_perDate _ hs, specReadR_eq]
  exact perDate_congr he T fun d hc => (lastNonNan_eq_lastVal _).trans hc.lastVal_eq

/-- **frames, default read**: under the same hypothesis every non-NaN cell of the default read is the per-column fold; a NaN
    cell may hide an earlier value of its column (`frame_default_read_nan_overrides`) -/
theorem frame_default_read_cells (w : Nat) (log : List (Int × TSF)) (h : OrderedFF w log) (T : Option Int) :
    ∃ st, historyFF log = some st ∧ ∀ c, c < w → ∀ d vs x, (d, vs) ∈ biReadF st T (-1) → (vs[c]?).join = some x →
      (d, some x) ∈ specReadR (colF c (logRowsF log)) T := by
  obtain ⟨st, hst, hcols⟩ := historyFF_cols w log h.ne h.width h.cols
  refine ⟨st, hst, fun c hc d vs x hmem hx => ?_⟩
  obtain ⟨hs, he⟩ := hcols c hc
  have hm : (d, some x) ∈ biRead (colF c st) T (-1) := by
    rw [← biReadF_col, List.mem_map]
    exact ⟨(d, vs), hmem, by simp only [cell, hx]⟩
  have := mem_biRead_some_perDate _ hs T d x hm
  rwa [specReadR_eq, ← perDate_congr he T fun d hc => hc.lastVal_eq]

example : OrderedFF 2 frameDemo :=
  ⟨by simp [frameDemo], by decide, fun d => List.Pairwise.sublist List.filter_sublist (by decide)⟩

/-- **string selector 'first'**: on every stamp-ordered history `bi_read(store, asof=T, what='first')` is, per date published by
    `T`, NaN if nothing non-NaN was published by `T`, and otherwise the fold of the publications stamped no later than the date's
    first non-NaN publication - with distinct stamps literally the first non-NaN value published (`firstNonNanSpec_sortedLt`);
    versions sharing that stamp override each other as they do for every read (cf. C17-K1). -/
theorem read_str_first_spec (log : List Version) (h : Ordered log) (T : Option Int) :
    ∃ st, history log = some st ∧ biReadS st T .first = specFirstS (logRows log) T := by
  obtain ⟨st, hst, hi⟩ := history_inv h
  rw [specFirstS_eq]
  exact ⟨st, hst, (reads_of_specEq hi.good hi.specEq (fun d => (logRows_sorted log h.stamps).sublist List.filter_sublist) T).2.2.2⟩

/-- the same for stamped frames (`Bi` with bumps / `'shift'`, dates in any order) -/
theorem read_str_first_frames (fs : List Store) (h : OrderedF fs) (T : Option Int) :
    ∃ st, historyF fs = some st ∧ biReadS st T .first = specFirstS fs.flatten T := by
  obtain ⟨st, hst, hi, hr⟩ := refines_history fs h
  rw [specFirstS_eq]
  exact ⟨st, hst, (reads_of_specEq hi.good hi.specEq hr T).2.2.2⟩

#guard (history demo).map (fun st => biReadS st Option.none .first) == some (specFirstS (logRows demo) Option.none)
#guard (history demo).map (fun st => biReadS st Option.none .first) == some [(1, some 6), (2, some 7), (3, some 1), (4, none)]
#guard (history demo).map (fun st => biReadS st (some 11) .last) == some (specRead demo (some 11))

/-! ### a frame with one value column is the series model: the theorems about series transfer to one-column frames -/

/-- the one-column frame version of a series version -/
def embVersion (v : Version) : Int × TSF := (v.stamp, v.ts.map fun p => (p.1, [p.2]))

/-- **one-column frames**: the frame model run on one-column versions builds exactly the image of the series store, and every
    integer read of it is the series read with each value wrapped in a one-cell row - for all histories, read times, selectors -/
theorem frame_one_column (log : List Version) :
    historyFF (log.map embVersion) = (history log).map emb ∧
    ∀ (st : Store) (T : Option Int) (n : Int), biReadF (emb st) T n = (biRead st T n).map fun p => (p.1, [p.2]) := by
  refine ⟨?_, fun st T n => biReadF_emb st T n⟩
  have hBi : ∀ v : Version, BiF (embVersion v).2 (embVersion v).1 = emb (Bi v.ts v.stamp) := by
    intro v; simp [BiF, Bi, emb, embVersion, embRow, List.map_map, Function.comp_def]
  have key : ∀ (l : List Version) (acc : Option Store),
      (l.map embVersion).foldl (fun st v => some (biMergeF st (BiF v.2 v.1))) (acc.map emb) =
        (l.foldl (fun st v => some (biMerge st (Bi v.ts v.stamp))) acc).map emb := by
    intro l
    induction l with
    | nil => intro acc; rfl
    | cons v l ih =>
      intro acc
      simp only [List.map_cons, List.foldl_cons, hBi, biMergeF_emb]
      exact ih (some (biMerge acc (Bi v.ts v.stamp)))
  exact key log Option.none

end Pyg.Props.C17
