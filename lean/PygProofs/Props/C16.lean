/- C16 — `ulist`, `dictattr` and `Dict`. -/
import PygModel.DictAdd
import PygProofs.Lemmas.DictCallOrder
import PygProofs.Lemmas.DAHeapLemmas
import PygProofs.Lemmas.TreeMerge

namespace Pyg.Props.C16
open Pyg Pyg.USet Pyg.DA Pyg.DictCall

section ulist
variable {α : Type} [DecidableEq α]

/-- the constructor keeps exactly the elements, each once, in first-occurrence order -/
theorem ulist_mk (xs : List α) :
    (mk xs).Nodup ∧ (∀ a, a ∈ mk xs ↔ a ∈ xs) ∧ (mk xs).Sublist xs :=
  ⟨mk_nodup xs, fun a => mem_mk a xs, mk_sublist xs⟩

/-- first-occurrence order, compositional form: elements of a prefix come first -/
theorem ulist_first_occurrence (xs ys : List α) :
    mk (xs ++ ys) = mk xs ++ (mk ys).filter (· ∉ xs) := mk_append xs ys

theorem ulist_mk_of_nodup (xs : List α) (h : xs.Nodup) : mk xs = xs := mk_of_nodup xs h

/-- invariant over ANY history of operations (including the trusted `unique=True` fast path used by
`copy`, `u + x` for a present `x` and `u & x`, and the inherited IN-PLACE list operations `append extend += insert
u[i] = x *=`): no handle ever holds a duplicate -/
theorem ulist_nodup (ops : List (Op α)) : ∀ u ∈ run ops, u.Nodup :=
  List.foldl_preserves (P := fun heap : List (List α) => ∀ u ∈ heap, u.Nodup) (fun heap op _ => step_nodup heap op)
    (fun _ h => nomatch h)

/-- what the in-place operations leave in their target: the plain list operation followed by the constructor's
first-occurrence rule — `u.append(x)` / `u += xs` / `u.extend(xs)` are the ordered union (as `u + x`), `u *= n` keeps `u`
(`n ≥ 1`) or empties it -/
theorem ulist_inplace (u xs : List α) (x : α) (n : Nat) (hu : u.Nodup) :
    inplace u (.append 0 x) = some (addList u [x]) ∧ inplace u (.extend 0 xs) = some (addList u xs) ∧
    inplace u (.iadd 0 xs) = some (addList u xs) ∧ inplace u (.imul 0 (n + 1)) = some u ∧
    inplace u (.imul 0 0) = some [] := by
  refine ⟨rfl, rfl, rfl, congrArg some ?_, rfl⟩
  -- the copies after the first contribute nothing new
  show mk (u ++ repeatN u n) = u
  rw [mk_append, mk_of_nodup u hu, List.append_right_eq_self, List.filter_eq_nil_iff]
  intro a ha
  induction n with
  | zero => cases ha
  | succ n ih =>
    rcases List.mem_append.1 ((mem_mk a _).1 ha) with h | h
    · simpa using h
    · exact ih ((mem_mk a _).2 h)

/-- earlier handles are never changed by a later operation, except the target of an in-place operation (the frame
property the harness re-checks on the real objects after every operation) -/
theorem ulist_frame (heap : List (List α)) (op : Op α) (i : Nat) (hi : i < heap.length)
    (ht : op.target ≠ some i) : (step heap op)[i]? = heap[i]? :=
  (step_effect heap op).frame hi ht

/-- `u + xs` / `u | xs` is the ordered union -/
theorem ulist_union (u xs : List α) (hu : u.Nodup) :
    addList u xs = u ++ (mk xs).filter (· ∉ u) := addList_eq u xs hu

/-- `u - xs` is the ordered difference -/
theorem ulist_diff (u xs : List α) (hu : u.Nodup) : subList u xs = u.filter (· ∉ xs) := subList_eq u xs hu

/-- `u & xs` is the ordered intersection -/
theorem ulist_inter (u xs : List α) (hu : u.Nodup) : andList u xs = u.filter (· ∈ xs) := andList_eq u xs hu

/-- a single element behaves as the one-element list -/
theorem ulist_elem (u : List α) (x : α) (hu : u.Nodup) :
    addElem u x = addList u [x] ∧ subElem u x = subList u [x] ∧ andElem u x = andList u [x] :=
  ⟨addElem_eq u x hu, subElem_eq u x hu, andElem_eq u x hu⟩

/-- `u[i] = x` for an `x` that is new to `u`: the plain list assignment (the new element lands at index `i`, nothing else moves) -/
theorem ulist_setI_fresh (u : List α) (i : Nat) (x : α) (hu : u.Nodup) (hi : i < u.length) (hx : x ∉ u) :
    inplace u (.setI 0 i x) = some (u.set i x) := by
  simp only [inplace, hi, if_true, mk_of_nodup _ (List.nodup_set_fresh u i x hu hx)]

theorem ulist_setI_same (u : List α) (i : Nat) (hu : u.Nodup) (hi : i < u.length) :
    inplace u (.setI 0 i u[i]) = some u := by
  simp only [inplace, hi, if_true, List.set_getElem_self, mk_of_nodup u hu]

theorem ulist_setI_index (u : List α) (i : Nat) (x : α) (hi : ¬ i < u.length) : inplace u (.setI 0 i x) = none := by
  simp [inplace, hi]

theorem ulist_insert_fresh (u : List α) (i : Nat) (x : α) (hu : u.Nodup) (hx : x ∉ u) :
    inplace u (.insert 0 i x) = some (insertAt u i x) := by
  simp only [inplace, mk_of_nodup _ (nodup_insertAt_fresh u i x hu hx)]

/-- every in-place operation: it raises exactly when the list operation raises; otherwise the target holds no duplicate, holds
exactly the members of the list operation's result, in the order of their first occurrences there -/
theorem ulist_inplace_spec (u : List α) (op : Op α) :
    (inplace u op = none ↔ listOp u op = none) ∧
    ∀ r l, inplace u op = some r → listOp u op = some l →
      r.Nodup ∧ (∀ y, y ∈ r ↔ y ∈ l) ∧ r.Sublist l ∧ r = mk l := by
  rw [inplace_eq]
  cases listOp u op with
  | none => exact ⟨Iff.rfl, fun _ _ h => nomatch h⟩
  | some l' =>
    refine ⟨⟨(fun h => nomatch h), fun h => nomatch h⟩, fun r l hr hl => ?_⟩
    cases hr; cases hl
    exact ⟨mk_nodup l', fun y => mem_mk y l', mk_sublist l', rfl⟩
-- the constructor, the operators on lists, and a history of operators (handles 0-4), evaluated
example : mk [1, 3, 2, 1, 3, 4] = [1, 3, 2, 4] := by decide
example : addList [1, 3, 2] [4, 1, 5] = [1, 3, 2, 4, 5] ∧ subList [1, 3, 2] [1, 3, 4] = [2] ∧
    andList [1, 3, 2] [1, 3, 4] = [1, 3] := by decide
-- the hypothesis `u.Nodup` of the operator theorems, for the `u` just used
example : ([1, 3, 2] : List Nat).Nodup := by decide
example : run [Op.new [1, 1, 2], .addE 0 3, .subL 1 [1, 9], .andH 1 2, .copy 3] =
    [[1, 2], [1, 2, 3], [2, 3], [2, 3], [2, 3]] := by decide
/-- in-place ulist operations keep the members unique: `u = ulist([1, 2]); u += [1, 2, 3]; u.append(1); u.insert(0, 3)` -/
example : run [Op.new [1, 2], .iadd 0 [1, 2, 3], .append 0 1, .insert 0 0 3, .setI 0 5 9, .imul 0 2] = [[3, 1, 2]] := by decide
-- `ulist_setI_fresh` applied: its three hypotheses are met
example : ulist_setI_fresh [1, 2, 3] 1 9 (by decide) (by decide) (by decide) = (rfl : inplace [1, 2, 3] (.setI 0 1 9) = some [1, 9, 3]) := rfl
-- `u *= 2`: the plain list operation repeats the members, the ulist keeps each once
example : listOp [1, 2] (.imul 0 2) = some [1, 2, 1, 2] ∧ inplace [1, 2] (.imul 0 2 : Op Nat) = some [1, 2] := by decide

end ulist

section dictattr
variable {V : Type}

/-- `d - key`, `d - keys`, `d & keys`, `d + other` for a receiver that is no `Dict` (`add`), `relabel` and `d[[..]]` return a
mapping with the receiver's class tag (in the model `type(self)(..)` is `{ d with items := .. }`, so all but two parts hold
by definition) -/
theorem class_preserved (d : D V) (k : String) (ks : List String) (o : List (String × V))
    (m : List (String × String)) :
    (subKey d k).cls = d.cls ∧ (subKeys d ks).cls = d.cls ∧ (andKeys d ks).cls = d.cls ∧
    (add d o).cls = d.cls ∧ (relabel d m).cls = d.cls ∧
    (∀ r, getList d ks = .ok r → r.cls = d.cls) := by
  refine ⟨rfl, by rw [subKeys_eq], rfl, rfl, rfl, fun r h => ?_⟩
  rw [getList_eq] at h
  split at h
  · cases h; rfl
  · cases h

/-- `d - key` -/
theorem sub_key (d : D V) (j : String) :
    keys (subKey d j) = (keys d).filter (· ≠ j) ∧
    ∀ k, lookup k (subKey d j).items = if k = j then none else lookup k d.items :=
  ⟨keys_subKey d j, fun k => lookup_filter_ne k j d.items⟩

/-- `d - keys`: exactly the other keys, in order, values untouched (`(d - k).keys() == d.keys() - k`) -/
theorem sub_keys (d : D V) (ks : List String) :
    keys (subKeys d ks) = (keys d).filter (· ∉ ks) ∧
    ∀ k, lookup k (subKeys d ks).items = if k ∈ ks then none else lookup k d.items :=
  ⟨keys_subKeys ks d, fun k => lookup_subKeys k ks d⟩

/-- `d & keys`: exactly the listed keys that are present, in the order of `d`, values untouched -/
theorem and_keys (d : D V) (ks : List String) (hd : (keys d).Nodup) :
    keys (andKeys d ks) = (keys d).filter (· ∈ ks) ∧
    ∀ k, lookup k (andKeys d ks).items = if k ∈ ks then lookup k d.items else none := by
  have hm : (d.items.filter (·.1 ∈ ks)).map (·.1) = (keys d).filter (· ∈ ks) := by
    simp only [keys, List.filter_map]; rfl
  have hn : ((d.items.filter (·.1 ∈ ks)).map (·.1)).Nodup := by
    rw [hm]; exact hd.sublist List.filter_sublist
  have e : (andKeys d ks).items = d.items.filter (·.1 ∈ ks) := setAll_nil_of_nodup _ hn
  constructor
  · simp only [keys, e]; exact hm
  · intro k; rw [e]; exact lookup_filter_mem k ks d.items

/-- `d + other` / `d | other` of `dictattr` and of every subclass that is no `Dict` (`add`; for `Dict` see `add_class`, `dict_add_is_merge` below) is
`{**d, **other}`: the (last) value of `other` wins, everything else of `d` is kept -/
theorem add_lookup (d : D V) (o : List (String × V)) (k : String) :
    lookup k (add d o).items = (lookup k o.reverse <|> lookup k d.items) :=
  lookup_setAll k o d.items

theorem add_keys (d : D V) (o : List (String × V)) (k : String) :
    k ∈ keys (add d o) ↔ k ∈ keys d ∨ k ∈ o.map (·.1) := by
  rw [keys, add, keys_setAll_append, List.mem_append, List.mem_filter, mem_mk, decide_eq_true_eq]
  exact ⟨Or.imp_right And.left, fun h => (Classical.em (k ∈ keys d)).imp_right fun hn => ⟨h.resolve_left hn, hn⟩⟩

/-- `d[k1, k2, …]` is the list of those values, `KeyError` as soon as one key is absent -/
theorem getitem_tuple (d : D V) (ks : List String) :
    (∀ vs, getTuple d ks = .ok vs ↔ ks.map (fun k => lookup k d.items) = vs.map some) ∧
    (getTuple d ks = .error .key ↔ ∃ k ∈ ks, lookup k d.items = none) := by
  rw [getTuple_eq]
  refine ⟨fun vs => ?_, ?_⟩
  · rw [Res.ite_eq_ok, List.map_eq_map_some_iff]
  · rw [Res.ite_eq_error, all_isSome_eq_false]
    exact and_iff_right rfl

/-- `relabel` with new names that do not collide: same values under the new keys, in the same order -/
theorem relabel_keys (d : D V) (m : List (String × String))
    (hn : ((keys d).map fun k => (lookup k m).getD k).Nodup) :
    (relabel d m).items = d.items.map fun kv => ((lookup kv.1 m).getD kv.1, kv.2) := by
  apply setAll_nil_of_nodup
  simpa [keys, List.map_map, Function.comp_def] using hn

/-- `relabel` for ANY relabelling, collisions included (`relabel_keys` needs distinct new names), stated through the
observation `lookup`: under a name `k'` the result holds the value of the LAST item of `d` whose key is renamed to `k'` (python's dict construction: the later assignment wins), and nothing under a name no key is renamed to.
With a collision a value of `d` is therefore lost (`relabel_collision_loses`): the property's "exactly the expected keys and
untouched values" can only be read for collision-free relabellings, which is `relabel_keys`. -/
theorem relabel_lookup (d : D V) (m : List (String × String)) (k' : String) :
    lookup k' (relabel d m).items =
      lookup k' (d.items.map fun kv => ((lookup kv.1 m).getD kv.1, kv.2)).reverse :=
  lookup_setAll_nil k' _

/-- the keys of `relabel d m`, for any relabelling, are exactly the new names of the keys of `d` -/
theorem relabel_mem_keys (d : D V) (m : List (String × String)) (k' : String) :
    k' ∈ keys (relabel d m) ↔ ∃ k ∈ keys d, (lookup k m).getD k = k' := by
  rw [keys, relabel, keys_setAll_append, List.map_nil, List.nil_append, List.mem_filter, mem_mk, List.map_map, keys]
  constructor
  · rintro ⟨h, _⟩
    obtain ⟨kv, hkv, rfl⟩ := List.mem_map.1 h
    exact ⟨kv.1, List.mem_map_of_mem hkv, rfl⟩
  · rintro ⟨k, hk, rfl⟩
    obtain ⟨kv, hkv, rfl⟩ := List.mem_map.1 hk
    exact ⟨List.mem_map.2 ⟨kv, hkv, rfl⟩, decide_eq_true List.not_mem_nil⟩

/-- witness: relabelling `a` onto the existing key `b` loses `a`'s value - `dictattr(a=1, b=2).relabel(a='b') == {'b': 2}` -/
theorem relabel_collision_loses :
    (relabel (⟨2, [("a", (1 : Nat)), ("b", 2)]⟩ : D Nat) [("a", "b")]).items = [("b", 2)] := by decide

/-- `(d - ks).keys() == d.keys() - ks`, composed: the key list of the difference is the ulist difference of the key list -/
theorem sub_keys_ulist (d : D V) (ks : List String) (hd : (keys d).Nodup) :
    keys (subKeys d ks) = USet.subList (keys d) ks := by
  rw [(sub_keys d ks).1, ulist_diff _ _ hd]

/-- likewise `(d & ks).keys() == d.keys() & ks` -/
theorem and_keys_ulist (d : D V) (ks : List String) (hd : (keys d).Nodup) :
    keys (andKeys d ks) = USet.andList (keys d) ks := by
  rw [(and_keys d ks hd).1, ulist_inter _ _ hd]

/-- `d + other` for a receiver that is neither `Dict` nor a subclass of `Dict` (`isDictLike`: they inherit `Dict.__add__` =
`tree_update`, so `class D2(Dict)` merges too) — dictattr proper and its other subclasses — is `{**d, **other}` for ALL value types: also dict values are simply replaced -/
theorem add_class (d : D V) [TreeAdd V] (o : List (String × V)) (hc : isDictLike d.cls = false) : addC d o = .ok (add d o) := by
  simp [addC, hc, pure, Except.pure]

/-- `add_class` for the three class tags that are not `isDictLike`: plain dict (0), `dictattr` (2), a bare subclass of `dictattr` (3) -/
theorem add_class_tags (d : D V) [TreeAdd V] (o : List (String × V)) (hc : d.cls = 0 ∨ d.cls = 2 ∨ d.cls = 3) :
    addC d o = .ok (add d o) :=
  add_class d o (by rcases hc with h | h | h <;> simp [isDictLike, h])

/-- the key ORDER of `d + other` (dictattr proper, `{**d, **other}`): `d`'s keys in `d`'s order, then the keys new in `other`
in the order of their first occurrence there -/
theorem add_keys_order (d : D V) (o : List (String × V)) (hd : (keys d).Nodup) :
    keys (add d o) = keys d ++ (mk (o.map (·.1))).filter (· ∉ keys d) :=
  keys_setAll_append o d.items

/-- `d[[k1, k2, …]]`: it raises (`KeyError`, nothing else) iff a listed key is absent; otherwise the result has
the receiver's class, its keys are the listed keys in the order of their first occurrence in the LIST, each with `d`'s value -/
theorem getitem_list_full (d : D V) (ks : List String) :
    (getList d ks = .error .key ↔ ∃ k ∈ ks, lookup k d.items = none) ∧
    (∀ e, getList d ks = .error e → e = .key) ∧
    ∀ r, getList d ks = .ok r → r.cls = d.cls ∧ keys r = mk ks ∧
      ∀ k, lookup k r.items = if k ∈ ks then lookup k d.items else none := by
  rw [getList_eq]
  refine ⟨?_, fun e he => ((Res.ite_eq_error _ _ _ _).1 he).1, fun r hr => ?_⟩
  · rw [Res.ite_eq_error, all_isSome_eq_false]
    exact and_iff_right rfl
  · obtain ⟨h, rfl⟩ := (Res.ite_eq_ok _ _ _ _).1 hr
    refine ⟨rfl, ?_, fun k => ?_⟩
    · show (setAll [] _).map (·.1) = mk ks
      rw [keys_setAll _ [] List.nodup_nil, keys_select _ ks h]; rfl
    · rw [lookup_setAll_nil, lookup_select]

/-- `d[[k1, k2, …]]`: a mapping with exactly the listed keys and the values of `d` -/
theorem getitem_list (d : D V) (ks : List String) (r : D V) (h : getList d ks = .ok r) (k : String) :
    lookup k r.items = if k ∈ ks then lookup k d.items else none :=
  ((getitem_list_full d ks).2.2 r h).2.2 k

/-- the NEW name of key `k` under a relabelling map -/
def newName (m : List (String × String)) (k : String) : String := (lookup k m).getD k

/-- **the last colliding item wins** (`relabel_collision_loses` is one instance): under a name `k'` the
result of ANY relabelling holds the value of the item of `d` at position `i` whenever that item is renamed to `k'` and no LATER
item is.  Stated through the observation `lookup`, for all `d`, all maps, all positions. -/
theorem relabel_collision_last_wins (d : D V) (m : List (String × String)) (k' : String) (i : Nat) (hi : i < d.items.length)
    (hk : newName m d.items[i].1 = k')
    (hlast : ∀ j, (hj : j < d.items.length) → i < j → newName m d.items[j].1 ≠ k') :
    lookup k' (relabel d m).items = some d.items[i].2 := by
  rw [relabel_lookup]
  have h := lookup_reverse_of_last k' (d.items.map fun kv => ((lookup kv.1 m).getD kv.1, kv.2)) i
    (by rw [List.length_map]; exact hi)
  simp only [List.getElem_map, List.length_map] at h
  exact h hk hlast

/-- a callable `f`: a listed key `k` is renamed to `f k` -/
theorem newName_fn (ks : List String) (f : String → String) (k : String) (hk : k ∈ ks) :
    newName (relabelMap ks (.fn f) []) k = f k := by
  simp [newName, relabelMap, lookup_map_fn, hk]

theorem newName_prefix (ks : List String) (p k : String) (hk : k ∈ ks) (h1 : p.startsWith "_" = false)
    (h2 : p.endsWith "_" = true) : newName (relabelMap ks (.affix p) []) k = p ++ k := by
  rw [relabelMap_prefix ks [] h1 h2]
  exact newName_fn ks _ k hk

theorem newName_suffix (ks : List String) (p k : String) (hk : k ∈ ks) (h1 : p.startsWith "_" = true) :
    newName (relabelMap ks (.affix p) []) k = k ++ p := by
  rw [relabelMap_suffix ks [] h1]
  exact newName_fn ks _ k hk

/-- a string that neither starts nor ends with `_` relabels nothing -/
theorem newName_plain_string (ks : List String) (p k : String) (h1 : p.startsWith "_" = false)
    (h2 : p.endsWith "_" = false) : newName (relabelMap ks (.affix p) []) k = k := by
  rw [relabelMap_plain ks [] h1 h2]
  rfl

/-- a keyword overrides whatever the positional argument says (`res.update(relabels)` runs last) -/
theorem newName_kw (ks : List String) (arg : RelArg) (kw : List (String × String)) (k n : String)
    (h : lookup k kw = some n) : newName (relabelMap ks arg kw) k = n := by
  rw [newName, lookup_relabelMap, h]
  rfl

/-- a key that no keyword names is relabelled by the positional argument alone -/
theorem newName_no_kw (ks : List String) (arg : RelArg) (kw : List (String × String)) (k : String)
    (h : lookup k kw = none) : newName (relabelMap ks arg kw) k = newName (relabelMap ks arg []) k := by
  rw [newName, newName, lookup_relabelMap, h]
  rfl

/-- a dict argument is the keyword form -/
theorem relabelA_dict (d : D V) (m : List (String × String)) : relabelA d (.dict m) [] = relabel d m := by
  simp [relabelA, relabelMap]

/-- **`relabel` in any form, collision-free: exactly the renamed keys, untouched values, same order, same class** - stated
through `newName`, which the theorems above read off for a callable / prefix / suffix / keyword -/
theorem relabelA_items (d : D V) (arg : RelArg) (kw : List (String × String))
    (hn : ((keys d).map (newName (relabelMap (keys d) arg kw))).Nodup) :
    (relabelA d arg kw).items = d.items.map (fun kv => (newName (relabelMap (keys d) arg kw) kv.1, kv.2)) ∧
      (relabelA d arg kw).cls = d.cls :=
  ⟨relabel_keys d _ hn, rfl⟩

/-- `d.relabel(f)` for ANY callable: the items are assigned one after the other under the names `f key` -/
theorem relabelA_fn (d : D V) (f : String → String) :
    relabelA d (.fn f) [] = { d with items := setAll [] (d.items.map fun kv => (f kv.1, kv.2)) } := by
  rw [relabelA, relabel]
  congr 2
  apply List.map_congr_left
  intro kv hkv
  rw [show (lookup kv.1 _).getD kv.1 = f kv.1 from newName_fn (keys d) f kv.1 (List.mem_map.2 ⟨kv, hkv, rfl⟩)]

/-- `d.relabel(f)` for a callable that is injective on the keys of `d`: every item keeps its value and its place under `f key` -/
theorem relabel_fn_items (d : D V) (f : String → String) (hd : (keys d).Nodup)
    (hinj : ∀ a ∈ keys d, ∀ b ∈ keys d, f a = f b → a = b) :
    (relabelA d (.fn f) []).items = d.items.map fun kv => (f kv.1, kv.2) := by
  rw [relabelA_fn]
  apply setAll_nil_of_nodup
  have e : (d.items.map fun kv => (f kv.1, kv.2)).map (·.1) = (keys d).map f := by
    rw [keys, List.map_map, List.map_map]; rfl
  rw [e]
  exact List.pairwise_map.2 (List.Pairwise.imp_of_mem (fun ha hb hab h => hab (hinj _ ha _ hb h)) hd)

/-- `d.relabel('p_')`: prefixing is injective, so nothing is ever lost -/
theorem relabel_prefix_items (d : D V) (p : String) (hd : (keys d).Nodup) (h1 : p.startsWith "_" = false)
    (h2 : p.endsWith "_" = true) :
    (relabelA d (.affix p) []).items = d.items.map fun kv => (p ++ kv.1, kv.2) := by
  rw [relabelA, relabelMap_prefix _ [] h1 h2]
  exact relabel_fn_items d _ hd fun a _ b _ h => (String.append_right_inj p).1 h

/-- `d.relabel('_s')`: suffixing is injective too, so nothing is lost -/
theorem relabel_suffix_items (d : D V) (p : String) (hd : (keys d).Nodup) (h1 : p.startsWith "_" = true) :
    (relabelA d (.affix p) []).items = d.items.map fun kv => (kv.1 ++ p, kv.2) := by
  rw [relabelA, relabelMap_suffix _ [] h1]
  exact relabel_fn_items d _ hd fun a _ b _ h => (String.append_left_inj p).1 h

/-- a CONSTANT callable collapses `d` to one key holding the value of the LAST item (`d.relabel(lambda k: 'z')`) -/
theorem relabel_fn_const (d : D V) (c : String) (hne : d.items ≠ []) :
    keys (relabelA d (.fn fun _ => c) []) = [c] ∧
      lookup c (relabelA d (.fn fun _ => c) []).items = (d.items.getLast hne |>.2) := by
  rw [relabelA_fn]
  constructor
  · -- the first occurrence of `c` is kept, every later key is `c` again
    obtain ⟨x, xs, hd⟩ := List.exists_cons_of_ne_nil hne
    rw [keys, keys_setAll _ [] List.nodup_nil, hd]
    show mk (c :: _) = [c]
    rw [mk, List.filter_eq_nil_iff.2]
    intro a ha
    obtain ⟨kv, hkv, rfl⟩ := List.mem_map.1 ((mem_mk a _).1 ha)
    obtain ⟨_, _, rfl⟩ := List.mem_map.1 hkv
    simp
  · rw [lookup_setAll_nil]
    conv => lhs; rw [← List.dropLast_concat_getLast hne]
    rw [List.map_append, List.reverse_append]
    exact if_pos rfl

#guard (relabelA (⟨2, [("a", 1), ("b", 2)]⟩ : D Nat) (.affix "x_") []).items == [("x_a", 1), ("x_b", 2)]
#guard (relabelA (⟨2, [("a", 1), ("b", 2)]⟩ : D Nat) (.affix "_x") []).items == [("a_x", 1), ("b_x", 2)]
#guard (relabelA (⟨2, [("a", 1), ("b", 2)]⟩ : D Nat) (.affix "x") []).items == [("a", 1), ("b", 2)]
#guard (relabelA (⟨2, [("a", 1), ("b", 2)]⟩ : D Nat) (.fn fun k => k ++ k) [("b", "other")]).items == [("aa", 1), ("other", 2)]
#guard (relabelA (⟨2, [("a", 1), ("b", 2), ("c", 3)]⟩ : D Nat) (.names ["A", "B", "C"]) []).items == [("A", 1), ("B", 2), ("C", 3)]
#guard (relabelA (⟨2, [("a", 1), ("b", 2), ("c", 3)]⟩ : D Nat) (.names ["A", "B"]) []).items == [("a", 1), ("b", 2), ("c", 3)]
#guard (relabelA (⟨2, [("a", 1), ("b", 2), ("c", 3)]⟩ : D Nat) (.fn fun _ => "z") []).items == [("z", 3)]
#guard (relabelA (⟨2, [("a", 1), ("b", 2), ("c", 3)]⟩ : D Nat) (.dict [("a", "b")]) []).items == [("b", 2), ("c", 3)]
/-- the hypotheses of `relabel_collision_last_wins` on `dictattr(a=1, b=2, c=3).relabel(a='c')`: position 2 is the last item named `c` -/
example : lookup "c" (relabel (⟨2, [("a", (1 : Nat)), ("b", 2), ("c", 3)]⟩ : D Nat) [("a", "c")]).items = some 3 :=
  relabel_collision_last_wins _ _ "c" 2 (by decide) (by decide) (fun j hj hij => by simp at hj; omega)

end dictattr

section valued
open Pyg.Tree

/-- `Dict.__add__` keeps the keys of its result distinct (what the heap invariant `da_keys_nodup` needs) -/
instance : LawfulTreeAdd Val where
  keys_nodup a b r ha h := by
    simp only [TreeAdd.treeAdd, itemsToTree] at h
    split at h
    · cases h
    · split at h
      · cases h
      · cases h; exact foldl_setKVs_keys_nodup [] _ a ha

/-- `d + other` for `Dict` and every subclass of `Dict` (`class D2(Dict)` inherits `__add__`; `other` as in
`dict_add_is_merge`): the result keeps the receiver's class and is the recursive merge -/
theorem dictlike_add_is_merge (d : D Val) (o : List (String × Val)) (hc : isDictLike d.cls = true)
    (hw : wf (.dict o) = true) (hn : noEmpty (.dict o) = true) :
    addC d o = .ok ⟨d.cls, mergeKVs [] d.items o⟩ := by
  simp only [addC, hc, if_true, TreeAdd.treeAdd, itemsToTree_items [] d.items o hw hn, Except.map]

/-- with dict values in `other`, `Dict + other` is C15's recursive merge (`other` with distinct keys and no empty branch at
any depth): `Tree.mergeKVs`, characterised key by key by `Tree.lookup_mergeKVs` / `Tree.mergeAt_leaf` / `Tree.mergeAt_dict` — a dict
under the same key on both sides is merged, not replaced, so `d + o == {**d, **o}` does NOT hold there (see the `addC`
examples at the end of this section); the property text of C15 governs this case. -/
theorem dict_add_is_merge (d : D Val) (o : List (String × Val)) (hc : d.cls = 1)
    (hw : wf (.dict o) = true) (hn : noEmpty (.dict o) = true) :
    addC d o = .ok ⟨1, mergeKVs [] d.items o⟩ := by
  rw [dictlike_add_is_merge d o (by rw [hc]; rfl) hw hn, hc]

/-- `d + other == {**d, **other}` holds for `Dict` too when no value of `other` is a dict (`other` a python dict: distinct
keys), as it does for every other class — whatever `d` holds (a dict value of `d` is then replaced as a whole). -/
theorem dict_add_flat (d : D Val) (o : List (String × Val)) (ho : ∀ kv ∈ o, ∀ s, kv.2 ≠ .dict s)
    (hn : (o.map (·.1)).Nodup) : addC d o = .ok (add d o) := by
  by_cases hc : isDictLike d.cls = true
  · -- the leaf case of the recursive merge: merging leaves is one assignment per pair
    have hf := wf_noEmpty_of_leaves o ho
    rw [dictlike_add_is_merge d o hc ((wf_dict o).2 ⟨hn, hf.1⟩) hf.2, mergeKVs_flat o d.items ho]
    rfl
  · exact add_class d o (by simpa using hc)

/-- key by key: `Dict + other` differs from `{**d, **other}` only under keys that hold a dict on BOTH sides (there the
dicts are merged) — a leaf of `other`, or a dict of `other` over a leaf / a missing key of `d`, is taken as it is -/
theorem dict_add_lookup (d : D Val) (o : List (String × Val)) (hc : d.cls = 1)
    (hw : wf (.dict o) = true) (hn : noEmpty (.dict o) = true) (k : String) :
    ∃ r, addC d o = .ok r ∧ r.cls = 1 ∧
      lookup k r.items = match lookup k o, lookup k d.items with
        | some (.dict b), some (.dict a) => some (.dict (mergeKVs [] a b))
        | some v, _ => some v
        | none, x => x := by
  refine ⟨_, dict_add_is_merge d o hc hw hn, rfl, ?_⟩
  obtain ⟨hnd, hwk⟩ := (wf_dict o).1 hw
  rw [Tree.lookup_mergeKVs [] k o d.items hnd]
  cases hl : lookup k o with
  | none => rfl
  | some v =>
    cases v with
    | dict b =>
      -- merged into the branch `d` holds under `k`; over a leaf or a missing key that branch is empty and `b` is taken as it is
      have hb : mergeKVs [] [] b = b := mergeKVs_nil_left [] b (wf_of_mem o hwk (k, .dict b) (mem_of_lookup k _ o hl))
      show some (mergeAt [] k d.items (.dict b)) = _
      rw [mergeAt_dict, subOf]
      cases lookup k d.items with
      | none => rw [hb]
      | some old =>
        cases old with
        | dict a => rfl
        | _ => rw [hb]
    | _ =>
      show some (mergeAt [] k d.items _) = _
      rw [mergeAt_leaf]
      · cases lookup k d.items <;> rfl
      · exact fun _ e => nomatch e

/-- a present key is returned as it is (dots or not) -/
theorem getKeyD_present (d : D Val) (k : String) (v : Val) (h : lookup k d.items = some v) : getKeyD d k = .ok v := by
  simp [getKeyD, h, pure, Except.pure]

/-- on a key that `split('.')` leaves whole (no dot) the dotted read `getKeyD` is the plain `d[k]` of `getKey`: `KeyError` when absent -/
theorem getKeyD_single (d : D Val) (k : String) (hs : Tree.splitDots k = [k]) : getKeyD d k = getKey d k := by
  cases h : lookup k d.items with
  | some v => exact getKeyD_eq_getKey (h ▸ fun e => nomatch e)
  | none =>
    -- the walk over the one part `k` looks `k` up again
    rw [getKeyD_absent h, hs, getDotted, h, getKey, h]

/-- when the dotted walk succeeds it returns what C15's path lookup `tree_getitem(t, parts)` returns (an independent
definition: `getItem` knows nothing of `dict(leaf)`), and conversely -/
theorem getDotted_ok_iff : ∀ (p : List String) (t v : Val), getDotted t p = .ok v ↔ getItem t p = .ok v := by
  intro p
  induction p with
  | nil => intro t v; rw [getDotted, getItem]
  | cons k rest ih =>
    intro t v
    cases t with
    | dict kvs =>
      rw [getDotted, getItem]
      cases lookup k kvs with
      | none => exact Iff.rfl
      | some w => exact ih w v
    | cell _ | list _ | tuple _ =>
      refine iff_of_false (getDotted_leaf _ k rest ?_ v) (fun e => nomatch e)
      exact fun _ e => nomatch e

/-- `d[k]` returns `v` iff `k` is a key holding `v`, or `k` is absent and its dot-separated parts are a path of the nested
mappings leading to `v` -/
theorem getKeyD_ok_iff (d : D Val) (k : String) (v : Val) :
    getKeyD d k = .ok v ↔ lookup k d.items = some v ∨
      (lookup k d.items = none ∧ getItem (.dict d.items) (Tree.splitDots k) = .ok v) := by
  cases h : lookup k d.items with
  | some w => rw [getKeyD_present d k w h, Except.ok.injEq, Option.some.injEq, or_iff_left fun e => nomatch e.1]
  | none => rw [getKeyD_absent h, getDotted_ok_iff, or_iff_right (fun e => nomatch e), and_iff_right rfl]

/-- with all listed keys present the dotted reads are the plain ones (`getitem_tuple`, `getitem_list_full` apply) -/
theorem getD_conservative (d : D Val) (ks : List String) (h : ∀ k ∈ ks, lookup k d.items ≠ none) :
    getTupleD d ks = getTuple d ks ∧ getListD d ks = getList d ks := by
  have e : ∀ k ∈ ks, getKeyD d k = getKey d k := fun k hk => getKeyD_eq_getKey (h k hk)
  constructor
  · unfold getTupleD getTuple
    exact List.mapM_congr (fun k hk => by rw [e k hk]; rfl)
  · unfold getListD getList
    congr 1
    apply List.mapM_congr
    intro k hk
    rw [e k hk]; unfold getKey
    cases lookup k d.items <;> rfl

/-- a one-key path is the plain key deletion -/
theorem subPath_single (d : D Val) (k : String) : subPath d [k] = .ok (subKey d k) := by
  simp [subPath, delPath, subKey, Except.map, pure, Except.pure]

/-- a path of two or more keys leaves the top-level keys — and their order — alone; only the value under the first key
may change -/
theorem delPath_frame (kvs : List (String × Val)) (k k' : String) (rest : List String) (r : List (String × Val))
    (h : delPath kvs (k :: k' :: rest) = .ok r) :
    r.map (·.1) = kvs.map (·.1) ∧ ∀ j, j ≠ k → lookup j r = lookup j kvs := by
  rcases delPath_cons_cons h with ⟨rfl, _⟩ | ⟨sub, sub', hl, _, rfl⟩
  · exact ⟨rfl, fun _ _ => rfl⟩
  · exact ⟨keys_set_of_mem k _ kvs ((lookup_isSome_iff k kvs).1 (hl ▸ rfl)), fun j hj => by rw [lookup_set, if_neg hj]⟩

/-- after `d - path` nothing can be read at `path` any more -/
theorem delPath_gone : ∀ (p : List String) (kvs r : List (String × Val)), p ≠ [] → delPath kvs p = .ok r →
    ∀ v, getItem (.dict r) p ≠ .ok v := by
  intro p
  induction p with
  | nil => exact fun _ _ hp => absurd rfl hp
  | cons k p ih =>
    intro kvs r _ h v
    cases p with
    | nil =>
      cases h
      rw [getItem, lookup_filter_ne, if_pos rfl]
      exact fun e => nomatch e
    | cons k' rest =>
      rw [getItem]
      rcases delPath_cons_cons h with ⟨rfl, hnd⟩ | ⟨sub, sub', _, hs, rfl⟩
      · -- the walk stops at `k`: absent, or a leaf
        cases hl : lookup k r with
        | none => exact fun e => nomatch e
        | some w =>
          cases w with
          | dict sub => exact absurd hl (hnd sub)
          | _ => exact fun e => nomatch e
      · rw [lookup_set, if_pos rfl]
        exact ih sub sub' (List.cons_ne_nil _ _) hs v

/-- `d - [k1, k2, …]` with string members only: `subMixed`, the member-by-member form of the list branch that also takes tuple
paths, agrees with `subKeys` -/
theorem subMixed_strings (d : D Val) (ks : List String) : subMixed d (ks.map Sum.inl) = .ok (subKeys d ks) := by
  induction ks generalizing d with
  | nil => rfl
  | cons k ks ih =>
    simp only [subMixed, List.map_cons, List.foldlM_cons, subKeys, List.foldl_cons] at *
    exact ih (subKey d k)

/-- a list holding one path is that path's deletion -/
theorem subMixed_single_path (d : D Val) (p : List String) : subMixed d [Sum.inr p] = subPath d p := by
  simp only [subMixed, List.foldlM_cons, List.foldlM_nil]
  cases subPath d p <;> rfl

private def vi (n : Int) : Val := .cell (.int n)
/-- `Dict(a = {'x': 1}, b = 2) + {'a': {'y': 2}}` merges the two dicts under `a` (C15), a dictattr replaces the value -/
example : addC ⟨1, [("a", .dict [("x", vi 1)]), ("b", vi 2)]⟩ [("a", Val.dict [("y", vi 2)])] =
    .ok ⟨1, [("a", .dict [("x", vi 1), ("y", vi 2)]), ("b", vi 2)]⟩ := rfl
example : addC ⟨2, [("a", .dict [("x", vi 1)]), ("b", vi 2)]⟩ [("a", Val.dict [("y", vi 2)])] =
    .ok ⟨2, [("a", .dict [("y", vi 2)]), ("b", vi 2)]⟩ := rfl

/-- `class D2(Dict): pass; D2(a = {'x': 1}, b = 2) + {'a': {'y': 2}}` merges too (tag 4), and stays a `D2` -/
example : addC ⟨4, [("a", .dict [("x", vi 1)]), ("b", vi 2)]⟩ [("a", Val.dict [("y", vi 2)])] =
    .ok ⟨4, [("a", .dict [("x", vi 1), ("y", vi 2)]), ("b", vi 2)]⟩ := rfl
-- the hypothesis of `dictlike_add_is_merge` (tag 4) and of `add_class` (tags 2, 3)
example : isDictLike 4 = true ∧ isDictLike 3 = false ∧ isDictLike 2 = false := by decide
/-- `d = dictattr(a = {'x': 1, 'y': 2}, b = 2)`: `d - ('a', 'x')`, `d['a.x']`, `d['b.x']` (TypeError), `d['a.q']` (KeyError),
`d[['a.x']]` -/
example : subPath ⟨2, [("a", .dict [("x", vi 1), ("y", vi 2)]), ("b", vi 2)]⟩ ["a", "x"] =
    .ok ⟨2, [("a", .dict [("y", vi 2)]), ("b", vi 2)]⟩ := rfl
#guard (match getKeyD ⟨2, [("a", .dict [("x", vi 1)]), ("b", vi 2)]⟩ "a.x" with | .ok (.cell (.int 1)) => true | _ => false)
#guard (match getKeyD ⟨2, [("a", .dict [("x", vi 1)]), ("b", vi 2)]⟩ "b.x" with | .error .type => true | _ => false)
#guard (match getKeyD ⟨2, [("a", .dict [("x", vi 1)]), ("b", vi 2)]⟩ "a.q" with | .error .key => true | _ => false)
#guard (match getListD ⟨2, [("a", .dict [("x", vi 1)]), ("b", vi 2)]⟩ ["a.x"] with | .ok ⟨2, [("a.x", .cell (.int 1))]⟩ => true | _ => false)

end valued

section dictcall
variable {V : Type}

/-- a circular definition raises `ValueError`: if no pending callable is free of pending arguments
(and at least two are pending) the call fails in its first round -/
theorem call_no_independent_raises (d consts : Env V) (cs : List (String × Fn V)) (h2 : 2 ≤ cs.length)
    (h : ∀ c ∈ cs, independent (cs.map (·.1)) c = false) : call d consts cs = .error .value := by
  obtain ⟨n, hn⟩ : ∃ n, cs.length = n + 1 := ⟨cs.length - 1, by omega⟩
  rw [call, hn]
  refine loop_stuck (by omega) (List.filter_eq_nil_iff.2 fun c hc => ?_)
  rw [h c hc]
  exact Bool.false_ne_true

/-- whenever some set `S` of at least two pending keys is closed under "reads a
member of `S`" (the keys on any dependency cycle of length ≥ 2 are such a set), whatever else is
pending and in whatever keyword order, the call never returns: it raises `ValueError`, unless an
earlier round already failed with `TypeError` for an argument that is no key at all. -/
theorem call_cycle_raises (d consts : Env V) (cs : List (String × Fn V)) (S : List String)
    (a b : String) (ha : a ∈ S) (hb : b ∈ S) (hab : a ≠ b) (hS : Closed S cs) :
    call d consts cs = .error .value ∨ call d consts cs = .error .type :=
  loop_closed_raises S a b ha hb hab _ _ cs (Nat.le_refl _) hS

/-- the callables that are ready in a round, and those left for later rounds, are the same sets for
every keyword order -/
theorem call_rounds_order_independent (cs cs' : List (String × Fn V)) (h : cs.Perm cs') :
    (cs.filter (independent (cs.map (·.1)))).Perm (cs'.filter (independent (cs'.map (·.1)))) ∧
    (cs.filter fun c => !independent (cs.map (·.1)) c).Perm
      (cs'.filter fun c => !independent (cs'.map (·.1)) c) := by
  rw [independent_of_perm h]
  exact ⟨h.filter _, h.filter _⟩

/-- Keyword order: for every mapping `d` and every two orders of the same keyword list (keyword
names are distinct; `consts` the plain values, `cs` the callables) `d(**kwargs)` has the same
outcome: the same error kind, or mappings that hold the same value under every key (`ResEq`; python
`==` on dicts does not compare insertion order).  No acyclicity is needed for this part: circular
or ill-scoped definitions fail the same way in every order. -/
theorem call_keyword_order_independent (d consts consts' : Env V) (cs cs' : List (String × Fn V))
    (hcn : (consts.map (·.1)).Nodup) (hc : consts.Perm consts')
    (hn : (cs.map (·.1)).Nodup) (hp : cs.Perm cs') :
    ResEq (call d consts cs) (call d consts' cs') := by
  unfold call
  rw [← hp.length_eq]
  exact loop_perm _ _ _ cs cs' (Nat.le_refl _) hn hp fun k => lookup_setAll_perm k d hcn hc

/-- Dependency order: if the dependency graph of the callables (edges: declared argument names that
are themselves pending callables) is acyclic and has no self-loop, then
(a) the definitions can be put in dependency order,
(b) for EVERY permutation of the keyword list, `d(**kwargs)` has the outcome of plain sequential
    evaluation `for k, f in ts: res[k] = res.apply(f)` in ANY dependency order `ts` (in particular all
    dependency orders agree, and `ValueError` is never raised), and
(c) the two keyword orders `consts cs` and `consts' cs'` agree, which is `call_keyword_order_independent` once more. -/
theorem call_order_independent (d consts consts' : Env V) (cs cs' : List (String × Fn V))
    (hcn : (consts.map (·.1)).Nodup) (hc : consts.Perm consts')
    (hn : (cs.map (·.1)).Nodup) (hp : cs.Perm cs') (hac : Acyclic cs) :
    (∃ ts, ts.Perm cs ∧ Topo ts) ∧
    (∀ ts, ts.Perm cs → Topo ts →
      ResEq (call d consts' cs') (evalAll (setAll d consts) ts)) ∧
    ResEq (call d consts' cs') (call d consts cs) := by
  have hperm := call_keyword_order_independent d consts consts' cs cs' hcn hc hn hp
  refine ⟨(acyclic_iff_exists_topo cs hn).1 hac, fun ts hts ht => ?_, hperm.symm⟩
  exact hperm.symm.trans (loop_eq_topo _ _ cs ts (Nat.le_refl _) hn hts ht)

/-- What is computed: over an acyclic set of definitions the returned mapping is THE solution of
the definitions: keys that are not derived keep the value of `{**d, **consts}`, and every derived
key holds its function applied to the FINAL values of its declared arguments (so a dependent of a
callable that redefines an existing key of `d` sees the new value); that solution is unique.  The
call fails exactly when some declared argument is neither a derived key nor a key of
`{**d, **consts}`, and then with `TypeError`. -/
theorem call_spec (d consts : Env V) (cs : List (String × Fn V)) (hn : (cs.map (·.1)).Nodup)
    (hac : Acyclic cs) :
    (∀ r, call d consts cs = .ok r →
      Spec (setAll d consts) cs r ∧ ∀ r', Spec (setAll d consts) cs r' → EnvEq r r') ∧
    (∀ e, call d consts cs = .error e ↔ e = .type ∧ Missing (setAll d consts) cs) := by
  obtain ⟨ts, hts, ht⟩ := (acyclic_iff_exists_topo cs hn).1 hac
  have hnt : (ts.map (·.1)).Nodup := (hts.map _).nodup_iff.2 hn
  have hm : ∀ c, c ∈ ts ↔ c ∈ cs := fun c => hts.mem_iff
  have hres : ResEq (call d consts cs) (evalAll (setAll d consts) ts) :=
    loop_eq_topo _ _ cs ts (Nat.le_refl _) hn hts ht
  constructor
  · intro r hr
    obtain ⟨r0, hr0, he⟩ := hres.ok_left hr
    have hs0 : Spec (setAll d consts) ts r := (evalAll_topo_spec ts _ r0 hnt ht hr0).of_envEq he
    refine ⟨hs0.congr (EnvEq.refl _) hm, fun r' hs' => ?_⟩
    exact Spec.unique ht (EnvEq.refl _) hm hs0 hs'
  · intro e
    rw [hres.error_iff e, evalAll_topo_error_iff ts _ hnt ht e]
    exact and_congr_right fun _ =>
      ⟨fun h => h.congr (EnvEq.refl _) hm, fun h => h.congr (EnvEq.refl _) fun c => (hm c).symm⟩

/-- Circular definitions.  `ValueError` is raised only if some set of at least two pending
keys is closed under "reads a member of the set"; conversely (`call_cycle_raises`) such a set makes
the call fail, and with `ValueError` when every declared argument is in scope (`WellScoped`: a
pending key other than the callable's own, or a key of `{**d, **consts}`), because then no round
can raise `TypeError`.  Under `WellScoped` the call therefore returns a mapping exactly when there
is no such set. -/
theorem call_cycle_raises_iff (d consts : Env V) (cs : List (String × Fn V))
    (hn : (cs.map (·.1)).Nodup) :
    (call d consts cs = .error .value →
      ∃ (S : List String) (a b : String), a ∈ S ∧ b ∈ S ∧ a ≠ b ∧ Closed S cs) ∧
    (WellScoped (setAll d consts) cs →
      ((call d consts cs = .error .value ↔
        ∃ (S : List String) (a b : String), a ∈ S ∧ b ∈ S ∧ a ≠ b ∧ Closed S cs) ∧
       ((∃ r, call d consts cs = .ok r) ↔
        ¬ ∃ (S : List String) (a b : String), a ∈ S ∧ b ∈ S ∧ a ≠ b ∧ Closed S cs))) := by
  have h1 := loop_value_closed cs.length (setAll d consts) cs (Nat.le_refl _) hn
  refine ⟨h1, fun hw => ?_⟩
  have hnt := loop_no_type_error cs.length (setAll d consts) cs (Nat.le_refl _) hw
  have h2 : (∃ (S : List String) (a b : String), a ∈ S ∧ b ∈ S ∧ a ≠ b ∧ Closed S cs) →
      call d consts cs = .error .value := by
    rintro ⟨S, a, b, ha, hb, hab, hS⟩
    rcases call_cycle_raises d consts cs S a b ha hb hab hS with h | h
    · exact h
    · exact absurd h hnt
  refine ⟨⟨h1, h2⟩, ?_⟩
  constructor
  · rintro ⟨r, hr⟩ hS
    have := h2 hS
    rw [hr] at this; cases this
  · intro hno
    cases hr : call d consts cs with
    | ok r => exact ⟨r, rfl⟩
    | error e =>
      rcases loop_err _ _ _ (Nat.le_refl _) e hr with rfl | rfl
      · exact absurd (h1 hr) hno
      · exact absurd hr hnt

/-- a single callable is evaluated on the values found by name -/
theorem call_single (d : Env V) (k : String) (f : Fn V) :
    call d [] [(k, f)] = (apply d f).map fun v => set k v d := by
  rw [call, loop_short (cs := [(k, f)]) (Nat.le_refl 1), evalAll_cons]
  show (apply d f >>= fun v => evalAll (set k v d) []) = _
  cases apply d f <;> rfl

private def fp : Fn Int := ⟨["q"], fun _ => 0⟩
private def fq : Fn Int := ⟨["a", "p"], fun _ => 0⟩
/-- a two-cycle p ↔ q next to an innocent r: `DictCall.Closed ["p","q"]` holds -/
example : DictCall.Closed ["p", "q"] [("r", (⟨["a"], fun _ => 0⟩ : Fn Int)), ("p", fp), ("q", fq)] := by
  intro k hk
  simp only [List.mem_cons, List.not_mem_nil, or_false] at hk
  rcases hk with rfl | rfl
  · exact ⟨("p", fp), by simp, rfl, "q", by simp [fp], by simp⟩
  · exact ⟨("q", fq), by simp, rfl, "p", by simp [fq], by simp⟩

-- `Dict(a = 1, b = 2)(c = 10, y = lambda x, c: x + c, x = lambda a, b: a + b, a = lambda b: 100 + b)` (`exD`, `exCs`; `exTs` is
-- `exCs` in dependency order): `a` redefines a key of the mapping, `x` must see the new `a`, `y` the new `x`.  The hypotheses of
-- `call_order_independent` and `call_spec` (`Topo`, `Perm`, `Acyclic`) and of `call_cycle_raises_iff` (`WellScoped`) hold of it,
-- and the call and the sequential evaluation in dependency order return the same mapping.
private def sumFn (as : List String) (k : Int) : Fn Int := ⟨as, fun vs => vs.foldl (· + ·) k⟩
private def exD : Env Int := [("a", 1), ("b", 2)]
private def exCs : List (String × Fn Int) :=
  [("y", sumFn ["x", "c"] 0), ("x", sumFn ["a", "b"] 0), ("a", sumFn ["b"] 100)]
private def exTs : List (String × Fn Int) :=
  [("a", sumFn ["b"] 100), ("x", sumFn ["a", "b"] 0), ("y", sumFn ["x", "c"] 0)]

private theorem topo_exTs : Topo exTs := by
  refine ⟨?_, ?_, ?_, trivial⟩ <;> simp [sumFn]
example : Topo exTs := topo_exTs
example : exTs.Perm exCs := (List.reverse_perm exTs).symm
example : Acyclic exCs :=
  (acyclic_iff_exists_topo exCs (by decide)).2 ⟨exTs, (List.reverse_perm exTs).symm, topo_exTs⟩
example : call exD [("c", 10)] exCs =
    .ok [("a", 102), ("b", 2), ("c", 10), ("x", 104), ("y", 114)] := rfl
example : evalAll (setAll exD [("c", 10)]) exTs =
    .ok [("a", 102), ("b", 2), ("c", 10), ("x", 104), ("y", 114)] := rfl
example : WellScoped (setAll exD [("c", 10)]) exCs := by
  intro c hc a ha
  simp only [exCs, List.mem_cons, List.not_mem_nil, or_false] at hc
  rcases hc with rfl | rfl | rfl <;> simp [sumFn] at ha <;> rcases ha with rfl | rfl <;> decide

/-- an argument that is nowhere (`zz`): `Missing` holds of the callable that declares it, and a call with that callable
among its keywords raises `TypeError` -/
example : Missing exD [("x", sumFn ["a", "zz"] 0)] :=
  ⟨("x", sumFn ["a", "zz"] 0), by simp, "zz", by simp [sumFn], by simp, by decide⟩
example : call exD [] [("y", sumFn ["x"] 0), ("x", sumFn ["a", "zz"] 0)] = .error .type := rfl

end dictcall

section daheap
open Pyg.DAHeap
variable {V : Type} [TreeAdd V]

/-- Frame: no operation changes an existing handle other than the target of an in-place operation
(`d[k] = v`, `d.k = v`, `del d[k]`, `del d.k`): every operator (`copy - & + [[..]] relabel`) and
every read leaves all existing objects exactly as they were, and a failing operation changes
nothing at all. -/
theorem da_frame (heap : Heap V) (op : DAHeap.Op V) (i : Nat) (hi : i < heap.length)
    (ht : op.target ≠ some i) : (exec heap op)[i]? = heap[i]? :=
  (exec_effect heap op).frame hi ht

/-- an operation leaves the number of handles as it is or, only if it is no in-place operation, adds exactly one; an in-place
operation keeps the class of its target.  (That an allocated object is made from the heap by one of the operators and gets the
new last handle is `DAHeap.step_effect`; the statement here does not tell operators from reads.) -/
theorem da_alloc (heap : Heap V) (op : DAHeap.Op V) :
    ((exec heap op).length = heap.length ∨
      (op.target = none ∧ (exec heap op).length = heap.length + 1)) ∧
    ∀ t, op.target = some t → ((exec heap op)[t]?).map (·.cls) = (heap[t]?).map (·.cls) := by
  have h := exec_effect heap op
  generalize exec heap op = heap' at h ⊢
  cases h with
  | alloc d hn => exact ⟨.inr ⟨hn.1, List.length_append⟩, fun t ht => nomatch hn.1 ▸ ht⟩
  | write t d d' htg hd hw =>
    refine ⟨.inl List.length_set, fun t' ht' => ?_⟩
    cases htg.symm.trans ht'
    rw [List.getElem?_set_self (List.getElem?_some_lt hd), hd, Option.map_some, Option.map_some, hw.cls]
  | same => exact ⟨.inl rfl, fun _ _ => rfl⟩

/-- attribute access mirrors item access.  `d.k` is `d[k]` for a name `k` that is not an attribute of the object's class
(`hk`: python looks a name up on the class before it asks `__getattr__`, see `da_attr_shadowed`); `d.k = v` is `d[k] = v` for a
name without a leading underscore (`hp`: `__setattr__` keeps a private name in the instance dict); `del d.k` is `del d[k]`
(needs neither hypothesis).  Same result and same effect on the heap, except that a missing key is reported as
`AttributeError` instead of `KeyError` (`asAttr`). -/
theorem da_attr_mirrors_item (heap : Heap V) (h : Nat) (k : String) (v : V)
    (hk : ∀ d, heap[h]? = some d → shadowed d.cls k = false) (hp : k.startsWith "_" = false) :
    DAHeap.step heap (.getAttr h k) = asAttr (DAHeap.step heap (.getItem h k)) ∧
    DAHeap.step heap (.setAttr h k v) = DAHeap.step heap (.setItem h k v) ∧
    DAHeap.step heap (.delAttr h k) = asAttr (DAHeap.step heap (.delItem h k)) := by
  refine ⟨?_, by simp [DAHeap.step, hp], ?_⟩
  · simp only [DAHeap.step, bind, Except.bind, pure, Except.pure, deref]
    cases hh : heap[h]? with
    | none => rfl
    | some d =>
      dsimp only
      rw [hk d hh]
      simp only [Bool.false_eq_true, if_false]
      cases getKey d k with
      | error e => cases e <;> rfl
      | ok v => rfl
  · simp only [DAHeap.step, bind, Except.bind, pure, Except.pure, deref]
    cases heap[h]? with
    | none => rfl
    | some d =>
      dsimp only
      cases delKey d k with
      | error e => cases e <;> rfl
      | ok v => rfl

/-- the hypothesis `hk` of `da_attr_mirrors_item` is needed (known finding K1 of C16): for a key that is also the name of a
method of the class, attribute access returns the bound method whatever the mapping holds, so `d.keys` differs from `d['keys']`, while
`d.keys = v` still writes the item -/
theorem da_attr_shadowed (heap : Heap V) (h : Nat) (k : String) (d : D V) (hd : heap[h]? = some d)
    (hk : shadowed d.cls k = true) :
    DAHeap.step heap (.getAttr h k) = .ok (heap, .method) := by
  simp [DAHeap.step, bind, Except.bind, pure, Except.pure, deref, hd, hk]

/-- item assignment and deletion write exactly one key of exactly one object -/
theorem da_setitem (heap : Heap V) (h : Nat) (k : String) (v : V) (d : D V) (hd : heap[h]? = some d) :
    ∃ d', (exec heap (.setItem h k v))[h]? = some d' ∧ d'.cls = d.cls ∧
      ∀ j, lookup j d'.items = if j = k then some v else lookup j d.items := by
  refine ⟨{ d with items := set k v d.items }, ?_, rfl, fun j => lookup_set j k v d.items⟩
  rw [exec, step_setItem hd]
  exact List.getElem?_set_self (List.getElem?_some_lt hd)

theorem da_delitem (heap : Heap V) (h : Nat) (k : String) (d : D V) (hd : heap[h]? = some d) :
    (lookup k d.items = none → DAHeap.step heap (.delItem h k) = .error .key) ∧
    (lookup k d.items ≠ none → ∃ d', (exec heap (.delItem h k))[h]? = some d' ∧ d'.cls = d.cls ∧
      ∀ j, lookup j d'.items = if j = k then none else lookup j d.items) := by
  constructor
  · intro hn
    rw [step_delItem hd, delKey, hn]
    rfl
  · intro hs
    refine ⟨subKey d k, ?_, rfl, fun j => lookup_filter_ne j k d.items⟩
    cases hl : lookup k d.items with
    | none => exact absurd hl hs
    | some w =>
      rw [exec, step_delItem hd, delKey, hl]
      exact List.getElem?_set_self (List.getElem?_some_lt hd)

/-- invariant over ANY history: the keys of every object are distinct -/
theorem da_keys_nodup [LawfulTreeAdd V] (ops : List (DAHeap.Op V)) : ∀ d ∈ DAHeap.run ops, (keys d).Nodup :=
  List.foldl_preserves (P := fun heap : Heap V => ∀ d ∈ heap, (keys d).Nodup) (fun heap op _ => exec_keys_nodup heap op)
    (fun _ h => nomatch h)

-- a dictattr history, evaluated: operators allocate (handles 1, 2, 3), in-place writes hit their target only, the failing
-- `del d.zz` changes nothing
example : DAHeap.run [.new 2 [("a", vi 1), ("b", vi 2)], .copy 0, .setItem 1 "c" (vi 3), .subK 0 "a", .delItem 1 "a",
      .delAttr 0 "zz", .addH 2 1] =
    [⟨2, [("a", vi 1), ("b", vi 2)]⟩, ⟨2, [("b", vi 2), ("c", vi 3)]⟩, ⟨2, [("b", vi 2)]⟩,
     ⟨2, [("b", vi 2), ("c", vi 3)]⟩] := rfl
-- the hypothesis `op.target ≠ some i` of `da_frame`, for an operator
example : (DAHeap.Op.subK 0 "a" : DAHeap.Op Int).target ≠ some 0 := by decide
/-- K1: the key `keys` of a dictattr: `d['keys']` is 1, `d.keys` is the bound method -/
example : DAHeap.step [⟨2, [("keys", vi 1)]⟩] (.getItem 0 "keys") = .ok ([⟨2, [("keys", vi 1)]⟩], .val (vi 1)) ∧
    DAHeap.step [⟨2, [("keys", vi 1)]⟩] (.getAttr 0 "keys") = .ok ([⟨2, [("keys", vi 1)]⟩], .method) :=
  ⟨rfl, da_attr_shadowed _ 0 "keys" _ rfl (by decide)⟩

end daheap

end Pyg.Props.C16
