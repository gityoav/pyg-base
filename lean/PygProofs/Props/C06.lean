/-
  C06 — `Table.inc / exc / find / oneOrNone` of PygModel/Filter.lean on rectangular tables: with keyword conditions on
  existing columns and with callables defined on every row, `inc` and `exc` gather complementary rows, keeping columns
  and row order; a missing filter column and a raising callable give the error.
  `Table.sat t conds i`: row `i` satisfies every condition.
-/
import PygProofs.Lemmas.FilterLemmas

namespace Pyg.Props.C06
open Pyg Table

theorem inc_nil (t : Table) : t.inc Option.none [] = .ok t := rfl

/-- **inc**: the result is the table gathered at exactly the row indices (ascending) whose rows satisfy
all conditions — whatever the number of conditions, including none -/
theorem inc_filter (t : Table) (n : Nat) (hr : t.Rect n) (conds : List (String × Cond))
    (hk : ∀ kc ∈ conds, t.has kc.1 = true) :
    t.inc Option.none conds = .ok (t.gatherRows ((List.range n).filter (t.sat conds))) := by
  have h := inc_gather (List.range n) conds hk
  rwa [gatherRows_range hr] at h

/-- **exc, missing key**: with at least one row `_row_check` reads `row[key]` and raises `KeyError` -/
theorem exc_missing_key (t : Table) (n : Nat) (hr : t.Rect n) (hne : t ≠ []) (hn : n ≠ 0)
    (conds : List (String × Cond)) (h : ∃ kc ∈ conds, t.has kc.1 = false) :
    t.exc Option.none conds = .error .key := by
  have hc : conds ≠ [] := by rintro rfl; obtain ⟨_, hm, _⟩ := h; cases hm
  have hm : mapE (t.excFlag conds) (List.range n) = .error .key :=
    mapE_error_at _ _ _ 0 (by simpa using Nat.pos_of_ne_zero hn) (by simpa using excFlag_missing 0 conds h)
      (fun j hj => by cases hj)
  rw [exc_none t hc, nrows_of_rect hr hne, if_neg hn, hm]

/-- **exc on a table without rows**: no row is read, so no key is looked up (a missing key included); the table
comes back with its columns -/
theorem exc_missing_key_empty (t : Table) (hr : t.Rect 0) (hne : t ≠ []) (conds : List (String × Cond)) :
    t.exc Option.none conds = .ok t := by
  cases conds with
  | nil => rfl
  | cons kc rest =>
    have h := fixup_sel hne (List.range 0) (List.range 0)
    rw [gatherRows_range hr] at h
    rw [exc_none t (List.cons_ne_nil kc rest), if_pos (nrows_of_rect hr hne), h]

/-- **exc**: the table gathered at exactly the other row indices (at least one condition) -/
theorem exc_filter (t : Table) (n : Nat) (hr : t.Rect n) (conds : List (String × Cond)) (hc : conds ≠ [])
    (hk : ∀ kc ∈ conds, t.has kc.1 = true) :
    t.exc Option.none conds = .ok (t.gatherRows ((List.range n).filter fun i => !t.sat conds i)) := by
  have h := exc_gather (List.range n) conds hc hk
  rwa [gatherRows_range hr] at h

/-- the list-of-records reading of `inc_filter`: all columns, the satisfying records in original order -/
theorem inc_rows (t : Table) (n : Nat) (hr : t.Rect n) (hne : t ≠ []) (conds : List (String × Cond))
    (hk : ∀ kc ∈ conds, t.has kc.1 = true) :
    ∃ t', t.inc Option.none conds = .ok t' ∧ t'.cols = t.cols ∧ (∃ m, t'.Rect m) ∧
      t'.rows = ((List.range n).filter (t.sat conds)).map t.row ∧ t'.rows.Sublist t.rows :=
  ⟨_, inc_filter t n hr conds hk, cols_gatherRows _ _, ⟨_, gatherRows_rect _ _⟩, rows_gatherRows hne _,
    rows_filter_sublist hr hne _⟩

theorem exc_rows (t : Table) (n : Nat) (hr : t.Rect n) (conds : List (String × Cond)) (hc : conds ≠ [])
    (hk : ∀ kc ∈ conds, t.has kc.1 = true) :
    ∃ t', t.exc Option.none conds = .ok t' ∧ t'.cols = t.cols ∧ (∃ m, t'.Rect m) ∧
      t'.rows = ((List.range n).filter fun i => !t.sat conds i).map t.row ∧ t'.rows.Sublist t.rows :=
  have hne := ne_nil_of_conds hc hk
  ⟨_, exc_filter t n hr conds hc hk, cols_gatherRows _ _, ⟨_, gatherRows_rect _ _⟩, rows_gatherRows hne _,
    rows_filter_sublist hr hne _⟩

/-- **partition**: for one or more column conditions, `inc` and `exc` return tables with all of the
table's columns whose records are complementary sub-sequences of the table's records: every record goes
to exactly one of them (the concatenation is a permutation of the records, the lengths add up) and both
keep the original relative order. -/
theorem partition (t : Table) (n : Nat) (hr : t.Rect n) (conds : List (String × Cond)) (hc : conds ≠ [])
    (hk : ∀ kc ∈ conds, t.has kc.1 = true) :
    ∃ ti te, t.inc Option.none conds = .ok ti ∧ t.exc Option.none conds = .ok te ∧
      ti.cols = t.cols ∧ te.cols = t.cols ∧
      ti.rows.Sublist t.rows ∧ te.rows.Sublist t.rows ∧
      (ti.rows ++ te.rows).Perm t.rows ∧ ti.rows.length + te.rows.length = n := by
  have hne := ne_nil_of_conds hc hk
  have hp := rows_filter_perm hr hne (t.sat conds)
  refine ⟨_, _, inc_filter t n hr conds hk, exc_filter t n hr conds hc hk, cols_gatherRows _ _, cols_gatherRows _ _,
    rows_filter_sublist hr hne _, rows_filter_sublist hr hne _, hp, ?_⟩
  rw [← List.length_append, hp.length_eq, rows_length hr hne]

/-- both results carry all of the table's columns, whatever survives -/
theorem cols_kept (t : Table) (n : Nat) (hr : t.Rect n) (conds : List (String × Cond)) (hc : conds ≠ [])
    (hk : ∀ kc ∈ conds, t.has kc.1 = true) :
    (∀ ti, t.inc Option.none conds = .ok ti → ti.cols = t.cols) ∧
    (∀ te, t.exc Option.none conds = .ok te → te.cols = t.cols) := by
  constructor
  · intro ti h; rw [inc_filter t n hr conds hk] at h; cases h; exact cols_gatherRows _ _
  · intro te h; rw [exc_filter t n hr conds hc hk] at h; cases h; exact cols_gatherRows _ _

/-- a condition no row satisfies: `inc` returns the table's columns with no rows, `exc` the table -/
theorem inc_nothing (t : Table) (n : Nat) (hr : t.Rect n) (conds : List (String × Cond)) (hc : conds ≠ [])
    (hk : ∀ kc ∈ conds, t.has kc.1 = true) (hno : ∀ i < n, t.sat conds i = false) :
    t.inc Option.none conds = .ok t.emptyLike ∧ t.exc Option.none conds = .ok t := by
  have hall : ∀ i ∈ List.range n, t.sat conds i = false := fun i hi => hno i (List.mem_range.1 hi)
  constructor
  · rw [inc_filter t n hr conds hk, List.filter_eq_nil_iff.2 (fun i hi => by rw [hall i hi]; exact Bool.false_ne_true)]
    rfl
  · rw [exc_filter t n hr conds hc hk, List.filter_eq_self.2 (fun i hi => by rw [hall i hi]; rfl), gatherRows_range hr]

/-- **idempotence**: filtering the result of `inc` again with the same conditions changes nothing -/
theorem inc_idem (t ti : Table) (n : Nat) (hr : t.Rect n) (conds : List (String × Cond))
    (hk : ∀ kc ∈ conds, t.has kc.1 = true) (h : t.inc Option.none conds = .ok ti) :
    ti.inc Option.none conds = .ok ti := by
  rw [inc_filter t n hr conds hk] at h
  cases h
  -- the result is a selection of rows of `t`, all of which satisfy the conditions
  rw [inc_gather _ conds hk, List.filter_filter]
  simp only [Bool.and_self]

/-- a filter on a column that is not there: `inc` raises `KeyError` (the conditions before it having
been applied), whatever the rows -/
theorem inc_missing_key (t : Table) (n : Nat) (hr : t.Rect n) (hne : t ≠ []) (pre post : List (String × Cond))
    (k : String) (c : Cond) (hpre : ∀ kc ∈ pre, t.has kc.1 = true) (hk : t.has k = false) :
    t.inc Option.none (pre ++ (k, c) :: post) = .error .key := by
  rw [inc_none t (List.append_ne_nil_of_right_ne_nil pre (List.cons_ne_nil (k, c) post)), incSteps_append,
    incSteps_range hr hne pre hpre]
  simp only [incSteps, incStep, getColE_gatherRows_error hk]
  rfl

/-- **inc with any callable** `f` (it receives the table it filters and the row index) that answers `p i`
on every row `i` of `t`: exactly the rows where the answer is true, in order, all columns -/
theorem inc_fn (t : Table) (n : Nat) (hr : t.Rect n) (hne : t ≠ []) (f : Table → Nat → Except Err Bool)
    (p : Nat → Bool) (hf : ∀ i < n, f t i = .ok (p i)) :
    t.inc (some f) [] = .ok (t.gatherRows ((List.range n).filter p)) := by
  rw [inc_fn_eq, keepRows_ok hr hne (f t) p hf]
  exact congrArg Except.ok (fixup_keep hne _)

/-- **exc with any callable** `f` that answers `p i` on every row `i` of `t`: exactly the rows where the answer
is false, in order, all columns -/
theorem exc_fn (t : Table) (n : Nat) (hr : t.Rect n) (hne : t ≠ []) (f : Table → Nat → Except Err Bool)
    (p : Nat → Bool) (hf : ∀ i < n, f t i = .ok (p i)) :
    t.exc (some f) [] = .ok (t.gatherRows ((List.range n).filter fun i => !p i)) := by
  rw [exc_fn_eq, keepRows_ok hr hne _ (fun i => !p i) (fun i hi => by rw [hf i hi]; rfl)]
  exact congrArg Except.ok (fixup_keep hne _)

/-- a callable that ignores the table it is handed and answers `p i` from the row index alone -/
theorem inc_pred (t : Table) (n : Nat) (hr : t.Rect n) (hne : t ≠ []) (p : Nat → Bool) :
    t.inc (some fun _ i => .ok (p i)) [] = .ok (t.gatherRows ((List.range n).filter p)) :=
  inc_fn t n hr hne _ p (fun _ _ => rfl)

theorem exc_pred (t : Table) (n : Nat) (hr : t.Rect n) (hne : t ≠ []) (p : Nat → Bool) :
    t.exc (some fun _ i => .ok (p i)) [] = .ok (t.gatherRows ((List.range n).filter fun i => !p i)) :=
  exc_fn t n hr hne _ p (fun _ _ => rfl)

/-- a single predicate partitions the table as well -/
theorem partition_pred (t : Table) (n : Nat) (hr : t.Rect n) (hne : t ≠ []) (p : Nat → Bool) :
    ∃ ti te, t.inc (some fun _ i => .ok (p i)) [] = .ok ti ∧ t.exc (some fun _ i => .ok (p i)) [] = .ok te ∧
      ti.cols = t.cols ∧ te.cols = t.cols ∧ ti.rows.Sublist t.rows ∧ te.rows.Sublist t.rows ∧
      (ti.rows ++ te.rows).Perm t.rows :=
  ⟨_, _, inc_pred t n hr hne p, exc_pred t n hr hne p, cols_gatherRows _ _, cols_gatherRows _ _,
    rows_filter_sublist hr hne _, rows_filter_sublist hr hne _, rows_filter_perm hr hne p⟩

/-- the record a callable receives for row `i`: column name ↦ cell (= `Table.rowD` of the model) -/
def rowDict (t : Table) (i : Nat) : List (String × Cell) := t.map fun c => (c.1, c.2.getD i .none)

theorem rowD_eq_rowDict (t : Table) (i : Nat) : t.rowD i = rowDict t i := rfl

theorem rowDict_gatherRows (t : Table) (idx : List Nat) (j : Nat) (hj : j < idx.length) :
    rowDict (t.gatherRows idx) j = rowDict t idx[j] :=
  rowD_gatherRows t idx j hj

/-- **a predicate `q` of the row's cells** (`lambda a, b: ...` called with the record): `inc` keeps exactly the
records satisfying `q`, `exc` the others -/
theorem inc_rowpred (t : Table) (n : Nat) (hr : t.Rect n) (hne : t ≠ []) (q : List (String × Cell) → Bool) :
    t.inc (some fun t' i => .ok (q (rowDict t' i))) [] =
      .ok (t.gatherRows ((List.range n).filter fun i => q (rowDict t i))) :=
  inc_fn t n hr hne _ (fun i => q (rowDict t i)) (fun _ _ => rfl)

theorem exc_rowpred (t : Table) (n : Nat) (hr : t.Rect n) (hne : t ≠ []) (q : List (String × Cell) → Bool) :
    t.exc (some fun t' i => .ok (q (rowDict t' i))) [] =
      .ok (t.gatherRows ((List.range n).filter fun i => !q (rowDict t i))) :=
  exc_fn t n hr hne _ (fun i => q (rowDict t i)) (fun _ _ => rfl)

/-- `inc`/`exc` by a row predicate partition the records -/
theorem partition_rowpred (t : Table) (n : Nat) (hr : t.Rect n) (hne : t ≠ []) (q : List (String × Cell) → Bool) :
    ∃ ti te, t.inc (some fun t' i => .ok (q (rowDict t' i))) [] = .ok ti ∧
      t.exc (some fun t' i => .ok (q (rowDict t' i))) [] = .ok te ∧
      ti.cols = t.cols ∧ te.cols = t.cols ∧ ti.rows.Sublist t.rows ∧ te.rows.Sublist t.rows ∧
      (ti.rows ++ te.rows).Perm t.rows :=
  ⟨_, _, inc_rowpred t n hr hne q, exc_rowpred t n hr hne q, cols_gatherRows _ _, cols_gatherRows _ _,
    rows_filter_sublist hr hne _, rows_filter_sublist hr hne _, rows_filter_perm hr hne _⟩

/-- **idempotence for a row predicate**: the callable is evaluated again on the RESULT table, whose records
are records of `t` that satisfied it -/
theorem inc_idem_rowpred (t ti : Table) (n : Nat) (hr : t.Rect n) (hne : t ≠ []) (q : List (String × Cell) → Bool)
    (h : t.inc (some fun t' i => .ok (q (rowDict t' i))) [] = .ok ti) :
    ti.inc (some fun t' i => .ok (q (rowDict t' i))) [] = .ok ti := by
  rw [inc_rowpred t n hr hne q] at h
  cases h
  rw [inc_rowpred _ _ (gatherRows_rect t _) (gatherRows_ne_nil hne _) q,
    gatherRows_filter_gather t _ _ (fun i => q (rowDict t i)) (fun j hj => by rw [rowDict_gatherRows t _ j hj]),
    List.filter_filter]
  simp only [Bool.and_self]

/-- **a callable that raises** on row `i` (e.g. `TypeError`: a parameter that is not a column), having answered
on the rows before it: `inc` and `exc` raise that error, whatever the keyword conditions -/
theorem inc_fn_error (t : Table) (n : Nat) (hr : t.Rect n) (hne : t ≠ []) (f : Table → Nat → Except Err Bool)
    (conds : List (String × Cond)) (i : Nat) (hi : i < n) (e : Err) (he : f t i = .error e)
    (hb : ∀ j < i, ∃ b, f t j = .ok b) :
    t.inc (some f) conds = .error e ∧ t.exc (some f) conds = .error e := by
  constructor
  · rw [inc_some, keepRows_error hr hne (f t) i hi e he hb]
  · rw [exc_some, keepRows_error hr hne (fun i => (f t i).map (!·)) i hi e (by rw [he]; rfl)
      (fun j hj => by obtain ⟨b, h⟩ := hb j hj; exact ⟨!b, by rw [h]; rfl⟩)]

/-- python's falsy scalars -/
def Falsy (c : Cell) : Prop := c = .none ∨ c = .bool false ∨ c = .int 0 ∨ c = .flt 0 ∨ c = .str ""

/-- `bool(v)` is False exactly for `None`, `False`, `0`, `0.0` (and `-0.0`), `''` - NaN, ±inf, datetimes, every other number and
every non-empty string are truthy -/
theorem truthy_iff (c : Cell) : c.truthy = false ↔ Falsy c := by
  unfold Falsy
  cases c <;> simp [Cell.truthy]

/-- **a callable returning any VALUE** `v (row)`: `inc` keeps exactly the records whose value is truthy, `exc` the falsy ones -/
theorem inc_rowval (t : Table) (n : Nat) (hr : t.Rect n) (hne : t ≠ []) (v : List (String × Cell) → Cell) :
    t.inc (some fun t' i => .ok (v (rowDict t' i)).truthy) [] =
      .ok (t.gatherRows ((List.range n).filter fun i => (v (rowDict t i)).truthy)) ∧
    t.exc (some fun t' i => .ok (v (rowDict t' i)).truthy) [] =
      .ok (t.gatherRows ((List.range n).filter fun i => !(v (rowDict t i)).truthy)) :=
  ⟨inc_rowpred t n hr hne fun r => (v r).truthy, exc_rowpred t n hr hne fun r => (v r).truthy⟩

/-- a row is dropped by `inc(f)` (kept by `exc(f)`) iff `f` returned one of the five falsy scalars on it -/
theorem inc_rowval_mem (t : Table) (n : Nat) (v : List (String × Cell) → Cell) (i : Nat) :
    i ∈ (List.range n).filter (fun i => (v (rowDict t i)).truthy) ↔ i < n ∧ ¬ Falsy (v (rowDict t i)) := by
  rw [List.mem_filter, List.mem_range, ← truthy_iff]
  simp

/-- the menu's `lambda a: a` and `lambda a, b: a or b` are such callables: `Pred.eval` is the truthiness of the returned cell -/
theorem pred_ident_eval (t : Table) (i : Nat) (a : String) (x : Cell) (h : t.cellAt i a = some x) :
    (Pred.ident a).eval t i = .ok x.truthy := by
  simp [Pred.eval, h]

theorem pred_orElse_eval (t : Table) (i : Nat) (a b : String) (x y : Cell) (ha : t.cellAt i a = some x) (hb : t.cellAt i b = some y) :
    (Pred.orElse a b).eval t i = .ok (if x.truthy then x else y).truthy := by
  simp only [Pred.eval, ha, hb]
  split <;> simp_all

/-- `find_<key>(**conds)` looks at the values of column `key` in the rows `inc` selects: it raises
`ValueError` if no row is selected, returns the first value if all selected values are equal as values
(`valEq`: python `==`, and NaN equal to NaN), and raises `ValueError` otherwise -/
theorem find_spec (t : Table) (n : Nat) (hr : t.Rect n) (key : String) (col : List Cell)
    (hcol : t.col? key = some col) (conds : List (String × Cond)) (hk : ∀ kc ∈ conds, t.has kc.1 = true) :
    t.find key Option.none conds =
      match ((List.range n).filter (t.sat conds)).map fun i => col.getD i .none with
      | [] => .error .value
      | x :: rest => if rest.all (x.valEq ·) then .ok x else .error .value :=
  find_of_inc hcol (inc_filter t n hr conds hk)

/-- **find**: it returns `v` iff at least one row is selected and `v` is the first — hence, all being
equal, the unique — value of the column among the selected rows; otherwise it raises `ValueError` -/
theorem find_unique (t : Table) (n : Nat) (hr : t.Rect n) (key : String) (col : List Cell)
    (hcol : t.col? key = some col) (conds : List (String × Cond)) (hk : ∀ kc ∈ conds, t.has kc.1 = true)
    (v : Cell) :
    (t.find key Option.none conds = .ok v ↔
      ∃ rest, (((List.range n).filter (t.sat conds)).map fun i => col.getD i .none) = v :: rest ∧
        ∀ x ∈ rest, v.valEq x = true) ∧
    (∀ e, t.find key Option.none conds = .error e → e = .value) :=
  first_of_equal_iff (find_spec t n hr key col hcol conds hk) v

/-- `find_<key>(f)` with a callable that answers `p i` on every row: the same reading as `find_spec` -/
theorem find_fn (t : Table) (n : Nat) (hr : t.Rect n) (key : String) (col : List Cell)
    (hcol : t.col? key = some col) (f : Table → Nat → Except Err Bool) (p : Nat → Bool)
    (hf : ∀ i < n, f t i = .ok (p i)) :
    t.find key (some f) [] =
      match ((List.range n).filter p).map fun i => col.getD i .none with
      | [] => .error .value
      | x :: rest => if rest.all (x.valEq ·) then .ok x else .error .value :=
  find_of_inc hcol (inc_fn t n hr (ne_nil_of_col? hcol) f p hf)

/-- **find_<col>, `<col>` is not a column**: `KeyError` whatever the conditions -/
theorem find_missing_col (t : Table) (key : String) (fn : Option (Table → Nat → Except Err Bool))
    (conds : List (String × Cond)) (h : t.has key = false) : t.find key fn conds = .error .key := by
  simp [find, h]

/-- **find_<col>, a FILTER key is not a column**: the `KeyError` of `inc` (`inc_missing_key`) is what `find_` raises -/
theorem find_missing_filter_key (t : Table) (n : Nat) (hr : t.Rect n) (hne : t ≠ []) (key : String)
    (pre post : List (String × Cond)) (k : String) (c : Cond)
    (hkey : t.has key = true) (hpre : ∀ kc ∈ pre, t.has kc.1 = true) (hk : t.has k = false) :
    t.find key Option.none (pre ++ (k, c) :: post) = .error .key := by
  simp only [find, hkey, Bool.not_true, Bool.false_eq_true, if_false, inc_missing_key t n hr hne pre post k c hpre hk]

/-- equality of cells as values, spelled out: both NaN, both None, the same string / datetime / infinity, or
numbers (bools, ints, floats in quarters) of equal value; nothing else -/
def sameValue : Cell → Cell → Prop
  | .nan, .nan => True
  | .none, .none => True
  | .pinf, .pinf => True
  | .ninf, .ninf => True
  | .str a, .str b => a = b
  | .dt a, .dt b => a = b
  | a, b =>
    let num : Cell → Option Int := fun c => match c with
      | .bool b => some (if b then 4 else 0) | .int n => some (4 * n) | .flt q => some q | _ => Option.none
    ∃ x, num a = some x ∧ num b = some x

theorem valEq_iff (a b : Cell) : a.valEq b = true ↔ sameValue a b := by
  unfold sameValue
  split
  -- `h_7` is the last arm `| a, b =>` of `sameValue`; its hypotheses say that `(a, b)` is none of the six arms above it,
  -- which also excludes the non-numeric arms of `pyEq`, so both sides compare numbers
  case h_7 hnan hnone hpinf hninf hstr hdt =>
    have hn : (a == Cell.nan && b == Cell.nan) = false := by
      rw [Bool.and_eq_false_iff, beq_eq_false_iff_ne, beq_eq_false_iff_ne]
      exact Decidable.not_and_iff_or_not.1 fun h => hnan h.1 h.2
    unfold Cell.valEq Cell.pyEq
    rw [hn, Bool.or_false]
    split
    · exact (hnone rfl rfl).elim
    · exact (hstr _ _ rfl rfl).elim
    · exact (hdt _ _ rfl rfl).elim
    · exact (hpinf rfl rfl).elim
    · exact (hninf rfl rfl).elim
    · exact numEq_iff _ _
  all_goals simp [Cell.valEq, Cell.pyEq]

/-- the NaN condition holds of NaN cells only (not of ±inf, not of None) -/
theorem isNaN_iff (c : Cell) : Cond.isNaN.test c = true ↔ c = .nan := by simp [Cond.test]

theorem isNone_iff (c : Cell) : Cond.isNone.test c = true ↔ c = .none := by simp [Cond.test]

/-- a list of admissible values: the cell has the same value as one of them (so a NaN cell is selected iff
NaN is admissible, whichever objects hold the NaNs; `1`, `1.0` and `True` are one value) -/
theorem oneOf_iff (vs : List Cell) (c : Cell) : (Cond.oneOf vs).test c = true ↔ ∃ v ∈ vs, sameValue v c := by
  simp [Cond.test, valEq_iff]

/-- a regex condition never holds of a cell that is not a string, and is the search function on strings -/
theorem regex_iff (m : String → Bool) (c : Cell) : (Cond.regex m).test c = true ↔ ∃ s, c = .str s ∧ m s = true := by
  cases c <;> simp [Cond.test]

/-- a scalar keyword value `v` (not None, not NaN) means "the cell has the value `v`" -/
theorem ofValue_one (v c : Cell) (h1 : v ≠ .none) (h2 : v ≠ .nan) :
    (Cond.ofValue (.one v)).test c = true ↔ sameValue v c := by
  have h : Cond.ofValue (.one v) = .oneOf [v] := by
    cases v with
    | none => exact absurd rfl h1
    | nan => exact absurd rfl h2
    | _ => rfl
  rw [h, oneOf_iff]
  simp only [List.mem_singleton, exists_eq_left]

/-- **dict filters are `dict.update`** (`filters.update(function)` for a dict among the positional arguments): looking a column up in the merged
conditions gives the DICT's condition when the dict has the key (its last entry, were there several), else the keyword's.  Stated through lookup
(`find?`), independent of how `mergeConds` folds. -/
theorem mergeConds_lookup (kw dc : List (String × Cond)) (k : String) :
    ((mergeConds kw dc).find? (·.1 == k)) =
      match dc.reverse.find? (·.1 == k) with
      | some kc => some kc
      | Option.none => kw.find? (·.1 == k) := by
  -- `filters.update` assigns the entries of the dict one after the other
  show (dc.foldl (fun acc kc => acc.setKey kc.1 kc.2) kw).find? (·.1 == k) = _
  rw [List.find?_foldl_setKey]
  cases dc.reverse.find? (·.1 == k) <;> rfl

example : mergeConds [("a", .isNone), ("b", .isNaN)] [("b", .isNone), ("c", .isNaN), ("b", .oneOf [])] =
    [("a", .isNone), ("b", .oneOf []), ("c", .isNaN)] := by rfl

/-- the rows `one_or_none` looks at: those satisfying every condition and - when an `exc` dict is given - not all of its conditions -/
def oneSel (t : Table) (n : Nat) (conds excs : List (String × Cond)) : List Nat :=
  (List.range n).filter fun i => t.sat conds i && !(!excs.isEmpty && t.sat excs i)

/-- `inc` followed by `exc` is ONE gather of the table at `oneSel` -/
theorem one_or_none_rows (t : Table) (n : Nat) (hr : t.Rect n) (conds excs : List (String × Cond))
    (hk : ∀ kc ∈ conds, t.has kc.1 = true) (hke : ∀ kc ∈ excs, t.has kc.1 = true) (find : Option String) :
    t.oneOrNone Option.none conds excs find = oneOf (t.gatherRows (oneSel t n conds excs)) find := by
  unfold oneOrNone
  rw [inc_filter t n hr conds hk]
  by_cases he : excs = []
  · subst he
    simp only [List.isEmpty_nil, if_true, oneSel, Bool.not_true, Bool.false_and, Bool.not_false, Bool.and_true]
  · have hie : excs.isEmpty = false := by rwa [List.isEmpty_eq_false_iff]
    simp only [hie, Bool.false_eq_true, if_false]
    rw [exc_gather _ excs he hke, List.filter_filter]
    simp only [oneSel, hie, Bool.not_false, Bool.true_and, Bool.and_comm]

/-- **one_or_none, no row** satisfies the conditions without satisfying the exclusion: `None` -/
theorem one_or_none_none (t : Table) (n : Nat) (hr : t.Rect n) (hne : t ≠ []) (conds excs : List (String × Cond))
    (hk : ∀ kc ∈ conds, t.has kc.1 = true) (hke : ∀ kc ∈ excs, t.has kc.1 = true) (find : Option String)
    (h : oneSel t n conds excs = []) :
    t.oneOrNone Option.none conds excs find = .ok .none := by
  rw [one_or_none_rows t n hr conds excs hk hke, Table.oneOf, nrows_gatherRows hne, h]
  rfl

/-- **one_or_none, one row** `i`: that row as a dict (every column, the cells of row `i`), or its `find` cell -/
theorem one_or_none_one (t : Table) (n : Nat) (hr : t.Rect n) (hne : t ≠ []) (conds excs : List (String × Cond))
    (hk : ∀ kc ∈ conds, t.has kc.1 = true) (hke : ∀ kc ∈ excs, t.has kc.1 = true) (find : Option String) (i : Nat)
    (h : oneSel t n conds excs = [i]) :
    t.oneOrNone Option.none conds excs find = pickRow (rowDict t i) find := by
  rw [one_or_none_rows t n hr conds excs hk hke, Table.oneOf, nrows_gatherRows hne, h,
    rowD_gatherRows t [i] 0 Nat.zero_lt_one]
  rfl

/-- **one_or_none, several rows**: ValueError, whatever `find` -/
theorem one_or_none_many (t : Table) (n : Nat) (hr : t.Rect n) (hne : t ≠ []) (conds excs : List (String × Cond))
    (hk : ∀ kc ∈ conds, t.has kc.1 = true) (hke : ∀ kc ∈ excs, t.has kc.1 = true) (find : Option String)
    (h : 2 ≤ (oneSel t n conds excs).length) :
    t.oneOrNone Option.none conds excs find = .error .value := by
  rw [one_or_none_rows t n hr conds excs hk hke, Table.oneOf, nrows_gatherRows hne]
  simp only [gt_iff_lt]
  rw [if_pos (by omega)]

/-- the three cases are exhaustive and each is forced: the answer determines how many rows were selected -/
theorem one_or_none_iff (t : Table) (n : Nat) (hr : t.Rect n) (hne : t ≠ []) (conds excs : List (String × Cond))
    (hk : ∀ kc ∈ conds, t.has kc.1 = true) (hke : ∀ kc ∈ excs, t.has kc.1 = true) :
    (t.oneOrNone Option.none conds excs Option.none = .ok .none ↔ oneSel t n conds excs = []) ∧
    (t.oneOrNone Option.none conds excs Option.none = .error .value ↔ 2 ≤ (oneSel t n conds excs).length) ∧
    (∀ r, t.oneOrNone Option.none conds excs Option.none = .ok (.row r) ↔ ∃ i, oneSel t n conds excs = [i] ∧ r = rowDict t i) := by
  rcases hs : oneSel t n conds excs with _ | ⟨i, _ | ⟨j, rest⟩⟩
  · rw [one_or_none_none t n hr hne conds excs hk hke _ hs]
    simp
  · rw [one_or_none_one t n hr hne conds excs hk hke _ i hs]
    simp [pickRow, eq_comm]
  · rw [one_or_none_many t n hr hne conds excs hk hke _ (by rw [hs]; simp)]
    simp

/-- `find = k` for a column `k` of the table: the cell of that column in the selected row (`d[k][i]`) -/
theorem pickRow_find (t : Table) (i : Nat) (k : String) (col : List Cell) (hk : t.col? k = some col) (hne : k ≠ "") :
    pickRow (rowDict t i) (some k) = .ok (.cell (col.getD i .none)) := by
  have : (rowDict t i).lookup k = some (col.getD i .none) := (lookup_rowD t i k).trans (cellAt_of_col hk i)
  simp only [pickRow, hne, if_false, this]

/-- `find = k` for a `k` that is not a column of the table: `KeyError` -/
theorem pickRow_missing (t : Table) (i : Nat) (k : String) (hk : t.has k = false) (hne : k ≠ "") :
    pickRow (rowDict t i) (some k) = .error .key := by
  have : (rowDict t i).lookup k = Option.none := (lookup_rowD t i k).trans (cellAt_eq_none hk i)
  simp only [pickRow, hne, if_false, this]

theorem matchAt_lit (r : RePat) (he : r.eol = false) (hi : r.icase = false) (p cs : List Char) :
    r.matchAt (p.map some) cs = p.isPrefixOf cs := by
  induction p generalizing cs with
  | nil => simp [RePat.matchAt, he]
  | cons a p ih =>
    cases cs with
    | nil => simp [RePat.matchAt]
    | cons c cs => simp [RePat.matchAt, hi, ih cs, List.isPrefixOf]

/-- a literal pattern (no `^ $ .`, no flag): `search` is substring containment, Python's `p in s` -/
theorem search_lit (p s : String) : (RePat.lit p).search s = infixB p.toList s.toList := by
  simp only [RePat.search, RePat.lit, Bool.false_eq_true, if_false]
  induction s.toList with
  | nil => cases p.toList <;> simp [tailsOf, infixB, RePat.matchAt]
  | cons c cs ih => simp [tailsOf, infixB, matchAt_lit, ih]

def tbl : Table := [("a", [.int 1, .none, .flt 4, .nan, .str "x1"]), ("b", [.str "x", .str "y", .none, .str "xy", .int 2])]

example : tbl.Rect 5 ∧ tbl ≠ [] ∧ tbl.has "a" = true ∧ tbl.has "b" = true := by decide +kernel
example : tbl.sat [("a", .oneOf [.int 1]), ("b", .regex (RePat.lit "x").search)] 0 = true := by decide +kernel
/-- `1 == 1.0`: the int 1 and the float 1.0 (`flt 4`) both match -/
example : tbl.inc Option.none [("a", .oneOf [.int 1])] = .ok [("a", [.int 1, .flt 4]), ("b", [.str "x", .none])] := by rfl
example : tbl.exc Option.none [("a", .oneOf [.int 1])] =
    .ok [("a", [.none, .nan, .str "x1"]), ("b", [.str "y", .str "xy", .int 2])] := by rfl
example : tbl.inc Option.none [("a", .isNaN), ("b", .regex (RePat.lit "y").search)] = .ok [("a", [.nan]), ("b", [.str "xy"])] := by rfl
example : tbl.inc Option.none [("a", .oneOf [])] = .ok [("a", []), ("b", [])] := by rfl
example : tbl.find "b" Option.none [("a", .isNone)] = .ok (.str "y") := by rfl
example : tbl.find "b" Option.none [("a", .oneOf [.int 1])] = .error .value := by rfl
example : tbl.find "b" Option.none [("a", .oneOf [.int 99])] = .error .value := by rfl

/-- a predicate of the row's cells: `lambda a, b: a is None or b == 'x'` -/
def qrow (r : List (String × Cell)) : Bool := (r.lookup "a" == some .none) || (r.lookup "b" == some (.str "x"))
example : tbl.inc (some fun t' i => .ok (qrow (rowDict t' i))) [] =
    .ok [("a", [.int 1, .none]), ("b", [.str "x", .str "y"])] := by rfl
example : tbl.exc (some fun t' i => .ok (qrow (rowDict t' i))) [] =
    .ok [("a", [.flt 4, .nan, .str "x1"]), ("b", [.none, .str "xy", .int 2])] := by rfl
/-- the menu callable `lambda q: q is None` on a table without a column `q` raises `TypeError` on row 0, and `inc` raises it -/
example : (Pred.isNone "q").eval tbl 0 = .error .type ∧ tbl.inc (some (Pred.isNone "q").eval) [] = .error .type := by
  constructor <;> rfl
example : tbl.find "b" (some fun t' i => .ok (qrow (rowDict t' i))) [] = .error .value := by rfl
/-- `exc` with a key that is not a column: `KeyError` when there are rows, the table itself when there are none -/
example : tbl.exc Option.none [("a", .isNone), ("q", .isNone)] = .error .key := by rfl
example : Table.exc [("a", [])] Option.none [("q", .isNone)] = .ok [("a", [])] := by rfl
/-- NaN: a NaN cell is selected by a list holding NaN; ±inf are values, not NaN -/
example : (Cond.oneOf [.nan, .int 5]).test .nan = true ∧ Cond.isNaN.test .pinf = false ∧
    (Cond.ofValue (.one .pinf)).test .pinf = true ∧ (Cond.ofValue (.one .pinf)).test .nan = false := by decide +kernel
example : Table.find [("x", [.nan, .nan]), ("y", [.int 1, .int 1])] "x" Option.none [("y", .oneOf [.int 1])] = .ok .nan := by rfl
/-- the driver's patterns: `^x`, `a.c`, `x` with re.I -/
example : (RePat.mk true false false [some 'x']).search "xa" = true ∧ (RePat.mk true false false [some 'x']).search "ax" = false ∧
    (RePat.mk false false false [some 'a', Option.none, some 'c']).search "zaxcz" = true ∧
    (RePat.mk false true true [some 'x']).search "aX" = true ∧ (RePat.mk false true false [some 'x']).search "xa" = false := by
  decide +kernel

example : tbl.oneOrNone Option.none [("a", .isNone)] [] Option.none =
    .ok (.row [("a", .none), ("b", .str "y")]) := rfl
example : tbl.oneOrNone Option.none [] [("a", .oneOf [.int 1, .flt 4, .nan])] (some "b") = .error .value := rfl
example : tbl.oneOrNone Option.none [("b", .oneOf [.str "x", .str "y"])] [("a", .isNone)] (some "a") = .ok (.cell (.int 1)) := rfl
example : tbl.oneOrNone Option.none [("b", .oneOf [.int 7])] [] Option.none = .ok .none := rfl

example : tbl.inc (some (Pred.ident "a").eval) [] = .ok [("a", [.int 1, .flt 4, .nan, .str "x1"]), ("b", [.str "x", .none, .str "xy", .int 2])] := by rfl
example : tbl.exc (some (Pred.orElse "a" "b").eval) [] = .ok [("a", []), ("b", [])] := by rfl

end Pyg.Props.C06
