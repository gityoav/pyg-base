/-
  C11 — listby/unlist, groupby/ungroup and pivot/unpivot are lossless regroupings.
  `keys` are the per-row keys `d[by]` (one tuple per row); key equality is `cmp · · = .eq`
  (numeric equality of ints and floats, `None = None`, `NaN = NaN`: C07 / C02).
  `Std.Data.String.ToInt` is imported for `Int.repr_inj` only.
-/
import PygModel.Group
import PygProofs.Lemmas.GroupLemmas
import PygProofs.Lemmas.UnlistLemmas
import PygProofs.Lemmas.PivotLemmas
import PygProofs.Lemmas.UnpivotLemmas
import Std.Data.String.ToInt

namespace Pyg.Props.C11
open Pyg

/-- **one group per distinct key**: group keys are pairwise different (strictly increasing under
`cmp`), and every row's key is `cmp`-equal to the key of exactly one group -/
theorem listby_distinct (keys : List Val) :
    (listbyG keys).Pairwise (fun a b => cmp a.1 b.1 = .lt) ∧
    ∀ i, i < keys.length →
      ∃ g ∈ listbyG keys, cmp (keyAt keys i) g.1 = .eq ∧
        ∀ g' ∈ listbyG keys, cmp (keyAt keys i) g'.1 = .eq → g' = g := by
  refine ⟨listbyG_sorted keys, fun i hi => ?_⟩
  obtain ⟨g, hg, he⟩ := listbyG_covers hi
  refine ⟨g, hg, he, fun g' hg' he' => ?_⟩
  exact SortedG.unique (listbyG_sorted keys) hg' hg (Std.TransCmp.eq_trans (Std.OrientedCmp.eq_symm he') he)

/-- **exactly one row per distinct key, as a count**: for every row, exactly one group has a key
`cmp`-equal to the row's key; and (non-empty table) every group's key is the key of one of the rows —
so the groups are in one-to-one correspondence with the distinct keys (`listby_distinct`: no two groups
share a key). -/
theorem listby_one_row_per_key (keys : List Val) :
    (∀ i, i < keys.length →
      ((listbyG keys).filter fun g => cmp (keyAt keys i) g.1 == .eq).length = 1) ∧
    (keys ≠ [] → ∀ g ∈ listbyG keys, ∃ i, i < keys.length ∧ cmp (keyAt keys i) g.1 = .eq) := by
  constructor
  · intro i hi
    obtain ⟨g, hg, he⟩ := listbyG_covers hi
    rw [SortedG.filter_eq (listbyG_sorted keys) hg he]
    rfl
  · intro hne g hg
    have hn := listbyG_nonempty hne g hg
    obtain ⟨i, hi⟩ := List.exists_mem_of_ne_nil _ hn
    exact ⟨i, (mem_group_iff hg).1 hi⟩

/-- **the number of groups = the number of distinct keys**, counted as the rows that are the first
with their key -/
theorem listby_count (keys : List Val) (hne : keys ≠ []) :
    (listbyG keys).length =
      ((List.range keys.length).filter fun i =>
        (List.range i).all fun j => cmp (keyAt keys j) (keyAt keys i) != .eq).length := by
  generalize hF : ((List.range keys.length).filter fun i =>
        (List.range i).all fun j => cmp (keyAt keys j) (keyAt keys i) != .eq) = F
  have hperm : F.Perm ((listbyG keys).flatMap fun g =>
      F.filter fun i => cmp (keyAt keys i) g.1 == .eq) := by
    apply perm_flatMap_groups (listbyG_sorted keys) (keyAt keys) F
    intro a ha
    have han : a < keys.length := by rw [← hF] at ha; exact List.mem_range.1 (List.mem_filter.1 ha).1
    exact listbyG_covers han
  have hone : ∀ g ∈ listbyG keys, (F.filter fun i => cmp (keyAt keys i) g.1 == .eq).length = 1 := by
    intro g hg
    have hfil : (F.filter fun i => cmp (keyAt keys i) g.1 == .eq) =
        g.2.filter fun i => (List.range i).all fun j => cmp (keyAt keys j) (keyAt keys i) != .eq := by
      rw [← hF, group_eq_filter hg, List.filter_filter, List.filter_filter]
      apply List.filter_congr
      intro i _
      exact Bool.and_comm _ _
    rw [hfil, group_firsts hne hg]
  rw [hperm.length_eq, List.length_flatMap, List.map_congr_left hone, List.map_const',
    List.sum_replicate_nat, Nat.mul_one]

/-- **original row order inside a group**: the row ids of a group are exactly the rows whose key
equals the group's key, listed in increasing (= original) order -/
theorem listby_order (keys : List Val) (g : Grp) (hg : g ∈ listbyG keys) :
    g.2 = (List.range keys.length).filter fun i => cmp (keyAt keys i) g.1 == .eq :=
  group_eq_filter hg

/-- **the representative rule**: the key stored for a group is LITERALLY the key of the group's last row (`prev = key` on every row of the
run, src/pyg_base/_dictable.py:939, in the loop of `_listby`, lines 927-941) — one of the keys of its rows, never a third value; for `1` beside `1.0` it is whichever comes last in the
stable order. -/
theorem listby_representative (keys : List Val) (g : Grp) (hg : g ∈ listbyG keys) (i : Nat)
    (hi : g.2.getLast? = some i) : g.1 = keyAt keys i ∧ i ∈ g.2 :=
  ⟨(keyAt_of_get (listbyG_rep keys g hg i hi)).symm, List.mem_of_getLast? hi⟩

/-- **unlist ∘ listby is the stable sort**: reading the groups one after the other visits the rows in
the order of the stable sort of the keys (`dictable.sort`'s row permutation, C07) -/
theorem unlist_listby_ids (keys : List Val) :
    (listbyG keys).flatMap (·.2) = sortIdx keys :=
  listbyG_flat keys

/-- **group sizes add up to `len(d)`**, and no group is empty -/
theorem groupby_sizes (keys : List Val) (h : keys ≠ []) :
    ((listbyG keys).map (·.2.length)).sum = keys.length ∧ ∀ g ∈ listbyG keys, g.2 ≠ [] :=
  ⟨group_sizes keys, listbyG_nonempty h⟩

/-- **ungroup ∘ groupby restores the multiset of rows**: the concatenated row ids of the groups are
a permutation of `0 … n-1` -/
theorem ungroup_groupby_ids (keys : List Val) :
    ((listbyG keys).flatMap (·.2)).Perm (List.range keys.length) :=
  listbyG_perm keys

/-- `listby` on a non-empty table with explicit keys: key columns hold the group keys, every other
column holds, per group, the list of that group's cells (by `listby_order`: in original row order) -/
theorem listby_table (t : Table) (by_ : List String) (keys : List Val)
    (hn : t.nrows ≠ 0) (hb : by_ ≠ []) (hk : t.keysOf (by_.map .col) = .ok keys) :
    t.listby by_ = .ok (keyColsOf by_ (listbyG keys) ++
      (t.others by_).map fun c => (c.1, (listbyG keys).map fun g => .list (pick c.2 g.2))) := by
  simp only [Table.listby, hn, List.isEmpty_eq_false_iff.2 hb, Bool.false_and, Bool.false_eq_true, if_false, hk]
  rfl

/-- **unlist ∘ listby, table level**: for a non-empty table, explicit distinct key columns that leave
at least one other column, `d.listby(by).unlist()` is the table whose non-key columns are those of
`d` with the rows taken in the order of the stable sort of the keys (`sortIdx`, the row permutation
of `dictable.sort`, C07), and whose key columns repeat, for every row, the key of its group —
which is `cmp`-equal to that row's own key (`unlist_listby_keys`). -/
theorem unlist_listby (t : Table) (by_ : List String) (keys : List Val)
    (hn : t.nrows ≠ 0) (hb : by_ ≠ []) (hnd : by_.Nodup)
    (htn : ((t.others by_).map (·.1)).Nodup) (ho : t.others by_ ≠ [])
    (hk : t.keysOf (by_.map .col) = .ok keys) :
    (t.listby by_ >>= VTable.unlist) = .ok (
      (by_.zipIdx.map fun c =>
        (c.1, (listbyG keys).flatMap fun g => g.2.map fun _ => tupleGet c.2 g.1)) ++
      (t.others by_).map fun c => (c.1, pick c.2 (sortIdx keys))) := by
  have hkl : keys ≠ [] := fun h => hn (by
    rw [← keysOf_length hk, h]
    rfl)
  have hct := fun g hg => keysOf_cellList hk _ (listbyG_key_mem hkl g hg)
  rw [listby_table t by_ keys hn hb hk]
  show VTable.unlist (listbyTable t by_ (listbyG keys)) = _
  rw [unlist_listbyTable t by_ (listbyG keys) hb hnd htn ho (listbyG_ne_nil _) hct,
    listbyG_flat]

/-- the key that `unlist ∘ listby` writes next to row `i` is `cmp`-equal to row `i`'s own key, and
the rows appear in the order of the stable sort -/
theorem unlist_listby_keys (keys : List Val) :
    ((listbyG keys).flatMap fun g => g.2.map fun i => (g.1, i)).map (·.2) = sortIdx keys ∧
    ∀ p ∈ (listbyG keys).flatMap (fun g => g.2.map fun i => (g.1, i)),
      cmp p.1 (keyAt keys p.2) = .eq := by
  constructor
  · rw [← listbyG_flat keys]
    simp [List.map_flatMap, List.map_map, Function.comp_def]
  · intro p hp
    simp only [List.mem_flatMap, List.mem_map] at hp
    obtain ⟨g, hg, i, hi, rfl⟩ := hp
    exact Std.OrientedCmp.eq_symm ((mem_group_iff hg).1 hi).2

/-- under "equal keys are identical" the key columns a regrouping writes are the key columns of `d` in the stable-sort order -/
theorem keyCols_canonical (t : Table) (by_ : List String)
    (hcanon : ∀ i j, i < t.nrows → j < t.nrows →
      keysEqB (t.keyCells by_ i) (t.keyCells by_ j) = true → t.keyCells by_ i = t.keyCells by_ j) :
    (by_.zipIdx.map fun c =>
      (c.1, (listbyG (t.rowKeys by_)).flatMap fun g => g.2.map fun _ => tupleGet c.2 g.1)) =
    by_.map fun k => (k, (sortIdx (t.rowKeys by_)).map fun i => Val.cell (t.jcellAt k i)) := by
  have hlen := rowKeys_length t by_
  rw [List.map_eq_zipIdx_map by_]
  apply List.map_congr_left
  intro c hc
  have hkj := List.mem_zipIdx_iff_getElem?.1 hc
  rw [← listbyG_flat, List.map_flatMap]
  congr 1
  apply List.flatMap_congr
  intro g hg
  apply List.map_congr_left
  intro i hi
  obtain ⟨hin, hie⟩ := (mem_group_iff hg).1 hi
  obtain ⟨l, hln, hk⟩ := (listbyG_classes (List.ne_nil_of_length_pos (Nat.zero_lt_of_lt hin))).rep g hg
  rw [hlen] at hin hln
  have hil : t.keyCells by_ i = t.keyCells by_ l := by
    apply hcanon i l hin hln
    rw [← cmp_rowKeys_eq hin hln, beq_iff_eq, ← hk]
    exact hie
  rw [hk, keyAt_rowKeys hln, ← hil]
  simp only [tupleGet, Table.keyCells, List.map_map, List.getD_eq_getElem?_getD, List.getElem?_map, hkj,
    Option.map_some, Option.getD_some, Function.comp_def]

/-- **unlist ∘ listby, literally** — when key-equal rows carry identical key cells (no `1` beside `1.0`: `keysEqB` is the independent key equality
of C02's `KeyEq.lean`), `d.listby(by).unlist()` IS the table stably sorted by the keys: EVERY column, key or not, is that column of `d` read
through the stable-sort permutation `sortIdx` (C07) — key columns first.  Cells are looked up by column NAME (`jcellAt`), not through the model's
grouping. -/
theorem unlist_listby_canonical (t : Table) (by_ : List String)
    (hn : t.nrows ≠ 0) (hb : by_ ≠ []) (hnd : by_.Nodup) (hcols : ∀ k ∈ by_, k ∈ t.cols)
    (htn : ((t.others by_).map (·.1)).Nodup) (ho : t.others by_ ≠ [])
    (hcanon : ∀ i j, i < t.nrows → j < t.nrows →
      keysEqB (t.keyCells by_ i) (t.keyCells by_ j) = true → t.keyCells by_ i = t.keyCells by_ j) :
    (t.listby by_ >>= VTable.unlist) = .ok (
      (by_.map fun k => (k, (sortIdx (t.rowKeys by_)).map fun i => Val.cell (t.jcellAt k i))) ++
      (t.others by_).map fun c => (c.1, pick c.2 (sortIdx (t.rowKeys by_)))) := by
  rw [unlist_listby t by_ (t.rowKeys by_) hn hb hnd htn ho (keysOf_named hcols),
    keyCols_canonical t by_ hcanon]

-- without `hcanon` the key column differs: `1` beside `1.0` comes back as the group's representative `1`
#guard (match Table.listby [("a", [.int 1, .flt 4, .int 2, .int 1]), ("b", [.int 1, .int 2, .int 3, .int 4])] ["a"] >>= VTable.unlist with
  | .ok u => u == [("a", [.cell (.int 1), .cell (.int 1), .cell (.int 1), .cell (.int 2)]), ("b", [.cell (.int 1), .cell (.int 2), .cell (.int 4), .cell (.int 3)])]
  | _ => false)

/-- `groupby` likewise: one sub-table per group holding that group's rows of the other columns -/
theorem groupby_table (t : Table) (by_ : List String) (grp : String) (keys : List Val)
    (hn : t.nrows ≠ 0) (hb : by_ ≠ []) (hlt : by_.length ≠ t.cols.length) (hgb : grp ∉ by_)
    (hk : t.keysOf (by_.map .col) = .ok keys) :
    t.groupby by_ grp = .ok (keyColsOf by_ (listbyG keys) ++
      [(grp, (listbyG keys).map fun g => subTable (t.others by_) g.2)]) := by
  rw [groupby_eq t by_ grp hn hb, if_neg hlt, if_neg (by simpa using hgb), hk]
  rfl

/-- **ungroup ∘ groupby, table level**: for a non-empty table, explicit distinct key columns that
leave at least one other column, and a `grp` name that is not a key, `d.groupby(by).ungroup()` has
the non-key columns of `d` with the rows in the order of the stable sort of the keys — a permutation
of the rows (`ungroup_groupby_ids`) — and key columns that repeat each group's key, `cmp`-equal to
the rows' own keys (`unlist_listby_keys`). -/
theorem ungroup_groupby (t : Table) (by_ : List String) (grp : String) (keys : List Val)
    (hn : t.nrows ≠ 0) (hb : by_ ≠ []) (hnd : by_.Nodup) (hgb : grp ∉ by_)
    (htn : ((t.others by_).map (·.1)).Nodup) (ho : t.others by_ ≠ [])
    (hlt : by_.length ≠ t.cols.length)
    (hk : t.keysOf (by_.map .col) = .ok keys) :
    (match t.groupby by_ grp with
      | .ok g => g.ungroup grp
      | .error e => some (.error e)) = some (.ok (
      ((t.others by_).map fun c => (c.1, pick c.2 (sortIdx keys))) ++
      (by_.zipIdx.map fun c =>
        (c.1, (listbyG keys).flatMap fun g => g.2.map fun _ => tupleGet c.2 g.1)))) := by
  rw [groupby_table t by_ grp keys hn hb hlt hgb hk]
  show VTable.ungroup (groupbyTable t by_ grp (listbyG keys)) grp = _
  rw [ungroup_groupbyTable t by_ grp (listbyG keys) hb hnd htn hgb ho (listbyG_ne_nil _),
    listbyG_flat]

/-- **ungroup ∘ groupby restores the multiset of rows, literally** — same hypothesis, `grp ∉ by`: there is a PERMUTATION `σ` of the row numbers
(`σ = sortIdx keys`) such that every column of the result, key or not, is that column of `d` read through `σ`.  So the rows of the result are the
rows of `d`, each exactly once (`List.Perm`), cell for cell, types included. -/
theorem ungroup_groupby_perm (t : Table) (by_ : List String) (grp : String)
    (hn : t.nrows ≠ 0) (hb : by_ ≠ []) (hnd : by_.Nodup) (hgb : grp ∉ by_) (hcols : ∀ k ∈ by_, k ∈ t.cols)
    (htn : ((t.others by_).map (·.1)).Nodup) (ho : t.others by_ ≠ [])
    (hlt : by_.length ≠ t.cols.length)
    (hcanon : ∀ i j, i < t.nrows → j < t.nrows →
      keysEqB (t.keyCells by_ i) (t.keyCells by_ j) = true → t.keyCells by_ i = t.keyCells by_ j) :
    ∃ σ : List Nat, σ.Perm (List.range t.nrows) ∧
      (match t.groupby by_ grp with
        | .ok g => g.ungroup grp
        | .error e => some (.error e)) = some (.ok (
        ((t.others by_).map fun c => (c.1, pick c.2 σ)) ++
        (by_.map fun k => (k, σ.map fun i => Val.cell (t.jcellAt k i))))) := by
  refine ⟨sortIdx (t.rowKeys by_), ?_, ?_⟩
  · have := listbyG_perm (t.rowKeys by_)
    rw [listbyG_flat, rowKeys_length] at this
    exact this
  rw [ungroup_groupby t by_ grp (t.rowKeys by_) hn hb hnd hgb htn ho hlt (keysOf_named hcols),
    keyCols_canonical t by_ hcanon]

/-- a table with a duplicate key -/
def exG : Table := [("a", [.int 2, .int 1, .int 2]), ("v", [.str "p", .str "q", .str "r"])]

/-- the hypotheses of `ungroup_groupby_perm` are satisfiable on a table with duplicate keys -/
example : ∃ σ : List Nat, σ.Perm (List.range 3) ∧
    (match exG.groupby ["a"] "grp" with
      | .ok g => g.ungroup "grp"
      | .error e => some (.error e)) = some (.ok (
      ((exG.others ["a"]).map fun c => (c.1, pick c.2 σ)) ++
      (["a"].map fun k => (k, σ.map fun i => Val.cell (exG.jcellAt k i))))) :=
  ungroup_groupby_perm exG ["a"] "grp" (by decide) (by decide) (by decide) (by decide) (by decide) (by decide) (by decide)
    (by decide) (by
      have h : ∀ i, i < exG.nrows → ∀ j, j < exG.nrows →
          keysEqB (exG.keyCells ["a"] i) (exG.keyCells ["a"] j) = true →
          exG.keyCells ["a"] i = exG.keyCells ["a"] j := by decide +kernel
      exact fun i j hi hj => h i hi j hj)

/-- grouping on all columns is rejected (`ValueError`), as in the code -/
theorem groupby_all_keys (t : Table) (grp : String) (hn : t.nrows ≠ 0) :
    t.groupby t.cols grp = .error .value := by
  rw [groupby_eq t t.cols grp hn (cols_ne_nil hn), if_pos rfl]

/-- **`grp` named like a key is rejected**: `d.groupby(by, grp = g)` with `g ∈ by` is a `ValueError` whatever the table
holds (the sub-tables would otherwise take the place of the key column `g`).  Together with `ungroup_groupby` (hypothesis `grp ∉ by`)
the two cases cover every name. -/
theorem groupby_grp_collision (t : Table) (by_ : List String) (grp : String)
    (hn : t.nrows ≠ 0) (hb : by_ ≠ []) (hgb : grp ∈ by_) :
    t.groupby by_ grp = .error .value := by
  rw [groupby_eq t by_ grp hn hb, if_pos (List.contains_iff_mem.2 hgb)]
  split <;> rfl

/-- `grp` named like the one key: rejected.  (A `grp` that is the name of a NON-key column is accepted, that column lives inside the
sub-tables: `groupby_table` / `ungroup_groupby` only need `grp ∉ by`.) -/
example : Table.groupby [("a", [.int 1, .int 2, .int 1]), ("grp", [.str "x", .str "y", .str "z"])] ["grp"] "grp" = .error .value :=
  groupby_grp_collision _ _ _ (by decide) (by decide) (by decide)

/-- table level: `d.listby(by)` has one row per group, i.e. per distinct key -/
theorem listby_nrows (t : Table) (by_ : List String) (keys : List Val)
    (hn : t.nrows ≠ 0) (hb : by_ ≠ []) (hk : t.keysOf (by_.map .col) = .ok keys) :
    ∃ l, t.listby by_ = .ok l ∧ l.nrows = (listbyG keys).length := by
  exact ⟨_, listby_table t by_ keys hn hb hk, nrows_keyColsOf_append hb _ _⟩

/-- table level: `d.groupby(by)` has one row (one sub-table) per distinct key -/
theorem groupby_nrows (t : Table) (by_ : List String) (grp : String) (keys : List Val)
    (hn : t.nrows ≠ 0) (hb : by_ ≠ []) (hlt : by_.length ≠ t.cols.length) (hgb : grp ∉ by_)
    (hk : t.keysOf (by_.map .col) = .ok keys) :
    ∃ l, t.groupby by_ grp = .ok l ∧ l.nrows = (listbyG keys).length := by
  exact ⟨_, groupby_table t by_ grp keys hn hb hlt hgb hk, nrows_keyColsOf_append hb _ _⟩

/-- keys `2`, `1.0`, `1`, `2.0`, `None`: int/float-equal keys in two groups of two rows -/
def exT : Table := [("a", [.int 2, .flt 4, .int 1, .flt 8, .none]), ("v", [.int 10, .int 11, .int 12, .int 13, .int 14])]

/-- the hypotheses `hn`, `hb`, `hlt` (of `groupby_table`) and `hk` of the table-level theorems hold of `exT` with `by = ["a"]` -/
example : exT.nrows ≠ 0 ∧ ["a"] ≠ [] ∧ ["a"].length ≠ exT.cols.length ∧
    exT.keysOf ([("a")].map .col) = .ok [.tuple [.cell (.int 2)], .tuple [.cell (.flt 4)],
      .tuple [.cell (.int 1)], .tuple [.cell (.flt 8)], .tuple [.cell .none]] := by
  refine ⟨by decide, by decide, by decide, rfl⟩

#guard (listbyG [.tuple [.cell (.int 2)], .tuple [.cell (.flt 4)], .tuple [.cell (.int 1)],
    .tuple [.cell (.flt 8)], .tuple [.cell .none]]).map (·.2) == [[4], [1, 2], [0, 3]]
#guard (match exT.listby ["a"] with
  | .ok l => (match l.unlist with
    | .ok u => u == [("a", [.cell .none, .cell (.int 1), .cell (.int 1), .cell (.flt 8), .cell (.flt 8)]),
                     ("v", [.cell (.int 14), .cell (.int 11), .cell (.int 12), .cell (.int 10), .cell (.int 13)])]
    | _ => false)
  | _ => false)

/-- **pivot, every cell**: for a non-empty table whose `x`, `y`, `z` columns exist (labels renderable
and distinct), `d.xyz(x, y, z, agg)` has one row per group `gx` of x keys and one column per group
`gy` of y values, and the cell at (`gx`, label of `gy`) is `None` when no row has that x key and that
y value, else `agg` of the z values of exactly those rows in original row order (`agg = None`: the
list itself).  `pivot_row_addressed` adds that every row has such a `gx` and `gy`. -/
theorem pivot_cell (t : Table) (x : List String) (y z : String) (agg : Agg) (zs : List Cell)
    (labels : List String)
    (hn : t.nrows ≠ 0) (hx : x ≠ [])
    (hcols : ∀ k ∈ x ++ [y], (t.col? k).isSome = true) (hz : t.col? z = some zs) :
    let xyg := listbyG (xyKeys t.nrows (xCells t x) (yCell t y))
    let xg := listbyG (xyg.map fun g => xPart x.length g.1)
    let ys := listbyG ((xyg.map fun g => tupleGet x.length g.1).map fun v => .tuple [v])
    ys.mapM (fun g => yLabel (tupleGet 0 g.1)) = some labels → (x ++ labels).Nodup →
    t.pivot x y z agg = some (.ok (keyColsOf x xg ++
      (labels.zip ys).map fun p => (p.1, xg.map fun gx =>
        let rows := (List.range t.nrows).filter fun i =>
          cmp (.tuple (xCells t x i)) gx.1 == .eq && cmp (.tuple [yCell t y i]) p.2.1 == .eq
        if rows = [] then .cell .none else agg.apply (rows.map fun i => zs.getD i .none)))) := by
  intro xyg xg ys hlab hnd
  obtain ⟨rfl, hsome⟩ := List.mapM_some_inv _ "" _ labels hlab
  rw [(pivot_spec t x y z agg zs _ hn hx hcols hz).2 ⟨hsome, hnd, rfl⟩, ← List.map_prod_right_eq_zip, List.map_map]
  rfl

/-- **"aggregating duplicates with the supplied function"**: `pivot_cell` for ANY aggregator `f : List Cell → Val` (`Agg.fn f`), not only the four
the wire can spell: the cell is `None` if no row has that x key and y value, otherwise `f` of the z values of exactly those rows in original order. -/
theorem pivot_cell_fn (t : Table) (x : List String) (y z : String) (f : List Cell → Val) (zs : List Cell)
    (labels : List String)
    (hn : t.nrows ≠ 0) (hx : x ≠ [])
    (hcols : ∀ k ∈ x ++ [y], (t.col? k).isSome = true) (hz : t.col? z = some zs) :
    let xyg := listbyG (xyKeys t.nrows (xCells t x) (yCell t y))
    let xg := listbyG (xyg.map fun g => xPart x.length g.1)
    let ys := listbyG ((xyg.map fun g => tupleGet x.length g.1).map fun v => .tuple [v])
    ys.mapM (fun g => yLabel (tupleGet 0 g.1)) = some labels → (x ++ labels).Nodup →
    t.pivot x y z (.fn f) = some (.ok (keyColsOf x xg ++
      (labels.zip ys).map fun p => (p.1, xg.map fun gx =>
        let rows := (List.range t.nrows).filter fun i =>
          cmp (.tuple (xCells t x i)) gx.1 == .eq && cmp (.tuple [yCell t y i]) p.2.1 == .eq
        if rows = [] then .cell .none else f (rows.map fun i => zs.getD i .none)))) :=
  pivot_cell t x y z (.fn f) zs labels hn hx hcols hz

def exP : Table := [("a", [.int 1, .int 1, .int 2, .int 1]), ("y", [.str "p", .str "q", .str "p", .str "p"]),
  ("z", [.int 10, .int 20, .int 30, .int 40])]

/-- the hypotheses `hn`, `hcols`, `hz` of `pivot_cell` hold of `exP`, a table with a duplicate (x, y) pair and a missing one
(the labels `"p"`, `"q"` and their distinctness from `"a"` show in the `#guard` below) -/
example : exP.nrows ≠ 0 ∧ (∀ k ∈ ["a"] ++ ["y"], (exP.col? k).isSome = true) ∧
    exP.col? "z" = some [.int 10, .int 20, .int 30, .int 40] := by
  refine ⟨by decide, by decide, rfl⟩

#guard (match exP.pivot ["a"] "y" "z" .none with
  | some (.ok p) => p == [("a", [.cell (.int 1), .cell (.int 2)]),
      ("p", [.list [.cell (.int 10), .cell (.int 40)], .list [.cell (.int 30)]]),
      ("q", [.list [.cell (.int 20)], .cell .none])]
  | _ => false)
#guard (match exP.pivot ["a"] "y" "z" .last with
  | some (.ok p) => (match p.unpivot ["a"] "y" "z" with
    | .ok u => u == [("a", [.cell (.int 1), .cell (.int 1), .cell (.int 2), .cell (.int 2)]),
        ("y", [.cell (.str "p"), .cell (.str "q"), .cell (.str "p"), .cell (.str "q")]),
        ("z", [.cell (.int 40), .cell (.int 20), .cell (.int 30), .cell .none])]
    | _ => false)
  | _ => false)

/-- every row of the table is addressed: its x key has a row group and its y value a label group -/
theorem pivot_row_addressed (t : Table) (x : List String) (y : String) (hn : t.nrows ≠ 0)
    (i : Nat) (hi : i < t.nrows) :
    let xyg := listbyG (xyKeys t.nrows (xCells t x) (yCell t y))
    (∃ gx ∈ listbyG (xyg.map fun g => xPart x.length g.1), cmp (.tuple (xCells t x i)) gx.1 = .eq) ∧
    (∃ gy ∈ listbyG ((xyg.map fun g => tupleGet x.length g.1).map fun v => .tuple [v]),
      cmp (.tuple [yCell t y i]) gy.1 = .eq) :=
  ⟨(x_classes _ _ hn (xCells_length t x)).covers i hi, (y_classes _ _ hn (xCells_length t x)).covers i hi⟩

/-- **pivot of a table without rows**: the x columns, no row, no y column — and `unpivot` of it is the empty table over
`x ++ [y, z]`: the round trip of an empty table is empty. -/
theorem pivot_empty (t : Table) (x : List String) (y z : String) (agg : Agg)
    (hn : t.nrows = 0) (hx : x ≠ []) (hxn : x.Nodup) (hcols : ∀ k ∈ x, (t.col? k).isSome = true) :
    t.pivot x y z agg = some (.ok (x.map fun k => (k, []))) ∧
    VTable.unpivot (x.map fun k => (k, [])) x y z = .ok ((x.map fun k => (k, [])) ++ [(y, []), (z, [])]) := by
  constructor
  · have hall : (x.all fun k => (t.col? k).isSome) = true := List.all_eq_true.2 hcols
    simp [Table.pivot, hn, List.isEmpty_eq_false_iff.2 hx, hxn, hall]
  · have hnr : VTable.nrows (x.map fun k => (k, ([] : List Val))) = 0 := VTable.nrows_map hx _ fun _ _ => rfl
    rw [unpivot_closed _ x y z fun k hk => by
        rw [List.find?_key_map (fun _ => ([] : List Val)) k x, if_pos hk]
        rfl,
      hnr]
    rfl

/-- **unpivot ∘ pivot, the value of every cell**: when the `(x, y)` pairs of the rows are unique and
duplicates are aggregated with `last`, the pivot cell addressed by a row's x key and y value holds
exactly that row's z, and a cell addressed by no row is `None`.  (The single equation between
`unpivot(pivot(d))` minus its `None` rows and `d` is `unpivot_pivot_multiset`.) -/
theorem unpivot_pivot_cells_partial (n nx : Nat) (xp : Nat → List Val) (yc : Nat → Val)
    (zs : List Cell) (hn : n ≠ 0) (hxp : ∀ i, (xp i).length = nx) (gx gy : Grp)
    (hgx : gx ∈ listbyG ((listbyG (xyKeys n xp yc)).map fun g => xPart nx g.1))
    (huniq : ∀ i j, i < n → j < n → cmp (.tuple (xp i)) (.tuple (xp j)) = .eq →
      cmp (.tuple [yc i]) (.tuple [yc j]) = .eq → i = j) :
    (∀ i, i < n → cmp (.tuple (xp i)) gx.1 = .eq → cmp (.tuple [yc i]) gy.1 = .eq →
      pivotCell (listbyG (xyKeys n xp yc)) nx zs .last gx.2 gy.1 = .cell (zs.getD i .none)) ∧
    ((¬ ∃ i, i < n ∧ cmp (.tuple (xp i)) gx.1 = .eq ∧ cmp (.tuple [yc i]) gy.1 = .eq) →
      pivotCell (listbyG (xyKeys n xp yc)) nx zs .last gx.2 gy.1 = .cell .none) := by
  rw [← xyGroups, pivotCell_spec n nx xp yc zs .last hn hxp gx gy hgx]
  refine ⟨fun i hi hix hiy => lastCell_of_mem zs huniq (mem_matchRows.2 ⟨hi, hix, hiy⟩), fun hno => ?_⟩
  rw [List.eq_nil_iff_forall_not_mem.2 fun i hi => hno ⟨i, mem_matchRows.1 hi⟩]
  rfl

/-- **unpivot ∘ pivot restores the rows** (unique `(x, y)` pairs, `agg = last`): the non-`None`
cells of the pivot table and the rows of the table correspond one to one —
(A) every row `i` is addressed by exactly one (x-group, y-label) pair, and that cell holds `zᵢ`;
(B) every cell that is not `None` is addressed by exactly one row `i`, and holds `zᵢ`.
The statement about the tables `unpivot(pivot(d))` and `d` is `unpivot_pivot_multiset`. -/
theorem unpivot_pivot (n nx : Nat) (xp : Nat → List Val) (yc : Nat → Val)
    (zs : List Cell) (hn : n ≠ 0) (hxp : ∀ i, (xp i).length = nx)
    (huniq : ∀ i j, i < n → j < n → cmp (.tuple (xp i)) (.tuple (xp j)) = .eq →
      cmp (.tuple [yc i]) (.tuple [yc j]) = .eq → i = j) :
    let xyg := listbyG (xyKeys n xp yc)
    let xg := listbyG (xyg.map fun g => xPart nx g.1)
    let ys := listbyG ((xyg.map fun g => tupleGet nx g.1).map fun v => .tuple [v])
    let cell := fun (gx gy : Grp) => pivotCell xyg nx zs .last gx.2 gy.1
    (∀ i, i < n → ∃ gx ∈ xg, ∃ gy ∈ ys,
        cmp (.tuple (xp i)) gx.1 = .eq ∧ cmp (.tuple [yc i]) gy.1 = .eq ∧
        cell gx gy = .cell (zs.getD i .none) ∧
        ∀ gx' ∈ xg, ∀ gy' ∈ ys, cmp (.tuple (xp i)) gx'.1 = .eq → cmp (.tuple [yc i]) gy'.1 = .eq →
          gx' = gx ∧ gy' = gy) ∧
    (∀ gx ∈ xg, ∀ gy ∈ ys, cell gx gy ≠ .cell .none → ∃ i, i < n ∧
        cmp (.tuple (xp i)) gx.1 = .eq ∧ cmp (.tuple [yc i]) gy.1 = .eq ∧
        cell gx gy = .cell (zs.getD i .none) ∧
        ∀ j, j < n → cmp (.tuple (xp j)) gx.1 = .eq → cmp (.tuple [yc j]) gy.1 = .eq → j = i) := by
  intro xyg xg ys cell
  have hX := x_classes xp yc hn hxp
  have hY := y_classes xp yc hn hxp
  have hp := fun gx hgx gy => unpivot_pivot_cells_partial n nx xp yc zs hn hxp gx gy hgx huniq
  constructor
  · intro i hi
    obtain ⟨gx, hgx, hex⟩ := hX.covers i hi
    obtain ⟨gy, hgy, hey⟩ := hY.covers i hi
    exact ⟨gx, hgx, gy, hgy, hex, hey, (hp gx hgx gy).1 i hi hex hey, fun gx' hgx' gy' hgy' hex' hey' =>
      ⟨hX.unique hgx' hgx hex' hex, hY.unique hgy' hgy hey' hey⟩⟩
  · intro gx hgx gy _ hne
    obtain ⟨i, hi, hix, hiy⟩ := Classical.not_not.1 fun hno => hne ((hp gx hgx gy).2 hno)
    exact ⟨i, hi, hix, hiy, (hp gx hgx gy).1 i hi hix hiy, fun j hj hjx hjy =>
      huniq j i hj hi (Std.TransCmp.eq_trans hjx (Std.OrientedCmp.eq_symm hix)) (Std.TransCmp.eq_trans hjy (Std.OrientedCmp.eq_symm hiy))⟩

/-- **unpivot**: every row of the pivot table gives one row per label column: the x cells, the
label (as a string) and the cell; rows in row-major order -/
theorem unpivot_rows (p : VTable) (x : List String) (y z : String)
    (hx : ∀ k ∈ x, (p.find? (·.1 == k)).isSome = true) :
    let ycols := (p.map (·.1)).filter fun c => !x.contains c
    p.unpivot x y z = .ok (
      (x.map fun k => (k, (List.range p.nrows).flatMap fun i =>
        List.replicate ycols.length ((((p.find? (·.1 == k)).map (·.2)).getD []).getD i (.cell .none)))) ++
      [(y, (List.range p.nrows).flatMap fun _ => ycols.map fun c => Val.cell (.str c)),
       (z, (List.range p.nrows).flatMap fun i => ycols.map fun c =>
          (((p.find? (·.1 == c)).map (·.2)).getD []).getD i (.cell .none))]) :=
  unpivot_closed p x y z hx

/-- **unpivot ∘ pivot, one equation at table level** (unique `(x, y)` pairs, `agg = last`).
`uRows u x y z` are the rows of `u` as `(x cells, y cell, z cell)` triples, in row order.
If `d.xyz(x, y, z, last)` succeeds with `p` and `p.unpivot(x, y, z)` with `u`, then the rows of `u`
whose z is not `None`, *in order*, are the image of a permutation `idx` of the rows of `d` whose z
is not `None` under `i ↦ (xk i, label i, zᵢ)`, where
* `xk i` is the x key the pivot table stores for row `i`'s x-group: the x cells of some row `l` of
  `d` whose x key is `cmp`-equal to row `i`'s (e.g. `1` for `1.0`) — the same for all rows of the group;
* `label i` is the column label of row `i`'s y value: `yLabel` of the y value of some row `l` whose y
  is `cmp`-equal to row `i`'s, and two rows have the same label iff their y values are `cmp`-equal.
Rows of `d` whose z is `None` are indistinguishable, after `pivot`, from absent `(x, y)` cells, hence
the filter on both sides.  That the y values have a column key (every scalar but a bool), the labels are pairwise distinct
(no int `1` beside the string `"1"`) and distinct from the `x` names is what `pivot … = some (.ok p)`
says in the model (`pivot_spec`); `y`, `z` ∉ `x`, `y ≠ z` so that `u` has `x ++ [y, z]` as columns. -/
theorem unpivot_pivot_multiset (t : Table) (x : List String) (y z : String) (zs : List Cell)
    (p u : VTable) (hn : t.nrows ≠ 0) (hx : x ≠ [])
    (hcols : ∀ k ∈ x ++ [y], (t.col? k).isSome = true) (hz : t.col? z = some zs)
    (hyz : (x ++ [y, z]).Nodup)
    (huniq : ∀ i j, i < t.nrows → j < t.nrows →
      cmp (.tuple (xCells t x i)) (.tuple (xCells t x j)) = .eq →
      cmp (.tuple [yCell t y i]) (.tuple [yCell t y j]) = .eq → i = j)
    (hp : t.pivot x y z .last = some (.ok p)) (hu : p.unpivot x y z = .ok u) :
    ∃ (idx : List Nat) (xk : Nat → List Val) (label : Nat → String),
      idx.Perm ((List.range t.nrows).filter fun i => zs.getD i .none != .none) ∧
      (uRows u x y z).filter (fun r => !isNoneV r.2.2) =
        idx.map (fun i => (xk i, Val.cell (.str (label i)), Val.cell (zs.getD i .none))) ∧
      (∀ i, i < t.nrows → ∃ l, l < t.nrows ∧ xk i = xCells t x l ∧
        cmp (.tuple (xCells t x i)) (.tuple (xCells t x l)) = .eq) ∧
      (∀ i j, cmp (.tuple (xCells t x i)) (.tuple (xCells t x j)) = .eq → xk i = xk j) ∧
      (∀ i, i < t.nrows → ∃ l, l < t.nrows ∧ yLabel (yCell t y l) = some (label i) ∧
        cmp (.tuple [yCell t y i]) (.tuple [yCell t y l]) = .eq) ∧
      (∀ i j, i < t.nrows → j < t.nrows →
        (label i = label j ↔ cmp (.tuple [yCell t y i]) (.tuple [yCell t y j]) = .eq)) := by
  obtain ⟨hsome, hnd, hpe⟩ := (pivot_spec t x y z .last zs p hn hx hcols hz).1 hp
  have hxp := xCells_length t x
  have hX := x_classes (xCells t x) (yCell t y) hn hxp
  have hY := y_classes (xCells t x) (yCell t y) hn hxp
  obtain ⟨idx, hperm, hcells⟩ := lastCells_nonNone hX hY zs huniq
  generalize xGroups t.nrows x.length (xCells t x) (yCell t y) = xg at hnd hpe hX hcells
  generalize yGroups t.nrows x.length (xCells t x) (yCell t y) = ys at hsome hnd hpe hY hcells
  obtain ⟨u', hu', hrows⟩ := unpivot_pivotTable (xg := xg) (lab := labOf) (fun gx gy => aggCell .last zs
    (matchRows t.nrows (fun i => .tuple (xCells t x i)) (fun i => .tuple [yCell t y i]) gx.1 gy.1)) hnd y z hx hyz
  obtain rfl : u' = u := Except.ok.inj ((hpe ▸ hu').symm.trans hu)
  refine ⟨idx, fun i => x.zipIdx.map fun kj => tupleGet kj.2 (groupKeyOf xg (.tuple (xCells t x i))),
    fun i => labOf (groupKeyOf ys (.tuple [yCell t y i])), hperm, ?_, ?_, ?_, ?_, ?_⟩
  · rw [hrows, List.filter_map]
    show (List.filter (fun r : Val × Val × Val => !isNoneV r.2.2) _).map _ = _
    rw [hcells, List.map_map]
    rfl
  · intro i hi
    obtain ⟨gx, hgx, hex⟩ := hX.covers i hi
    obtain ⟨l, hl, hk⟩ := hX.rep gx hgx
    refine ⟨l, hl, ?_, hk ▸ hex⟩
    simp only [groupKeyOf_eq hX.sorted hgx hex, hk]
    exact zipIdx_tupleGet x _ (hxp l)
  · intro i j hij
    simp only [groupKeyOf_congr xg hij]
  · intro i hi
    obtain ⟨gy, hgy, hey⟩ := hY.covers i hi
    obtain ⟨l, hl, hk, hlab⟩ := hY.label_rep hgy (hsome gy hgy)
    refine ⟨l, hl, ?_, hk ▸ hey⟩
    simp only [groupKeyOf_eq hY.sorted hgy hey]
    exact hlab
  · intro i j hi hj
    obtain ⟨gi, hgi, hei⟩ := hY.covers i hi
    obtain ⟨gj, hgj, hej⟩ := hY.covers j hj
    simp only [groupKeyOf_eq hY.sorted hgi hei, groupKeyOf_eq hY.sorted hgj hej]
    refine ⟨fun hlab => ?_, fun hc => by rw [hY.unique hgi hgj hei (Std.TransCmp.eq_trans hc hej)]⟩
    rw [List.eq_of_nodup_map (List.nodup_append.1 hnd).2.1 gi hgi gj hgj hlab] at hei
    exact Std.TransCmp.eq_trans hei (Std.OrientedCmp.eq_symm hej)

/-- int/float-equal x keys (`1` and `1.0`): the pivot table keeps one representative key per x-group,
which is why `unpivot_pivot_multiset` states the x key up to the group representative -/
def exR : Table := [("a", [.int 1, .flt 4]), ("y", [.str "p", .str "q"]), ("z", [.int 10, .int 20])]

#guard (match exR.pivot ["a"] "y" "z" .last with
  | some (.ok p) => (match p.unpivot ["a"] "y" "z" with
    | .ok u => (uRows u ["a"] "y" "z").map (·.1) == [[.cell (.flt 4)], [.cell (.flt 4)]]
        || (uRows u ["a"] "y" "z").map (·.1) == [[.cell (.int 1)], [.cell (.int 1)]]
    | _ => false)
  | _ => false)

/-- **literal form** of `unpivot_pivot_multiset` for tables whose x keys are canonical (`cmp`-equal x
keys are equal, e.g. no `1` beside `1.0`) and whose y values all have a label (`yLabel`) and are canonical as far as the
label goes (`hyk`: no int beside the `cmp`-equal float, whose column keys `'1'` / `1.0` differ — the pivot table has ONE
column for both, named after the group's representative): the rows of `unpivot(pivot(d))` with a non-`None` z are, as a multiset, exactly the
`(x, label(y), z)` triples of the rows of `d` with a non-`None` z. -/
theorem unpivot_pivot_multiset_canonical (t : Table) (x : List String) (y z : String) (zs : List Cell)
    (p u : VTable) (lab : Nat → String) (hn : t.nrows ≠ 0) (hx : x ≠ [])
    (hcols : ∀ k ∈ x ++ [y], (t.col? k).isSome = true) (hz : t.col? z = some zs)
    (hyz : (x ++ [y, z]).Nodup)
    (huniq : ∀ i j, i < t.nrows → j < t.nrows →
      cmp (.tuple (xCells t x i)) (.tuple (xCells t x j)) = .eq →
      cmp (.tuple [yCell t y i]) (.tuple [yCell t y j]) = .eq → i = j)
    (hcanon : ∀ i j, i < t.nrows → j < t.nrows →
      cmp (.tuple (xCells t x i)) (.tuple (xCells t x j)) = .eq → xCells t x i = xCells t x j)
    (hlab : ∀ i, i < t.nrows → yLabel (yCell t y i) = some (lab i))
    (hyk : ∀ i j, i < t.nrows → j < t.nrows →
      cmp (.tuple [yCell t y i]) (.tuple [yCell t y j]) = .eq → mixedNum (yCell t y i) (yCell t y j) = false)
    (hp : t.pivot x y z .last = some (.ok p)) (hu : p.unpivot x y z = .ok u) :
    ((uRows u x y z).filter fun r => !isNoneV r.2.2).Perm
      (((List.range t.nrows).filter fun i => zs.getD i .none != .none).map fun i =>
        (xCells t x i, Val.cell (.str (lab i)), Val.cell (zs.getD i .none))) := by
  obtain ⟨idx, xk, label, hperm, heq, hxk, _, hlabel, _⟩ :=
    unpivot_pivot_multiset t x y z zs p u hn hx hcols hz hyz huniq hp hu
  rw [heq]
  have : idx.map (fun i => (xk i, Val.cell (.str (label i)), Val.cell (zs.getD i .none))) =
      idx.map fun i => (xCells t x i, Val.cell (.str (lab i)), Val.cell (zs.getD i .none)) := by
    apply List.map_congr_left
    intro i hi
    have hin : i < t.nrows := List.mem_range.1 (List.mem_filter.1 (hperm.mem_iff.1 hi)).1
    obtain ⟨l, hl, h1, h2⟩ := hxk i hin
    obtain ⟨l', hl', h3, h4⟩ := hlabel i hin
    rw [h1, ← hcanon i l hin hl h2, yLabel_congr h4 (hyk i l' hin hl' h4) (hlab i hin) h3]
  rw [this]
  exact hperm.map _

/-- the rendering of y values as column keys (`yLabel`: ints through `str`, every other scalar is its own key) is INJECTIVE
on the y values present: two rows with the same column key have `cmp`-equal y values.  False for `1` beside `'1'`. -/
def LabelsInjective (t : Table) (y : String) : Prop :=
  ∀ i j, i < t.nrows → j < t.nrows → yLabel (yCell t y i) = yLabel (yCell t y j) →
    cmp (.tuple [yCell t y i]) (.tuple [yCell t y j]) = .eq

/-- `pivot` and then `unpivot` are defined (return tables, no ValueError, inside the modelled domain) for every aggregator
when every y value present has a column key (`hlab`: None / int / float / string / datetime), the rendering is injective on
the y values present (`hinj`), and no column key is an `x` column name (`hxl`).  This discharges the hypothesis
`pivot … = some (.ok p)` of `unpivot_pivot_multiset`; `unpivot_pivot_label_collision` shows on `1` beside `'1'` that `hinj`
fails there (ValueError).  The equivalence is `pivot_spec`. -/
theorem unpivot_pivot_defined (t : Table) (x : List String) (y z : String) (agg : Agg)
    (zs : List Cell) (hn : t.nrows ≠ 0) (hx : x ≠ [])
    (hcols : ∀ k ∈ x ++ [y], (t.col? k).isSome = true) (hz : t.col? z = some zs)
    (hyz : (x ++ [y, z]).Nodup)
    (hlab : ∀ i, i < t.nrows → (yLabel (yCell t y i)).isSome = true)
    (hinj : LabelsInjective t y)
    (hxl : ∀ i, i < t.nrows → ∀ s, yLabel (yCell t y i) = some s → s ∉ x) :
    ∃ p u, t.pivot x y z agg = some (.ok p) ∧ p.unpivot x y z = .ok u := by
  obtain ⟨hsome, hnd⟩ := labels_nodup (y_classes (xCells t x) (yCell t y) hn (xCells_length t x))
    (List.nodup_append.1 hyz).1 hlab hinj hxl
  obtain ⟨u, hu, _⟩ := unpivot_pivotTable (lab := labOf) (fun gx gy => aggCell agg zs
    (matchRows t.nrows (fun i => .tuple (xCells t x i)) (fun i => .tuple [yCell t y i]) gx.1 gy.1)) hnd y z hx hyz
  exact ⟨_, u, (pivot_spec t x y z agg zs _ hn hx hcols hz).2 ⟨hsome, hnd, rfl⟩, hu⟩

/-- y values `1.5`, `None`, `'1.5'`, a datetime and `2`: five different column keys -/
def exMixed : Table := [("a", [.int 0, .int 0, .int 1, .int 1, .int 0]),
  ("y", [.flt 6, .none, .str "1.5", .dt 63713433600000000, .int 2]), ("z", [.int 1, .int 2, .int 3, .int 4, .int 5])]

/-- the label hypotheses `hlab`, `hinj`, `hxl` of `unpivot_pivot_defined` hold of `exMixed` with `x = ["a"]` -/
example : (∀ i, i < exMixed.nrows → (yLabel (yCell exMixed "y" i)).isSome = true) ∧ LabelsInjective exMixed "y" ∧
    (∀ i, i < exMixed.nrows → ∀ s, yLabel (yCell exMixed "y" i) = some s → s ∉ ["a"]) := by
  have h2 : ∀ i, i < exMixed.nrows → ∀ j, j < exMixed.nrows → yLabel (yCell exMixed "y" i) = yLabel (yCell exMixed "y" j) →
      cmp (.tuple [yCell exMixed "y" i]) (.tuple [yCell exMixed "y" j]) = .eq := by decide +kernel
  have h3 : ∀ i, i < exMixed.nrows → yLabel (yCell exMixed "y" i) ≠ some "a" := by decide +kernel
  refine ⟨by decide +kernel, fun i j hi hj => h2 i hi j hj, fun i hi s hs hm => ?_⟩
  rw [List.mem_singleton.1 hm] at hs
  exact h3 i hi hs

/-- the column names of a pivot result (`[]` when it is not a table) -/
def pivotNames (r : Option (Res VTable)) : List String :=
  match r with
  | some (.ok p) => p.map (·.1)
  | _ => []

def pivotRaises (r : Option (Res VTable)) : Bool :=
  match r with
  | some (.error .value) => true
  | _ => false

#guard pivotNames (exMixed.pivot ["a"] "y" "z" .last) == ["a", "\x00N", "\x00T:63713433600000000", "\x00F:6", "2", "1.5"]
#guard (match exMixed.pivot ["a"] "y" "z" .last with
  | some (.ok p) => (match p.unpivot ["a"] "y" "z" with
       | .ok u => ((uRows u ["a"] "y" "z").filter fun r => !isNoneV r.2.2).length == 5
       | _ => false)
  | _ => false)

/-- `1` beside `'1'`: both y values have the column key `'1'` — the rendering is not injective on the y values present,
and `pivot` raises ValueError when two labels collide (`#guard` below); likewise for a y value that is an `x` column name -/
def exCollide : Table := [("a", [.int 0, .int 1]), ("y", [.int 1, .str "1"]), ("z", [.int 10, .int 20])]

theorem unpivot_pivot_label_collision : ¬ LabelsInjective exCollide "y" := by
  intro h
  have := h 0 1 (by decide) (by decide) (by decide)
  revert this
  decide

#guard pivotRaises (exCollide.pivot ["a"] "y" "z" .last)
#guard pivotRaises (Table.pivot [("a", [.int 0, .int 0]), ("y", [.str "a", .str "b"]), ("z", [.int 10, .int 20])] ["a"] "y" "z" .last)
-- `1` beside `1.0`: ONE y value (`cmp`-equal), one column, named after the group's representative (here the float)
#guard pivotNames (Table.pivot [("a", [.int 0, .int 1]), ("y", [.int 1, .flt 4]), ("z", [.int 10, .int 20])] ["a"] "y" "z" .last) == ["a", "\x00F:4"]

/-- the label hypothesis holds whenever the column keys of the cells present determine the cells (`keyName` injective on them) -/
theorem labelsInjective_of_keyName (t : Table) (y : String)
    (h : ∀ i j, i < t.nrows → j < t.nrows → keyName (t.jcellAt y i) = keyName (t.jcellAt y j) → t.jcellAt y i = t.jcellAt y j) :
    LabelsInjective t y := by
  intro i j hi hj he
  simp only [yCell, yLabel] at he
  simp only [yCell]
  rw [h i j hi hj he]
  exact cmp_self _

theorem _root_.Pyg.labelsInjective_of_kind {α} (t : Table) (y : String) (K : α → Cell)
    (hK : ∀ i, i < t.nrows → ∃ a, t.jcellAt y i = K a)
    (hinj : ∀ a b, (∃ i, i < t.nrows ∧ t.jcellAt y i = K a) → (∃ j, j < t.nrows ∧ t.jcellAt y j = K b) →
      keyName (K a) = keyName (K b) → a = b) :
    LabelsInjective t y := by
  apply labelsInjective_of_keyName
  intro i j hi hj he
  obtain ⟨a, ha⟩ := hK i hi
  obtain ⟨b, hb⟩ := hK j hj
  rw [ha, hb] at he ⊢
  rw [hinj a b ⟨i, hi, ha⟩ ⟨j, hj, hb⟩ he]

/-- `LabelsInjective` for STRING y values (a string is its own column key) -/
theorem labelsInjective_str (t : Table) (y : String) (hstr : ∀ i, i < t.nrows → ∃ s, t.jcellAt y i = .str s) :
    LabelsInjective t y :=
  labelsInjective_of_kind t y .str hstr fun _ _ _ _ h => Option.some.inj h

/-- `pivot` and then `unpivot` are defined (in the model) when all y values are strings that are not
`x` column names — decidable hypotheses, used to show that those of `unpivot_pivot_multiset` are
satisfiable -/
theorem unpivot_pivot_defined_str (t : Table) (x : List String) (y z : String) (agg : Agg)
    (zs : List Cell) (hn : t.nrows ≠ 0) (hx : x ≠ [])
    (hcols : ∀ k ∈ x ++ [y], (t.col? k).isSome = true) (hz : t.col? z = some zs)
    (hyz : (x ++ [y, z]).Nodup)
    (hstr : ∀ i, i < t.nrows → ∃ s, t.jcellAt y i = .str s ∧ s ∉ x) :
    ∃ p u, t.pivot x y z agg = some (.ok p) ∧ p.unpivot x y z = .ok u := by
  apply unpivot_pivot_defined t x y z agg zs hn hx hcols hz hyz
  · intro i hi
    obtain ⟨s, hs, _⟩ := hstr i hi
    rw [yCell, hs]
    rfl
  · exact labelsInjective_str t y fun i hi => (hstr i hi).imp fun _ h => h.1
  · intro i hi s hs
    obtain ⟨s', hs', hsx⟩ := hstr i hi
    rw [yCell, hs'] at hs
    cases hs
    exact hsx

/-- **unpivot ∘ pivot = identity on the multiset of rows, end to end** under decidable hypotheses:
a non-empty table with columns `x` (non-empty), `y`, `z` (`x ++ [y, z]` distinct names), unique
`(x, y)` pairs, canonical x keys (`cmp`-equal ⇒ equal) and string y values that are not `x` column
names.  Then `d.xyz(x, y, z, last)` and its `unpivot(x, y, z)` are defined, and the rows of the
result with a non-`None` z are, as a multiset of `(x, y, z)` triples, exactly the rows of `d` with a
non-`None` z (a string y value is its own label). -/
theorem unpivot_pivot_multiset_str (t : Table) (x : List String) (y z : String) (zs : List Cell)
    (hn : t.nrows ≠ 0) (hx : x ≠ [])
    (hcols : ∀ k ∈ x ++ [y], (t.col? k).isSome = true) (hz : t.col? z = some zs)
    (hyz : (x ++ [y, z]).Nodup)
    (huniq : ∀ i j, i < t.nrows → j < t.nrows →
      cmp (.tuple (xCells t x i)) (.tuple (xCells t x j)) = .eq →
      cmp (.tuple [yCell t y i]) (.tuple [yCell t y j]) = .eq → i = j)
    (hcanon : ∀ i j, i < t.nrows → j < t.nrows →
      cmp (.tuple (xCells t x i)) (.tuple (xCells t x j)) = .eq → xCells t x i = xCells t x j)
    (hstr : ∀ i, i < t.nrows → ∃ s, t.jcellAt y i = .str s ∧ s ∉ x) :
    ∃ p u, t.pivot x y z .last = some (.ok p) ∧ p.unpivot x y z = .ok u ∧
      ((uRows u x y z).filter fun r => !isNoneV r.2.2).Perm
        ((tRows t x y zs).filter fun r => !isNoneV r.2.2) := by
  obtain ⟨p, u, hp, hu⟩ := unpivot_pivot_defined_str t x y z .last zs hn hx hcols hz hyz hstr
  refine ⟨p, u, hp, hu, ?_⟩
  have hlab : ∀ i, i < t.nrows → yLabel (yCell t y i) = some (t.jcellAt y i).skey := by
    intro i hi
    obtain ⟨s, hs, _⟩ := hstr i hi
    simp [yCell, hs, yLabel, keyName, Cell.skey]
  have hyk : ∀ i j, i < t.nrows → j < t.nrows →
      cmp (.tuple [yCell t y i]) (.tuple [yCell t y j]) = .eq → mixedNum (yCell t y i) (yCell t y j) = false := by
    intro i j hi _ _
    obtain ⟨s, hs, _⟩ := hstr i hi
    simp [yCell, hs, mixedNum]
  have h := unpivot_pivot_multiset_canonical t x y z zs p u (fun i => (t.jcellAt y i).skey)
    hn hx hcols hz hyz huniq hcanon hlab hyk hp hu
  rw [tRows_filter]
  refine h.trans (List.Perm.of_eq ?_)
  apply List.map_congr_left
  intro i hi
  have hin : i < t.nrows := List.mem_range.1 (List.mem_filter.1 hi).1
  obtain ⟨s, hs, _⟩ := hstr i hin
  simp [yCell, hs, Cell.skey]

/-- `exP` without its duplicate `(x, y)` row, with a `None` z and an absent `(x, y)` cell -/
def exQ : Table := [("a", [.int 1, .int 1, .int 2, .int 3]), ("y", [.str "p", .str "q", .str "p", .str "q"]),
  ("z", [.int 10, .int 20, .none, .int 40])]

theorem exQ_str : ∀ i, i < exQ.nrows → ∃ s, exQ.jcellAt "y" i = .str s ∧ s ∉ ["a"] := by
  have h : ∀ i, i < exQ.nrows → exQ.jcellAt "y" i = .str (exQ.jcellAt "y" i).skey ∧
      (exQ.jcellAt "y" i).skey ∉ ["a"] := by decide +kernel
  exact fun i hi => ⟨_, h i hi⟩

/-- the hypotheses of `unpivot_pivot_multiset_str` (hence, by `unpivot_pivot_defined_str`, those of
`unpivot_pivot_multiset` and `unpivot_pivot_multiset_canonical`) hold on `exQ` -/
example : exQ.nrows ≠ 0 ∧ ["a"] ≠ [] ∧ (∀ k ∈ ["a"] ++ ["y"], (exQ.col? k).isSome = true) ∧
    exQ.col? "z" = some [.int 10, .int 20, .none, .int 40] ∧ (["a"] ++ ["y", "z"]).Nodup ∧
    (∀ i j, i < exQ.nrows → j < exQ.nrows →
      cmp (.tuple (xCells exQ ["a"] i)) (.tuple (xCells exQ ["a"] j)) = .eq →
      cmp (.tuple [yCell exQ "y" i]) (.tuple [yCell exQ "y" j]) = .eq → i = j) ∧
    (∀ i j, i < exQ.nrows → j < exQ.nrows →
      cmp (.tuple (xCells exQ ["a"] i)) (.tuple (xCells exQ ["a"] j)) = .eq →
      xCells exQ ["a"] i = xCells exQ ["a"] j) ∧
    (∀ i, i < exQ.nrows → ∃ s, exQ.jcellAt "y" i = .str s ∧ s ∉ ["a"]) := by
  have h1 : ∀ i, i < exQ.nrows → ∀ j, j < exQ.nrows →
      cmp (.tuple (xCells exQ ["a"] i)) (.tuple (xCells exQ ["a"] j)) = .eq →
      cmp (.tuple [yCell exQ "y" i]) (.tuple [yCell exQ "y" j]) = .eq → i = j := by decide +kernel
  have h2 : ∀ i, i < exQ.nrows → ∀ j, j < exQ.nrows →
      cmp (.tuple (xCells exQ ["a"] i)) (.tuple (xCells exQ ["a"] j)) = .eq →
      xCells exQ ["a"] i = xCells exQ ["a"] j := by decide +kernel
  exact ⟨by decide, by decide, by decide, rfl, by decide, fun i j hi hj => h1 i hi j hj,
    fun i j hi hj => h2 i hi j hj, exQ_str⟩

example : ∃ p u, exQ.pivot ["a"] "y" "z" .last = some (.ok p) ∧ p.unpivot ["a"] "y" "z" = .ok u :=
  unpivot_pivot_defined_str exQ ["a"] "y" "z" .last [.int 10, .int 20, .none, .int 40]
    (by decide) (by decide) (by decide) rfl (by decide) exQ_str

#guard (match exQ.pivot ["a"] "y" "z" .last with
  | some (.ok p) => (match p.unpivot ["a"] "y" "z" with
    | .ok u =>
      uRows u ["a"] "y" "z" ==
        [([.cell (.int 1)], .cell (.str "p"), .cell (.int 10)), ([.cell (.int 1)], .cell (.str "q"), .cell (.int 20)),
         ([.cell (.int 2)], .cell (.str "p"), .cell .none), ([.cell (.int 2)], .cell (.str "q"), .cell .none),
         ([.cell (.int 3)], .cell (.str "p"), .cell .none), ([.cell (.int 3)], .cell (.str "q"), .cell (.int 40))] &&
      (uRows u ["a"] "y" "z").filter (fun r => !isNoneV r.2.2) ==
        (tRows exQ ["a"] "y" [.int 10, .int 20, .none, .int 40]).filter (fun r => !isNoneV r.2.2)
    | _ => false)
  | _ => false)

/-- `LabelsInjective` for INT y values that print differently (`str(n)` is the column key) -/
theorem labelsInjective_int (t : Table) (y : String) (hint : ∀ i, i < t.nrows → ∃ n, t.jcellAt y i = .int n)
    (hprint : ∀ n m : Int, (∃ i, i < t.nrows ∧ t.jcellAt y i = .int n) → (∃ j, j < t.nrows ∧ t.jcellAt y j = .int m) →
      toString n = toString m → n = m) :
    LabelsInjective t y :=
  labelsInjective_of_kind t y .int hint fun n m hn hm h => hprint n m hn hm (Option.some.inj h)

/-- **`str` is injective on ints** (`Int.repr_inj`), so INT y values always give distinct column keys: `labelsInjective_int` without its
printing hypothesis -/
theorem labelsInjective_ints (t : Table) (y : String) (hint : ∀ i, i < t.nrows → ∃ n, t.jcellAt y i = .int n) :
    LabelsInjective t y :=
  labelsInjective_int t y hint fun _ _ _ _ h => Int.repr_inj.1 h

theorem render_flt_inj (q r : Int) (h : (Cell.flt q).render = (Cell.flt r).render) : q = r := by
  rw [Cell.render_flt, Cell.render_flt, String.append_right_inj] at h
  exact Int.repr_inj.1 h

/-- `LabelsInjective` for FLOAT y values that print differently (the float itself is the column key; the model names it U+0000 + its wire
atom `F:<quarters>`) -/
theorem labelsInjective_flt (t : Table) (y : String) (hflt : ∀ i, i < t.nrows → ∃ q, t.jcellAt y i = .flt q)
    (hprint : ∀ q r : Int, (∃ i, i < t.nrows ∧ t.jcellAt y i = .flt q) → (∃ j, j < t.nrows ∧ t.jcellAt y j = .flt r) →
      (Cell.flt q).render = (Cell.flt r).render → q = r) :
    LabelsInjective t y :=
  labelsInjective_of_kind t y .flt hflt fun q r hq hr h =>
    hprint q r hq hr ((String.append_right_inj _).1 (Option.some.inj h))

/-- FLOAT y values always give distinct column keys: `labelsInjective_flt` without its printing hypothesis (the wire atom `F:<quarters>` is
`"F:" ++ Int.repr q`, and `Int.repr` is injective) -/
theorem labelsInjective_flts (t : Table) (y : String) (hflt : ∀ i, i < t.nrows → ∃ q, t.jcellAt y i = .flt q) :
    LabelsInjective t y :=
  labelsInjective_flt t y hflt fun q r _ _ h => render_flt_inj q r h

theorem render_dt_inj (q r : Int) (h : (Cell.dt q).render = (Cell.dt r).render) : q = r := by
  rw [Cell.render_dt, Cell.render_dt, String.append_right_inj] at h
  exact Int.repr_inj.1 h

/-- DATETIME y values always give distinct column keys (the datetime itself is the key; model name U+0000 `T:<microseconds>`) -/
theorem labelsInjective_dts (t : Table) (y : String) (hdt : ∀ i, i < t.nrows → ∃ us, t.jcellAt y i = .dt us) :
    LabelsInjective t y :=
  labelsInjective_of_kind t y .dt hdt fun q r _ _ h =>
    render_dt_inj q r ((String.append_right_inj _).1 (Option.some.inj h))

/-- `str(n)` consists of digits and `-` -/
theorem repr_chars (q : Int) : ∀ c ∈ q.repr.toList, c.isDigit = true ∨ c = '-' := by
  rw [Int.repr_eq_if]
  split
  · intro c hc
    rw [Nat.toList_repr] at hc
    exact .inl (Nat.isDigit_of_mem_toDigits (by omega) (by omega) hc)
  · intro c hc
    simp only [String.toList_append, List.mem_append, Nat.toList_repr] at hc
    rcases hc with hc | hc
    · right
      have : "-".toList = ['-'] := by decide
      rw [this] at hc; simpa using hc
    · exact .inl (Nat.isDigit_of_mem_toDigits (by omega) (by omega) hc)

theorem repr_ne_of_char (p : String) (q : Int) (w : String) (c : Char) (hc : c ∈ w.toList) (hp : c ∉ p.toList)
    (hd : c.isDigit = false) (hm : c ≠ '-') : p ++ q.repr ≠ w := by
  intro h
  rw [← h, String.toList_append, List.mem_append] at hc
  rcases hc with h0 | h0
  · exact hp h0
  · rcases repr_chars q c h0 with h1 | h1
    · rw [h1] at hd; cases hd
    · exact hm h1

theorem repr_ne_const (p : String) (hp : ∀ c ∈ ['N', 'n', 'i'], c ∉ p.toList) (q : Int) :
    ∀ b ∈ [Cell.none, .nan, .pinf, .ninf], p ++ q.repr ≠ b.render := by
  have hw : ∀ b ∈ [Cell.none, .nan, .pinf, .ninf], ∃ c ∈ ['N', 'n', 'i'], c ∈ b.render.toList := by decide +kernel
  have hc : ∀ c ∈ ['N', 'n', 'i'], c.isDigit = false ∧ c ≠ '-' := by decide
  intro b hb
  obtain ⟨c, hcm, hcb⟩ := hw b hb
  exact repr_ne_of_char p q _ c hcb (hp c hcm) (hc c hcm).1 (hc c hcm).2

/-- the wire atoms of two non-string, non-int, non-bool scalars coincide only for equal cells: `None`, floats, ±inf, NaN and datetimes
never share a column key (`str(q)` has only digits and `-`, so `F:<q>` is none of `F:nan`, `F:inf`, `F:-inf`) -/
theorem render_tagged_inj (a b : Cell)
    (ha : (∃ q, a = .flt q) ∨ (∃ us, a = .dt us) ∨ a = .none ∨ a = .nan ∨ a = .pinf ∨ a = .ninf)
    (hb : (∃ q, b = .flt q) ∨ (∃ us, b = .dt us) ∨ b = .none ∨ b = .nan ∨ b = .pinf ∨ b = .ninf)
    (h : a.render = b.render) : a = b := by
  have hF : ∀ q b, b ∈ [Cell.none, .nan, .pinf, .ninf] → (Cell.flt q).render ≠ b.render :=
    fun q b hb => Cell.render_flt q ▸ repr_ne_const "F:" (by decide) q b hb
  have hT : ∀ us b, b ∈ [Cell.none, .nan, .pinf, .ninf] → (Cell.dt us).render ≠ b.render :=
    fun us b hb => Cell.render_dt us ▸ repr_ne_const "T:" (by decide) us b hb
  have hFT : ∀ q us, (Cell.flt q).render ≠ (Cell.dt us).render := by
    intro q us
    rw [Cell.render_flt, Cell.render_dt]
    exact repr_ne_of_char "F:" q _ 'T' (by simp [String.toList_append]) (by decide) (by decide) (by decide)
  have mem : ∀ c : Cell, c = .none ∨ c = .nan ∨ c = .pinf ∨ c = .ninf → c ∈ [Cell.none, .nan, .pinf, .ninf] := by
    intro c hc
    simpa using hc
  rcases ha with ⟨q, rfl⟩ | ⟨us, rfl⟩ | ha
  · rcases hb with ⟨r, rfl⟩ | ⟨vs, rfl⟩ | hb
    · rw [render_flt_inj q r h]
    · exact absurd h (hFT q vs)
    · exact absurd h (hF q b (mem b hb))
  · rcases hb with ⟨r, rfl⟩ | ⟨vs, rfl⟩ | hb
    · exact absurd h.symm (hFT r us)
    · rw [render_dt_inj us vs h]
    · exact absurd h (hT us b (mem b hb))
  · rcases hb with ⟨r, rfl⟩ | ⟨vs, rfl⟩ | hb
    · exact absurd h.symm (hF r a (mem a ha))
    · exact absurd h.symm (hT vs a (mem a ha))
    · exact Cell.render_const_inj a (mem a ha) b (mem b hb) h

/-- the harness assumption "string cells do not start with U+0000" as a predicate on a cell -/
def Untagged (c : Cell) : Prop := ∀ s, c = .str s → s.toList.head? ≠ some '\x00'

theorem tagged_head (w : String) : ("\x00" ++ w).toList.head? = some '\x00' := by
  have : "\x00".toList = ['\x00'] := by decide
  simp [String.toList_append, this]

/-- **when two y values share a column key** (all scalar kinds, no bools): only when they are the same cell, or one is an int `n` and
the other the string `str(n)` — the collision of defect P1 and nothing else. -/
theorem keyName_eq_cases (a b : Cell) (ha : Untagged a) (hb : Untagged b) (s : String)
    (h1 : keyName a = some s) (h2 : keyName b = some s) :
    a = b ∨ (∃ n : Int, a = .int n ∧ b = .str (toString n)) ∨ (∃ n : Int, a = .str (toString n) ∧ b = .int n) := by
  have int_not_tagged : ∀ (n : Int) (w : String), toString n ≠ "\x00" ++ w := by
    intro n w he
    have hm : '\x00' ∈ ("\x00" ++ w).toList := List.mem_of_mem_head? (tagged_head w)
    exact repr_ne_of_char "" n _ '\x00' hm (by decide) (by decide) (by decide) (by simpa using he)
  rcases keyName_cases h1 with rfl | ⟨n, rfl, hn⟩ | ⟨ta, hta⟩
  · rcases keyName_cases h2 with rfl | ⟨m, rfl, hm⟩ | ⟨_, htb⟩
    · exact .inl rfl
    · exact .inr (.inr ⟨m, by rw [hm], rfl⟩)
    · exact absurd (htb ▸ tagged_head _) (ha s rfl)
  · rcases keyName_cases h2 with rfl | ⟨m, rfl, hm⟩ | ⟨_, htb⟩
    · exact .inr (.inl ⟨n, rfl, by rw [hn]⟩)
    · rw [Int.repr_inj.1 (hn.symm.trans hm)]
      exact .inl rfl
    · exact absurd (hn.symm.trans htb) (int_not_tagged n _)
  · rcases keyName_cases h2 with rfl | ⟨m, rfl, hm⟩ | ⟨tb, htb⟩
    · exact absurd (hta ▸ tagged_head _) (hb s rfl)
    · exact absurd (hm.symm.trans hta) (int_not_tagged m _)
    · exact .inl (render_tagged_inj a b ta tb ((String.append_right_inj _).1 (hta.symm.trans htb)))

/-- **`LabelsInjective` characterised**: for a y column of untagged, non-bool scalars the rendering of y values as column keys is
injective IFF no row holds an int `n` while another holds the string `str(n)` — whatever the mix of None, ints, floats, ±inf, NaN,
strings and datetimes.  (`←`: `keyName_eq_cases`; `→`: such a pair has one key and `cmp` does not call an int and a string equal.) -/
theorem labelsInjective_iff (t : Table) (y : String)
    (hlab : ∀ i, i < t.nrows → (keyName (t.jcellAt y i)).isSome = true)
    (hun : ∀ i, i < t.nrows → Untagged (t.jcellAt y i)) :
    LabelsInjective t y ↔
      ¬ ∃ i j n, i < t.nrows ∧ j < t.nrows ∧ t.jcellAt y i = .int n ∧ t.jcellAt y j = .str (toString n) := by
  constructor
  · rintro h ⟨i, j, n, hi, hj, ei, ej⟩
    have := h i j hi hj (by simp only [yCell, yLabel, ei, ej, keyName])
    simp only [yCell, ei, ej] at this
    have h3 := (cmp_tuple1_eq_iff _ _).1 this
    simp [keyEq] at h3
  · intro h
    apply labelsInjective_of_keyName
    intro i j hi hj he
    obtain ⟨s, hs⟩ := Option.isSome_iff_exists.1 (hlab i hi)
    rcases keyName_eq_cases _ _ (hun i hi) (hun j hj) s hs (he ▸ hs) with e | ⟨n, e1, e2⟩ | ⟨n, e1, e2⟩
    · exact e
    · exact absurd ⟨i, j, n, hi, hj, e1, e2⟩ h
    · exact absurd ⟨j, i, n, hj, hi, e2, e1⟩ h

/-- the hypotheses of `labelsInjective_iff` hold of `exMixed` (a float, `None`, the string `'1.5'`, a datetime and the int `2` as y values), and
so does its left-hand side `LabelsInjective exMixed "y"` -/
example : (∀ i, i < exMixed.nrows → (keyName (exMixed.jcellAt "y" i)).isSome = true) ∧
    (∀ i, i < exMixed.nrows → Untagged (exMixed.jcellAt "y" i)) ∧ LabelsInjective exMixed "y" := by
  have h2 : ∀ i, i < exMixed.nrows → (exMixed.jcellAt "y" i).skey.toList.head? ≠ some '\x00' := by
    decide +kernel
  have h3 : ∀ i, i < exMixed.nrows → ∀ j, j < exMixed.nrows → yLabel (yCell exMixed "y" i) = yLabel (yCell exMixed "y" j) →
      cmp (.tuple [yCell exMixed "y" i]) (.tuple [yCell exMixed "y" j]) = .eq := by decide +kernel
  refine ⟨by decide +kernel, fun i hi s hs => ?_, fun i j hi hj => h3 i hi j hj⟩
  have := h2 i hi
  rw [hs] at this
  exact this

end Pyg.Props.C11
