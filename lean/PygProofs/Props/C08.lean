/-
  C08 — timeseries operators equal the pointwise operation on aligned operands (PygModel/Ops.lean, OpsF.lean, OpsX.lean,
  OpsFX.lean).  Every operator is a presync kernel: the per-operator theorems are instances of those over any pointwise function
  (`binopG_*`, `binopFG_*`; behind them `binopG_of_joinIndex`, `binopFG_cols`, `binopFG_narrow` in Lemmas/Ops*.lean).
-/
import PygProofs.Lemmas.OpsFLemmas
import PygProofs.Lemmas.OpsFoldLemmas

namespace Pyg.Props.C08
open Pyg Pyg.Align Pyg.Ops

/-- division by zero yields NaN; the value type has no ±inf at all -/
theorem div_zero_none (x : Rat) : Op.app .div x 0 = Option.none := by simp [Op.app]

theorem div_nonzero (x y : Rat) (h : y ≠ 0) : Op.app .div x y = some (x / y) := by simp [Op.app, h]

/-- NaN on either side gives NaN -/
theorem nan_absorbs (op : Op) (x : Option Rat) : op.appO Option.none x = Option.none ∧ op.appO x Option.none = Option.none :=
  ⟨appO_none_left op x, appO_none_right op x⟩

theorem binop_eq_binopG (op : Op) (how : How) (m : Option Dir) (a b : Operand) : binop op how m a b = binopG op.appO how m a b := by
  rw [binop_eq]

/-! ### a presync kernel with any pointwise function: `binopG f` (`PygModel/OpsX.lean`); the arithmetic operators below are its instances -/

/-- two Series, no fill method: the result lives on the joint index and `result[t] = f a[t] b[t]` -/
theorem binopG_value (f : Option Rat → Option Rat → Option Rat) (how : How) (a b : RSeries) :
    ∃ ix, joinIndex how [a.idx, b.idx] = some ix ∧
      binopG f how Option.none (.ts a) (.ts b) = .ts { idx := ix, vals := ix.map fun t => f (valueAtR a t) (valueAtR b t) } := by
  refine ⟨_, joinIndex_pair how a.idx b.idx, ?_⟩
  rw [binopG_ts_ts]
  rfl

theorem binopG_scalar_right (f : Option Rat → Option Rat → Option Rat) (how : How) (a : RSeries) (q : Option Rat) :
    binopG f how Option.none (.ts a) (.num q) = .ts { idx := a.idx, vals := a.idx.map fun t => f (valueAtR a t) q } := by
  rw [binopG_ts_num]
  rfl

theorem binopG_scalar_left (f : Option Rat → Option Rat → Option Rat) (how : How) (b : RSeries) (q : Option Rat) :
    binopG f how Option.none (.num q) (.ts b) = .ts { idx := b.idx, vals := b.idx.map fun t => f q (valueAtR b t) } := by
  rw [binopG_num_ts]
  rfl

theorem binopG_scalar_scalar (f : Option Rat → Option Rat → Option Rat) (how : How) (m : Option Dir) (p q : Option Rat) :
    binopG f how m (.num p) (.num q) = .num (f p q) :=
  binopG_num_num f how m p q

theorem binopG_comm (f : Option Rat → Option Rat → Option Rat) (hf : ∀ x y, f x y = f y x) (how : How)
    (hh : how = .inner ∨ how = .outer) (m : Option Dir) (a b : RSeries) (ha : SortedL a.idx) (hb : SortedL b.idx) :
    binopG f how m (.ts a) (.ts b) = binopG f how m (.ts b) (.ts a) := by
  rw [binopG_ts_ts, binopG_ts_ts, join2_comm how hh a.idx b.idx ha hb]
  congr 3
  funext t
  exact hf _ _

/-- the result of `a op b` lives on the joint index of the operands and is the pointwise operation on the
operands reindexed onto it -/
theorem binop_index (op : Op) (how : How) (m : Option Dir) (a b : RSeries) :
    ∃ ix, joinIndex how [a.idx, b.idx] = some ix ∧
      binop op how m (.ts a) (.ts b) =
        .ts { idx := ix, vals := ((reindexR a ix m).vals.zip (reindexR b ix m).vals).map fun p => op.appO p.1 p.2 } := by
  refine ⟨_, joinIndex_pair how a.idx b.idx, ?_⟩
  rw [binop_eq, binopG_ts_ts]
  simp only [reindexR_eq, List.zip_map', List.map_map, Function.comp_def]

/-- inner / outer: the index is the intersection / union of the operand indices (membership; sorted) -/
theorem binop_index_inner (a b : RSeries) (ha : SortedL a.idx) :
    ∃ ix, joinIndex .inner [a.idx, b.idx] = some ix ∧ SortedL ix ∧ ∀ t, t ∈ ix ↔ t ∈ a.idx ∧ t ∈ b.idx :=
  ⟨_, rfl, sorted_inter _ _ ha, fun t => mem_inter _ _ t⟩

theorem binop_index_outer (a b : RSeries) (ha : SortedL a.idx) :
    ∃ ix, joinIndex .outer [a.idx, b.idx] = some ix ∧ SortedL ix ∧ ∀ t, t ∈ ix ↔ t ∈ a.idx ∨ t ∈ b.idx :=
  ⟨_, rfl, sorted_union _ _ ha, fun t => mem_union _ _ t⟩

/-- without a fill method: `result[t] = a[t] op b[t]` at every timestamp of the joint index, NaN if either is
missing or NaN (`valueAtR`: C03's label lookup `valueAt` on rational values, cf. `reindex_keep` / `reindex_missing`; here `valueAtR_not_mem`,
`valueAtR_built`) -/
theorem binop_value (op : Op) (how : How) (a b : RSeries) :
    ∃ ix, joinIndex how [a.idx, b.idx] = some ix ∧
      binop op how Option.none (.ts a) (.ts b) =
        .ts { idx := ix, vals := ix.map fun t => op.appO (valueAtR a t) (valueAtR b t) } :=
  binop_eq op ▸ binopG_value op.appO how a b

theorem scalar_right (op : Op) (how : How) (a : RSeries) (q : Option Rat) :
    binop op how Option.none (.ts a) (.num q) =
      .ts { idx := a.idx, vals := a.idx.map fun t => op.appO (valueAtR a t) q } :=
  binop_eq op ▸ binopG_scalar_right op.appO how a q

theorem scalar_left (op : Op) (how : How) (b : RSeries) (q : Option Rat) :
    binop op how Option.none (.num q) (.ts b) =
      .ts { idx := b.idx, vals := b.idx.map fun t => op.appO q (valueAtR b t) } :=
  binop_eq op ▸ binopG_scalar_left op.appO how b q

theorem scalar_scalar (op : Op) (how : How) (m : Option Dir) (p q : Option Rat) :
    binop op how m (.num p) (.num q) = .num (op.appO p q) :=
  binop_eq op ▸ binopG_scalar_scalar op.appO how m p q

/-- a scalar beside a Series, with or without a fill method: the scalar broadcasts over the Series' own index, where the
Series shows its forward / backward filled value (`add_(a, 1, method='ffill')` fills `a`'s NaN before adding) -/
theorem scalar_right_fill (op : Op) (how : How) (m : Option Dir) (a : RSeries) (q : Option Rat) :
    binop op how m (.ts a) (.num q) =
      .ts { idx := a.idx, vals := a.idx.map fun t => op.appO (lookR a m t) q } := by
  rw [binop_eq, binopG_ts_num]

theorem scalar_left_fill (op : Op) (how : How) (m : Option Dir) (b : RSeries) (q : Option Rat) :
    binop op how m (.num q) (.ts b) =
      .ts { idx := b.idx, vals := b.idx.map fun t => op.appO q (lookR b m t) } := by
  rw [binop_eq, binopG_num_ts]

/-- `add_` and `mul_` commute between a Series and a scalar, for every index policy (also `lj` / `rj`) and fill method -/
theorem add_comm_scalar (how : How) (m : Option Dir) (a : RSeries) (q : Option Rat) :
    binop .add how m (.ts a) (.num q) = binop .add how m (.num q) (.ts a) := by
  rw [binop_eq]
  exact binopG_comm_scalar _ appO_comm_add how m a q

theorem mul_comm_scalar (how : How) (m : Option Dir) (a : RSeries) (q : Option Rat) :
    binop .mul how m (.ts a) (.num q) = binop .mul how m (.num q) (.ts a) := by
  rw [binop_eq]
  exact binopG_comm_scalar _ appO_comm_mul how m a q

/-- dividing a Series by the scalar 0 gives NaN at every timestamp of the Series (finding F10) -/
theorem div_by_zero_scalar (how : How) (a : RSeries) :
    binop .div how Option.none (.ts a) (.num (some 0)) = .ts { idx := a.idx, vals := a.idx.map fun _ => Option.none } := by
  simp only [scalar_right, appO_div_zero]

/-- `add_` and `mul_` are commutative on Series with sorted indices, for the inner and the outer policy and any fill method -/
theorem add_comm_inner (m : Option Dir) (a b : RSeries) (ha : SortedL a.idx) (hb : SortedL b.idx) :
    binop .add .inner m (.ts a) (.ts b) = binop .add .inner m (.ts b) (.ts a) := by
  rw [binop_eq]
  exact binopG_comm _ appO_comm_add .inner (.inl rfl) m a b ha hb

theorem mul_comm_inner (m : Option Dir) (a b : RSeries) (ha : SortedL a.idx) (hb : SortedL b.idx) :
    binop .mul .inner m (.ts a) (.ts b) = binop .mul .inner m (.ts b) (.ts a) := by
  rw [binop_eq]
  exact binopG_comm _ appO_comm_mul .inner (.inl rfl) m a b ha hb

theorem add_comm_outer (m : Option Dir) (a b : RSeries) (ha : SortedL a.idx) (hb : SortedL b.idx) :
    binop .add .outer m (.ts a) (.ts b) = binop .add .outer m (.ts b) (.ts a) := by
  rw [binop_eq]
  exact binopG_comm _ appO_comm_add .outer (.inr rfl) m a b ha hb

theorem mul_comm_outer (m : Option Dir) (a b : RSeries) (ha : SortedL a.idx) (hb : SortedL b.idx) :
    binop .mul .outer m (.ts a) (.ts b) = binop .mul .outer m (.ts b) (.ts a) := by
  rw [binop_eq]
  exact binopG_comm _ appO_comm_mul .outer (.inr rfl) m a b ha hb

theorem reduce_left (op : Op) (hop : op = .add ∨ op = .mul) (how : How) (m : Option Dir) (x : Operand) (xs ys : List Operand) :
    opList op how m (x :: xs) ys = some ((xs ++ ys).foldl (binop op how m) x) := by
  rcases hop with rfl | rfl <;> rfl

/-- `sub_ / div_` first reduce a list on either side with `add_ / mul_`.  NOT the clause "lists of operands reduce left to
right": this (and `reduce_div`) only unfolds the wrapper, which copies `_pandas.py` `sub_` / `div_`.  What the wrapper means
against the left fold of the clause is stated by `sub_div_right_list_left_fold` (a list on the right only: the left fold, by
value) and refuted by `sub_list_left_not_left_fold` / `div_list_left_not_left_fold` (a list on the left: known finding C08-A3). -/
theorem reduce_sub (how : How) (m : Option Dir) (x y : Operand) (xs ys : List Operand) :
    opList .sub how m (x :: xs) (y :: ys) =
      some (binop .sub how m (xs.foldl (binop .add how m) x) (ys.foldl (binop .add how m) y)) := rfl

theorem reduce_div (how : How) (m : Option Dir) (x y : Operand) (xs ys : List Operand) :
    opList .div how m (x :: xs) (y :: ys) =
      some (binop .div how m (xs.foldl (binop .mul how m) x) (ys.foldl (binop .mul how m) y)) := rfl

/-- **left to right for lists that MIX Series and scalars, by value**: `add_` / `mul_` of ANY list of at least two operands holding
at least one Series (no fill method, any index policy) is the Series on the joint index of the Series among them (`df_index`
skips scalars) whose value at `t` is the left fold `((x[t] op y[t]) op ...)` of what every operand shows at `t`
(`Operand.valAt`: a Series its own value, NaN without a row; a scalar itself) - induction over the list through
`binop_step_mixed`, not the model's own fold.  `reduce_value_n` is the case without scalars. -/
theorem reduce_value_mixed (op : Op) (hop : op = .add ∨ op = .mul) (how : How) (x y : Operand) (xs : List Operand)
    (jx : List Int) (hj : joinIndex how (indexesOf (x :: y :: xs)) = some jx) :
    opList op how Option.none (x :: y :: xs) [] =
      some (.ts { idx := jx, vals := jx.map fun t => (y :: xs).foldl (fun v s => op.appO v (s.valAt t)) (x.valAt t) }) := by
  obtain ⟨h1, h2, h3⟩ := foldl_binop_mixed op how x (y :: xs)
  rw [reduce_left op hop, List.append_nil,
    ts_of_normal _ jx (h1.trans ((joinO_all how (x :: y :: xs)).trans hj)) (h2 (List.cons_ne_nil _ _))]
  congr 3
  exact List.map_congr_left fun t _ => h3 t

/-- `add_` / `mul_` of a list of scalars only is the scalar left fold -/
theorem reduce_value_scalars (op : Op) (hop : op = .add ∨ op = .mul) (how : How) (p : Option Rat) (qs : List (Option Rat)) :
    opList op how Option.none ((p :: qs).map .num) [] = some (.num (qs.foldl op.appO p)) := by
  rw [List.map_cons, reduce_left op hop, List.append_nil]
  congr 1
  induction qs generalizing p with
  | nil => rfl
  | cons q qs ih =>
    simp only [List.map_cons, List.foldl_cons, scalar_scalar]
    exact ih _

/-- `add_([a, 1, b], join='oj')`: the joint index is the union of the two Series' indices, the value `(a[t] + 1) + b[t]` -/
example (a b : RSeries) : ∃ jx, joinIndex .outer (indexesOf [.ts a, .num (some 1), .ts b]) = some jx ∧
    opList .add .outer Option.none [.ts a, .num (some 1), .ts b] [] =
      some (.ts { idx := jx, vals := jx.map fun t => Op.add.appO (Op.add.appO (valueAtR a t) (some 1)) (valueAtR b t) }) :=
  ⟨_, rfl, reduce_value_mixed .add (Or.inl rfl) .outer (.ts a) (.num (some 1)) [.ts b] _ rfl⟩

/-- **left to right, by value** (not through the model's own fold): three Series, any index policy, no fill
method - `add_([a, b, c])` lives on the joint index of (the joint index of `a` and `b`) and `c` and holds
`(a[t] op b[t]) op c[t]` there.
`reduce_left` is the definitional unfolding; this one reads the result. -/
theorem reduce_value (op : Op) (hop : op = .add ∨ op = .mul) (how : How) (a b c : RSeries) :
    ∃ ix jx, joinIndex how [a.idx, b.idx] = some ix ∧ joinIndex how [ix, c.idx] = some jx ∧
      opList op how Option.none [.ts a, .ts b, .ts c] [] =
        some (.ts (RSeries.mk jx (jx.map fun t =>
          op.appO (valueAtR (RSeries.mk ix (ix.map fun t => op.appO (valueAtR a t) (valueAtR b t))) t) (valueAtR c t)))) := by
  obtain ⟨ix, h1, e1⟩ := binop_value op how a b
  obtain ⟨jx, h2, e2⟩ := binop_value op how (RSeries.mk ix (ix.map fun t => op.appO (valueAtR a t) (valueAtR b t))) c
  refine ⟨ix, jx, h1, h2, ?_⟩
  rw [reduce_left op hop]
  simp only [List.append_nil, List.foldl_cons, List.foldl_nil, e1, e2]

/-- **left to right for ANY number of operands, by value** (induction over the list, not the model's own fold): `add_` /
`mul_` of the Series `x :: xs` (no fill method, any index policy) is the Series on the joint index of ALL operands
(`joinIndex` of the list: the intersection / union of all indices, the first, the last) whose value at `t` is the LEFT fold
`((x[t] op x₁[t]) op x₂[t]) …` of the operands' own values at `t` (`valueAtR`: NaN where an operand has no row).
`reduce_value` is the case of three operands, stated through the intermediate Series. -/
theorem reduce_value_n (op : Op) (hop : op = .add ∨ op = .mul) (how : How) (x y : RSeries) (xs : List RSeries) :
    ∃ jx, joinIndex how ((x :: y :: xs).map (·.idx)) = some jx ∧
      opList op how Option.none ((x :: y :: xs).map .ts) [] =
        some (.ts { idx := jx, vals := jx.map fun t => (y :: xs).foldl (fun v s => op.appO v (valueAtR s t)) (valueAtR x t) }) := by
  refine ⟨_, joinIndex_fold how _ _, ?_⟩
  rw [List.map_cons, List.map_cons, reduce_value_mixed op hop how (.ts x) (.ts y) (xs.map .ts) _
    (by rw [← List.map_cons, ← List.map_cons, indexesOf_map_ts]; exact joinIndex_fold how _ _)]
  simp only [List.foldl_cons, List.foldl_map, Operand.valAt]

/-- one operator step read at EVERY label: inside the joint index the pointwise value, outside it NaN - which is what
`a[t] op b[t]` gives there as well, because one of the operands has no row -/
theorem binop_value_at (op : Op) (how : How) (a b : RSeries) :
    ∃ r, binop op how Option.none (.ts a) (.ts b) = .ts r ∧ joinIndex how [a.idx, b.idx] = some r.idx ∧
      ∀ t, valueAtR r t = op.appO (valueAtR a t) (valueAtR b t) := by
  obtain ⟨r, h1, h2, h4⟩ := foldl_binop op how a [b]
  exact ⟨r, h1, by rw [h2, joinIndex_pair]; rfl, h4⟩

/-- `sub_` / `div_` of two lists of Series by value (the list arguments are first reduced with `add_` / `mul_`): the value
at `t` is `(fold⁺ of a's) − (fold⁺ of b's)` resp. `(fold× of a's) / (fold× of b's)`, at every label -/
theorem reduce_value_sub_div (op : Op) (hop : op = .sub ∨ op = .div) (how : How) (x y : RSeries) (xs ys : List RSeries) :
    ∃ r, opList op how Option.none ((x :: xs).map .ts) ((y :: ys).map .ts) = some (.ts r) ∧
      ∀ t, valueAtR r t =
        op.appO (xs.foldl (fun v s => (if op = .sub then Op.add else Op.mul).appO v (valueAtR s t)) (valueAtR x t))
                (ys.foldl (fun v s => (if op = .sub then Op.add else Op.mul).appO v (valueAtR s t)) (valueAtR y t)) := by
  obtain ⟨pre, hp, hl⟩ : ∃ pre : Op, (if op = .sub then Op.add else Op.mul) = pre ∧
      opList op how Option.none ((x :: xs).map .ts) ((y :: ys).map .ts) =
        some (binop op how Option.none ((xs.map .ts).foldl (binop pre how Option.none) (.ts x))
          ((ys.map .ts).foldl (binop pre how Option.none) (.ts y))) := by
    rcases hop with rfl | rfl
    · exact ⟨.add, rfl, rfl⟩
    · exact ⟨.mul, rfl, rfl⟩
  rw [hp]
  obtain ⟨ra, a1, _, a4⟩ := foldl_binop pre how x xs
  obtain ⟨rb, b1, _, b4⟩ := foldl_binop pre how y ys
  obtain ⟨r, c1, _, c4⟩ := binop_value_at op how ra rb
  refine ⟨r, ?_, fun t => ?_⟩
  · rw [hl, a1, b1, c1]
  · rw [c4 t, a4 t, b4 t]

/-- **the LEFT FOLD of the clause, by value, for all four operators**: the chain of BINARY calls `((x op y₁) op y₂) …` (what
"lists of operands reduce left to right" prescribes; no list wrapper involved) is a Series whose value at every label `t` is the
left fold of `op` over the operands' own values at `t` -/
theorem left_fold_value (op : Op) (how : How) (x : RSeries) (ys : List RSeries) :
    ∃ r, (ys.map Operand.ts).foldl (binop op how Option.none) (.ts x) = .ts r ∧
      ∀ t, valueAtR r t = ys.foldl (fun v s => op.appO v (valueAtR s t)) (valueAtR x t) := by
  obtain ⟨r, h1, _, h4⟩ := foldl_binop op how x ys
  exact ⟨r, h1, h4⟩

/-- **a list on the RIGHT of `sub_` / `div_` is the left fold, by value**: `sub_(x, [y₁, y₂ ..])` computes `x - (y₁ + y₂ ..)`, which
at every label holds `((x[t] - y₁[t]) - y₂[t]) …` (NaN absorbing; `div_`: `x / (y₁ * y₂ ..)` = `((x / y₁) / y₂) …`, a zero divisor
anywhere giving NaN on both sides) - the same values as the chain of binary calls (`left_fold_value`).  Independent of the
wrapper's own `add_` / `mul_` pre-reduction: the right-hand side never mentions it. -/
theorem sub_div_right_list_left_fold (op : Op) (hop : op = .sub ∨ op = .div) (how : How) (x y : RSeries) (ys : List RSeries) :
    ∃ r, opList op how Option.none [.ts x] ((y :: ys).map .ts) = some (.ts r) ∧
      ∀ t, valueAtR r t = (y :: ys).foldl (fun v s => op.appO v (valueAtR s t)) (valueAtR x t) := by
  obtain ⟨r, h1, h2⟩ := reduce_value_sub_div op hop how x y [] ys
  refine ⟨r, h1, fun t => ?_⟩
  rw [h2 t]
  exact foldl_pre_right op hop (fun s => valueAtR s t) ys _ _

/-- `sub_(x, [y, ...])` / `div_(x, [y, ...])` with a list on the right shows, at every label, the value of the chain of
binary calls `((x op y) op ...)` -/
theorem sub_div_right_list_eq_chain (op : Op) (hop : op = .sub ∨ op = .div) (how : How) (x y : RSeries) (ys : List RSeries) :
    ∃ r r', opList op how Option.none [.ts x] ((y :: ys).map .ts) = some (.ts r) ∧
      ((y :: ys).map Operand.ts).foldl (binop op how Option.none) (.ts x) = .ts r' ∧ ∀ t, valueAtR r t = valueAtR r' t := by
  obtain ⟨r, h1, h2⟩ := sub_div_right_list_left_fold op hop how x y ys
  obtain ⟨r', g1, g2⟩ := left_fold_value op how x (y :: ys)
  exact ⟨r, r', h1, g1, fun t => (h2 t).trans (g2 t).symm⟩

/-- **a list on the LEFT of `sub_` is NOT reduced left to right** (the clause is false of the code there; known finding C08-A3,
`_pandas.py` `sub_`: `if isinstance(a, list): a = add_(a ..)`): on one day with a = 8, b = 2, c = 4, `sub_([a, b], c)` is
`(8 + 2) - 4 = 6`, the left fold `(8 - 2) - 4 = 2` -/
theorem sub_list_left_not_left_fold :
    opList .sub .inner Option.none [.ts ⟨[0], [some 8]⟩, .ts ⟨[0], [some 2]⟩] [.ts ⟨[0], [some 4]⟩] = some (.ts ⟨[0], [some 6]⟩) ∧
    [Operand.ts ⟨[0], [some 2]⟩, .ts ⟨[0], [some 4]⟩].foldl (binop .sub .inner Option.none) (.ts ⟨[0], [some 8]⟩) = .ts ⟨[0], [some 2]⟩ := by
  decide +kernel

/-- the same for `div_`: `div_([a, b], c)` is `(8 * 2) / 4 = 4`, the left fold `(8 / 2) / 4 = 1` -/
theorem div_list_left_not_left_fold :
    opList .div .inner Option.none [.ts ⟨[0], [some 8]⟩, .ts ⟨[0], [some 2]⟩] [.ts ⟨[0], [some 4]⟩] = some (.ts ⟨[0], [some 4]⟩) ∧
    [Operand.ts ⟨[0], [some 2]⟩, .ts ⟨[0], [some 4]⟩].foldl (binop .div .inner Option.none) (.ts ⟨[0], [some 8]⟩) = .ts ⟨[0], [some 1]⟩ := by
  decide +kernel

/-- for scalars: `sub_([x, y], z)` is `x + y - z`, the left fold is `x - y - z`, and the two agree iff `y = 0` -/
theorem sub_list_left_scalar (x y z : Rat) :
    opList .sub .inner Option.none [.num (some x), .num (some y)] [.num (some z)] = some (.num (some (x + y - z))) ∧
    [Operand.num (some y), .num (some z)].foldl (binop .sub .inner Option.none) (.num (some x)) = .num (some (x - y - z)) ∧
    (x + y - z = x - y - z ↔ y = 0) := by
  refine ⟨rfl, rfl, ?_⟩
  constructor <;> intro h <;> grind

/-- **add_ / mul_ of a LIST do not depend on the order of the operands, by value**: for two lists of Series and scalars that are
permutations of one another (at least two operands, no fill method, any index policy) the two results show the same value at
EVERY label `t` (`Operand.valAt`: NaN outside the result's index).  Under `ij` / `oj` the indices are the same SET as well
(`binop_index_inner / _outer`); under `lj` / `rj` the result index is the first / last operand's, so the values agree on the
labels both results have and are NaN elsewhere.  Scope: the model's scalars are numbers (narrow numpy integers and floats, whose
own arithmetic wraps around or rounds, are outside: docs/notes/C08.md). -/
theorem reduce_perm_value (op : Op) (hop : op = .add ∨ op = .mul) (how : How) (x y x' y' : Operand) (xs xs' : List Operand)
    (hp : (x :: y :: xs).Perm (x' :: y' :: xs')) (r r' : Operand)
    (h : opList op how Option.none (x :: y :: xs) [] = some r) (h' : opList op how Option.none (x' :: y' :: xs') [] = some r') (t : Int) :
    r.valAt t = r'.valAt t := by
  rw [reduce_left op hop, List.append_nil] at h h'
  cases h; cases h'
  rw [(foldl_binop_mixed op how x (y :: xs)).2.2 t, (foldl_binop_mixed op how x' (y' :: xs')).2.2 t]
  -- start both folds from the neutral element: the two lists then fold the same multiset of values, and `Perm.foldl_eq'`
  -- needs right-commutativity only
  have e : ∀ (z : Operand) (zs : List Operand), zs.foldl (fun v s => op.appO v (s.valAt t)) (z.valAt t) =
      ((z :: zs).map (·.valAt t)).foldl op.appO (some op.neutral) := by
    intro z zs
    rw [List.map_cons, List.foldl_cons, appO_neutral_left op hop, List.foldl_map]
  rw [e, e]
  exact List.Perm.foldl_eq' (hp.map _) (fun a _ b _ v => appO_right_comm op hop v a b) _

/-! ### division by zero: never ±inf, against an explicit float division WITH infinities (`XVal`, Lemmas/OpsFoldLemmas.lean) -/

/-- without the masking, division by zero DOES produce infinities -/
theorem div_unmasked_inf : XVal.div (.fin 1) (.fin 0) = .pinf ∧ XVal.div (.fin (-1)) (.fin 0) = .ninf ∧ XVal.div (.fin 0) (.fin 0) = .nan := by
  refine ⟨?_, ?_, ?_⟩ <;> simp [XVal.div] <;> decide

/-- the model's division IS the float division of `_div_` with its masking (both branches): `Op.appO .div` (NaN where the
denominator is 0 or either side is NaN, else the exact quotient) is the masked float division, so `div_zero_none` is a
statement about `_div_`'s masking, not about a value type that happens to lack infinities -/
theorem div_masked_eq (x y : Option Rat) :
    XVal.divMasked (.ofO x) (.ofO y) = .ofO (Op.appO .div x y) ∧ XVal.divScalar (.ofO x) (.ofO y) = .ofO (Op.appO .div x y) := by
  cases x with
  | none => cases y <;> simp [XVal.ofO, XVal.divMasked, XVal.divScalar, XVal.maskZero, XVal.div, XVal.mulNan, Op.appO] <;> split <;> rfl
  | some x =>
    cases y with
    | none => simp [XVal.ofO, XVal.divMasked, XVal.divScalar, XVal.maskZero, XVal.div, Op.appO]
    | some y =>
      by_cases hy : y = 0 <;>
        simp [XVal.ofO, XVal.divMasked, XVal.divScalar, XVal.maskZero, XVal.div, XVal.mulNan, Op.appO, Op.app, hy]

/-- **never ±inf**: hence, for operands that are finite or NaN, the masked division of `_div_` is finite or NaN -/
theorem div_never_inf (x y : Option Rat) :
    (XVal.divMasked (.ofO x) (.ofO y)).isInf = false ∧ (XVal.divScalar (.ofO x) (.ofO y)).isInf = false := by
  rw [(div_masked_eq x y).1, (div_masked_eq x y).2]
  exact ⟨XVal.isInf_ofO _, XVal.isInf_ofO _⟩

/-- the UNMASKED quotient is infinite exactly for a non-zero finite numerator over a zero denominator: the cells that the
masking of `_div_` turns into NaN (`div_masked_eq`) -/
theorem div_mask_removes_inf (x y : Rat) :
    (XVal.div (.fin x) (.fin y)).isInf = true ↔ (y = 0 ∧ x ≠ 0) := by
  simp only [XVal.div]
  by_cases hy : y = 0
  · subst hy
    simp only [if_true, true_and]
    by_cases h1 : 0 < x
    · simp [h1, XVal.isInf]; intro e; subst e; exact absurd h1 (by decide)
    · by_cases h2 : x < 0
      · simp [h1, h2, XVal.isInf]; intro e; subst e; exact absurd h2 (by decide)
      · have : x = 0 := Rat.le_antisymm (Rat.not_lt.mp h1) (Rat.not_lt.mp h2)
        simp [XVal.isInf, this]
  · simp [hy, XVal.isInf]

/-- count = number of operands holding a non-NaN value there -/
theorem count_spec (vs : List (Option Rat)) : Agg.at .count vs = some (((vs.filterMap id).length : Nat) : Rat) := by
  simp only [Agg.at, countAt_eq]

/-- sum skips NaN operands and is NaN exactly where no operand has data -/
theorem sum_skipna (vs : List (Option Rat)) :
    Agg.at .sum vs = if vs.filterMap id = [] then Option.none else some ((vs.filterMap id).foldl (· + ·) 0) := by
  simp only [Agg.at, countAt_eq, sumAt, foldl_add_getD]
  cases h : vs.filterMap id <;> simp

/-- mean = that sum divided by that count; NaN where no operand has data -/
theorem mean_spec (vs : List (Option Rat)) :
    Agg.at .mean vs = if vs.filterMap id = [] then Option.none
      else some ((vs.filterMap id).foldl (· + ·) 0 / (((vs.filterMap id).length : Nat) : Rat)) := by
  simp only [Agg.at, countAt_eq, sumAt, foldl_add_getD]
  cases h : vs.filterMap id <;> simp

/-- where no operand has data in a cell, `df_sum` and `df_mean` are NaN and `df_count` is 0 (the converse for the sum is
`sum_skipna`) -/
theorem aggF_no_data (vs : List (Option Rat)) (h : ∀ v ∈ vs, v = Option.none) :
    Agg.at .sum vs = Option.none ∧ Agg.at .mean vs = Option.none ∧ Agg.at .count vs = some 0 := by
  have h0 : vs.filterMap id = [] := by
    rw [List.filterMap_eq_nil_iff]
    intro v hv; rw [h v hv]; rfl
  refine ⟨by rw [sum_skipna, if_pos h0], by rw [mean_spec, if_pos h0], by rw [count_spec, h0]; rfl⟩

/-- the aggregates live on the joint index (the union under the default `oj`) -/
theorem agg_index (g : Agg) (how : How) (m : Option Dir) (xs : List Operand) (ix : List Int)
    (h : joinIndex how (indexesOf xs) = some ix) :
    ∃ s, aggregate g how m xs = some s ∧ s.idx = ix ∧ s.vals.length = ix.length := by
  simp [aggregate_eq, h]

/-- **value**: the aggregate of Series and scalars is the Series on the joint index of the Series whose value at `t` is
the NaN-skipping aggregate `Agg.at` (see `count_spec`, `sum_skipna`, `mean_spec`) of what every operand shows at `t` -
a Series its value after `_df_reindex(·, m)` (`lookR`; NaN where it has no row), a scalar itself at every `t` -/
theorem agg_value (g : Agg) (how : How) (m : Option Dir) (xs : List Operand) (ix : List Int)
    (h : joinIndex how (indexesOf xs) = some ix) :
    aggregate g how m xs = some { idx := ix, vals := ix.map fun t => g.at (xs.map (lookO m t)) } := by
  rw [aggregate_eq, h, Option.map_some]
  congr 2
  exact List.map_range_eq_map ix _ _ fun k hk => congrArg g.at (List.map_congr_left fun x _ => at_alignO ix m x k hk)

/-- reading the aggregate by label -/
theorem agg_at (g : Agg) (how : How) (m : Option Dir) (xs : List Operand) (s : RSeries)
    (h : aggregate g how m xs = some s) (t : Int) (ht : t ∈ s.idx) :
    valueAtR s t = g.at (xs.map (lookO m t)) := by
  cases hj : joinIndex how (indexesOf xs) with
  | none =>
    rw [aggregate_eq, hj] at h
    cases h
  | some ix =>
    rw [agg_value g how m xs ix hj] at h
    cases h
    exact valueAtR_built ix _ t ht

/-- a scalar operand counts at every timestamp: `df_sum([a, q]) = a[t] + q` where `a` has data, `q` where it has not -/
theorem agg_scalar_sum (how : How) (a : RSeries) (q : Rat) :
    aggregate .sum how Option.none [.ts a, .num (some q)] =
      some { idx := a.idx, vals := a.idx.map fun t => some ((valueAtR a t).getD 0 + q) } := by
  rw [agg_value _ _ _ _ _ (joinIndex_single how a.idx)]
  congr 2
  apply List.map_congr_left
  intro t _
  rw [sum_skipna]
  cases h : valueAtR a t <;> simp [lookO, lookR, h, Rat.zero_add]

/-- without any Series the aggregate is the scalar aggregate of the scalars -/
theorem agg_scalars_only (g : Agg) (how : How) (m : Option Dir) (qs : List (Option Rat)) :
    aggregate g how m (qs.map .num) = Option.none ∧ aggregateNum g (qs.map .num) = g.at qs := by
  refine ⟨by simp only [aggregate_eq, indexesOf_map_num, joinIndex, Option.map_none], ?_⟩
  simp only [aggregateNum, List.map_map, Function.comp_def, List.map_id']

/-! ## DataFrames (`PygModel/OpsF.lean`): every presync kernel, `binopFG (kernelG f) d` with the pointwise function `f` and `presync(default = d)` -/

/-- **value, index and columns at once, for any pointwise kernel**: two frames with several columns each give the frame on
the joint index with header `frameCols` whose cell `(t, c)` is `f a[t, c] b[t, c]`, a column that one side lacks counting
as the kernel's `default` `d`; without any result column the code returns the empty `pd.Series({})` -/
theorem binopFG_value (f : PF) (d : Option Rat) (how : How) (m : Option Dir) (ch : ColHow) (a b : RFrame)
    (ha : a.cols.length > 1) (hb : b.cols.length > 1) :
    ∃ ix, joinIndex how [a.idx, b.idx] = some ix ∧
      binopFG (kernelG f) d how m ch (.df a) (.df b) =
        if frameCols ch a b = [] then .ts { idx := [], vals := [] }
        else .df { idx := ix, cols := (frameCols ch a b).map fun c =>
                     (c, ix.map fun t => f (cellD d a m c t) (cellD d b m c t)) } :=
  ⟨_, joinIndex_pair how a.idx b.idx, binopFG_df_df f d how m ch a b ha hb⟩

/-- the result is a frame with header `frameCols` whenever there is a result column at all -/
theorem binopFG_columns (f : PF) (d : Option Rat) (how : How) (m : Option Dir) (ch : ColHow) (a b : RFrame)
    (ha : a.cols.length > 1) (hb : b.cols.length > 1) :
    (frameCols ch a b = [] ∧ binopFG (kernelG f) d how m ch (.df a) (.df b) = .ts { idx := [], vals := [] }) ∨
    (frameCols ch a b ≠ [] ∧ ∃ r, binopFG (kernelG f) d how m ch (.df a) (.df b) = .df r ∧ r.names = frameCols ch a b ∧
      joinIndex how [a.idx, b.idx] = some r.idx) := by
  obtain ⟨ix, hix, h⟩ := binopFG_value f d how m ch a b ha hb
  by_cases hc : frameCols ch a b = []
  · exact .inl ⟨hc, by rw [h, if_pos hc]⟩
  · exact .inr ⟨hc, _, by rw [h, if_neg hc], names_built _ _ _, hix⟩

/-- **cell by cell**: reading the result by label, `result[t, c] = f a[t, c] b[t, c]` for every result column `c` and every
label `t` of the joint index -/
theorem binopFG_cell (f : PF) (d : Option Rat) (how : How) (m : Option Dir) (ch : ColHow) (a b r : RFrame)
    (ha : a.cols.length > 1) (hb : b.cols.length > 1) (h : binopFG (kernelG f) d how m ch (.df a) (.df b) = .df r)
    (c : String) (t : Int) (hc : c ∈ r.names) (ht : t ∈ r.idx) :
    cellD Option.none r Option.none c t = f (cellD d a m c t) (cellD d b m c t) :=
  binopFG_df_cell f d how m ch a b r ha hb h c t hc ht

/-- a frame against a Series / a scalar, on either side: broadcast to every column of the frame (header = the frame's own,
in its order; any column policy) -/
theorem binopFG_frame_series (f : PF) (d : Option Rat) (how : How) (m : Option Dir) (ch : ColHow) (a : RFrame) (s : RSeries)
    (ha : a.cols.length > 1) :
    ∃ ix, joinIndex how [a.idx, s.idx] = some ix ∧
      binopFG (kernelG f) d how m ch (.df a) (.ts s) =
        .df { idx := ix, cols := a.names.map fun c => (c, ix.map fun t => f (cellD d a m c t) (lookR s m t)) } :=
  ⟨_, joinIndex_pair how a.idx s.idx, binopFG_wide_left f d how m ch a (.ts s) _ ha rfl (joinIndex_pair how a.idx s.idx)⟩

theorem binopFG_series_frame (f : PF) (d : Option Rat) (how : How) (m : Option Dir) (ch : ColHow) (a : RFrame) (s : RSeries)
    (ha : a.cols.length > 1) :
    ∃ ix, joinIndex how [s.idx, a.idx] = some ix ∧
      binopFG (kernelG f) d how m ch (.ts s) (.df a) =
        .df { idx := ix, cols := a.names.map fun c => (c, ix.map fun t => f (lookR s m t) (cellD d a m c t)) } :=
  ⟨_, joinIndex_pair how s.idx a.idx, binopFG_wide_right f d how m ch a (.ts s) _ ha rfl (joinIndex_pair how s.idx a.idx)⟩

theorem binopFG_frame_scalar (f : PF) (d : Option Rat) (how : How) (m : Option Dir) (ch : ColHow) (a : RFrame) (q : Option Rat)
    (ha : a.cols.length > 1) :
    binopFG (kernelG f) d how m ch (.df a) (.num q) =
      .df { idx := a.idx, cols := a.names.map fun c => (c, a.idx.map fun t => f (cellD d a m c t) q) } :=
  binopFG_wide_left f d how m ch a (.num q) _ ha rfl (joinIndex_single how a.idx)

theorem binopFG_scalar_frame (f : PF) (d : Option Rat) (how : How) (m : Option Dir) (ch : ColHow) (a : RFrame) (q : Option Rat)
    (ha : a.cols.length > 1) :
    binopFG (kernelG f) d how m ch (.num q) (.df a) =
      .df { idx := a.idx, cols := a.names.map fun c => (c, a.idx.map fun t => f q (cellD d a m c t)) } :=
  binopFG_wide_right f d how m ch a (.num q) _ ha rfl (joinIndex_single how a.idx)

/-- whatever the column policy: a result column that the RIGHT frame lacks holds `f a[t, c] d`, one that the LEFT frame
lacks `f d b[t, c]` (`d` = the kernel's default) -/
theorem binopFG_missing_right (f : PF) (d : Option Rat) (how : How) (m : Option Dir) (ch : ColHow) (a b r : RFrame)
    (ha : a.cols.length > 1) (hb : b.cols.length > 1) (h : binopFG (kernelG f) d how m ch (.df a) (.df b) = .df r)
    (c : String) (hc : c ∈ r.names) (hcb : c ∉ b.names) (t : Int) (ht : t ∈ r.idx) :
    cellD Option.none r Option.none c t = f (cellD d a m c t) d := by
  rw [binopFG_cell f d how m ch a b r ha hb h c t hc ht, cellD_not_mem _ b m c t hcb]

theorem binopFG_missing_left (f : PF) (d : Option Rat) (how : How) (m : Option Dir) (ch : ColHow) (a b r : RFrame)
    (ha : a.cols.length > 1) (hb : b.cols.length > 1) (h : binopFG (kernelG f) d how m ch (.df a) (.df b) = .df r)
    (c : String) (hc : c ∈ r.names) (hca : c ∉ a.names) (t : Int) (ht : t ∈ r.idx) :
    cellD Option.none r Option.none c t = f d (cellD d b m c t) := by
  rw [binopFG_cell f d how m ch a b r ha hb h c t hc ht, cellD_not_mem _ a m c t hca]

/-- on Series and scalars the frame-aware kernel is the Series kernel `binopG` of PygModel/OpsX.lean, whatever the default
and the column policy -/
theorem binopFG_refines (f : PF) (d : Option Rat) (how : How) (m : Option Dir) (ch : ColHow) (a b : Operand) :
    binopFG (kernelG f) d how m ch (.ofOperand a) (.ofOperand b) = .ofOperand (binopG f how m a b) := by
  rw [binopFG_narrow f d how m ch _ _ (by cases a <;> cases b <;> rfl) (by cases a <;> cases b <;> rfl)]
  cases a <;> cases b <;> rfl

/-- **value, index and columns at once**: for two frames with several columns each, `a op b` is the frame on the joint
index whose cell `(t, c)` is `a[t, c] op b[t, c]`, where a column that one side lacks counts as the operation's neutral
element (which only happens under the column policy `'oj'`, see `binopF_columns`); without any result column the code
returns the empty `pd.Series({})` -/
theorem binopF_value (op : Op) (how : How) (m : Option Dir) (ch : ColHow) (a b : RFrame)
    (ha : a.cols.length > 1) (hb : b.cols.length > 1) :
    ∃ ix, joinIndex how [a.idx, b.idx] = some ix ∧
      binopF op how m ch (.df a) (.df b) =
        if frameCols ch a b = [] then .ts { idx := [], vals := [] }
        else .df { idx := ix, cols := (frameCols ch a b).map fun c =>
                     (c, ix.map fun t => op.appO (cellD (some op.neutral) a m c t) (cellD (some op.neutral) b m c t)) } := by
  rw [binopF_eq_binopFG]
  exact binopFG_value op.appO (some op.neutral) how m ch a b ha hb

/-- **columns**: the result header is `frameCols`, whose members are the common columns under `'ij'` -/
theorem binopF_columns_ij (a b : RFrame) (c : String) : c ∈ frameCols .ij a b ↔ c ∈ a.names ∧ c ∈ b.names :=
  mem_frameCols .ij a b c

/-- the members of the result header `frameCols` under `'oj'`: the union of the columns -/
theorem binopF_columns_oj (a b : RFrame) (c : String) : c ∈ frameCols .oj a b ↔ c ∈ a.names ∨ c ∈ b.names :=
  mem_frameCols .oj a b c

/-- the result header has no duplicates; it is sorted unless both frames have the same header (then it is that header) -/
theorem binopF_columns_nodup (ch : ColHow) (a b : RFrame) (ha : a.names.Nodup) : (frameCols ch a b).Nodup := by
  by_cases h : b.names = a.names
  · exact frameCols_same ch h ▸ ha
  · exact List.sorted_nodup String.lt_irrefl (sorted_frameCols ch h)

theorem binopF_columns_sorted (ch : ColHow) (a b : RFrame) (h : b.names ≠ a.names) : SortedS (frameCols ch a b) :=
  sorted_frameCols ch h

/-- the header of the result frame (a frame whenever there is a result column at all) -/
theorem binopF_columns (op : Op) (how : How) (m : Option Dir) (ch : ColHow) (a b : RFrame)
    (ha : a.cols.length > 1) (hb : b.cols.length > 1) :
    (frameCols ch a b = [] ∧ binopF op how m ch (.df a) (.df b) = .ts { idx := [], vals := [] }) ∨
    (frameCols ch a b ≠ [] ∧ ∃ r, binopF op how m ch (.df a) (.df b) = .df r ∧ r.names = frameCols ch a b) := by
  rw [binopF_eq_binopFG]
  rcases binopFG_columns op.appO (some op.neutral) how m ch a b ha hb with h | ⟨h, r, h1, h2, _⟩
  · exact .inl h
  · exact .inr ⟨h, r, h1, h2⟩

/-- **index**: the result frame lives on the joint index of the two frames (`binop_index_inner / _outer`: the sorted
intersection / union) -/
theorem binopF_index (op : Op) (how : How) (m : Option Dir) (ch : ColHow) (a b r : RFrame)
    (ha : a.cols.length > 1) (hb : b.cols.length > 1) (h : binopF op how m ch (.df a) (.df b) = .df r) :
    joinIndex how [a.idx, b.idx] = some r.idx ∧ ∀ c ∈ r.cols, c.2.length = r.idx.length := by
  rw [binopF_eq_binopFG] at h
  cases binopFG_df_inv _ _ how m ch a b r ha hb h
  refine ⟨joinIndex_pair how a.idx b.idx, fun c hc => ?_⟩
  obtain ⟨_, _, rfl⟩ := List.mem_map.mp hc
  exact (List.length_map _).trans rfl

/-- **cell by cell**: reading the result by label, `result[t, c] = a[t, c] op b[t, c]` for every result column `c` and
every label `t` of the joint index -/
theorem binopF_cell (op : Op) (how : How) (m : Option Dir) (ch : ColHow) (a b r : RFrame)
    (ha : a.cols.length > 1) (hb : b.cols.length > 1) (h : binopF op how m ch (.df a) (.df b) = .df r)
    (c : String) (t : Int) (hc : c ∈ r.names) (ht : t ∈ r.idx) :
    cellD Option.none r Option.none c t = op.appO (cellD (some op.neutral) a m c t) (cellD (some op.neutral) b m c t) := by
  rw [binopF_eq_binopFG] at h
  exact binopFG_cell op.appO (some op.neutral) how m ch a b r ha hb h c t hc ht

/-- a column that only the LEFT frame has: the right side acts as the neutral element (0 for add/sub, 1 for mul/div),
so the result column is the left frame's column on the joint index, for all four operators -/
theorem oj_neutral (op : Op) (how : How) (m : Option Dir) (a b r : RFrame)
    (ha : a.cols.length > 1) (hb : b.cols.length > 1) (h : binopF op how m .oj (.df a) (.df b) = .df r)
    (c : String) (hca : c ∈ a.names) (hcb : c ∉ b.names) (t : Int) (ht : t ∈ r.idx) :
    c ∈ r.names ∧ cellD Option.none r Option.none c t = cellD Option.none a m c t := by
  have hc : c ∈ r.names := by
    rw [binopF_names op how m .oj a b r ha hb h, binopF_columns_oj]
    exact .inl hca
  exact ⟨hc, binopF_missing_right op how m .oj a b r ha hb h c hc hca hcb t ht⟩

/-- a column that only the RIGHT frame has: the result is `neutral op b[t, c]` — `b[t, c]` itself for `add_ / mul_`,
`0 - b[t, c]` for `sub_`, `1 / b[t, c]` for `div_` (NaN where `b[t, c] = 0`) -/
theorem oj_neutral_left (op : Op) (how : How) (m : Option Dir) (a b r : RFrame)
    (ha : a.cols.length > 1) (hb : b.cols.length > 1) (h : binopF op how m .oj (.df a) (.df b) = .df r)
    (c : String) (hca : c ∉ a.names) (hcb : c ∈ b.names) (t : Int) (ht : t ∈ r.idx) :
    c ∈ r.names ∧ cellD Option.none r Option.none c t = op.appO (some op.neutral) (cellD Option.none b m c t) := by
  have hc : c ∈ r.names := by
    rw [binopF_names op how m .oj a b r ha hb h, binopF_columns_oj]
    exact .inr hcb
  exact ⟨hc, binopF_missing_left op how m .oj a b r ha hb h c hc hca hcb t ht⟩

theorem oj_neutral_left_add (how : How) (m : Option Dir) (a b r : RFrame)
    (ha : a.cols.length > 1) (hb : b.cols.length > 1) (h : binopF .add how m .oj (.df a) (.df b) = .df r)
    (c : String) (hca : c ∉ a.names) (hcb : c ∈ b.names) (t : Int) (ht : t ∈ r.idx) :
    cellD Option.none r Option.none c t = cellD Option.none b m c t := by
  rw [(oj_neutral_left .add how m a b r ha hb h c hca hcb t ht).2, appO_neutral_left .add (.inl rfl)]

theorem oj_neutral_left_mul (how : How) (m : Option Dir) (a b r : RFrame)
    (ha : a.cols.length > 1) (hb : b.cols.length > 1) (h : binopF .mul how m .oj (.df a) (.df b) = .df r)
    (c : String) (hca : c ∉ a.names) (hcb : c ∈ b.names) (t : Int) (ht : t ∈ r.idx) :
    cellD Option.none r Option.none c t = cellD Option.none b m c t := by
  rw [(oj_neutral_left .mul how m a b r ha hb h c hca hcb t ht).2, appO_neutral_left .mul (.inr rfl)]

/-- under `'ij'` no neutral element is ever used: every result column is a column of both frames -/
theorem ij_no_neutral (a b : RFrame) (c : String) (hc : c ∈ frameCols .ij a b) (d d' : Option Rat) (m : Option Dir) (t : Int) :
    cellD d a m c t = cellD d' a m c t ∧ cellD d b m c t = cellD d' b m c t := by
  rw [binopF_columns_ij] at hc
  exact ⟨cellD_default _ _ a m c t hc.1, cellD_default _ _ b m c t hc.2⟩

/-! ### the column policies `'lj'` / `'rj'`: the header of the first / of the last frame -/

theorem binopF_columns_lj (a b : RFrame) (c : String) : c ∈ frameCols .lj a b ↔ c ∈ a.names :=
  mem_frameCols .lj a b c

theorem binopF_columns_rj (a b : RFrame) (c : String) : c ∈ frameCols .rj a b ↔ c ∈ b.names :=
  mem_frameCols .rj a b c

/-- `columns = 'lj'`: the result has exactly the columns of the LEFT frame, and a column that only the left frame has is
the left frame's column on the joint index (the right side acts as the neutral element), for all four operators -/
theorem lj_neutral (op : Op) (how : How) (m : Option Dir) (a b r : RFrame)
    (ha : a.cols.length > 1) (hb : b.cols.length > 1) (h : binopF op how m .lj (.df a) (.df b) = .df r) :
    (∀ c, c ∈ r.names ↔ c ∈ a.names) ∧
    ∀ c, c ∈ a.names → c ∉ b.names → ∀ t ∈ r.idx, cellD Option.none r Option.none c t = cellD Option.none a m c t := by
  have hn : ∀ c, c ∈ r.names ↔ c ∈ a.names := fun c => by
    rw [binopF_names op how m .lj a b r ha hb h, binopF_columns_lj]
  exact ⟨hn, fun c hca hcb t ht => binopF_missing_right op how m .lj a b r ha hb h c ((hn c).mpr hca) hca hcb t ht⟩

/-- `columns = 'rj'`: the result has exactly the columns of the RIGHT frame, and a column that only the right frame has
holds `neutral op b[t, c]` (`b[t, c]` itself for `add_ / mul_`, `0 - b[t, c]`, `1 / b[t, c]`) -/
theorem rj_neutral (op : Op) (how : How) (m : Option Dir) (a b r : RFrame)
    (ha : a.cols.length > 1) (hb : b.cols.length > 1) (h : binopF op how m .rj (.df a) (.df b) = .df r) :
    (∀ c, c ∈ r.names ↔ c ∈ b.names) ∧
    ∀ c, c ∉ a.names → c ∈ b.names → ∀ t ∈ r.idx,
      cellD Option.none r Option.none c t = op.appO (some op.neutral) (cellD Option.none b m c t) := by
  have hn : ∀ c, c ∈ r.names ↔ c ∈ b.names := fun c => by
    rw [binopF_names op how m .rj a b r ha hb h, binopF_columns_rj]
  exact ⟨hn, fun c hca hcb t ht => binopF_missing_left op how m .rj a b r ha hb h c ((hn c).mpr hcb) hca hcb t ht⟩

/-- under `'lj'` (and `'rj'`) the operators cannot commute: the header follows the first (last) operand.  Witness: frames
with the headers `a, b` and `b, c` -/
theorem comm_fails_lj :
    ∃ a b : RFrame, a.cols.length > 1 ∧ b.cols.length > 1 ∧ SortedL a.idx ∧ SortedL b.idx ∧
      binopF .add .inner Option.none .lj (.df a) (.df b) ≠ binopF .add .inner Option.none .lj (.df b) (.df a) :=
  ⟨{ idx := [1], cols := [("a", [some 1]), ("b", [some 1])] }, { idx := [1], cols := [("b", [some 1]), ("c", [some 1])] },
    by decide, by decide, by decide, by decide, by decide +kernel⟩

theorem binopF_frame_series (op : Op) (how : How) (m : Option Dir) (ch : ColHow) (a : RFrame) (s : RSeries) (ha : a.cols.length > 1) :
    ∃ ix, joinIndex how [a.idx, s.idx] = some ix ∧
      binopF op how m ch (.df a) (.ts s) =
        .df { idx := ix, cols := a.names.map fun c => (c, ix.map fun t => op.appO (cellD (some op.neutral) a m c t) (lookR s m t)) } := by
  rw [binopF_eq_binopFG]
  exact binopFG_frame_series op.appO (some op.neutral) how m ch a s ha

theorem binopF_series_frame (op : Op) (how : How) (m : Option Dir) (ch : ColHow) (a : RFrame) (s : RSeries) (ha : a.cols.length > 1) :
    ∃ ix, joinIndex how [s.idx, a.idx] = some ix ∧
      binopF op how m ch (.ts s) (.df a) =
        .df { idx := ix, cols := a.names.map fun c => (c, ix.map fun t => op.appO (lookR s m t) (cellD (some op.neutral) a m c t)) } := by
  rw [binopF_eq_binopFG]
  exact binopFG_series_frame op.appO (some op.neutral) how m ch a s ha

theorem binopF_frame_scalar (op : Op) (how : How) (m : Option Dir) (ch : ColHow) (a : RFrame) (q : Option Rat) (ha : a.cols.length > 1) :
    binopF op how m ch (.df a) (.num q) =
      .df { idx := a.idx, cols := a.names.map fun c => (c, a.idx.map fun t => op.appO (cellD (some op.neutral) a m c t) q) } := by
  rw [binopF_eq_binopFG]
  exact binopFG_frame_scalar op.appO (some op.neutral) how m ch a q ha

theorem binopF_scalar_frame (op : Op) (how : How) (m : Option Dir) (ch : ColHow) (a : RFrame) (q : Option Rat) (ha : a.cols.length > 1) :
    binopF op how m ch (.num q) (.df a) =
      .df { idx := a.idx, cols := a.names.map fun c => (c, a.idx.map fun t => op.appO q (cellD (some op.neutral) a m c t)) } := by
  rw [binopF_eq_binopFG]
  exact binopFG_scalar_frame op.appO (some op.neutral) how m ch a q ha

/-- a frame with ONE column acts as the Series of that column, whatever its name (`_df_column`: `ts.shape[1] == 1`), here
against a frame with several columns; any index policy, fill method and column policy -/
theorem one_col_left (op : Op) (how : How) (m : Option Dir) (ch : ColHow) (idx : List Int) (n : String) (col : RCol) (b : RFrame)
    (hb : b.cols.length > 1) (h : col.length = idx.length) :
    binopF op how m ch (.df { idx := idx, cols := [(n, col)] }) (.df b) =
      binopF op how m ch (.ts { idx := idx, vals := col }) (.df b) := by
  rw [binopF_eq_binopFG, binopF_eq_binopFG,
    binopFG_wide_right _ _ how m ch b (.df ⟨idx, [(n, col)]⟩) _ hb rfl (joinIndex_pair how idx b.idx),
    binopFG_wide_right _ _ how m ch b (.ts ⟨idx, col⟩) _ hb rfl (joinIndex_pair how idx b.idx)]
  rfl

theorem one_col_right (op : Op) (how : How) (m : Option Dir) (ch : ColHow) (idx : List Int) (n : String) (col : RCol) (a : RFrame)
    (ha : a.cols.length > 1) (h : col.length = idx.length) :
    binopF op how m ch (.df a) (.df { idx := idx, cols := [(n, col)] }) =
      binopF op how m ch (.df a) (.ts { idx := idx, vals := col }) := by
  rw [binopF_eq_binopFG, binopF_eq_binopFG,
    binopFG_wide_left _ _ how m ch a (.df ⟨idx, [(n, col)]⟩) _ ha rfl (joinIndex_pair how a.idx idx),
    binopFG_wide_left _ _ how m ch a (.ts ⟨idx, col⟩) _ ha rfl (joinIndex_pair how a.idx idx)]
  rfl

/-- one-column frames among themselves, with a Series or a scalar: the result is the Series result packed as a one-column
frame (`pd.DataFrame(res)`), named after the operands' common column name, else `0` -/
theorem one_col_series (op : Op) (how : How) (m : Option Dir) (ch : ColHow) (idx : List Int) (n : String) (col : RCol) (s : RSeries)
    (h : col.length = idx.length) :
    binopF op how m ch (.df { idx := idx, cols := [(n, col)] }) (.ts s) =
      wrap1 "0" (binop op how m (.ts { idx := idx, vals := col }) (.ts s)) := by
  rw [binopF_eq_binopFG, binop_eq, binopFG_narrow _ _ how m ch _ _ rfl rfl]
  rfl

theorem one_col_scalar (op : Op) (how : How) (m : Option Dir) (ch : ColHow) (idx : List Int) (n : String) (col : RCol) (q : Option Rat)
    (h : col.length = idx.length) :
    binopF op how m ch (.df { idx := idx, cols := [(n, col)] }) (.num q) =
      wrap1 n (binop op how m (.ts { idx := idx, vals := col }) (.num q)) := by
  rw [binopF_eq_binopFG, binop_eq, binopFG_narrow _ _ how m ch _ _ rfl rfl]
  rfl

theorem one_col_one_col (op : Op) (how : How) (m : Option Dir) (ch : ColHow) (idx idx' : List Int) (n n' : String) (col col' : RCol)
    (h : col.length = idx.length) (h' : col'.length = idx'.length) :
    binopF op how m ch (.df { idx := idx, cols := [(n, col)] }) (.df { idx := idx', cols := [(n', col')] }) =
      wrap1 (if n = n' then n else "0") (binop op how m (.ts { idx := idx, vals := col }) (.ts { idx := idx', vals := col' })) := by
  rw [binopF_eq_binopFG, binop_eq, binopFG_narrow _ _ how m ch _ _ rfl rfl]
  simp only [wrapAs, isDf, Bool.or_self, if_true, resultName, nameOf, List.head?_cons, Option.map_some, Option.some.injEq, colArg,
    List.length_singleton, Option.getD_some]
  by_cases e : n = n'
  · simp only [e, if_true, Option.getD_some]
  · simp only [e, if_false, Option.getD_none]

/-- dividing a frame by the scalar 0 gives a NaN frame of the same shape (never ±inf; F10 for frames) -/
theorem div_by_zero_scalar_frame (how : How) (m : Option Dir) (ch : ColHow) (a : RFrame) (ha : a.cols.length > 1) :
    binopF .div how m ch (.df a) (.num (some 0)) =
      .df { idx := a.idx, cols := a.names.map fun c => (c, a.idx.map fun _ => Option.none) } := by
  simp only [binopF_frame_scalar .div how m ch a (some 0) ha, appO_div_zero]

/-- on Series and scalars the frame-aware operator is the operator of `PygModel/Ops.lean` (all theorems above apply) -/
theorem binopF_refines (op : Op) (how : How) (m : Option Dir) (ch : ColHow) (a b : Operand) :
    binopF op how m ch (.ofOperand a) (.ofOperand b) = .ofOperand (binop op how m a b) := by
  rw [binopF_eq_binopFG, binopFG_refines, binop_eq]

/-- `add_` and `mul_` are commutative on frames (sorted indices; index policies inner / outer; the column policies
`'ij'` / `'oj'` - `'lj'` / `'rj'` take the header of the first / last frame and cannot commute, see
`comm_fails_lj`; any fill method): same header, same index, same cells -/
theorem add_comm_frames (how : How) (hh : how = .inner ∨ how = .outer) (m : Option Dir) (ch : ColHow) (hch : ch = .ij ∨ ch = .oj) (a b : RFrame)
    (ha : a.cols.length > 1) (hb : b.cols.length > 1) (sa : SortedL a.idx) (sb : SortedL b.idx) :
    binopF .add how m ch (.df a) (.df b) = binopF .add how m ch (.df b) (.df a) :=
  binopF_comm_frames .add appO_comm_add how hh m ch hch a b ha hb sa sb

theorem mul_comm_frames (how : How) (hh : how = .inner ∨ how = .outer) (m : Option Dir) (ch : ColHow) (hch : ch = .ij ∨ ch = .oj) (a b : RFrame)
    (ha : a.cols.length > 1) (hb : b.cols.length > 1) (sa : SortedL a.idx) (sb : SortedL b.idx) :
    binopF .mul how m ch (.df a) (.df b) = binopF .mul how m ch (.df b) (.df a) :=
  binopF_comm_frames .mul appO_comm_mul how hh m ch hch a b ha hb sa sb

/-- `add_` is commutative between a frame and a Series (the Series is broadcast to every column on either side) -/
theorem add_comm_frame_series (how : How) (hh : how = .inner ∨ how = .outer) (m : Option Dir) (ch : ColHow) (a : RFrame) (s : RSeries)
    (ha : a.cols.length > 1) (sa : SortedL a.idx) (ss : SortedL s.idx) :
    binopF .add how m ch (.df a) (.ts s) = binopF .add how m ch (.ts s) (.df a) :=
  binopF_comm_series .add appO_comm_add how hh m ch a s ha sa ss

theorem mul_comm_frame_series (how : How) (hh : how = .inner ∨ how = .outer) (m : Option Dir) (ch : ColHow) (a : RFrame) (s : RSeries)
    (ha : a.cols.length > 1) (sa : SortedL a.idx) (ss : SortedL s.idx) :
    binopF .mul how m ch (.df a) (.ts s) = binopF .mul how m ch (.ts s) (.df a) :=
  binopF_comm_series .mul appO_comm_mul how hh m ch a s ha sa ss

theorem add_comm_frame_scalar (how : How) (m : Option Dir) (ch : ColHow) (a : RFrame) (q : Option Rat) (ha : a.cols.length > 1) :
    binopF .add how m ch (.df a) (.num q) = binopF .add how m ch (.num q) (.df a) :=
  binopF_comm_scalar .add appO_comm_add how m ch a q ha

theorem mul_comm_frame_scalar (how : How) (m : Option Dir) (ch : ColHow) (a : RFrame) (q : Option Rat) (ha : a.cols.length > 1) :
    binopF .mul how m ch (.df a) (.num q) = binopF .mul how m ch (.num q) (.df a) :=
  binopF_comm_scalar .mul appO_comm_mul how m ch a q ha

/-- two one-column frames (any names) under a commutative operator: the result name (the common name, else `0`) commutes too -/
theorem comm_one_col (op : Op) (hop : ∀ x y, op.appO x y = op.appO y x) (how : How) (hh : how = .inner ∨ how = .outer)
    (m : Option Dir) (ch : ColHow) (idx idx' : List Int) (n n' : String) (col col' : RCol) (h : col.length = idx.length)
    (h' : col'.length = idx'.length) (sa : SortedL idx) (sb : SortedL idx') :
    binopF op how m ch (.df { idx := idx, cols := [(n, col)] }) (.df { idx := idx', cols := [(n', col')] }) =
      binopF op how m ch (.df { idx := idx', cols := [(n', col')] }) (.df { idx := idx, cols := [(n, col)] }) := by
  have hn : (if n = n' then n else "0") = (if n' = n then n' else "0") := by
    by_cases e : n = n'
    · subst e; rfl
    · rw [if_neg e, if_neg fun h => e h.symm]
  rw [one_col_one_col op how m ch idx idx' n n' col col' h h', one_col_one_col op how m ch idx' idx n' n col' col h' h, hn,
    binop_eq, binopG_comm _ hop how hh m { idx := idx, vals := col } { idx := idx', vals := col' } sa sb]

theorem comm_one_col_frame (op : Op) (hop : ∀ x y, op.appO x y = op.appO y x) (how : How) (hh : how = .inner ∨ how = .outer)
    (m : Option Dir) (ch : ColHow) (idx : List Int) (n : String) (col : RCol) (b : RFrame) (hb : b.cols.length > 1)
    (h : col.length = idx.length) (sa : SortedL idx) (sb : SortedL b.idx) :
    binopF op how m ch (.df { idx := idx, cols := [(n, col)] }) (.df b) =
      binopF op how m ch (.df b) (.df { idx := idx, cols := [(n, col)] }) := by
  rw [binopF_eq_binopFG, binopF_eq_binopFG]
  exact (binopFG_comm_left _ hop _ how hh m ch b (.df { idx := idx, cols := [(n, col)] }) idx hb rfl rfl sb sa).symm

theorem add_comm_one_col (how : How) (hh : how = .inner ∨ how = .outer) (m : Option Dir) (ch : ColHow) (idx idx' : List Int)
    (n n' : String) (col col' : RCol) (h : col.length = idx.length) (h' : col'.length = idx'.length)
    (sa : SortedL idx) (sb : SortedL idx') :
    binopF .add how m ch (.df { idx := idx, cols := [(n, col)] }) (.df { idx := idx', cols := [(n', col')] }) =
      binopF .add how m ch (.df { idx := idx', cols := [(n', col')] }) (.df { idx := idx, cols := [(n, col)] }) :=
  comm_one_col .add appO_comm_add how hh m ch idx idx' n n' col col' h h' sa sb

theorem mul_comm_one_col (how : How) (hh : how = .inner ∨ how = .outer) (m : Option Dir) (ch : ColHow) (idx idx' : List Int)
    (n n' : String) (col col' : RCol) (h : col.length = idx.length) (h' : col'.length = idx'.length)
    (sa : SortedL idx) (sb : SortedL idx') :
    binopF .mul how m ch (.df { idx := idx, cols := [(n, col)] }) (.df { idx := idx', cols := [(n', col')] }) =
      binopF .mul how m ch (.df { idx := idx', cols := [(n', col')] }) (.df { idx := idx, cols := [(n, col)] }) :=
  comm_one_col .mul appO_comm_mul how hh m ch idx idx' n n' col col' h h' sa sb

theorem add_comm_one_col_frame (how : How) (hh : how = .inner ∨ how = .outer) (m : Option Dir) (ch : ColHow) (idx : List Int)
    (n : String) (col : RCol) (b : RFrame) (hb : b.cols.length > 1) (h : col.length = idx.length)
    (sa : SortedL idx) (sb : SortedL b.idx) :
    binopF .add how m ch (.df { idx := idx, cols := [(n, col)] }) (.df b) =
      binopF .add how m ch (.df b) (.df { idx := idx, cols := [(n, col)] }) :=
  comm_one_col_frame .add appO_comm_add how hh m ch idx n col b hb h sa sb

theorem mul_comm_one_col_frame (how : How) (hh : how = .inner ∨ how = .outer) (m : Option Dir) (ch : ColHow) (idx : List Int)
    (n : String) (col : RCol) (b : RFrame) (hb : b.cols.length > 1) (h : col.length = idx.length)
    (sa : SortedL idx) (sb : SortedL b.idx) :
    binopF .mul how m ch (.df { idx := idx, cols := [(n, col)] }) (.df b) =
      binopF .mul how m ch (.df b) (.df { idx := idx, cols := [(n, col)] }) :=
  comm_one_col_frame .mul appO_comm_mul how hh m ch idx n col b hb h sa sb

theorem reduce_left_frames (op : Op) (hop : op = .add ∨ op = .mul) (how : How) (m : Option Dir) (ch : ColHow)
    (x : FOperand) (xs ys : List FOperand) :
    opListF op how m ch (x :: xs) ys = some ((xs ++ ys).foldl (binopF op how m ch) x) := by
  rcases hop with rfl | rfl <;> rfl

theorem reduce_sub_frames (how : How) (m : Option Dir) (ch : ColHow) (x y : FOperand) (xs ys : List FOperand) :
    opListF .sub how m ch (x :: xs) (y :: ys) =
      some (binopF .sub how m ch (xs.foldl (binopF .add how m ch) x) (ys.foldl (binopF .add how m ch) y)) := rfl

theorem reduce_div_frames (how : How) (m : Option Dir) (ch : ColHow) (x y : FOperand) (xs ys : List FOperand) :
    opListF .div how m ch (x :: xs) (y :: ys) =
      some (binopF .div how m ch (xs.foldl (binopF .mul how m ch) x) (ys.foldl (binopF .mul how m ch) y)) := rfl

/-- one step of the fold over frames with ONE header, read at every label -/
theorem binopF_step_same (op : Op) (how : How) (ch : ColHow) (a b : RFrame) (ha : a.cols.length > 1) (hn : b.names = a.names) :
    ∃ r, binopF op how Option.none ch (.df a) (.df b) = .df r ∧ r.names = a.names ∧ r.idx = join2 how a.idx b.idx ∧
      ∀ c ∈ a.names, ∀ t, cellD Option.none r Option.none c t =
        op.appO (cellD Option.none a Option.none c t) (cellD Option.none b Option.none c t) := by
  have hb : b.cols.length > 1 := by rw [← names_length, hn, names_length]; exact ha
  obtain ⟨ix, hix, h'⟩ := binopF_value op how Option.none ch a b ha hb
  rw [joinIndex_pair] at hix
  cases hix
  rw [frameCols_same ch hn, if_neg (names_ne_nil a ha)] at h'
  refine ⟨_, h', names_built _ _ _, rfl, fun c hc t => ?_⟩
  have e : op.appO (cellD (some op.neutral) a Option.none c t) (cellD (some op.neutral) b Option.none c t) =
      op.appO (cellD Option.none a Option.none c t) (cellD Option.none b Option.none c t) := by
    rw [cellD_default _ Option.none a _ c t hc, cellD_default _ Option.none b _ c t (hn ▸ hc)]
  rw [← e]
  exact cell_of_built_all Option.none _ a.names
    (fun c t => op.appO (cellD (some op.neutral) a Option.none c t) (cellD (some op.neutral) b Option.none c t)) c t hc
    fun ht => e.trans (appO_outside_frames op how a b c t hc (hn ▸ hc) ht)

theorem foldl_binopF_same (op : Op) (how : How) (ch : ColHow) (a : RFrame) (xs : List RFrame) (ha : a.cols.length > 1)
    (hn : ∀ f ∈ xs, f.names = a.names) :
    ∃ r, (xs.map FOperand.df).foldl (binopF op how Option.none ch) (.df a) = .df r ∧ r.names = a.names ∧
      r.idx = (xs.map (·.idx)).foldl (join2 how) a.idx ∧
      ∀ c ∈ a.names, ∀ t, cellD Option.none r Option.none c t =
        xs.foldl (fun v f => op.appO v (cellD Option.none f Option.none c t)) (cellD Option.none a Option.none c t) := by
  induction xs generalizing a with
  | nil => exact ⟨a, rfl, rfl, rfl, fun _ _ _ => rfl⟩
  | cons b xs ih =>
    obtain ⟨a', h1, h2, h3, h4⟩ := binopF_step_same op how ch a b ha (hn b (by simp))
    have ha' : a'.cols.length > 1 := by rw [← names_length, h2, names_length]; exact ha
    obtain ⟨r, g1, g2, g3, g4⟩ := ih a' ha' (fun f hf => by rw [h2]; exact hn f (by simp [hf]))
    refine ⟨r, ?_, g2.trans h2, ?_, ?_⟩
    · simp only [List.map_cons, List.foldl_cons, h1, g1]
    · simp only [List.map_cons, List.foldl_cons, g3, h3]
    · intro c hc t
      simp only [List.foldl_cons, g4 c (h2 ▸ hc) t, h4 c hc t]

/-- **lists of multi-column frames reduce left to right, BY CELL**: `add_` / `mul_` of
a list of at least two frames that carry ONE header of several columns (the everyday case; no fill method, ANY index policy, any
column policy) is a frame with that header on the joint index of ALL frames (`joinIndex` of the list) whose cell `(t, c)`, read by
label at EVERY `t` (NaN where it has no row), is the LEFT fold `((x[t,c] op y[t,c]) op ...)` of the frames' own cells - induction
through `binopF_step_same` (one presync-decorated step read at every label), not the model's fold.  With DIFFERENT headers no
plain cell-wise fold holds: under `'ij'` an intermediate one-column result is broadcast, under `lj` / `rj` + `'oj'` a column only
an earlier frame has keeps `x op neutral` at labels the intermediate result has no row for (docs/notes/C08.md). -/
theorem reduce_value_frames (op : Op) (hop : op = .add ∨ op = .mul) (how : How) (ch : ColHow) (x y : RFrame) (xs : List RFrame)
    (hx : x.cols.length > 1) (hn : ∀ f ∈ y :: xs, f.names = x.names) :
    ∃ r, opListF op how Option.none ch ((x :: y :: xs).map .df) [] = some (.df r) ∧ r.names = x.names ∧
      joinIndex how ((x :: y :: xs).map (·.idx)) = some r.idx ∧
      ∀ c ∈ x.names, ∀ t, cellD Option.none r Option.none c t =
        (y :: xs).foldl (fun v f => op.appO v (cellD Option.none f Option.none c t)) (cellD Option.none x Option.none c t) := by
  obtain ⟨r, h1, h2, h3, h4⟩ := foldl_binopF_same op how ch x (y :: xs) hx hn
  refine ⟨r, ?_, h2, ?_, h4⟩
  · rw [List.map_cons, reduce_left_frames op hop, List.append_nil, h1]
  · rw [h3, List.map_cons]; exact joinIndex_fold how x.idx ((y :: xs).map (·.idx))

example : ∃ r, opListF .add .outer Option.none .ij
    ([{ idx := [0, 1], cols := [("a", [some 1, some 2]), ("b", [some 3, Option.none])] },
      { idx := [1, 2], cols := [("a", [some 10, some 20]), ("b", [some 30, some 40])] },
      { idx := [1], cols := [("a", [some 100]), ("b", [some 300])] }].map .df) [] = some (.df r) ∧ r.names = ["a", "b"] ∧
    joinIndex .outer [[0, 1], [1, 2], [1]] = some r.idx := by
  obtain ⟨r, h1, h2, h3, _⟩ := reduce_value_frames .add (Or.inl rfl) .outer .ij
    { idx := [0, 1], cols := [("a", [some 1, some 2]), ("b", [some 3, Option.none])] }
    { idx := [1, 2], cols := [("a", [some 10, some 20]), ("b", [some 30, some 40])] }
    [{ idx := [1], cols := [("a", [some 100]), ("b", [some 300])] }] (by decide) (by decide)
  exact ⟨r, h1, h2, h3⟩

/-- **the neutral element of a missing column is applied PER STEP of the reduction** (a consequence of "lists
reduce left to right"): under `columns = 'oj'` a scalar inside the list reaches
only the columns the running result has when its turn comes.  With `fa` of columns a, b and `fb` of columns b, c:
`add_([fa, 1, fb])` = `(fa + 1) + fb` leaves `c = fb.c` (`0 + 8`), `add_([fa, fb, 1])` = `(fa + fb) + 1` gives `c = fb.c + 1`. -/
theorem oj_neutral_per_step :
    opListF .add .inner Option.none .oj
        [.df ⟨[0], [("a", [some 1]), ("b", [some 2])]⟩, .num (some 1), .df ⟨[0], [("b", [some 4]), ("c", [some 8])]⟩] [] =
      some (.df ⟨[0], [("a", [some 2]), ("b", [some 7]), ("c", [some 8])]⟩) ∧
    opListF .add .inner Option.none .oj
        [.df ⟨[0], [("a", [some 1]), ("b", [some 2])]⟩, .df ⟨[0], [("b", [some 4]), ("c", [some 8])]⟩, .num (some 1)] [] =
      some (.df ⟨[0], [("a", [some 2]), ("b", [some 7]), ("c", [some 9])]⟩) := by
  decide +kernel

/-- what an operand of a frame aggregate shows in cell `(t, c)`: a frame its (reindexed) cell, NaN without the column;
a scalar itself in every cell; a Series shows nothing (Series beside frames are outside `aggregateFS`: known finding C08-A1) -/
def cellX (m : Option Dir) (c : String) (t : Int) : FOperand → Option Rat
  | .df f => cellD Option.none f m c t
  | .num q => q
  | .ts _ => Option.none

/-- on frames alone the aggregate with scalars is the aggregate of frames -/
theorem aggFS_refines (g : Agg) (how : How) (m : Option Dir) (ch : ColHow) (fs : List RFrame) :
    aggregateFS g how m ch (fs.map .df) = aggregateF g how m ch fs := by
  simp only [aggregateFS, aggregateF, framesOfX_map_df, List.map_map, Function.comp_def]

/-- **value with scalars**: frames (several columns each) and scalars in any order - the result lives on the joint index
and the joint header of the FRAMES, and its cell `(t, c)` is `Agg.at` of what every operand shows there (`cellX`) -/
theorem aggFS_value (g : Agg) (how : How) (m : Option Dir) (ch : ColHow) (xs : List FOperand) (f : RFrame) (fs : List RFrame)
    (hf : framesOfX xs = f :: fs) :
    ∃ ix, joinIndex how ((f :: fs).map (·.idx)) = some ix ∧
      aggregateFS g how m ch xs =
        some { idx := ix, cols := (aggCols ch f fs).map fun c => (c, ix.map fun t => g.at (xs.map (cellX m c t))) } := by
  have hix : joinIndex how (f.idx :: fs.map (·.idx)) = some ((fs.map (·.idx)).foldl (join2 how) f.idx) := joinIndex_fold how _ _
  refine ⟨_, hix, ?_⟩
  simp only [aggregateFS, hf, List.map_cons, hix, List.map_map]
  congr 2
  -- column by column, position by position, operand by operand
  refine List.map_congr_left fun c hc => congrArg (Prod.mk c) ?_
  refine List.map_range_eq_map _ _ _ fun k hk => congrArg g.at (List.map_congr_left fun x _ => ?_)
  cases x with
  | num q => rfl
  | ts s => rfl
  | df x =>
    simp only [cellX, recolumnF_reindexF]
    exact at_built _ _ _ c k hc hk

/-- **value and index**: the aggregate of a list of frames lives on the joint index (the union under the default `'oj'`)
with the joint header `aggCols`, and its cell `(t, c)` is the NaN-skipping aggregate `Agg.at` of the operands' cells
`(t, c)`, a frame without column `c` or without a value at `t` contributing NaN.  `count_spec`, `sum_skipna` and
`mean_spec` above say what `Agg.at` is: count of the non-NaN cells, their sum / mean, NaN where no operand has data. -/
theorem aggF_value (g : Agg) (how : How) (m : Option Dir) (ch : ColHow) (f : RFrame) (fs : List RFrame) :
    ∃ ix, joinIndex how ((f :: fs).map (·.idx)) = some ix ∧
      aggregateF g how m ch (f :: fs) =
        some { idx := ix, cols := (aggCols ch f fs).map fun c =>
                 (c, ix.map fun t => g.at ((f :: fs).map fun x => cellD Option.none x m c t)) } := by
  obtain ⟨ix, h1, h2⟩ := aggFS_value g how m ch ((f :: fs).map .df) f fs (framesOfX_map_df _)
  refine ⟨ix, h1, ?_⟩
  rw [← aggFS_refines, h2]
  simp only [List.map_map, Function.comp_def, cellX]

/-- the joint header: the union of the headers under `'oj'` (the default), the common columns under `'ij'`; sorted -/
theorem aggF_columns_oj (f : RFrame) (fs : List RFrame) (c : String) :
    c ∈ aggCols .oj f fs ↔ ∃ x ∈ f :: fs, c ∈ x.names := by
  simp only [aggCols, mem_colsJoin, ← List.map_cons]
  exact ⟨fun ⟨_, hl, hc⟩ => let ⟨x, hx, e⟩ := List.mem_map.1 hl; ⟨x, hx, e ▸ hc⟩, fun ⟨_, hx, hc⟩ => ⟨_, List.mem_map_of_mem hx, hc⟩⟩

theorem aggF_columns_ij (f : RFrame) (fs : List RFrame) (c : String) :
    c ∈ aggCols .ij f fs ↔ ∀ x ∈ f :: fs, c ∈ x.names := by
  simp only [aggCols, mem_colsJoin, ← List.map_cons, List.forall_mem_map]

theorem aggF_columns_sorted (ch : ColHow) (f : RFrame) (fs : List RFrame) : SortedS (aggCols ch f fs) := sorted_sortS _

/-- reading the aggregate by label: cell `(t, c)` = `Agg.at` of the operands' cells -/
theorem aggF_cell (g : Agg) (how : How) (m : Option Dir) (ch : ColHow) (f : RFrame) (fs : List RFrame) (r : RFrame)
    (h : aggregateF g how m ch (f :: fs) = some r) (c : String) (t : Int) (hc : c ∈ r.names) (ht : t ∈ r.idx) :
    cellD Option.none r Option.none c t = g.at ((f :: fs).map fun x => cellD Option.none x m c t) := by
  obtain ⟨ix, _, h'⟩ := aggF_value g how m ch f fs
  rw [h'] at h
  cases h
  rw [names_built] at hc
  exact cell_of_built_all Option.none ix (aggCols ch f fs) (fun c t => g.at ((f :: fs).map fun x => cellD Option.none x m c t)) c t hc
    fun h => absurd ht h

/-! ## the other operators the statement names, on Series and scalars (`PygModel/OpsX.lean`) -/

/-- the pointwise minimum / maximum is one of its arguments and bounds both -/
theorem min_spec (x y : Rat) : (MM.app .min x y = x ∨ MM.app .min x y = y) ∧ MM.app .min x y ≤ x ∧ MM.app .min x y ≤ y := by
  simp only [MM.app]
  split
  · exact ⟨.inl rfl, Rat.le_refl, ‹_›⟩
  · exact ⟨.inr rfl, Rat.le_total.resolve_left ‹_›, Rat.le_refl⟩

theorem max_spec (x y : Rat) : (MM.app .max x y = x ∨ MM.app .max x y = y) ∧ x ≤ MM.app .max x y ∧ y ≤ MM.app .max x y := by
  simp only [MM.app]
  split
  · exact ⟨.inr rfl, ‹_›, Rat.le_refl⟩
  · exact ⟨.inl rfl, Rat.le_refl, Rat.le_total.resolve_left ‹_›⟩

/-- NaN on either side gives NaN (`np.minimum / np.maximum` propagate NaN) -/
theorem mm_nan (k : MM) (x : Option Rat) : k.appO Option.none x = Option.none ∧ k.appO x Option.none = Option.none := by
  cases x <;> simp [MM.appO]

/-- `min_(a, b)` / `max_(a, b)` of two Series: pointwise on the joint index -/
theorem mm_value (k : MM) (how : How) (a b : RSeries) :
    ∃ ix, joinIndex how [a.idx, b.idx] = some ix ∧
      mmList k how Option.none [.ts a] [.ts b] =
        some (.ts { idx := ix, vals := ix.map fun t => k.appO (valueAtR a t) (valueAtR b t) }) := by
  obtain ⟨ix, h1, h2⟩ := binopG_value k.appO how a b
  exact ⟨ix, h1, by rw [mmList_pair, h2]⟩

/-- all operands are synchronised at once, then reduced from the left; no operand gives `None` -/
theorem mm_reduce (k : MM) (how : How) (m : Option Dir) (as bs : List Operand) :
    mmList k how m as bs = reducer (kernelG k.appO) (alignAll how m (as ++ bs)) ∧ mmList k how m [] [] = Option.none := by
  refine ⟨rfl, ?_⟩
  cases how <;> rfl

theorem mm_comm (k : MM) (how : How) (hh : how = .inner ∨ how = .outer) (m : Option Dir) (a b : RSeries)
    (ha : SortedL a.idx) (hb : SortedL b.idx) :
    binopG k.appO how m (.ts a) (.ts b) = binopG k.appO how m (.ts b) (.ts a) :=
  binopG_comm k.appO (mm_appO_comm k) how hh m a b ha hb

theorem pow_nat (x : Rat) (n : Nat) : powO (some x) (some (n : Rat)) = some (x ^ n) := by
  simp only [powO, natExp_natCast, Option.map_some]
  split
  · rename_i h
    have : n = 0 := by exact_mod_cast h
    subst this; simp [Rat.pow_zero]
  · split
    · rename_i h; subst h; rw [Lean.Grind.Semiring.one_pow]
    · rfl

/-- `x ** 0 = 1` and `1 ** y = 1` even when the other side is NaN; otherwise NaN propagates -/
theorem pow_zero_exp (x : Option Rat) : powO x (some 0) = some 1 := by
  cases x <;> simp [powO]

theorem pow_one_base (y : Option Rat) : powO (some 1) y = some 1 := by
  cases y <;> simp [powO]

theorem pow_nan_exp (x : Rat) (h : x ≠ 1) : powO (some x) Option.none = Option.none := by simp [powO_nan_right, h]

theorem pow_nan_base (y : Option Rat) (h : y ≠ some 0) : powO Option.none y = Option.none := by simp [powO_nan_left, h]

/-- `pow_(a, b)` of two Series: `result[t] = a[t] ** b[t]` on the joint index -/
theorem pow_value (how : How) (a b : RSeries) :
    ∃ ix, joinIndex how [a.idx, b.idx] = some ix ∧
      powop how Option.none (.ts a) (.ts b) = .ts { idx := ix, vals := ix.map fun t => powO (valueAtR a t) (valueAtR b t) } :=
  binopG_value powO how a b

/-- a comparison with NaN on either side is False -/
theorem cmp_nan_false (c : Cmp) (x : Option Rat) : c.appO Option.none x = false ∧ c.appO x Option.none = false := by
  cases x <;> simp [Cmp.appO]

/-- two Series, no fill method: a bool Series on the joint index with `result[t] = (a[t] cmp b[t])` -/
theorem cmp_value (c : Cmp) (how : How) (a b : RSeries) :
    ∃ ix, joinIndex how [a.idx, b.idx] = some ix ∧
      cmpop c how Option.none (.ts a) (.ts b) = .ts ix (ix.map fun t => c.appO (valueAtR a t) (valueAtR b t)) := by
  refine ⟨_, joinIndex_pair how a.idx b.idx, ?_⟩
  rw [cmpop_ts_ts]
  rfl

theorem cmp_scalar_right (c : Cmp) (how : How) (a : RSeries) (q : Option Rat) :
    cmpop c how Option.none (.ts a) (.num q) = .ts a.idx (a.idx.map fun t => c.appO (valueAtR a t) q) := by
  rw [cmpop_ts_num]
  rfl

theorem cmp_scalar_left (c : Cmp) (how : How) (b : RSeries) (q : Option Rat) :
    cmpop c how Option.none (.num q) (.ts b) = .ts b.idx (b.idx.map fun t => c.appO q (valueAtR b t)) := by
  rw [cmpop_num_ts]
  rfl

theorem cmp_scalar_scalar (c : Cmp) (how : How) (m : Option Dir) (p q : Option Rat) :
    cmpop c how m (.num p) (.num q) = .flag (c.appO p q) := by
  rw [cmpop_eq]
  rfl

/-- `a > b` is `b < a`, `a >= b` is `b <= a`; on numbers `>` is the negation of `<=` and `>=` of `<` -/
theorem cmp_swap (x y : Option Rat) : Cmp.appO .gt x y = Cmp.appO .lt y x ∧ Cmp.appO .ge x y = Cmp.appO .le y x := by
  cases x <;> cases y <;> simp [Cmp.appO, Cmp.app]

theorem gt_not_le (x y : Rat) : Cmp.app .gt x y = !Cmp.app .le x y := by
  simp only [Cmp.app, ← Rat.not_le, decide_not]

theorem ge_not_lt (x y : Rat) : Cmp.app .ge x y = !Cmp.app .lt x y := by
  simp only [Cmp.app, ← Rat.not_lt, decide_not]

/-! ### `pow_` and the comparisons on frames (`default = nan`) -/

/-- `pow_(a, b)` of two frames: cell `(t, c)` = `a[t, c] ** b[t, c]` on the joint index, header `frameCols` (common columns
under `'ij'`, all under `'oj'`, …); a column that one frame lacks counts as NaN (`@presync` without a default) -/
theorem powF_value (how : How) (m : Option Dir) (ch : ColHow) (a b : RFrame) (ha : a.cols.length > 1) (hb : b.cols.length > 1) :
    ∃ ix, joinIndex how [a.idx, b.idx] = some ix ∧
      powF how m ch (.df a) (.df b) =
        if frameCols ch a b = [] then .ts { idx := [], vals := [] }
        else .df { idx := ix, cols := (frameCols ch a b).map fun c =>
                     (c, ix.map fun t => powO (cellD Option.none a m c t) (cellD Option.none b m c t)) } :=
  binopFG_value powO Option.none how m ch a b ha hb

/-- NaN is not neutral for `**`: a column only the base frame has is NaN except where the base is 1 (`1 ** nan = 1`); a
column only the exponent frame has is NaN except where the exponent is 0 (`nan ** 0 = 1`) -/
theorem powF_missing (how : How) (m : Option Dir) (ch : ColHow) (a b r : RFrame)
    (ha : a.cols.length > 1) (hb : b.cols.length > 1) (h : powF how m ch (.df a) (.df b) = .df r) (c : String) (hc : c ∈ r.names)
    (t : Int) (ht : t ∈ r.idx) :
    (c ∉ b.names → cellD Option.none r Option.none c t = if cellD Option.none a m c t = some 1 then some 1 else Option.none) ∧
    (c ∉ a.names → cellD Option.none r Option.none c t = if cellD Option.none b m c t = some 0 then some 1 else Option.none) := by
  constructor
  · intro hcb
    rw [binopFG_missing_right powO Option.none how m ch a b r ha hb h c hc hcb t ht]
    exact powO_nan_right _
  · intro hca
    rw [binopFG_missing_left powO Option.none how m ch a b r ha hb h c hc hca t ht]
    exact powO_nan_left _

theorem powF_frame_scalar (how : How) (m : Option Dir) (ch : ColHow) (a : RFrame) (q : Option Rat) (ha : a.cols.length > 1) :
    powF how m ch (.df a) (.num q) =
      .df { idx := a.idx, cols := a.names.map fun c => (c, a.idx.map fun t => powO (cellD Option.none a m c t) q) } :=
  binopFG_frame_scalar powO Option.none how m ch a q ha

theorem powF_refines (how : How) (m : Option Dir) (ch : ColHow) (a b : Operand) :
    powF how m ch (.ofOperand a) (.ofOperand b) = .ofOperand (powop how m a b) :=
  binopFG_refines powO Option.none how m ch a b

/-- `gt_ / ge_ / lt_ / le_ (a, b)` of two frames: cell `(t, c)` = the bool `a[t, c] cmp b[t, c]` (as 1 / 0) on the joint index,
header `frameCols`; NaN on either side and a column that one frame lacks (default NaN) compare False -/
theorem cmpF_value (c : Cmp) (how : How) (m : Option Dir) (ch : ColHow) (a b : RFrame) (ha : a.cols.length > 1) (hb : b.cols.length > 1) :
    ∃ ix, joinIndex how [a.idx, b.idx] = some ix ∧
      cmpF c how m ch (.df a) (.df b) =
        if frameCols ch a b = [] then .ts { idx := [], vals := [] }
        else .df { idx := ix, cols := (frameCols ch a b).map fun n =>
                     (n, ix.map fun t => boolCell (c.appO (cellD Option.none a m n t) (cellD Option.none b m n t))) } :=
  binopFG_value c.cell Option.none how m ch a b ha hb

/-- a column that only one of the frames has is False throughout (never NaN, never a neutral element) -/
theorem cmpF_missing_false (c : Cmp) (how : How) (m : Option Dir) (ch : ColHow) (a b r : RFrame)
    (ha : a.cols.length > 1) (hb : b.cols.length > 1) (h : cmpF c how m ch (.df a) (.df b) = .df r) (n : String) (hn : n ∈ r.names)
    (hmiss : n ∉ a.names ∨ n ∉ b.names) (t : Int) (ht : t ∈ r.idx) :
    cellD Option.none r Option.none n t = boolCell false := by
  rcases hmiss with hm | hm
  · rw [binopFG_missing_left c.cell Option.none how m ch a b r ha hb h n hn hm t ht, Cmp.cell, (cmp_nan_false c _).1]
  · rw [binopFG_missing_right c.cell Option.none how m ch a b r ha hb h n hn hm t ht, Cmp.cell, (cmp_nan_false c _).2]

/-- every cell of a comparison of frames is a bool -/
theorem cmpF_bool (c : Cmp) (how : How) (m : Option Dir) (ch : ColHow) (a b r : RFrame)
    (ha : a.cols.length > 1) (hb : b.cols.length > 1) (h : cmpF c how m ch (.df a) (.df b) = .df r) (n : String) (hn : n ∈ r.names)
    (t : Int) (ht : t ∈ r.idx) :
    cellD Option.none r Option.none n t = boolCell true ∨ cellD Option.none r Option.none n t = boolCell false := by
  rw [binopFG_cell c.cell Option.none how m ch a b r ha hb h n t hn ht, Cmp.cell]
  cases c.appO _ _ <;> simp

theorem cmpF_frame_series (c : Cmp) (how : How) (m : Option Dir) (ch : ColHow) (a : RFrame) (s : RSeries) (ha : a.cols.length > 1) :
    ∃ ix, joinIndex how [a.idx, s.idx] = some ix ∧
      cmpF c how m ch (.df a) (.ts s) =
        .df { idx := ix, cols := a.names.map fun n => (n, ix.map fun t => boolCell (c.appO (cellD Option.none a m n t) (lookR s m t))) } :=
  binopFG_frame_series c.cell Option.none how m ch a s ha

theorem cmpF_frame_scalar (c : Cmp) (how : How) (m : Option Dir) (ch : ColHow) (a : RFrame) (q : Option Rat) (ha : a.cols.length > 1) :
    cmpF c how m ch (.df a) (.num q) =
      .df { idx := a.idx, cols := a.names.map fun n => (n, a.idx.map fun t => boolCell (c.appO (cellD Option.none a m n t) q)) } :=
  binopFG_frame_scalar c.cell Option.none how m ch a q ha

/-- on Series and scalars the frame-aware comparison is `cmpop` (all theorems `cmp_*` apply), cells read as bools -/
theorem cmpF_refines (c : Cmp) (how : How) (m : Option Dir) (ch : ColHow) (a b : Operand) :
    cmpF c how m ch (.ofOperand a) (.ofOperand b) = (cmpop c how m a b).enc := by
  rw [cmpop_enc]
  exact binopFG_refines c.cell Option.none how m ch a b

/-! ### `min_ / max_` with frames (`mmListF`, PygModel/OpsFX.lean): `df_sync` of ALL operands, then the left fold -/

/-- **value, index and columns at once, any number of operands** (induction over the list): `min_` / `max_` of scalars,
Series and frames with several columns each, at least one frame, is the frame on the joint index of all timeseries with
the joint header of the FRAMES (`aggCols`: common columns under `'ij'`, all under `'oj'`, …, sorted) whose cell `(t, c)`
is the LEFT fold of `np.minimum / np.maximum` (`MM.appO`: NaN propagates) over what the operands show there (`cellM`: a
frame its cell after `_df_reindex(·, m)`, NaN without the column; a Series its value in every column; a scalar itself).
Hypothesis `hc`: more than one joint column, or no Series operand - a frame that `df_sync` leaves with exactly ONE column
is turned into a Series by `_align_columns` when it meets a Series (`as_series`), and the result then is a Series with
the same values (modelled and sampled; the `#guard` below shows it). -/
theorem mmF_value (k : MM) (how : How) (m : Option Dir) (ch : ColHow) (x : FOperand) (xs : List FOperand) (f : RFrame) (fs : List RFrame)
    (hf : framesOfX (x :: xs) = f :: fs) (hd : ∀ g, FOperand.df g ∈ x :: xs → g.cols.length > 1)
    (hc : (aggCols ch f fs).length ≠ 1 ∨ ∀ s, FOperand.ts s ∉ x :: xs) :
    ∃ ix, joinIndex how (indexesOfF (x :: xs)) = some ix ∧
      mmListF k how m ch (x :: xs) [] =
        some (.df { idx := ix, cols := (aggCols ch f fs).map fun c =>
                      (c, ix.map fun t => xs.foldl (fun v y => k.appO v (cellM m c t y)) (cellM m c t x)) }) := by
  have hfm : FOperand.df f ∈ x :: xs := (mem_framesOfX _ f).mp (hf ▸ List.mem_cons_self)
  obtain ⟨a, as, hi⟩ := List.exists_cons_of_ne_nil (indexesOfF_ne_nil _ f hfm)
  have hix : joinIndex how (indexesOfF (x :: xs)) = some (as.foldl (join2 how) a) := hi ▸ joinIndex_fold how a as
  refine ⟨_, hix, ?_⟩
  generalize as.foldl (join2 how) a = ix at hix
  have hts : (∀ s, FOperand.ts s ∉ x :: xs) → ∀ y ∈ x :: xs, (viewOf m y).isTs = false :=
    fun h y hy => by
      cases y with
      | ts s => exact absurd hy (h s)
      | num q => rfl
      | df g => rfl
  have hdf : (viewOf m x).isDf = true ∨ ∃ W ∈ xs.map (viewOf m), W.isDf = true := by
    rcases List.mem_cons.mp hfm with e | hmem
    · exact .inl (e ▸ rfl)
    · exact .inr ⟨_, List.mem_map.mpr ⟨_, hmem, rfl⟩, rfl⟩
  simp only [mmListF, List.append_nil, syncF_build how m ch (x :: xs) f fs ix hf hd hix, List.map_cons, reducerF]
  rw [foldl_mmKernelF k ix _ _ _ (hc.imp_right fun h => ⟨hts h x List.mem_cons_self, fun W hW => by
      obtain ⟨y, hy, rfl⟩ := List.mem_map.mp hW
      exact hts h y (List.mem_cons_of_mem _ hy)⟩),
    View.build_df _ _ _ (View.isDf_foldl k _ _ hdf)]
  simp only [View.cell_foldl]   -- before `List.foldl_map`, which would hide its left side
  simp only [List.foldl_map, cell_viewOf]

/-- two frames: `min_(a, b)` / `max_(a, b)` is the frame on the joint index whose cell `(t, c)` is the pointwise minimum /
maximum of the two cells, NaN where either is NaN or a frame lacks the column (no neutral element: `df_sync` fills NaN) -/
theorem mmF_two (k : MM) (how : How) (m : Option Dir) (ch : ColHow) (a b : RFrame) (ha : a.cols.length > 1) (hb : b.cols.length > 1) :
    ∃ ix, joinIndex how [a.idx, b.idx] = some ix ∧
      mmListF k how m ch [.df a] [.df b] =
        some (.df { idx := ix, cols := (aggCols ch a [b]).map fun c =>
                      (c, ix.map fun t => k.appO (cellD Option.none a m c t) (cellD Option.none b m c t)) }) :=
  mmF_value k how m ch (.df a) [.df b] a [b] rfl
    (by intro g hg; simp at hg; rcases hg with rfl | rfl <;> assumption) (.inr (by simp))

/-- the header under `'lj'` is the first frame's (`'oj'` / `'ij'`: `aggF_columns_oj / _ij` apply to `aggCols`); always sorted
in the model (pandas' own order in the code, compared sorted) -/
theorem mmF_columns_lj (f : RFrame) (fs : List RFrame) (c : String) : c ∈ aggCols .lj f fs ↔ c ∈ f.names := by
  simp only [aggCols, mem_colsJoin]

/-- a frame against a Series / a scalar: broadcast to every cell -/
theorem mmF_frame_series (k : MM) (how : How) (m : Option Dir) (ch : ColHow) (a : RFrame) (s : RSeries) (ha : a.cols.length > 1)
    (hn : a.names.Nodup) :
    ∃ ix, joinIndex how [a.idx, s.idx] = some ix ∧
      mmListF k how m ch [.df a] [.ts s] =
        some (.df { idx := ix, cols := (aggCols ch a []).map fun c =>
                      (c, ix.map fun t => k.appO (cellD Option.none a m c t) (lookR s m t)) }) := by
  have hlen : (aggCols ch a []).length ≠ 1 := by
    have hs : aggCols ch a [] = sortS a.names := by cases ch <;> rfl
    rw [hs, sortS_length a.names hn, names_length]
    omega
  exact mmF_value k how m ch (.df a) [.ts s] a [] rfl
    (by intro g hg; simp at hg; rcases hg with rfl; assumption) (.inl hlen)

/-- commutativity of the pointwise fold for two operands (`np.minimum(x, y) = np.minimum(y, x)`) -/
theorem mmF_cell_comm (k : MM) (m : Option Dir) (c : String) (t : Int) (x y : FOperand) :
    k.appO (cellM m c t x) (cellM m c t y) = k.appO (cellM m c t y) (cellM m c t x) := mm_appO_comm k _ _

/-- the hypotheses of the commutativity theorems hold on partially overlapping indices -/
example : SortedL [1, 2, 3] ∧ SortedL [2, 3, 4] ∧ joinIndex .inner [[1, 2, 3], [2, 3, 4]] = some [2, 3] ∧
    joinIndex .outer [[1, 2, 3], [2, 3, 4]] = some [1, 2, 3, 4] := by decide

#guard binop .div .inner Option.none
    (.ts { idx := [1, 2, 3], vals := [some 1, some 2, some 3] })
    (.ts { idx := [2, 3, 4], vals := [some 0, some 2, some 5] }) ==
    .ts { idx := [2, 3], vals := [Option.none, some (3 / 2)] }
#guard binop .add .outer (some .ffill)
    (.ts { idx := [1, 3], vals := [some 1, some 3] })
    (.ts { idx := [2], vals := [some 10] }) ==
    .ts { idx := [1, 2, 3], vals := [Option.none, some 11, some 13] }
#guard (aggregate .mean .outer Option.none
    [.ts { idx := [1, 2], vals := [some 1, Option.none] }, .ts { idx := [2, 3], vals := [Option.none, some 3] }]).map (·.vals) ==
    some [some 1, Option.none, some 3]
#guard opList .mul .inner Option.none [.ts { idx := [1, 2], vals := [some 2, some 3] }, .num (some 2), .ts { idx := [2], vals := [some 5] }] [] ==
    some (.ts { idx := [2], vals := [some 30] })

/-! frames: the probe of the real code recorded in docs/notes/C08.md -/
private def fa : RFrame := { idx := [0, 1, 2], cols := [("a", [some 1, some 2, some 3]), ("b", [some 4, Option.none, some 6])] }
private def fb : RFrame := { idx := [1, 2, 3], cols := [("b", [some 1, some 0, some 2]), ("c", [some 5, some 5, some 5])] }
private def fx : RFrame := { idx := [1, 2, 3], cols := [("x", [some 1, some 0, some 2]), ("y", [some 5, some 5, some 5])] }
private def fba : RFrame := { idx := [1, 2, 3], cols := [("b", [some 1, some 0, some 2]), ("a", [some 5, some 5, some 5])] }

/-- the hypotheses of the frame theorems hold on frames with partially overlapping indices and headers -/
example : fa.cols.length > 1 ∧ fb.cols.length > 1 ∧ SortedL fa.idx ∧ SortedL fb.idx ∧ fa.names.Nodup ∧
    "a" ∈ fa.names ∧ "a" ∉ fb.names ∧ "c" ∉ fa.names ∧ "c" ∈ fb.names ∧ fb.names ≠ fa.names := by decide

#guard frameCols .ij fa fb == ["b"] && frameCols .oj fa fb == ["a", "b", "c"] && frameCols .ij fa fx == [] &&
  frameCols .ij fba fba == ["b", "a"] && frameCols .ij fa fba == ["a", "b"]
#guard binopF .div .inner Option.none .oj (.df fa) (.df fb) ==
  .df { idx := [1, 2], cols := [("a", [some 2, some 3]), ("b", [Option.none, Option.none]), ("c", [some (1 / 5), some (1 / 5)])] }
#guard binopF .sub .outer Option.none .oj (.df fa) (.df fb) ==
  .df { idx := [0, 1, 2, 3], cols := [("a", [some 1, some 2, some 3, Option.none]), ("b", [Option.none, Option.none, some 6, Option.none]),
                                      ("c", [Option.none, some (-5), some (-5), some (-5)])] }
#guard binopF .add .inner Option.none .ij (.df fa) (.df fb) == .df { idx := [1, 2], cols := [("b", [Option.none, some 6])] }
#guard binopF .add .inner Option.none .ij (.df fa) (.df fx) == .ts { idx := [], vals := [] }
#guard binopF .add .inner Option.none .ij (.df fa) (.ts { idx := [1, 2, 4], vals := [some 10, some 20, some 30] }) ==
  .df { idx := [1, 2], cols := [("a", [some 12, some 23]), ("b", [Option.none, some 26])] }
#guard binopF .add .inner Option.none .ij (.df { idx := [1, 2, 3], cols := [("z", [some 1, some 2, some 3])] })
    (.df { idx := [2, 3, 4], cols := [("w", [some 1, some 2, some 3])] }) == .df { idx := [2, 3], cols := [("0", [some 3, some 5])] }
#guard (aggregateF .sum .outer Option.none .oj [fa, fb]) ==
  some { idx := [0, 1, 2, 3], cols := [("a", [some 1, some 2, some 3, Option.none]), ("b", [some 4, some 1, some 6, some 2]),
                                       ("c", [Option.none, some 5, some 5, some 5])] }
#guard opListF .add .inner Option.none .oj [.df fa, .df fb, .df fba] [] ==
  some (.df { idx := [1, 2], cols := [("a", [some 7, some 8]), ("b", [Option.none, some 6]), ("c", [some 5, some 5])] })

#guard mmList .max .outer Option.none [.ts { idx := [0, 1, 2, 3], vals := [some 1, Option.none, some 3, some 0] }]
    [.ts { idx := [1, 2, 3, 5], vals := [some 1, some 2, Option.none, some (-1)] }] ==
  some (.ts { idx := [0, 1, 2, 3, 5], vals := [Option.none, Option.none, some 3, Option.none, Option.none] })
#guard powop .outer Option.none (.ts { idx := [0, 1, 2, 3], vals := [some 1, Option.none, some 3, some 0] })
    (.ts { idx := [1, 2, 3, 5], vals := [some 1, some 2, Option.none, some (-1)] }) ==
  .ts { idx := [0, 1, 2, 3, 5], vals := [some 1, Option.none, some 9, Option.none, Option.none] }
#guard cmpop .ge .inner Option.none (.ts { idx := [0, 1, 2, 3], vals := [some 1, Option.none, some 3, some 0] }) (.num (some 1)) ==
  .ts [0, 1, 2, 3] [true, false, true, false]
#guard powDomain (.num (some (-1))) == false && powDomain (.num (some (1 / 2))) == false && powDomain (.num (some 3))

/-! column policies `lj` / `rj`, `pow_` / comparisons / `min_ / max_` with frames - the probe of the real code recorded in
docs/notes/C08.md (fa: days 0-2, columns a, b; fb: days 1-3, columns b, c) -/
#guard frameCols .lj fa fb == ["a", "b"] && frameCols .rj fa fb == ["b", "c"] && frameCols .rj fa fx == ["x", "y"] &&
  frameCols .lj fba fb == ["a", "b"] && frameCols .lj fba fba == ["b", "a"]
#guard binopF .add .inner Option.none .lj (.df fa) (.df fb) ==
  .df { idx := [1, 2], cols := [("a", [some 2, some 3]), ("b", [Option.none, some 6])] }
#guard binopF .sub .inner Option.none .rj (.df fa) (.df fb) ==
  .df { idx := [1, 2], cols := [("b", [Option.none, some 6]), ("c", [some (-5), some (-5)])] }
#guard powF .outer Option.none .oj (.df fa) (.df fb) ==
  .df { idx := [0, 1, 2, 3], cols := [("a", [some 1, Option.none, Option.none, Option.none]), ("b", [Option.none, Option.none, some 1, Option.none]),
                                      ("c", [Option.none, Option.none, Option.none, Option.none])] }
#guard cmpF .gt .inner Option.none .ij (.df fa) (.df fb) == .df { idx := [1, 2], cols := [("b", [boolCell false, boolCell true])] }
#guard cmpF .gt .inner Option.none .oj (.df fa) (.df fb) ==
  .df { idx := [1, 2], cols := [("a", [boolCell false, boolCell false]), ("b", [boolCell false, boolCell true]), ("c", [boolCell false, boolCell false])] }
#guard mmListF .min .inner Option.none .oj [.df fa] [.df fb] ==
  some (.df { idx := [1, 2], cols := [("a", [Option.none, Option.none]), ("b", [Option.none, some 0]), ("c", [Option.none, Option.none])] })
#guard mmListF .max .inner Option.none .ij [.df fa, .num (some 2), .ts { idx := [1, 2, 4], vals := [some 10, some 20, some 30] }] [] ==
  some (.df { idx := [1, 2], cols := [("a", [some 10, some 20]), ("b", [Option.none, some 20])] })
#guard mmListF .min .inner Option.none .ij [.df fa] [.df fx] == some (.df { idx := [1, 2], cols := [] })
-- ONE joint column beside a Series: `as_series` turns the frame into a Series (outside the hypothesis of `mmF_value`)
#guard mmListF .min .inner Option.none .ij [.df fa, .df fb, .ts { idx := [1, 2, 4], vals := [some 10, some 20, some 30] }] [] ==
  some (.ts { idx := [1, 2], vals := [Option.none, some 0] })
#guard (aggCols .ij fa [fb]).length == 1 && (aggCols .oj fa [fb]).length == 3 && mmRaises .ij [.df fa, .df fx, .ts { idx := [], vals := [] }]
#guard opList .add .outer Option.none [.ts { idx := [1, 2], vals := [some 1, some 2] }, .ts { idx := [2, 3], vals := [some 10, some 20] },
    .ts { idx := [2, 4], vals := [some 100, some 200] }, .ts { idx := [2], vals := [some 1000] }] [] ==
  some (.ts { idx := [1, 2, 3, 4], vals := [Option.none, some 1112, Option.none, Option.none] })

/-- the hypotheses `hf`, `hd` of `mmF_value` hold on a mix of frames, a Series and a scalar (`hc`: the `#guard` above) -/
example : framesOfX [.df fa, .ts { idx := [1], vals := [some 1] }, .num (some 2), .df fb] = [fa, fb] ∧
    (∀ g, FOperand.df g ∈ [FOperand.df fa, .ts { idx := [1], vals := [some 1] }, .num (some 2), .df fb] → g.cols.length > 1) := by
  refine ⟨rfl, ?_⟩
  intro g hg
  simp only [List.mem_cons, FOperand.df.injEq, reduceCtorEq, false_or, List.not_mem_nil, or_false] at hg
  rcases hg with rfl | rfl <;> decide

/-- `XVal`: the unmasked division has infinities, the masked one has none -/
example : (XVal.div (.fin 1) (.fin 0)).isInf = true ∧ (XVal.divMasked (.fin 1) (.fin 0)).isInf = false :=
  ⟨by rw [div_unmasked_inf.1]; rfl, (div_never_inf (some 1) (some 0)).1⟩

end Pyg.Props.C08
