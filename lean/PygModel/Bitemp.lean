/-
  PygModel.Bitemp — the bitemporal store of src/pyg_base/_bitemporal.py (property C17).

  A bitemporal frame is a list of rows (observation date, publication stamp, value) in frame order;
  `none` is NaN.  Stamps are exact dates.  The single-column ("_is_series") shape comes first; frames with several value
  columns (`RowF`, every function again with the suffix `F`) are the last section.
  pandas calls are replaced by the reference functions below (assumptions, sampled by correspondence):
    `sort_values('updated', kind='stable')`  ↦ `List.mergeSort` (a stable sort),
    `groupby(index)`                         ↦ groups in ascending key order, rows in frame order,
    `ffill`, `drop_duplicates(keep='last')`, `pd.concat` ↦ `ffill`, `keepLast`, `++`.
-/
import PygModel.TSBasic

namespace Pyg.Bitemp
open Pyg

structure Row where
  date : Int
  stamp : Int
  val : Option Int
  deriving Repr, DecidableEq, Inhabited

/-- rows of the frame, in frame order -/
abbrev Store := List Row

/-- `Bi(ts, asof)` for a date `asof` (_bitemporal.py:324-325, 340): every row gets the same stamp -/
def Bi (ts : TS) (stamp : Int) : Store := ts.map fun p => ⟨p.1, stamp, p.2⟩

def stampLe (a b : Row) : Bool := decide (a.stamp ≤ b.stamp)

/-- `df.sort_values(_updated, kind='stable')` (lines 65, 287 of the repaired code) -/
def sortStamp (rows : Store) : Store := rows.mergeSort stampLe

/-- the keys of `groupby(df.index.name)`: the distinct dates, ascending -/
def dates (rows : Store) : List Int := ((rows.map (·.date)).eraseDups).mergeSort (fun a b => decide (a ≤ b))

/-- one group of `groupby(df.index.name)`: the rows of that date, in frame order -/
def group (d : Int) (rows : Store) : Store := rows.filter (·.date == d)

/-- `Series.ffill()` started with a carried value -/
def ffillFrom (prev : Option Int) : List (Option Int) → List (Option Int)
  | [] => []
  | v :: vs => (v.or prev) :: ffillFrom (v.or prev) vs

def ffill (vs : List (Option Int)) : List (Option Int) := ffillFrom none vs

/-- numpy `==` on float cells: NaN equals nothing -/
def npEq : Option Int → Option Int → Bool
  | some a, some b => a == b
  | _, _ => false

/-- `drop_duplicates(subset=[_updated], keep='last')` (line 153) -/
def keepLast : Store → Store
  | [] => []
  | r :: rest => if rest.any (·.stamp == r.stamp) then keepLast rest else r :: keepLast rest

/-- `_drop_repeats` (lines 135-154) on one date's rows, sorted by stamp:
    forward-fill, drop every row whose filled value equals the filled value of the row before,
    then keep the last row of each stamp. -/
def dropRepeats (d : Store) : Store :=
  let noUpdated := ffill (d.map (·.val))                       -- 148
  let oldValues := noUpdated.dropLast                          -- 149  iloc[:-1]
  let newValues := noUpdated.drop 1                            -- 150  iloc[1:]
  let repeats := List.zipWith npEq newValues oldValues         -- 151
  let keep := true :: repeats.map (!·)                         -- 152  ~concatenate([[False], repeats])
  let res := ((d.zip keep).filter (·.2)).map (·.1)             -- 152
  keepLast res                                                 -- 153

/-- lines 283-288: concat, stable sort by stamp, group by date, clean every group, concat -/
def mergeFrames (bis : List Store) : Store :=
  let df := bis.flatten
  let sorted := sortStamp df
  (dates sorted).flatMap fun d => dropRepeats (group d sorted)

/-- `bi_merge(old_data, new_data)` for bitemporal operands; `old = none` is Python's `None`
    (lines 261-269: a single frame is returned as it is) -/
def biMerge (old : Option Store) (new : Store) : Store :=
  match old with
  | none => new
  | some o => mergeFrames [o, new]

/-- `bi_merge` with the one input the code rejects: when both frames are empty there is no group and
    `pd.concat([])` raises `ValueError` (line 288).  Agrees with `biMerge` whenever it returns. -/
def biMergeE (old : Option Store) (new : Store) : Res Store :=
  match old with
  | none => .ok new
  | some o => if (o ++ new).isEmpty then .error .value else .ok (biMerge (some o) new)

/-- `bi_merge(old_data, [new_1, new_2, ...])`: `new_data` may be a list of frames (lines 261-288).
    `none` = Python's `None` (no frame at all, lines 266-267); a single frame is returned as it is. -/
def biMergeL (old : Option Store) (news : List Store) : Option Store :=
  match old.toList ++ news with
  | [] => Option.none
  | [b] => some b
  | bis => some (mergeFrames bis)

/-- the same with the rejected input: two or more frames, all of them empty (`pd.concat([])`, line 288) -/
def biMergeLE (old : Option Store) (news : List Store) : Res (Option Store) :=
  if (old.toList ++ news).length ≥ 2 && (old.toList ++ news).flatten.isEmpty then .error .value
  else .ok (biMergeL old news)

/-- `_nth` (line 20): `v.iloc[min(n, len(v)-1)]` for `n ≥ 0`, else `v.iloc[max(n, -len(v))]` -/
def nth (n : Int) (v : Store) : Option Row :=
  if 0 ≤ n then v[min n.toNat (v.length - 1)]?
  else v[((v.length : Int) + max n (-(v.length : Int))).toNat]?

/-- the value `_nth` selects (groups are never empty, so the outer `none` does not arise) -/
def nthVal (n : Int) (v : Store) : Option Int := (nth n v).bind (·.val)

/-- `bi_read(df, asof, what)` (lines 57-70) for an integer `what`; `asof = none` reads everything -/
def biRead (df : Store) (asof : Option Int) (what : Int) : TS :=
  let df := match asof with
    | some T => df.filter (fun r => decide (r.stamp ≤ T))      -- 58
    | none => df
  let sorted := sortStamp df                                    -- 65
  (dates sorted).map fun d => (d, nthVal what (group d sorted)) -- 65-66

/-! ### the specification side: the full publication log -/

structure Version where
  stamp : Int
  ts : TS
  deriving Repr, Inhabited

/-- every publication ever made, in merge order -/
def logRows (log : List Version) : Store := log.flatMap fun v => Bi v.ts v.stamp

/-- fold of a list of publications of one date in merge order: a non-NaN value overrides,
    a NaN changes nothing -/
def lastVal (rows : Store) : Option Int := rows.foldl (fun acc r => r.val.or acc) none

/-- what an as-of read must return: per date with a publication stamped `≤ T`, the fold of those
    publications in merge order -/
def specRead (log : List Version) (asof : Option Int) : TS :=
  let pubs := match asof with
    | some T => (logRows log).filter (fun r => decide (r.stamp ≤ T))
    | none => logRows log
  (dates pubs).map fun d => (d, lastVal (group d pubs))

/-- "the first value published" of one date: the fold of the publications that share the stamp of the
    first one (later same-stamp versions override it, as they do for every read) -/
def firstVal (rows : Store) : Option Int :=
  match rows with
  | [] => none
  | r :: _ => lastVal (rows.filter (·.stamp == r.stamp))

/-- what `bi_read(..., what=0)` must return as of `T` -/
def specFirst (log : List Version) (asof : Option Int) : TS :=
  let pubs := match asof with
    | some T => (logRows log).filter (fun r => decide (r.stamp ≤ T))
    | none => logRows log
  (dates pubs).map fun d => (d, firstVal (group d pubs))

/-- the clause "what=0 returns the first value published per date" as it is written: per date published by `T`, the value of
    its first publication in merge order (NaN if that publication was NaN) -/
def specFirstLiteral (log : List Version) (asof : Option Int) : TS :=
  let pubs := match asof with
    | some T => (logRows log).filter (fun r => decide (r.stamp ≤ T))
    | none => logRows log
  (dates pubs).map fun d => (d, (group d pubs).head?.bind (·.val))

/-- the store after merging the versions of `log` one by one, starting from `None` -/
def history (log : List Version) : Option Store :=
  log.foldl (fun st v => some (biMerge st (Bi v.ts v.stamp))) none

/-- one `bi_merge` call of a history, with the input the code rejects (`biMergeE`) -/
def mergeStepE (acc : Res (Option Store)) (v : Version) : Res (Option Store) :=
  match acc with
  | .error e => .error e
  | .ok st => match biMergeE st (Bi v.ts v.stamp) with
    | .error e => .error e
    | .ok s => .ok (some s)

/-- the history as the code runs it: `bi_merge` raises `ValueError` when both frames are empty (`pd.concat([])`), and the
    exception ends the history -/
def historyE (log : List Version) : Res (Option Store) := log.foldl mergeStepE (.ok none)

/-- the store after merging batches of versions (each batch handed to one `bi_merge` call as a list) -/
def historyL (batches : List (List Version)) : Option Store :=
  batches.foldl (fun st b => biMergeL st (b.map fun v => Bi v.ts v.stamp)) none

/-- the history of batches as the code runs it: a `bi_merge` call that sees two or more frames, all of them empty, raises
    `ValueError` (`biMergeLE`: `pd.concat([])`, line 288), and the exception ends the history -/
def historyLE (batches : List (List Version)) : Res (Option Store) :=
  batches.foldl (fun acc b => acc.bind fun st => biMergeLE st (b.map fun v => Bi v.ts v.stamp)) (.ok none)


/-! ### widened model (g4): publications as stamped rows, `Bi` with `'shift'` / day bumps, string selectors -/

/-- the as-of fold of `specRead`, stated on the published rows themselves (merge order): what an as-of read must return
    when the versions are arbitrary stamped frames (`Bi` with a bump or `'shift'` gives every row its own stamp) -/
def specReadR (rows : Store) (asof : Option Int) : TS :=
  let pubs := match asof with
    | some T => rows.filter (fun r => decide (r.stamp ≤ T))
    | none => rows
  (dates pubs).map fun d => (d, lastVal (group d pubs))

/-- `specFirst` on published rows -/
def specFirstR (rows : Store) (asof : Option Int) : TS :=
  let pubs := match asof with
    | some T => rows.filter (fun r => decide (r.stamp ≤ T))
    | none => rows
  (dates pubs).map fun d => (d, firstVal (group d pubs))

/-- the store after merging stamped frames one by one, starting from `None` (`history` = the case `Bi v.ts v.stamp`) -/
def historyF (frames : List Store) : Option Store :=
  frames.foldl (fun st f => some (biMerge st f)) none

/-- `Bi(ts, 'shift')` (_bitemporal.py:327-329): row `i` is stamped with the date of row `i+1`, the last row with `now`.
    (`ts = []` is kept out: the real code then CREATES a row with index `0`.) -/
def BiShift (ts : TS) (now : Int) : Store :=
  List.zipWith (fun p s => ⟨p.1, s, p.2⟩) ts ((ts.map (·.1)).drop 1 ++ [now])

/-- `Bi(ts, bump)` (lines 330-333) for a bump of a fixed length `delta` (`'3d'`, `3`, `'1w'`, `'-1d'`; business-day and
    month bumps need the calendar of C04/C09 and are not modelled): the date plus the bump, capped at `now` -/
def BiBump (ts : TS) (delta now : Int) : Store := ts.map fun p => ⟨p.1, min (p.1 + delta) now, p.2⟩

/-- string selectors of `bi_read` (`what='last'` / `'first'`): pandas `GroupBy.last()` / `.first()` -/
inductive Sel where
  | last | first
  deriving Repr, DecidableEq, Inhabited

/-- `GroupBy.last()`: the last non-NaN value of the group (NaN if there is none) -/
def lastNonNan (v : Store) : Option Int := (v.reverse.find? (·.val.isSome)).bind (·.val)

/-- `GroupBy.first()`: the first non-NaN value of the group -/
def firstNonNan (v : Store) : Option Int := (v.find? (·.val.isSome)).bind (·.val)

def Sel.apply : Sel → Store → Option Int
  | .last, v => lastNonNan v
  | .first, v => firstNonNan v

/-- `bi_read(df, asof, what)` for `what = 'last'` / `'first'` (lines 57-66: `gb.apply('last')` = `gb.last()`) -/
def biReadS (df : Store) (asof : Option Int) (sel : Sel) : TS :=
  let df := match asof with
    | some T => df.filter (fun r => decide (r.stamp ≤ T))
    | none => df
  let sorted := sortStamp df
  (dates sorted).map fun d => (d, sel.apply (group d sorted))

/-- number of leading NaN rows of a group: the integer selector that `'first'` amounts to -/
def leadingNan (v : Store) : Nat := (v.takeWhile (·.val.isNone)).length

/-! ### multi-column frames (g4): several value columns sharing the index and the stamp -/

structure RowF where
  date : Int
  stamp : Int
  vals : List (Option Int)
  deriving Repr, DecidableEq, Inhabited

abbrev StoreF := List RowF

/-- a version of a frame: (date, cells) rows -/
abbrev TSF := List (Int × List (Option Int))

def BiF (ts : TSF) (stamp : Int) : StoreF := ts.map fun p => ⟨p.1, stamp, p.2⟩

def sortStampF (rows : StoreF) : StoreF := rows.mergeSort fun a b => decide (a.stamp ≤ b.stamp)

def datesF (rows : StoreF) : List Int := ((rows.map (·.date)).eraseDups).mergeSort (fun a b => decide (a ≤ b))

def groupF (d : Int) (rows : StoreF) : StoreF := rows.filter (·.date == d)

/-- `DataFrame.ffill()` column by column, started with a carried row -/
def ffillFromF (prev : List (Option Int)) : List (List (Option Int)) → List (List (Option Int))
  | [] => []
  | v :: vs => (List.zipWith Option.or v prev) :: ffillFromF (List.zipWith Option.or v prev) vs

/-- the first row has nothing to be filled from -/
def ffillF : List (List (Option Int)) → List (List (Option Int))
  | [] => []
  | v :: vs => v :: ffillFromF v vs

def keepLastF : StoreF → StoreF
  | [] => []
  | r :: rest => if rest.any (·.stamp == r.stamp) then keepLastF rest else r :: keepLastF rest

/-- `repeats.min(axis=1)` (line 152): a row is a repeat only if EVERY column repeats -/
def allRepeat (new old : List (Option Int)) : Bool := (List.zipWith npEq new old).all id

/-- `_drop_repeats` on a frame with several value columns: the mask is per ROW, the rows kept are the RAW rows of `d`
    (not the forward-filled ones) -/
def dropRepeatsF (d : StoreF) : StoreF :=
  let noUpdated := ffillF (d.map (·.vals))                     -- 148
  let oldValues := noUpdated.dropLast                          -- 149
  let newValues := noUpdated.drop 1                            -- 150
  let repeats := List.zipWith allRepeat newValues oldValues    -- 151, 152 (.min(axis=1))
  let keep := true :: repeats.map (!·)
  let res := ((d.zip keep).filter (·.2)).map (·.1)             -- 152
  keepLastF res                                                -- 153

def mergeFramesF (bis : List StoreF) : StoreF :=
  let sorted := sortStampF bis.flatten
  (datesF sorted).flatMap fun d => dropRepeatsF (groupF d sorted)

def biMergeF (old : Option StoreF) (new : StoreF) : StoreF :=
  match old with
  | none => new
  | some o => mergeFramesF [o, new]

def nthF (n : Int) (v : StoreF) : Option RowF :=
  if 0 ≤ n then v[min n.toNat (v.length - 1)]?
  else v[((v.length : Int) + max n (-(v.length : Int))).toNat]?

/-- `bi_read` on a frame for an integer `what`: the n-th RAW row per date -/
def biReadF (df : StoreF) (asof : Option Int) (what : Int) : TSF :=
  let df := match asof with
    | some T => df.filter (fun r => decide (r.stamp ≤ T))
    | none => df
  let sorted := sortStampF df
  (datesF sorted).map fun d => (d, ((nthF what (groupF d sorted)).map (·.vals)).getD [])

/-- column `c` of a frame as a single-column store -/
def colF (c : Nat) (rows : StoreF) : Store := rows.map fun r => ⟨r.date, r.stamp, (r.vals[c]?).join⟩

/-- `bi_read(frame, asof, 'last' | 'first')`: `GroupBy.last()` / `.first()` work column by column -/
def biReadFS (width : Nat) (df : StoreF) (asof : Option Int) (sel : Sel) : TSF :=
  let df := match asof with
    | some T => df.filter (fun r => decide (r.stamp ≤ T))
    | none => df
  let sorted := sortStampF df
  (datesF sorted).map fun d => (d, (List.range width).map fun c => sel.apply (colF c (groupF d sorted)))

/-- the store after merging frame versions one by one -/
def historyFF (log : List (Int × TSF)) : Option StoreF :=
  log.foldl (fun st v => some (biMergeF st (BiF v.2 v.1))) none

/-- `bi_merge` of two frames with the rejected input (both empty: `pd.concat([])` raises) -/
def biMergeFE (old : Option StoreF) (new : StoreF) : Res StoreF :=
  match old with
  | none => .ok new
  | some o => if (o ++ new).isEmpty then .error .value else .ok (biMergeF (some o) new)

/-- every published frame row, in merge order -/
def logRowsF (log : List (Int × TSF)) : StoreF := log.flatMap fun v => BiF v.2 v.1

/-- the one-column frame of a series -/
def embRow (r : Row) : RowF := ⟨r.date, r.stamp, [r.val]⟩

end Pyg.Bitemp
