/-
  PygModel.Civil — a small local model of the proleptic Gregorian calendar of `datetime`
  (`date.toordinal` / `date.fromordinal`): day number `n` (ordinal, 0001-01-01 = 1) <-> (year, month, day).
  Closed-form integer arithmetic (the "days from civil" algorithm), proved equal to `Pyg.Greg` (CPython's
  `_ymd2ord` / `_ord2ymd`, the assumed reference) in PygProofs/Lemmas/CivilGreg.lean; the correspondence checks
  of C05/C10 (ops `ymd` / `ord`) sample it against `datetime` as well.  Only what C05 (month of a day) and C10
  (month/year bumps) need.  Core Lean only.
-/
namespace Pyg.Civil

/-- `datetime.weekday()` of ordinal `n` (Monday = 0; 0001-01-01 was a Monday) -/
def wd (n : Int) : Int := (n + 6) % 7

/-- ordinal -> (year, month, day) -/
def ymd (n : Int) : Int × Int × Int :=
  let z := n + 305            -- days since 0000-03-01
  let era := z / 146097
  let doe := z % 146097
  let yoe := (doe - doe / 1460 + doe / 36524 - doe / 146096) / 365
  let doy := doe - (365 * yoe + yoe / 4 - yoe / 100)
  let mp := (5 * doy + 2) / 153
  let d := doy - (153 * mp + 2) / 5 + 1
  let m := if mp < 10 then mp + 3 else mp - 9
  let y := yoe + era * 400 + (if m ≤ 2 then 1 else 0)
  (y, m, d)

def year (n : Int) : Int := (ymd n).1
def month (n : Int) : Int := (ymd n).2.1
def day (n : Int) : Int := (ymd n).2.2

/-- (year, month in 1..12, day) -> ordinal; `day` may exceed the month length (it simply overflows into
the following days, as `datetime(y,m,1) + (d-1)*DAY` does in `_ymd`, src/pyg_base/_dates.py:220) -/
def ord (y m d : Int) : Int :=
  let y' := if m ≤ 2 then y - 1 else y
  let era := y' / 400
  let yoe := y' % 400
  let mp := if m > 2 then m - 3 else m + 9
  let doy := (153 * mp + 2) / 5 + d - 1
  let doe := yoe * 365 + yoe / 4 - yoe / 100 + doy
  era * 146097 + doe - 305

/-- `ym(y, m)` of src/pyg_base/_dates.py:191-192: month overflow into years -/
def ymNorm (y m : Int) : Int × Int := (y + (m - 1) / 12, 1 + (m - 1) % 12)

/-- `_ymd(y, m, d)` (src/pyg_base/_dates.py:216-220) for an already valid year (the day/year swap guard of
line 216 needs `d > 1500`, impossible for a day of month) -/
def ordYM (y m d : Int) : Int :=
  let (y', m') := ymNorm y m
  ord y' m' d

/-- the day reached from day `n` by adding `k` months keeping the day of month (`_ymd(t.year, t.month+k, t.day)`) -/
def addMonths (n k : Int) : Int :=
  let (y, m, d) := ymd n
  ordYM y (m + k) d

end Pyg.Civil
