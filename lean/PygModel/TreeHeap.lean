/-
  PygModel.TreeHeap — the heap model of `items_to_tree` / `tree_update` (src/pyg_base/_dict.py): the one
  place where C15 is *about* aliasing ("neither t nor u is modified at any depth").

  Dict nodes live in a heap (`Heap := List Node`, the address is the position); a node maps keys to
  references (`Ref := val v | ptr n`): a leaf object (immutable for the tree functions; aliasing of
  leaf objects is not modelled) or the address of another dict node.  Every item assignment
  `d[k] = r` is `store` (it also logs the address of the node written); `copy(d)` / `base()` are
  `alloc`.  Mirrors, statement by statement:
    `_tree_copy`     :211-217   `copyH` / `copyKids`   (repaired code, fix 0ee7c0c)
    `_tree_setitem`  :220-231   `setItemH`
    `tree_items`     :334-377   `itemsH`
    `items_to_tree`  :425-497   `itemsToTreeH` (and `itemsToTreeShallow`: the code before the fix, `copy(tree)`)
    `tree_update`    :499-545   `treeUpdateH`
  Walks over the heap take a fuel (python: the recursion limit); running out of fuel or following a
  dangling address is `Err.other`.  The pure model is `PygModel.Tree`; the frame invariant is in
  `PygProofs/Lemmas/TreeHeapLemmas.lean`, the abstraction theorems in `PygProofs/Lemmas/TreeHeapAbs.lean`.
-/
import PygModel.Tree

namespace Pyg.TreeHeap
open Pyg Pyg.DA Pyg.Tree

inductive Ref where
  | val (v : Val)
  | ptr (n : Nat)
  deriving Repr, DecidableEq, Inhabited

abbrev Node := List (String × Ref)
abbrev Heap := List Node

/-- the heap and the trace of writes: addresses of the nodes assigned into, most recent first -/
structure Mem where
  heap : Heap
  log : List Nat
  deriving Repr, DecidableEq

/-- the items of the node at address `a` (a dangling address reads as an empty node) -/
def node (m : Mem) (a : Nat) : Node := (m.heap[a]?).getD []

/-- a new dict object holding `nd` (`base()`, `copy(d)`) -/
def alloc (m : Mem) (nd : Node) : Mem × Nat := ({ m with heap := m.heap ++ [nd] }, m.heap.length)

/-- `d[k] = r` on the dict at address `a` -/
def store (m : Mem) (a : Nat) (k : String) (r : Ref) : Mem :=
  { heap := m.heap.modify a (DA.set k r), log := a :: m.log }

/-- the loop of `_tree_copy` over the items of the fresh copy `c`:
`for key, value in res.items(): if isinstance(value, types): res[key] = _tree_copy(value, types)` -/
def copyKids (cp : Mem → Nat → Res (Mem × Nat)) (c : Nat) : Mem → Node → Res Mem
  | m, [] => .ok m
  | m, (_, .val _) :: nd => copyKids cp c m nd
  | m, (k, .ptr b) :: nd =>
    match cp m b with
    | .error e => .error e
    | .ok (m1, cb) => copyKids cp c (store m1 c k (.ptr cb)) nd

/-- `_tree_copy(tree, types)`: `res = copy(tree)`, then the branches below are replaced by copies -/
def copyH : Nat → Mem → Nat → Res (Mem × Nat)
  | 0, _, _ => .error Err.other
  | f + 1, m, a =>
    match m.heap[a]? with
    | none => .error Err.other
    | some nd =>
      match copyKids (copyH f) m.heap.length (alloc m nd).1 nd with
      | .error e => .error e
      | .ok m' => .ok (m', m.heap.length)

/-- `_tree_setitem(tree, path + (v,), base, ignore, types)` on the dict at address `a` -/
def setItemH (m : Mem) (a : Nat) (path : Path) (v : Val) (ig : List Val) : Mem :=
  match path with
  | [] => m
  | [k] => if (lookup k (node m a)).isSome && ig.contains v then m else store m a k (.val v)
  | k :: rest =>
    match lookup k (node m a) with
    | some (.ptr b) => setItemH m b rest v ig                       -- res = res[key]
    | _ =>                                                           -- res[key] = base(); res = res[key]
      setItemH (store (alloc m []).1 a k (.ptr m.heap.length)) m.heap.length rest v ig

def itemsN (rec : Ref → Res (List (Path × Val))) : Node → Res (List (Path × Val))
  | [] => .ok []
  | (k, r) :: nd =>
    match rec r, itemsN rec nd with
    | .ok a, .ok b => .ok (a.map (fun pv => (k :: pv.1, pv.2)) ++ b)
    | .error e, _ => .error e
    | _, .error e => .error e

/-- `tree_items` reading the heap -/
def itemsH (H : Heap) : Nat → Ref → Res (List (Path × Val))
  | _, .val v => .ok [([], v)]
  | 0, .ptr _ => .error Err.other
  | f + 1, .ptr a =>
    match H[a]? with
    | none => .error Err.other
    | some nd => itemsN (itemsH H f) nd

/-- the loop `for item in items: _tree_setitem(tree, item, ...)` on the dict at `c` -/
def setItemsH (m : Mem) (c : Nat) (its : List (Path × Val)) (ig : List Val) : Mem :=
  its.foldl (fun acc pv => setItemH acc c pv.1 pv.2 ig) m

/-- `items_to_tree(items, tree, ignore = ig)` for the tree at address `t` (repaired code): the
result is the address of the new tree -/
def itemsToTreeH (f : Nat) (m : Mem) (its : List (Path × Val)) (t : Nat) (ig : List Val) : Res (Mem × Nat) :=
  if ¬ (its.map (·.1)).Nodup then .error Err.value
  else if its.any (·.1.isEmpty) then .error Err.value
  else match copyH f m t with
    | .error e => .error e
    | .ok (m1, c) => .ok (setItemsH m1 c its ig, c)

/-- the code before fix 0ee7c0c: `tree = copy(tree)` (one level only) -/
def itemsToTreeShallow (m : Mem) (its : List (Path × Val)) (t : Nat) (ig : List Val) : Res (Mem × Nat) :=
  if ¬ (its.map (·.1)).Nodup then .error Err.value
  else if its.any (·.1.isEmpty) then .error Err.value
  else .ok (setItemsH (alloc m (node m t)).1 m.heap.length its ig, m.heap.length)

/-- `tree_update(tree, update, ignore = ig)` for the dicts at addresses `t` and `u` -/
def treeUpdateH (f : Nat) (m : Mem) (t u : Nat) (ig : List Val) : Res (Mem × Nat) :=
  match itemsH m.heap f (.ptr u) with
  | .error e => .error e
  | .ok its => itemsToTreeH f m its t ig

def treeUpdateShallow (f : Nat) (m : Mem) (t u : Nat) (ig : List Val) : Res (Mem × Nat) :=
  match itemsH m.heap f (.ptr u) with
  | .error e => .error e
  | .ok its => itemsToTreeShallow m its t ig

/-- `table_to_tree(tree, pattern, rows, base = type(tree))` for the tree at address `t` and the items `its` its rows bind
(`_table_to_tree.py:31-38`, repaired code, fix `5c393c7`: `_tree_copy(tree)`, then one `_tree_setitem` per row; no duplicate check, no
ignore list).  `ValueError` for an item without a key ('node item too short'; the code raises it in the middle of the loop, after
writes into the COPY only). -/
def tableToTreeH (f : Nat) (m : Mem) (its : List (Path × Val)) (t : Nat) : Res (Mem × Nat) :=
  if its.any (·.1.isEmpty) then .error Err.value
  else match copyH f m t with
    | .error e => .error e
    | .ok (m1, c) => .ok (setItemsH m1 c its [], c)

/-- the code before that fix: `tree = copy(tree)`, one level only -/
def tableToTreeShallow (m : Mem) (its : List (Path × Val)) (t : Nat) : Res (Mem × Nat) :=
  if its.any (·.1.isEmpty) then .error Err.value
  else .ok (setItemsH (alloc m (node m t)).1 m.heap.length its [], m.heap.length)

/-- read the tree below a reference back (the abstraction function, executable) -/
def readN (rec : Ref → Option Val) : Node → Option (List (String × Val))
  | [] => some []
  | (k, r) :: nd =>
    match rec r, readN rec nd with
    | some v, some kvs => some ((k, v) :: kvs)
    | _, _ => none

def readH (H : Heap) : Nat → Ref → Option Val
  | _, .val v => some v
  | 0, .ptr _ => none
  | f + 1, .ptr a =>
    match H[a]? with
    | none => none
    | some nd => (readN (readH H f) nd).map .dict

mutual
  /-- lay a pure tree out in the heap (children first, then the node); used by the driver and the examples -/
  def allocTree (m : Mem) : Val → Mem × Ref
    | .dict kvs =>
      let (m1, nd) := allocKVs m kvs
      ({ m1 with heap := m1.heap ++ [nd] }, .ptr m1.heap.length)
    | v => (m, .val v)
  def allocKVs (m : Mem) : List (String × Val) → Mem × Node
    | [] => (m, [])
    | (k, v) :: kvs =>
      let (m1, r) := allocTree m v
      let (m2, nd) := allocKVs m1 kvs
      (m2, (k, r) :: nd)
end

end Pyg.TreeHeap
