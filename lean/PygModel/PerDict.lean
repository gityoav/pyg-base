/-
  PygModel.PerDict — model of `pyg_base._perdictable`: `_item` (lines 63-107), `join` (110-211),
  `_join_dictable_with_defaults` (19-61) and `perdictable._value_output` (297-342) for a function
  without `.output`, `if_none` ∈ {False, True}, `output_is_input = True`, `include_inputs = False`;
  `renames` = `None` or a dict parameter → column (`pdJoinR`, `perdictableR`: the renaming
  `d[key] = d[renames[key]]` of lines 85-92 is a pass over the inputs before `join` proper).  Built on the `join` / `xor` of PygModel/Join.lean (`d1 * d2`, `d1 / d2`).

  The lifted function is abstract: `f : List Cell → Val` receives the values of its declared
  parameters; the model returns the result together with the *log* of calls of `f`, in call order.
  "today" (`dt(0)`) is an input.   Core Lean only (linked into the driver).
-/
import PygModel.Join
import PygModel.DateParse

namespace Pyg

/-- an input of the lifted function: a scalar or a table -/
inductive PInput where
  | scalar (c : Cell)
  | table (t : Table)

def PInput.isTable : PInput → Bool
  | .table _ => true
  | .scalar _ => false

/-! ### small table operations used by `join` -/

/-- `d[cols]` for a list of column names (`KeyError` when one is missing) -/
def Table.select (t : Table) (cols : List String) : Res Table :=
  cols.mapM fun k => match t.col? k with
    | some xs => .ok (k, xs)
    | none => .error .key

/-- `d.rename(**{old: new})` -/
def Table.rename (t : Table) (old new : String) : Table :=
  t.map fun c => if c.1 == old then (new, c.2) else c

/-- `d(**{k: v})` for a constant `v`: the column is set to `[v] * len(d)` (`[v]` when `d` has no
column yet); an existing column keeps its position -/
def Table.setConst (t : Table) (k : String) (v : Cell) : Table :=
  if t.isEmpty then [(k, [v])] else
  let col := List.replicate t.nrows v
  if t.cols.contains k then t.map fun c => if c.1 == k then (k, col) else c
  else t ++ [(k, col)]

def Table.setConsts (t : Table) (kvs : List (String × Cell)) : Table :=
  kvs.foldl (fun t kv => t.setConst kv.1 kv.2) t

/-- `a + b` = `dictable.concat(a, b)`: union of the columns, absent cells `None`.  (The column order
of the implementation is a python `set` order; it is never compared.) -/
def Table.concat2 (a b : Table) : Table :=
  let cols := a.cols ++ b.cols.filter (fun k => !a.cols.contains k)
  cols.map fun k =>
    (k, (a.col? k).getD (List.replicate a.nrows .none) ++ (b.col? k).getD (List.replicate b.nrows .none))

def cellOfVal : Val → Option Cell
  | .cell c => some c
  | _ => none

def VTable.toTable (t : VTable) : Option Table :=
  t.mapM fun c => (c.2.mapM cellOfVal).map fun xs => (c.1, xs)

/-- `a * b`: inner join on the shared columns (cross join when there is none) -/
def Table.mul (a b : Table) : Option (Res Table) :=
  match join a b none none .pair with
  | some (.ok v) => (VTable.toTable v).map .ok
  | some (.error e) => some (.error e)
  | none => none

/-- `a / b`: the rows of `a` whose shared-column key is not in `b` (`a` itself without shared column) -/
def Table.div (a b : Table) : Res Table := xor a b none none 0

/-! ### `_item`: the columns of one input that take part -/

/-- `_item(d, key, on)` with `renames = None`: keep the `on` columns the table has plus the value
column, which is the column named like the parameter, else `data`, else the only other column -/
def item (d : Table) (key : String) (on : List String) : Res Table :=
  let on' := linter d.cols on
  if d.cols.contains key then d.select (on' ++ [key])
  else if d.cols.contains "data" && !on'.contains "data" then (d.rename "data" key).select (on' ++ [key])
  else if d.cols.length = on'.length + 1 then
    match lminus d.cols on' with
    | [other] => (d.rename other key).select (on' ++ [key])
    | _ => .error .key
  else .error .key

/-! ### `_join_dictable_with_defaults` -/

abbrev TblDef := Option Table × List (String × Cell)

def updDefaults (a b : List (String × Cell)) : List (String × Cell) :=
  a.filter (fun kv => !(b.map (·.1)).contains kv.1) ++ b

/-- lines 43-61 -/
def joinDef (x y : TblDef) : Option (Res TblDef) :=
  let defaults := updDefaults x.2 y.2
  match x.1, y.1 with
  | none, d2 => some (.ok (d2, defaults))
  | some d1, none => some (.ok (some d1, defaults))
  | some d1, some d2 =>
    match d1.mul d2 with
    | none => none
    | some (.error e) => some (.error e)
    | some (.ok d) =>
      let r1 : Res Table :=
        if x.2.isEmpty then .ok d else (d2.div d1).map fun extra => d.concat2 (extra.setConsts x.2)
      match r1 with
      | .error e => some (.error e)
      | .ok d' =>
        let r2 : Res Table :=
          if y.2.isEmpty then .ok d' else (d1.div d2).map fun extra => d'.concat2 (extra.setConsts y.2)
        match r2 with
        | .error e => some (.error e)
        | .ok d'' => some (.ok (some d'', defaults))

/-- `reduce(function, sequence[1:], sequence[0])` over options-of-results -/
def foldOR {α} (f : α → α → Option (Res α)) : α → List α → Option (Res α)
  | acc, [] => some (.ok acc)
  | acc, x :: xs =>
    match f acc x with
    | some (.ok acc') => foldOR f acc' xs
    | other => other

/-- `res.sort(as_list(on))`: rows ordered by the dict of their `on` cells (`cmp` of dicts compares
the values in alphabetical order of the column names); `KeyError` if an `on` column is absent;
`ValueError` for `on = []` on a non-empty table (the zip(*[]) unpacking of `dictable.sort`) -/
def Table.sortOn (t : Table) (on : List String) : Res Table :=
  if t.nrows = 0 then .ok t else
  if on.isEmpty then .error .value else do
    let sel ← t.select on
    let keys : List Val := (List.range t.nrows).map fun i =>
      .tuple [.dict (sel.map fun c => (c.1, .cell (c.2.getD i .none)))]
    pure (t.gatherRows (sortIdx keys))

/-- lines 202-209 of `join`: the table inputs (after `_item`) reduced to one table — `tbl1` = product
of the tables without default, `tbl_def2` = outer join of the tables with default, then
`_join_dictable_with_defaults((tbl1, {}), tbl_def2)`.  `defaults`: already restricted to the inputs. -/
def joinTables (tables : List (String × Table)) (defaults : List (String × Cell)) :
    Option (Res (Option Table)) :=
  let isDef (k : String) : Bool := (defaults.map (·.1)).contains k
  let noDef := (tables.filter fun kv => !isDef kv.1).map (·.2)
  let withDef : List TblDef := (tables.filter fun kv => isDef kv.1).map fun kv =>
    (some kv.2, defaults.filter fun d => d.1 == kv.1)
  -- tbl1 = reducer(mul, no_defaults.values())
  let tbl1 : Option (Res (Option Table)) := match noDef with
    | [] => some (.ok none)
    | d :: ds => match foldOR Table.mul d ds with
      | some (.ok t) => some (.ok (some t))
      | some (.error e) => some (.error e)
      | none => none
  -- tbl_def2 = reducer(_join_dictable_with_defaults, pairs, (None, None))
  let tblDef2 : Option (Res TblDef) := match withDef with
    | [] => some (.ok (none, []))
    | p :: ps => foldOR joinDef p ps
  match tbl1, tblDef2 with
  | some (.ok t1), some (.ok td2) =>
    match joinDef (t1, []) td2 with
    | some (.ok (r, _)) => some (.ok r)
    | some (.error e) => some (.error e)
    | none => none
  | some (.error e), _ => some (.error e)
  | _, some (.error e) => some (.error e)
  | _, _ => none

/-- `join(inputs, on, defaults)` (lines 195-211); `inputs` in dict order.
`none`: a step the model does not cover (never for generated inputs). -/
def pdJoin (inputs : List (String × PInput)) (on : List String) (defaults : List (String × Cell)) :
    Option (Res Table) :=
  let defaults := defaults.filter fun kv => (inputs.map (·.1)).contains kv.1
  let seqR : Res (List (String × PInput)) := inputs.mapM fun kv => match kv.2 with
    | .table d => (item d kv.1 on).map fun d' => (kv.1, .table d')
    | .scalar c => .ok (kv.1, .scalar c)
  match seqR with
  | .error e => some (.error e)
  | .ok seq =>
    let scalars : List (String × Cell) := seq.filterMap fun kv => match kv.2 with
      | .scalar c => some (kv.1, c)
      | .table _ => none
    let tables : List (String × Table) := seq.filterMap fun kv => match kv.2 with
      | .table d => some (kv.1, d)
      | .scalar _ => none
    if tables.isEmpty then some (.ok (scalars.map fun kv => (kv.1, [kv.2]))) else
    match joinTables tables defaults with
    | some (.ok (some d)) => some ((d.setConsts scalars).sortOn on)
    | some (.ok none) => none
    | some (.error e) => some (.error e)
    | none => none

/-! ### `perdictable(f, on = …, defaults = …)(**inputs)` -/

/-- what the lifted call returns -/
inductive PResult where
  | value (v : Val)          -- `f(...)` itself (all inputs scalars)
  | noRows (data : Option PInput)   -- no key survives: `inputs.get('data')`
  | table (t : VTable)       -- the `on` columns and the `data` column

/-- the arguments `f` receives on row `i`: the cells of its declared parameters -/
def rowArgs (t : Table) (params : List String) (i : Nat) : List Cell := params.map fun p => t.jcellAt p i

/-- the instant an expiry cell spells, as `dt(value)` reads it (line 332 since fix 7ea4860: "in any spelling dt() accepts"): a
datetime (a `datetime.date` arrives as its midnight), a date STRING (`'2000-01-01'`, `'20000101'`, `'01/02/2000'`, ... the C04
model `DateParse.dtStr`, uk dialect) or a NUMBER that `num2dt` reads as an absolute date (`20000101`; C04 `num2dtQ`).  `none`: a
spelling the model does not read - a number that `num2dt` takes as an offset from the wall clock, text outside the C04 grammar, a
spelling on which `dt` raises, bools; the driver answers `bad-op` for a call that carries one (never totalised silently). -/
def expiryDate : Cell → Option Int
  | .dt us => some us
  | .str s => match DateParse.dtStr true s with
    | some (.ok t) => some t
    | _ => none
  | .int n => match DateParse.num2dtQ (4 * n) with
    | .abs (.ok t) => some t
    | _ => none
  | _ => none

/-- a row is (re)computed when its expiry is `None` or not before today (line 332: `value is None or dt(value) >= today`) -/
def runExpiry (today : Int) : Cell → Bool
  | .none => true
  | c => match expiryDate c with
    | some us => decide (us ≥ today)
    | none => true

/-- the expiry cells the model reads: `None`, the missing date (`pd.NaT` / `np.datetime64('NaT')` / the string `'NaT'`, all of which
the driver hands over as the cell `.str "NaT"`: it spells no instant, so - like `None` - it is no "expiry date in the past" and the
row is recomputed; code: `not dt(value) < today` since the fix of review v2 W4) or a spelling of an absolute instant -/
def expiryCovered (c : Cell) : Bool := c == .none || c == .str "NaT" || (expiryDate c).isSome

/-- `is_none` -/
def Cell.isNone : Cell → Bool
  | .none => true
  | _ => false

/-- the row loop of line 336: returns the values and the log of calls.  `run_if_none` (lines 321-327)
is all-True without a `data` column, else all-False for `if_none = False` and `is_none(data)` for
`if_none = True` -/
def evalRows (ifNone : Bool) (f : List Cell → Val) (params : List String) (ds : Table) (hasData : Bool)
    (today : Int) : List Nat → List Val × List (List Cell)
  | [] => ([], [])
  | i :: is =>
    let rest := evalRows ifNone f params ds hasData today is
    if !hasData || (ifNone && (ds.jcellAt "data" i).isNone) || runExpiry today (ds.jcellAt "expiry" i) then
      let args := rowArgs ds params i
      (f args :: rest.1, args :: rest.2)
    else (.cell (ds.jcellAt "data" i) :: rest.1, rest.2)

/-- `_value_output` (lines 297-342).  `inputs`: the keyword arguments in call order (possibly
including `data`), `expiry`: the `expiry` argument (`scalar none` when omitted), `ifNone`: the
`if_none` attribute (False / True). -/
def perdictable (f : List Cell → Val) (params on : List String) (defaults : List (String × Cell))
    (inputs : List (String × PInput)) (expiry : PInput) (today : Int) (ifNone : Bool := false) :
    Option (Res (PResult × List (List Cell))) :=
  let inputs' := inputs ++ [("expiry", expiry)]
  -- lines 306-308: `data` and `expiry` always have the default None
  let defaults' := defaults ++
    (if (defaults.map (·.1)).contains "data" then [] else [("data", Cell.none)]) ++
    (if (defaults.map (·.1)).contains "expiry" then [] else [("expiry", Cell.none)])
  match pdJoin inputs' on defaults' with
  | none => none
  | some (.error e) => some (.error e)
  | some (.ok ds) =>
    if ds.nrows = 0 then
      some (.ok (.noRows ((inputs.find? (·.1 == "data")).map (·.2)), []))
    else if ds.nrows = 1 && !(inputs'.any fun kv => kv.2.isTable) then
      let args := rowArgs ds params 0
      some (.ok (.value (f args), [args]))
    else
      let hasData := ds.cols.contains "data"
      let (values, log) := evalRows ifNone f params ds hasData today (List.range ds.nrows)
      if on.isEmpty then some (.ok (.table [("data", values)], log)) else
      match ds.select on with
      | .error e => some (.error e)
      | .ok keyCols => some (.ok (.table (keyCols.toV ++ [("data", values)]), log))

/-! ### `renames` (a dict parameter → column name) -/

/-- `d[key] = xs`: in place when `key` is a column, else appended -/
def Table.setCol (t : Table) (k : String) (xs : List Cell) : Table :=
  if t.cols.contains k then t.map fun c => if c.1 == k then (k, xs) else c else t ++ [(k, xs)]

/-- lines 85-92 of `_item` for `renames` a dict: `d[key] = d[renames[key]]` when `key in renames`
(`KeyError` when the table has no such column).  The assignment is made on the caller's table. -/
def applyRename (d : Table) (key : String) (renames : List (String × String)) : Res Table :=
  match renames.find? (·.1 == key) with
  | none => .ok d
  | some kr => match d.col? kr.2 with
    | some xs => .ok (d.setCol key xs)
    | none => .error .key

def renameInput (renames : List (String × String)) (kv : String × PInput) : Res (String × PInput) :=
  match kv.2 with
  | .table d => (applyRename d kv.1 renames).map fun d' => (kv.1, .table d')
  | .scalar c => .ok (kv.1, .scalar c)

/-- `join(inputs, on, renames, defaults)`: the renaming assignments, then `join` as above (both stages
only ever raise `KeyError`, so doing all the assignments first does not change the outcome) -/
def pdJoinR (inputs : List (String × PInput)) (on : List String) (renames : List (String × String))
    (defaults : List (String × Cell)) : Option (Res Table) :=
  match inputs.mapM (renameInput renames) with
  | .error e => some (.error e)
  | .ok inputs' => pdJoin inputs' on defaults

/-- `perdictable(f, on, renames, defaults)(**inputs)`; `expiry` is an input of `join` like the others
(a table given as `data` comes back with the assigned column when no row exists: the assignment
was made on the caller's object) -/
def perdictableR (f : List Cell → Val) (params on : List String) (renames : List (String × String))
    (defaults : List (String × Cell)) (inputs : List (String × PInput)) (expiry : PInput) (today : Int)
    (ifNone : Bool := false) : Option (Res (PResult × List (List Cell))) :=
  match inputs.mapM (renameInput renames), renameInput renames ("expiry", expiry) with
  | .ok inputs', .ok e' => perdictable f params on defaults inputs' e'.2 today ifNone
  | .error e, _ => some (.error e)
  | _, .error e => some (.error e)

end Pyg
