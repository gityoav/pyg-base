/-
  PygModel.Calendar — model of `Calendar` (src/pyg_base/_drange.py:274-717): holiday/weekend predicate,
  adjust f/p/m, the lazily built business-day table, `add` with its two paths, `bdays`,
  `Calendar.drange(.., 'kb')` and the registry `calendar(key, ...)`.

  Days are `Int` day numbers (`datetime.toordinal()`); every date handed to the calendar is a midnight
  datetime (intraday inputs — `trade_date`, `is_trading` — are not modelled; `clock` is, on midnight dates: `Cal.clockT`).
  `month : Int → Int` (the calendar month a day number lies in) is a parameter of the calendar: the structural theorems
  hold for every such function; the driver instantiates it with `ymKey` = `12 * year + month`, which identifies the
  month *of a year* (proved injective on (year, month): Props/C05 `ymKey_eq_iff`), because the property speaks of
  "t's month", not of a month number (`t.month` alone: defect C05-D1, repaired in the repo).
  Core Lean only (linked into the driver).
-/
import PygModel.Basic
import PygModel.Civil

namespace Pyg.Calendar
open Pyg
open Pyg.Civil (wd)

/-- `while cond(t): t = t + 1` with fuel (the loops of `adjust` / `add`, _drange.py:547-550, 649-650).
The fuel bounds are proved sufficient where the theorems need them (CalendarLemmas.loopUp_spec). -/
def loopUp (cond : Int → Bool) : Nat → Int → Int
  | 0, t => t
  | k + 1, t => if cond t then loopUp cond k (t + 1) else t

/-- `while cond(t): t = t - 1` -/
def loopDown (cond : Int → Bool) : Nat → Int → Int
  | 0, t => t
  | k + 1, t => if cond t then loopDown cond k (t - 1) else t

/-- `[a, a+1, …]`, `n` days -/
def daysUp (a : Int) : Nat → List Int
  | 0 => []
  | n + 1 => a :: daysUp (a + 1) n

/-- all days `a ≤ x ≤ b` in increasing order: what `rrule(DAILY, dtstart = a, until = b)` enumerates
(assumption on dateutil, sampled) -/
def daysFromTo (a b : Int) : List Int := daysUp a (b + 1 - a).toNat

/-- position of `a` in a list (`dt2int[a]`), `none` = `KeyError` -/
def idxIn (a : Int) : List Int → Option Nat
  | [] => none
  | x :: xs => if x = a then some 0 else (idxIn a xs).map (· + 1)

/-- python `range(a, stop, step)` for `step ≠ 0` -/
def pyRange (a stop step : Int) : List Int :=
  let n : Int := if step > 0 then (stop - a + step - 1) / step else (a - stop + (-step) - 1) / (-step)
  (List.range n.toNat).map fun (i : Nat) => a + (i : Int) * step

/-- `dt2int[t]` for the table `tbl` (a list of days and its index function) -/
def clockOfT (tbl : List Int) (t : Int) : Res Nat :=
  match idxIn t tbl with
  | some i => .ok i
  | none => .error .key

/-- `int2dt[j]` (a dict: negative keys are absent) -/
def atIdxT (tbl : List Int) (j : Int) : Res Int :=
  if j < 0 then .error .key else
  match tbl[j.toNat]? with
  | some r => .ok r
  | none => .error .key

/-- the calendar month (of a particular year) a day number lies in, as one integer: what
`(t.year, t.month) != (date.year, date.month)` compares in `adjust(.., 'm')` (_drange.py:560) -/
def ymKey (n : Int) : Int := 12 * Civil.year n + Civil.month n

inductive Adj where
  | f | p | m
  deriving Repr, DecidableEq, Inhabited

/-- a `Calendar` object: `t0`, `t1`, `weekend` (weekday numbers), `holidays` (day numbers), `adj` -/
structure Cal where
  t0 : Int
  t1 : Int
  weekend : List Int
  hol : List Int
  adj : Adj
  /-- the calendar month of a day number (`(t.year, t.month)` as one key), see header -/
  month : Int → Int

namespace Cal

/-- `is_holiday` (_drange.py:396-397) -/
def isHol (c : Cal) (t : Int) : Bool := c.weekend.contains (wd t) || c.hol.contains t

/-- `is_bday` (_drange.py:399-400) -/
def isB (c : Cal) (t : Int) : Bool := !c.weekend.contains (wd t) && !c.hol.contains t

/-- `adjust(t, 'f')` (_drange.py:546-551): first loop bounded by `t1`, second loop only leaves weekend
days beyond `t1` (terminates iff some weekday is not a weekend day; fuel 7) -/
def adjF (c : Cal) (t : Int) : Int :=
  loopUp (fun t => decide (t > c.t1) && c.weekend.contains (wd t)) 7
    (loopUp (fun t => c.isHol t && decide (t ≤ c.t1)) ((c.t1 + 1 - t).toNat + 1) t)

/-- `adjust(t, 'p')` (_drange.py:552-557) -/
def adjP (c : Cal) (t : Int) : Int :=
  loopDown (fun t => decide (t < c.t0) && c.weekend.contains (wd t)) 7
    (loopDown (fun t => c.isHol t && decide (t ≥ c.t0)) ((t + 1 - c.t0).toNat + 1) t)

/-- `adjust(t, adj)` (_drange.py:542-565) -/
def adjust (c : Cal) (a : Adj) (t : Int) : Int :=
  match a with
  | .f => c.adjF t
  | .p => c.adjP t
  | .m => let r := c.adjF t
          if c.month r ≠ c.month t then c.adjP t else r

/-- the business days of `[a, b]` in increasing order -/
def bd (c : Cal) (a b : Int) : List Int := (daysFromTo a b).filter c.isB

/-- `_populate` (_drange.py:381-390): `int2dt` is this list, `dt2int` its inverse -/
def bdays (c : Cal) : List Int := c.bd c.t0 c.t1

/-- fuel of the `|days| ≤ 1` loop of `add`: enough to reach the next business day inside the range
(proved: CalendarLemmas) and generous beyond it -/
def addFuel (c : Cal) : Nat := (c.t1 - c.t0).toNat + 7 * c.hol.length + 16

/-- `add(date, days, adj)` (_drange.py:642-651) over a given table: lookup for `|days| > 1`, loop otherwise.
For `days = 0` on a non-business day the real loop never ends; the driver refuses that input. -/
def addT (c : Cal) (tbl : List Int) (a : Adj) (t n : Int) : Res Int :=
  let s := c.adjust a t
  if n.natAbs > 1 then do
    let i ← clockOfT tbl s
    atIdxT tbl (i + n)
  else if n = 1 then .ok (loopUp c.isHol c.addFuel (s + 1))
  else if n = -1 then .ok (loopDown c.isHol c.addFuel (s - 1))
  else .ok s

/-- `bdays(t0, t1, adj)` (_drange.py:653-656); the right operand `t1` is looked up first -/
def bdaysBetweenT (c : Cal) (tbl : List Int) (a : Adj) (x y : Int) : Res Int := do
  let iy ← clockOfT tbl (c.adjust a y)
  let ix ← clockOfT tbl (c.adjust a x)
  pure ((iy : Int) - (ix : Int))

/-- `Calendar.drange(t0, t1, 'kb')` (_drange.py:660-665), `k = b` -/
def drangeBT (c : Cal) (tbl : List Int) (x y : Int) (b : Int) : Res (List Int) := do
  let i0 ← clockOfT tbl (c.adjust c.adj x)
  let i1 ← clockOfT tbl (c.adjust c.adj y)
  if b = 0 then .error .value else
  (pyRange i0 (i1 + b) b).mapM (atIdxT tbl)

/-! The calendar's own operations use its own table `c.bdays` (built lazily, once, by `_populate`).  The `…T`
forms exist so that the driver can compute the table once per calendar instead of once per request. -/

/-- `Calendar.clock(date)` (_drange.py:615-618), read literally: `self.dt2int.get(date, self.dt2int[self.adjust(date)])`.
Python evaluates the default argument FIRST (a `KeyError` when `adjust(date)` is not in the table, even if `date` is), then
the `.get`: the position of `date` itself when it is a table key, otherwise the default. -/
def clockT (c : Cal) (tbl : List Int) (t : Int) : Res Nat := do
  let d ← clockOfT tbl (c.adjust c.adj t)
  match idxIn t tbl with
  | some i => pure i
  | none => pure d

def add (c : Cal) (a : Adj) (t n : Int) : Res Int := c.addT c.bdays a t n
def clock (c : Cal) (t : Int) : Res Nat := c.clockT c.bdays t
def bdaysBetween (c : Cal) (a : Adj) (x y : Int) : Res Int := c.bdaysBetweenT c.bdays a x y
def drangeB (c : Cal) (x y : Int) (b : Int) : Res (List Int) := c.drangeBT c.bdays x y b

end Cal

/-! ### the registry `calendars` and `calendar(key, holidays, weekend, t0, t1)` (_drange.py:272, 698-717) -/

/-- the optional arguments of `calendar(...)`; `none` = argument not given (`None`) -/
structure CalArgs where
  hol : Option (List Int)
  weekend : Option (List Int)
  t0 : Option Int
  t1 : Option Int

def CalArgs.isDefault (a : CalArgs) : Bool :=
  a.hol.isNone && a.weekend.isNone && a.t0.isNone && a.t1.isNone

/-- TMIN = 1900-01-01, TMAX = 2300-01-01 as day numbers -/
def TMIN : Int := 693596
def TMAX : Int := 839693

/-- `Calendar(key, holidays, weekend, t0, t1)` as built by `calendar(...)` (adj defaults to 'm') -/
def mkCal (month : Int → Int) (a : CalArgs) : Cal :=
  { t0 := a.t0.getD TMIN, t1 := a.t1.getD TMAX, weekend := a.weekend.getD [5, 6],
    hol := a.hol.getD [], adj := .m, month := month }

/-! ### the object boundary: holidays and range endpoints are handed over as python objects carrying a time of day
(`datetime.date`: midnight; `datetime.now()`, `Timestamp('… 09:00')`).  `Calendar.__init__` floors them to days:
`self.holidays = [ymd(h) for h in holidays]` (defect C05-D2, fix 8faae3e) and `t0, t1 = [ymd(t) for t in date_range(t0, t1)]`
(_drange.py:382, defect C05-D3, fix cff0dc3).  An instant is `ordinal * DAYUS + microseconds of the day`. -/

/-- microseconds per day -/
def DAYUS : Int := 86400000000

/-- `ymd(t).toordinal()` of an instant: the day it lies in -/
def floorDay (us : Int) : Int := us / DAYUS

/-- `ymd` over the date-valued arguments of `Calendar(...)` -/
def CalArgs.floor (a : CalArgs) : CalArgs :=
  { hol := a.hol.map fun hs => hs.map floorDay, weekend := a.weekend, t0 := a.t0.map floorDay, t1 := a.t1.map floorDay }

/-- `Calendar(key, holidays, weekend, t0, t1)` for holidays and range endpoints given as INSTANTS (objects with a time of day):
the constructor floors them, the calendar is the one of the days -/
def mkCalT (month : Int → Int) (a : CalArgs) : Cal := mkCal month a.floor

abbrev Registry := List (String × Cal)

def Registry.get? (r : Registry) (k : String) : Option Cal := (r.find? (·.1 == k)).map (·.2)

def Registry.set (r : Registry) (k : String) (c : Cal) : Registry :=
  (k, c) :: r.filter (fun e => !(e.1 == k))

/-- `calendar(key, ...)`: build and store a new calendar when the key is unknown or any argument is given,
then return `calendars[key]` -/
def Registry.calendar (month : Int → Int) (r : Registry) (k : String) (a : CalArgs) : Registry × Cal :=
  match r.get? k, a.isDefault with
  | some c, true => (r, c)
  | _, _ => let c := mkCal month a; (r.set k c, c)

/-! ### calendar OBJECTS: the lazily built table (round k3)

A python `Calendar` is an object whose table (`dt2int` / `int2dt`) is built ONCE, by the first operation that calls `_populate()`
(_drange.py:381-390), and kept; the registry `calendars` holds such objects.  `CalObj` is a configuration together with the table
(`none` = not built yet); an operation returns the object afterwards and its answer.  Whether a table built for one registration
can ever answer for another is a question about these objects (Props/C05 `registry_last_objects`). -/

structure CalObj where
  cal : Cal
  tbl : Option (List Int)

namespace CalObj

/-- `Calendar(...)`: no table yet -/
def fresh (c : Cal) : CalObj := ⟨c, none⟩

/-- `_populate()`: builds the table unless the object has one -/
def populate (o : CalObj) : CalObj :=
  match o.tbl with
  | some _ => o
  | none => { o with tbl := some o.cal.bdays }

/-- the table an operation reads after `_populate()` -/
def table (o : CalObj) : List Int :=
  match o.tbl with
  | some t => t
  | none => o.cal.bdays

end CalObj

/-- the operations on a calendar object that the registry histories of the harness use -/
inductive Use where
  | isb (t : Int)
  | adjust (a : Adj) (t : Int)
  | add (a : Adj) (t n : Int)
  | bdays (a : Adj) (x y : Int)
  | drange (x y b : Int)
  | clock (t : Int)

inductive Ans where
  | bool (b : Bool)
  | day (r : Res Int)
  | days (r : Res (List Int))
  | idx (r : Res Nat)

/-- one operation on an object: the object afterwards (`add` with `|n| ≤ 1`, `is_bday`, `adjust` do not call `_populate()`) and the answer,
read from the OBJECT's table -/
def CalObj.use (o : CalObj) : Use → CalObj × Ans
  | .isb t => (o, .bool (o.cal.isB t))
  | .adjust a t => (o, .day (.ok (o.cal.adjust a t)))
  | .add a t n =>
      if n.natAbs > 1 then let o' := o.populate; (o', .day (o.cal.addT o'.table a t n))
      else (o, .day (o.cal.addT [] a t n))
  | .bdays a x y => let o' := o.populate; (o', .day (o.cal.bdaysBetweenT o'.table a x y))
  | .drange x y b => let o' := o.populate; (o', .days (o.cal.drangeBT o'.table x y b))
  | .clock t => let o' := o.populate; (o', .idx (o.cal.clockT o'.table t))

/-- what the same operation answers on the calendar as a value (its own table `c.bdays`) -/
def Cal.use (c : Cal) : Use → Ans
  | .isb t => .bool (c.isB t)
  | .adjust a t => .day (.ok (c.adjust a t))
  | .add a t n => .day (c.add a t n)
  | .bdays a x y => .day (c.bdaysBetween a x y)
  | .drange x y b => .days (c.drangeB x y b)
  | .clock t => .idx (c.clock t)

abbrev ObjRegistry := List (String × CalObj)

def ObjRegistry.get? (r : ObjRegistry) (k : String) : Option CalObj := (r.find? (·.1 == k)).map (·.2)

def ObjRegistry.set (r : ObjRegistry) (k : String) (o : CalObj) : ObjRegistry :=
  (k, o) :: r.filter (fun e => !(e.1 == k))

/-- `calendar(key, ...)` on objects: a NEW object (no table) when the key is unknown or any argument is given -/
def ObjRegistry.calendar (month : Int → Int) (r : ObjRegistry) (k : String) (a : CalArgs) : ObjRegistry × CalObj :=
  match r.get? k, a.isDefault with
  | some o, true => (r, o)
  | _, _ => let o := CalObj.fresh (mkCal month a); (r.set k o, o)

/-- `calendar(k).<op>(…)`: the object is fetched by key and operated on in place — the registry holds the object as the operation left it -/
def ObjRegistry.useAt (month : Int → Int) (r : ObjRegistry) (k : String) (u : Use) : ObjRegistry × Ans :=
  let p := r.calendar month k ⟨none, none, none, none⟩
  let q := p.2.use u
  (p.1.set k q.1, q.2)

/-- a step of a registry history: a `calendar(k, args…)` call or an operation on the calendar fetched by key -/
inductive RegOp where
  | call (k : String) (a : CalArgs)
  | use (k : String) (u : Use)

def ObjRegistry.step (month : Int → Int) (r : ObjRegistry) : RegOp → ObjRegistry
  | .call k a => (r.calendar month k a).1
  | .use k u => (r.useAt month k u).1

def runObj (month : Int → Int) (r : ObjRegistry) (ops : List RegOp) : ObjRegistry := ops.foldl (ObjRegistry.step month) r

end Pyg.Calendar
