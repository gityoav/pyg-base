/-
  PygModel.DateParse — model of `dt(...)`, `ymd(...)`, `dt2str(t)` (src/pyg_base/_dates.py:222-322, 430-711)
  on naive datetimes (`Int` microseconds since 0001-01-01, as in PygModel/Bump.lean).

  Generated from the source text (lean/PygGen): the threshold table `Gen.num2dt`, the month overflow
  `Gen.ym` / `Gen.ymd`.  Hand-written: the dispatcher and the dialect decision of `uk2dt` / `us2dt`.
  Library behaviour assumed here and sampled by the correspondence check:
    * `datetime` constructors / arithmetic = `Pyg.Greg` (ValueError outside the calendar);
    * `dateutil.parser.parse` on the spellings generated by the harness: three numbers `a<sep>b<sep>yyyy` are
      read month-first unless `a > 12` (`duResolve`), ISO / `yyyymmdd` / month-name forms as written, an
      impossible date raises (ParserError is a ValueError);
    * month names are looked up (lower-cased) in dateutil's own table, lifted into `Gen.duMonths`;
    * numpy `datetime64` / `pd.Timestamp`: PygModel/NpDate.lean.
  Not modelled: time zones, `dt()` without arguments, 2-digit years, `yyyy-mm` forms, timeseries arguments.
  Round k3: the ISO arm of the scanner reads `yyyy<sep>m<sep>d` for every separator of the quantifier, padded or not.
  Core Lean only.
-/
import PygModel.Bump
import PygGen.Num2dt
import PygGen.DuMonths

namespace Pyg.DateParse
open Pyg Pyg.Bump Pyg.Gen

/-- `datetime.datetime(y, m, d)`: ValueError unless it is a calendar date -/
def mkDateChecked (y m d : Int) : Res Int :=
  if 1 ≤ y ∧ y ≤ 9999 ∧ 1 ≤ m ∧ m ≤ 12 ∧ 1 ≤ d ∧ d ≤ (Greg.dim y.toNat m.toNat : Nat) then
    .ok (mkDate y.toNat m.toNat d.toNat)
  else .error .value

/-- `datetime.datetime.fromordinal(n)`: ValueError unless `1 ≤ n ≤ 3652059` -/
def fromOrdinalChecked (n : Int) : Res Int :=
  if 1 ≤ n ∧ n ≤ 3652059 then .ok (ofOrd n) else .error .value

/-- 1970-01-01 -/
def EPOCH : Int := ofOrd 719163

/-- what `num2dt` gives: an absolute datetime, or an offset from `today()` (lines 224-225) -/
inductive NumRes where
  | abs (t : Res Int)
  | rel (us : Int)

/-- `num2dt(n)` for `n = q/4` (ints are `q = 4*i`): `i = int(n)` truncates toward zero, `f = n - i` days -/
def num2dtQ (q : Int) : NumRes :=
  let i := q.tdiv 4
  let f := (q - 4 * i) * (DAYUS / 4)
  match Gen.num2dt i with
  | .todayPlus k => .rel (k * DAYUS + f)
  | .date y m d => .abs ((mkDateChecked y m d).bind fun t => checkRange (t + f))
  | .fromOrdinal n => .abs ((fromOrdinalChecked n).bind fun t => checkRange (t + f))
  | .viaYmd y m d => .abs ((ymdDate y m d).bind fun t => checkRange (t + f))
  | .timestamp => .abs (checkRange (EPOCH + q * 250000))

/-- `dt(y, m)` (lines 579-581) -/
def dtYm (y m : Int) : Res Int := let p := Gen.ym y m; mkDateChecked p.1 p.2 1

/-- `dt(y, m, d, h, mi, s)` (lines 582-592): `_ymd(y,m,d) + timedelta(hours, minutes, seconds)` -/
def dtYmd (y m d h mi s : Int) : Res Int :=
  (ymdDate y m d).bind fun t => checkRange (t + h * 3600000000 + mi * 60000000 + s * 1000000)

/-- `dt(y, m, d, h, mi, s, us)`: the 7th positional argument is the microseconds of the same timedelta (used by uk2dt) -/
def dtYmd7 (y m d h mi s us : Int) : Res Int :=
  (ymdDate y m d).bind fun t => checkRange (t + h * 3600000000 + mi * 60000000 + s * 1000000 + us)

/-- `ymd(...)` drops the time of day: `datetime(t.year, t.month, t.day)` -/
def dropTime (t : Int) : Int := let p := ymdOf t; mkDate p.y p.m p.d

/-- `dt(t)` for a `datetime.date` that is not a datetime (lines 551-552): `datetime(t.year, t.month, t.day)`; `t` = midnight of the
date (or any instant of it) -/
def dtDate (t : Int) : Res Int := .ok (dropTime t)

/-! ### strings: what dateutil is assumed to read, then the dialect decision of uk2dt / us2dt -/

/-- what `parser.parse(t)` returns together with what the `ambiguity` regex and `t[:2]` see -/
structure Parsed where
  /-- `ambiguity.search(t)`: the text starts with `d{1,2} sep d{1,2} sep d{2,4}` -/
  ambiguous : Bool
  /-- `int(t[:2].replace('-','').replace('/','')...)`: the first number when it has one or two digits -/
  first : Int
  year : Int
  month : Int
  day : Int
  /-- time of day without the microseconds, in microseconds -/
  hms : Int
  micro : Int
  deriving Repr, DecidableEq, Inhabited

/-- dateutil's reading of `a<sep>b<sep>yyyy` with default settings: month first unless `a > 12` -/
def duResolve (a b : Int) : Int × Int := if a > 12 then (b, a) else (a, b)   -- (month, day)

/-- the tail of `uk2dt` (lines 300-304) -/
def ukDecide (p : Parsed) : Res Int :=
  if p.ambiguous then
    if p.day < 13 then
      -- dt(res.year, res.day, res.month, res.hour, res.minute, res.second, res.microsecond): the 7th argument is the
      -- microseconds of the timedelta (lines 589-590; before the repair it was ignored and the fraction was lost)
      (ymdDate p.year p.day p.month).bind fun t => checkRange (t + p.hms + p.micro)
    else if p.first ≠ p.day then .error .value
    else (mkDateChecked p.year p.month p.day).bind fun t => checkRange (t + p.hms + p.micro)
  else (mkDateChecked p.year p.month p.day).bind fun t => checkRange (t + p.hms + p.micro)

/-- the tail of `us2dt` (lines 318-319) -/
def usDecide (p : Parsed) : Res Int :=
  if p.ambiguous ∧ p.month ≠ p.first then .error .value
  else (mkDateChecked p.year p.month p.day).bind fun t => checkRange (t + p.hms + p.micro)

/-! #### a small scanner for the spellings the harness generates -/

inductive Tk where
  | num (v : Nat) (len : Nat)
  | word (w : List Char)
  | sep (c : Char)
  deriving Repr, DecidableEq, Inhabited

def spanAlpha : List Char → List Char × List Char
  | [] => ([], [])
  | c :: cs => if c.isAlpha then ((spanAlpha cs).1.cons c, (spanAlpha cs).2) else ([], c :: cs)

theorem spanDigits_len (cs : List Char) : (spanDigits cs).2.length ≤ cs.length := by
  induction cs with
  | nil => simp [spanDigits]
  | cons c cs ih => unfold spanDigits; split <;> simp <;> omega

theorem spanAlpha_len (cs : List Char) : (spanAlpha cs).2.length ≤ cs.length := by
  induction cs with
  | nil => simp [spanAlpha]
  | cons c cs ih => unfold spanAlpha; split <;> simp <;> omega

def scan : Nat → List Char → List Tk
  | 0, _ => []
  | _, [] => []
  | fuel + 1, c :: cs =>
    if c.isDigit then
      let r := spanDigits (c :: cs)
      .num (digitsVal r.1) r.1.length :: scan fuel r.2
    else if c.isAlpha then
      let r := spanAlpha (c :: cs)
      .word (r.1.map Char.toLower) :: scan fuel r.2
    else .sep c :: scan fuel cs

/-- `parserinfo.month(name)`: the month whose row of dateutil's own table `Gen.duMonths` (GENERATED from
`dateutil.parser.parserinfo.MONTHS`: `jan`/`january`, …, `sep`/`sept`/`september`, …) contains the lower-cased word -/
def monthIn : List (List String) → Int → List Char → Option Int
  | [], _, _ => none
  | names :: rest, k, w => if names.any (fun n => n.toList == w) then some k else monthIn rest (k + 1) w

def monthOf (w : List Char) : Option Int := monthIn Gen.duMonths 1 w

def isDateSep (c : Char) : Bool := c = '-' || c = '/' || c = '.' || c = ' '

/-- the optional time of day: `(hms, micro)`; `none` = not a spelling the model covers; an hour > 23, minute > 59 or
second > 59 makes `parser.parse` raise ("hour must be in 0..23"): reported as `hms = -1` and turned into ValueError by `dtCs` -/
def parseTime : List Tk → Option (Int × Int)
  | [] => some (0, 0)
  | lead :: rest =>
    if lead = .sep ' ' ∨ lead = .word ['t'] then
      match rest with
      | [.num h _, .sep ':', .num mi _] =>
          if h < 24 ∧ mi < 60 then some ((h * 3600000000 + mi * 60000000 : Nat), 0) else some (-1, 0)
      | [.num h _, .sep ':', .num mi _, .sep ':', .num s _] =>
          if h < 24 ∧ mi < 60 ∧ s < 60 then some ((h * 3600000000 + mi * 60000000 + s * 1000000 : Nat), 0) else some (-1, 0)
      | [.num h _, .sep ':', .num mi _, .sep ':', .num s _, .sep '.', .num fr len] =>
          if len ≤ 6 then
            if h < 24 ∧ mi < 60 ∧ s < 60 then
              some ((h * 3600000000 + mi * 60000000 + s * 1000000 : Nat), (fr * 10 ^ (6 - len) : Nat))
            else some (-1, 0)
          else none
      | _ => none
    else none

def mk (amb : Bool) (first y m d : Int) (tm : Option (Int × Int)) : Option Parsed :=
  tm.map fun hm => ⟨amb, first, y, m, d, hm.1, hm.2⟩

/-- the assumed reading of the generated spellings; `none` = outside the modelled grammar (reported as bad-op) -/
def parseTokens : List Tk → Option Parsed
  -- a<sep>b<sep>yyyy [time]: the ambiguous form
  | .num a la :: .sep s1 :: .num b lb :: .sep s2 :: .num y 4 :: rest =>
      if la ≤ 2 ∧ lb ≤ 2 ∧ isDateSep s1 ∧ isDateSep s2 then
        let md := duResolve a b
        mk true a y md.1 md.2 (parseTime rest)
      else none
  -- yyyy<sep>m<sep>d [time], year first: ISO `yyyy-mm-dd`, and the same with the other separators of the quantifier (`/`, `.`, blank)
  -- and unpadded fields.  dateutil takes a leading 4-digit number as the year and then reads month, day in that order - it never
  -- swaps them (`2000/13/01` raises) - for any of the separators (assumed, sampled: class `iso-anysep`).  The two separators need not
  -- be the same, EXCEPT that a single `.` next to another separator is a decimal point for dateutil (`1940 08.03` is read as
  -- 30 August, `1940-8.03` raises): such texts are not covered (`none`; outside the ISO clause, recorded in docs/notes/C04.md)
  | .num y 4 :: .sep s1 :: .num m lm :: .sep s2 :: .num d ld :: rest =>
      if lm ≤ 2 ∧ ld ≤ 2 ∧ isDateSep s1 ∧ isDateSep s2 ∧ (s1 = s2 ∨ (s1 ≠ '.' ∧ s2 ≠ '.')) then mk false 0 y m d (parseTime rest) else none
  -- yyyymmdd
  | [.num n 8] => mk false 0 (n / 10000 : Nat) (n % 10000 / 100 : Nat) (n % 100 : Nat) (some (0, 0))
  -- d Mon yyyy [time] / d-Mon-yyyy
  | .num d ld :: .sep s1 :: .word w :: .sep s2 :: .num y 4 :: rest =>
      if ld ≤ 2 ∧ (s1 = ' ' ∨ s1 = '-') ∧ s1 = s2 then
        (monthOf w).bind fun m => mk false 0 y m d (parseTime rest)
      else none
  -- Mon d, yyyy / Mon d yyyy
  | .word w :: .sep ' ' :: .num d ld :: .sep ',' :: .sep ' ' :: .num y 4 :: rest =>
      if ld ≤ 2 then (monthOf w).bind fun m => mk false 0 y m d (parseTime rest) else none
  | .word w :: .sep ' ' :: .num d ld :: .sep ' ' :: .num y 4 :: rest =>
      if ld ≤ 2 then (monthOf w).bind fun m => mk false 0 y m d (parseTime rest) else none
  | _ => none

def parseCs (cs : List Char) : Option Parsed := parseTokens (scan (cs.length + 1) cs)

def parseStr (s : String) : Option Parsed := parseCs s.toList

/-- `dt(s, dialect = ...)` for the characters of a string of the modelled grammar: `parser.parse(t)` itself
raises on an impossible date (line 299 / 317) before the dialect code runs -/
def dtCs (uk : Bool) (cs : List Char) : Option (Res Int) :=
  (parseCs cs).map fun p =>
    if p.hms < 0 then .error .value      -- impossible time of day: dateutil raises
    else (mkDateChecked p.year p.month p.day).bind fun _ => if uk then ukDecide p else usDecide p

/-- the characters `str.strip()` removes (ASCII white space) -/
def isWs (c : Char) : Bool := c = ' ' || c = '\t' || c = '\n' || c = '\r' || c = '\x0b' || c = '\x0c'

/-- `t.strip()` (lines 299 / 318: the dialect tests look at the first characters of the text, dateutil ignores
surrounding white space) -/
def strip (cs : List Char) : List Char := ((cs.dropWhile isWs).reverse.dropWhile isWs).reverse

/-- blanks around the date separators: the `ambiguity` regex allows `\s*` on both sides of each separator (line 25) and
dateutil reads `13 / 01 / 2000`, `13 -01- 2000`, `13  01  2000` like the tight text (assumed, sampled).  One pass over the
text: a run of blanks is dropped next to a `/` or `-` and otherwise kept as ONE blank.  `after` = the last character
written was `/` or `-`; `pending` = blanks were skipped since.  (Blanks around a `.` are not touched: dateutil reads such
texts differently, they are not modelled.) -/
def squeezeGo (after pending : Bool) : List Char → List Char
  | [] => []
  | c :: rest =>
    if c = ' ' then squeezeGo after true rest
    else
      let isSep : Bool := c = '/' || c = '-'
      if pending && !after && !isSep then ' ' :: c :: squeezeGo isSep false rest
      else c :: squeezeGo isSep false rest

def squeeze (cs : List Char) : List Char := squeezeGo false false cs

/-! #### `ambiguity.sub(r'\1/\2/\3', t)` (lines 299 / 318, C04-D4): a text that starts with one or two digits, a separator (one of
dash, slash, blank, dot: SEP) with any white space around it, one or two digits, such a separator again and at least two digits is handed to dateutil
with `/` in place of both separator zones; every other text is left alone.  A deterministic transcription of the regex
`^([0-9]{1,2})\s*SEP\s*([0-9]{1,2})\s*SEP\s*([0-9]{2,4})` (source text: `Gen.re_ambiguity`) (tied to a declarative description of the matching texts by
`DateParse.slashes_of_match` / `DateParse.slashes_no_match`, together `C04.slashes_iff`); `\s` is taken as the ASCII white space `isWs`. -/

/-- `([0-9]{1,2})` in front of something that is not a digit: the maximal run of digits, when it has one or two of them -/
def takeNum2 (cs : List Char) : Option (List Char × List Char) :=
  let r := spanDigits cs
  if 1 ≤ r.1.length ∧ r.1.length ≤ 2 then some r else none

/-- `\s*SEP\s*` in front of a digit: white space, then either one of `-`, `/`, `.` and white space again, or nothing more when
the white space contained a blank (the blank is the separator then); returns what follows -/
def sepZone (cs : List Char) : Option (List Char) :=
  match cs.dropWhile isWs with
  | [] => none
  | c :: r =>
    if c = '-' ∨ c = '/' ∨ c = '.' then some (r.dropWhile isWs)
    else if (cs.takeWhile isWs).contains ' ' then some (c :: r) else none

def slashes (cs : List Char) : List Char :=
  match takeNum2 cs with
  | none => cs
  | some (a, r1) =>
    match sepZone r1 with
    | none => cs
    | some r2 =>
      match takeNum2 r2 with
      | none => cs
      | some (b, r3) =>
        match sepZone r3 with
        | none => cs
        | some r4 => if 2 ≤ (spanDigits r4).1.length then a ++ '/' :: (b ++ '/' :: r4) else cs

/-- `dt(s, dialect = ...)` on a string: surrounding white space is stripped, a leading day-month-year / month-day-year triple is
rewritten with `/` separators (`slashes`), blanks around the separators of what dateutil gets do not matter (`squeeze`) -/
def dtStr (uk : Bool) (s : String) : Option (Res Int) := dtCs uk (squeeze (slashes (strip s.toList)))

/-- the `dialect` argument as `dt` reads it (line 578, after fix C04-D6): a STRING, compared with `'uk'` regardless of letter
case (`'UK'`, `'Uk'`; the library's own docstring and tests write the other one `'US'`).  The model covers the two dialects in any
ASCII letter case; any other string is not one of "both dialects" (`none`: the driver answers `bad-op`, nothing is generated). -/
def dialectOf (d : String) : Option Bool :=
  let l := d.toList.map Char.toLower
  if l = ['u', 'k'] then some true else if l = ['u', 's'] then some false else none

/-- `dt(s, dialect = d)` with the dialect as the string the caller wrote -/
def dtStrD (d s : String) : Option (Res Int) := (dialectOf d).bind fun uk => dtStr uk s

/-- `ymd(s, dialect = ...)` = `ymd(dt(s))`: the date of the instant (lines 617-635) -/
def ymdCs (uk : Bool) (cs : List Char) : Option (Res Int) := (dtCs uk cs).map fun r => r.map dropTime

/-! ### dt2str (lines 699-706, `fmt = None`) -/

def digit (n : Nat) : Char := Char.ofNat (48 + n % 10)
def pad2 (n : Nat) : List Char := [digit (n / 10), digit n]
def pad4 (n : Nat) : List Char := [digit (n / 1000), digit (n / 100), digit (n / 10), digit n]
def pad6 (n : Nat) : List Char := [digit (n / 100000), digit (n / 10000), digit (n / 1000), digit (n / 100), digit (n / 10), digit n]

/-- midnight → `%Y%m%d`; otherwise `isoformat()` (microseconds only when non-zero).  Years 1000..9999. -/
def dt2strCs (t : Int) : List Char :=
  let p := ymdOf t
  let tod := (todOf t).toNat
  if tod = 0 then pad4 p.y ++ pad2 p.m ++ pad2 p.d
  else
    let s := tod / 1000000; let us := tod % 1000000
    let base := pad4 p.y ++ '-' :: pad2 p.m ++ '-' :: pad2 p.d ++ 'T' :: pad2 (s / 3600) ++ ':' :: pad2 (s / 60 % 60)
                ++ ':' :: pad2 (s % 60)
    if us = 0 then base else base ++ '.' :: pad6 us

def dt2str (t : Int) : String := String.ofList (dt2strCs t)

end Pyg.DateParse
