/-
  PygModel.Greg — the proleptic Gregorian calendar exactly as CPython's `datetime` computes it
  (Lib/_pydatetime.py: `_ymd2ord`, `_ord2ymd`, `_days_in_month`, `weekday`).  This is a *reference
  function* for a library (`datetime.datetime(y,m,d)`, `.toordinal()`, `.fromordinal()`, `.year/.month/.day`,
  `.weekday()`): that CPython behaves like this is an assumption, sampled by the correspondence checks of
  C04 / C09 on every run.  Everything is over `Nat` (`omega` and kernel evaluation work on it directly);
  the facts are in PygProofs/Lemmas/GregLemmas.lean.
  Core Lean only.
-/

namespace Pyg.Greg

/-- `_is_leap` -/
def isLeap (y : Nat) : Bool := y % 4 == 0 && (y % 100 != 0 || y % 400 == 0)

def leapDay (y : Nat) : Nat := if isLeap y then 1 else 0

/-- `_days_in_month` (month 1..12; 0 otherwise) -/
def dim (y m : Nat) : Nat :=
  match m with
  | 1 => 31 | 2 => 28 + leapDay y | 3 => 31 | 4 => 30 | 5 => 31 | 6 => 30
  | 7 => 31 | 8 => 31 | 9 => 30 | 10 => 31 | 11 => 30 | 12 => 31
  | _ => 0

/-- `_DAYS_BEFORE_MONTH[m]` of a non-leap year -/
def dbmTable (m : Nat) : Nat :=
  match m with
  | 1 => 0 | 2 => 31 | 3 => 59 | 4 => 90 | 5 => 120 | 6 => 151
  | 7 => 181 | 8 => 212 | 9 => 243 | 10 => 273 | 11 => 304 | 12 => 334
  | _ => 365

/-- `_days_before_month(y, m)` -/
def dbm (y m : Nat) : Nat := dbmTable m + (if m > 2 then leapDay y else 0)

/-- `_days_before_year(y)`: days before January 1st of year `y` (y ≥ 1) -/
def dby (y : Nat) : Nat := let y1 := y - 1; y1 * 365 + y1 / 4 - y1 / 100 + y1 / 400

/-- `_ymd2ord` = `datetime(y,m,d).toordinal()`: 0001-01-01 is day 1 -/
def ord (y m d : Nat) : Nat := dby y + dbm y m + d

/-- a calendar date `datetime(y,m,d)` accepts -/
def Valid (y m d : Nat) : Prop := 1 ≤ y ∧ y ≤ 9999 ∧ 1 ≤ m ∧ m ≤ 12 ∧ 1 ≤ d ∧ d ≤ dim y m

def validB (y m d : Nat) : Bool :=
  decide (1 ≤ y) && decide (y ≤ 9999) && decide (1 ≤ m) && decide (m ≤ 12) && decide (1 ≤ d) && decide (d ≤ dim y m)

instance (y m d : Nat) : Decidable (Valid y m d) := by unfold Valid; infer_instance

structure YMD where
  y : Nat
  m : Nat
  d : Nat
  deriving Repr, DecidableEq, Inhabited

/-- `_ord2ymd` = `datetime.fromordinal(n)` (n ≥ 1), statement by statement:
400-, 100-, 4- and 1-year cycles, then the month estimate `(n + 50) >> 5` corrected once. -/
def fromOrd (n : Nat) : YMD :=
  let n := n - 1
  let n400 := n / 146097; let n := n % 146097
  let year := n400 * 400 + 1
  let n100 := n / 36524; let n := n % 36524
  let n4 := n / 1461; let n := n % 1461
  let n1 := n / 365; let n := n % 365
  let year := year + n100 * 100 + n4 * 4 + n1
  if n1 == 4 || n100 == 4 then ⟨year - 1, 12, 31⟩
  else
    let leapyear := n1 == 3 && (n4 != 24 || n100 == 3)
    let month := (n + 50) / 32
    let preceding := dbmTable month + (if month > 2 && leapyear then 1 else 0)
    if preceding > n then
      let month := month - 1
      let preceding := preceding - (dbmTable (month + 1) - dbmTable month + (if month == 2 && leapyear then 1 else 0))
      ⟨year, month, n - preceding + 1⟩
    else ⟨year, month, n - preceding + 1⟩

/-- `date.weekday()`: Monday = 0 … Sunday = 6; `(toordinal() + 6) % 7` -/
def weekday (n : Nat) : Nat := (n + 6) % 7

/-- ordinal of 1900-01-01 (`TMIN`) and of 2300-01-01 (`TMAX`): the library's supported range, one whole
400-year Gregorian cycle of 146097 days -/
def ordMin : Nat := 693596
def ordMax : Nat := 839693

/-! ### a boolean checker of the round trip at one ordinal (`GregLemmas.chkOrd_all`: it says yes on 1 … 3652059) -/

/-- one ordinal: `fromOrd n` is a valid date whose ordinal is `n` (written with `Nat.ble`/`Nat.beq`, which the
kernel evaluates natively) -/
def chkOrd (n : Nat) : Bool :=
  match fromOrd n with
  | ⟨y, m, d⟩ => Nat.ble 1 y && Nat.ble y 9999 && Nat.ble 1 m && Nat.ble m 12 && Nat.ble 1 d
      && Nat.ble d (dim y m) && Nat.beq (ord y m d) n

/-- `∀ i < k, p (lo + i)` as a structurally recursive boolean -/
def allFrom (p : Nat → Bool) (lo : Nat) : Nat → Bool
  | 0 => true
  | k + 1 => p lo && allFrom p (lo + 1) k

end Pyg.Greg
